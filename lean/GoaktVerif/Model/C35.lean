/-
C35 — relocation handoff masking (actor/relocation_handoff.go: deliverAcrossHandoff,
sleepWithinHandoff, deliverBypassingHandoff).

Executable model of the retry loop on an ABSTRACT CLOCK (`Nat` nanoseconds).  Inputs:
  * `cfg`      the four constants of the file (regenerated from the source by go2lean, see Props),
  * `maxWait`  the caller's timeout (0 = the caller imposed no bound),
  * `ctxDone`  the context is already done when the first wait is attempted,
  * `res i`    what the i-th `ActorOf` resolution looks like to the loop's `switch`,
  * `d i`      how long the i-th `ActorOf` call takes,
  * `t0`       the time of the call.
A wait is a `Sleep` record (start, duration, which mask it belongs to); real timers may fire late,
which the model does not exhibit (the property is labelled partial for that reason).
-/
namespace GoaktVerif.Model.C35

structure Cfg where
  window : Nat      -- relocationHandoffWindow
  minB : Nat        -- relocationHandoffMinBackoff
  maxB : Nat        -- relocationHandoffMaxBackoff
  nfWindow : Nat    -- relocationNotFoundMaskWindow
  deriving Repr

/-- how one `ActorOf` result is classified by the loop's `switch` -/
inductive Res where
  | pinned               -- err == nil, remote, endpoint is relocating
  | live                 -- err == nil otherwise
  | nf (inFlight : Bool) -- isHandoffRetryable(err); inFlight = relocationInFlight()
  | terminal             -- any other error
  deriving Repr, DecidableEq

inductive Outcome where
  | delivered (t : Nat) (ctxDeadline : Option Nat)  -- deliver invoked at `t` with this ctx deadline
  | gaveUpRelocating (t : Nat)                      -- returns ErrRelocationInProgress
  | gaveUpErr (t : Nat)                             -- returns the retryable resolution error
  | failed (t : Nat)                                -- returns the resolution error (fail fast)
  | outOfFuel
  deriving Repr, DecidableEq

structure Sleep where
  start : Nat
  dur : Nat
  pinned : Bool     -- true: full-window mask (pinned endpoint); false: not-found mask
  deriving Repr, DecidableEq

structure Run where
  lookups : Nat          -- number of ActorOf calls made
  sleeps : List Sleep    -- chronological
  recorded : Bool        -- recordRelocationHandoff was called
  out : Outcome
  deriving Repr

/-- the constants of actor/relocation_handoff.go in nanoseconds (Props/C35 proves they equal the
    values regenerated from the source on every run) -/
def defaultCfg : Cfg := ⟨3000000000, 50000000, 300000000, 500000000⟩

def optMin (a : Nat) : Option Nat → Nat
  | none => a
  | some c => min a c

/-- notFoundDeadline: anchored at the first not-found observation, never beyond the caller's
    deadline; once set it is kept -/
def nfDeadlineOf (cfg : Cfg) (callerDl : Option Nat) (now : Nat) : Option Nat → Nat
  | some x => x
  | none => optMin (now + cfg.nfWindow) callerDl

/-- the `for` loop.  `i` = index of the resolution being examined, `now` = clock after it
    returned, `acc` = waits so far (newest first). -/
def loop (cfg : Cfg) (callerDl : Option Nat) (deadline : Nat) (ctxDone : Bool)
    (res : Nat → Res) (d : Nat → Nat) :
    Nat → Nat → Nat → Nat → Option Nat → List Sleep → Bool → Run
  | 0, i, _, _, _, acc, rec => ⟨i + 1, acc.reverse, rec, .outOfFuel⟩
  | fuel + 1, i, now, backoff, nfDl, acc, rec =>
    match res i with
    | .live => ⟨i + 1, acc.reverse, rec, .delivered now callerDl⟩
    | .terminal => ⟨i + 1, acc.reverse, rec, .failed now⟩
    | .nf false => ⟨i + 1, acc.reverse, rec, .failed now⟩
    | .pinned =>
      -- attemptDeadline = deadline, retryErr = ErrRelocationInProgress
      if deadline ≤ now ∨ ctxDone then ⟨i + 1, acc.reverse, true, .gaveUpRelocating now⟩
      else
        let dur := min backoff (deadline - now)
        loop cfg callerDl deadline ctxDone res d fuel (i + 1) (now + dur + d (i + 1))
          (min (backoff * 2) cfg.maxB) nfDl (⟨now, dur, true⟩ :: acc) true
    | .nf true =>
      -- notFoundDeadline is anchored at the first not-found observation, capped by the caller
      let nd := nfDeadlineOf cfg callerDl now nfDl
      if nd ≤ now ∨ ctxDone then ⟨i + 1, acc.reverse, true, .gaveUpErr now⟩
      else
        let dur := min backoff (nd - now)
        loop cfg callerDl deadline ctxDone res d fuel (i + 1) (now + dur + d (i + 1))
          (min (backoff * 2) cfg.maxB) (some nd) (⟨now, dur, false⟩ :: acc) true

/-- enough iterations for any run (see `C35.sync_returns`) -/
def fuelFor (cfg : Cfg) : Nat := (cfg.window + cfg.nfWindow) / cfg.minB + 4

/-- deliverAcrossHandoff(ctx, name, maxWait, deliver) in a clustered system, called at time `t0`:
    the first resolution happens before `start := time.Now()` -/
def sync (cfg : Cfg) (maxWait : Nat) (ctxDone : Bool) (res : Nat → Res) (d : Nat → Nat) (t0 : Nat) : Run :=
  let start := t0 + d 0
  let callerDl : Option Nat := if maxWait > 0 then some (start + maxWait) else none
  let window := if maxWait > 0 ∧ maxWait < cfg.window then maxWait else cfg.window
  loop cfg callerDl (start + window) ctxDone res d (fuelFor cfg) 0 start cfg.minB none [] false

/-- deliverAcrossHandoff when the system is not clustered: resolve once, deliver or fail -/
def syncNoCluster (res0 : Res) (d0 t0 : Nat) : Run :=
  match res0 with
  | .live | .pinned => ⟨1, [], false, .delivered (t0 + d0) none⟩
  | _ => ⟨1, [], false, .failed (t0 + d0)⟩

/-- deliverBypassingHandoff: one resolution, no wait, never dials a relocating endpoint.
    `inCluster` = system.InCluster(); `res0 = pinned` means remote ∧ isEndpointRelocating. -/
def async (inCluster : Bool) (res0 : Res) (d0 t0 : Nat) : Run :=
  match res0 with
  | .live => ⟨1, [], false, .delivered (t0 + d0) none⟩
  | .pinned => if inCluster then ⟨1, [], false, .gaveUpRelocating (t0 + d0)⟩ else ⟨1, [], false, .delivered (t0 + d0) none⟩
  | _ => ⟨1, [], false, .failed (t0 + d0)⟩

def totalSleep (l : List Sleep) : Nat := (l.map (·.dur)).sum

end GoaktVerif.Model.C35
