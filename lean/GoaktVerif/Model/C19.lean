/-
C19 — scheduled messages (actor/scheduler.go, internal/cluster/cluster.go ClaimScheduleFire).

Three executable models of THE CODE AS IT IS:

* the reference table: goakt's `scheduledKeys` plus the go-quartz job store as goakt drives it
  (`ScheduleJob` / `DeleteJob` / `PauseJob` / `ResumeJob` of go-quartz v0.15.2 — a PARAMETER: the
  rules below are what that version does, they are sampled by the differential, not derived).
* the cluster cron claim: `claimClusterFire` with metadata and a cluster (the `lag > ttl` skip, then
  the claim) over a put-if-absent-with-TTL store; nodes have skewed clocks.  (Fail-open without
  metadata, the cluster-disabled error and the result mapping are in the driver's wrapper.)
* `cronClaimTTL`'s clamp.
-/
namespace GoaktVerif.Model.C19

/-! ### references -/

inductive Kind where
  | once | every | cron
  deriving Repr, DecidableEq

/-- a job in the quartz queue -/
structure Job where
  kind : Kind
  suspended : Bool := false
  deriving Repr, DecidableEq

inductive Res where
  | ok
  | notstarted   -- ErrSchedulerNotStarted
  | noref        -- ErrScheduledReferenceNotFound
  | nojob        -- quartz.ErrJobNotFound
  | jobExists    -- quartz.ErrJobAlreadyExists
  | suspended    -- quartz.ErrJobIsSuspended
  | active       -- quartz.ErrJobIsActive
  | expired      -- quartz.ErrTriggerExpired
  deriving Repr, DecidableEq

def Res.isErr (r : Res) : Bool := r != .ok

structure State where
  started : Bool := true
  keys : List String := []              -- scheduledKeys (and scheduledMeta)
  jobs : List (String × Job) := []      -- the quartz queue, by job key
  delivered : List String := []         -- deliveries so far (newest first)
  deriving Repr, DecidableEq

def State.job (s : State) (r : String) : Option Job := s.jobs.lookup r
def State.delJob (s : State) (r : String) : State := { s with jobs := s.jobs.filter (·.1 != r) }
def State.putJob (s : State) (r : String) (j : Job) : State := { (s.delJob r) with jobs := (r, j) :: (s.delJob r).jobs }
def State.addKey (s : State) (r : String) : State := if s.keys.contains r then s else { s with keys := r :: s.keys }
def State.delKey (s : State) (r : String) : State := { s with keys := s.keys.filter (· != r) }

inductive Op where
  | schedule (k : Kind) (r : String)   -- ScheduleOnce / Schedule / ScheduleWithCron, WithReference r
  | cancel (r : String)
  | pause (r : String)
  | resume (r : String)
  | fire (r : String)                  -- quartz reaches a tick of job r
  deriving Repr, DecidableEq

/-- `ScheduleOnce` / `Schedule` / `ScheduleWithCron` (local target, valid cron expression) -/
def schedule (s : State) (k : Kind) (r : String) : State × Res :=
  if !s.started then (s, .notstarted) else
  let s := s.addKey r
  match s.job r with
  | some _ => (s, .jobExists)      -- quartz refuses a second job under the same key; the old job stays
  | none => (s.putJob r { kind := k }, .ok)

/-- `CancelSchedule`: the deferred deletes run on every path -/
def cancel (s : State) (r : String) : State × Res :=
  if !s.started then (s.delKey r, .notstarted) else
  if !s.keys.contains r then (s.delKey r, .noref) else
  match s.job r with
  | none => (s.delKey r, .nojob)
  | some _ => ((s.delJob r).delKey r, .ok)

/-- `PauseSchedule` -/
def pause (s : State) (r : String) : State × Res :=
  if !s.started then (s, .notstarted) else
  if !s.keys.contains r then (s, .noref) else
  match s.job r with
  | none => (s, .nojob)
  | some j => if j.suspended then (s, .suspended) else (s.putJob r { j with suspended := true }, .ok)

/-- `ResumeSchedule`: quartz removes the job, asks the trigger for the next fire time and pushes
    it back.  Since c88f7fc ScheduleOnce uses goakt's own `onceTrigger`, which keeps answering until
    its single fire instant has been consumed, so a paused one-shot resumes like any other schedule
    (with quartz.RunOnceTrigger the trigger had expired at scheduling time and the job was LOST). -/
def resume (s : State) (r : String) : State × Res :=
  if !s.started then (s, .notstarted) else
  if !s.keys.contains r then (s, .noref) else
  match s.job r with
  | none => (s, .nojob)
  | some j =>
    if !j.suspended then (s, .active) else (s.putJob r { j with suspended := false }, .ok)

/-- quartz reaches a tick of job `r`: a suspended or absent job does not run; a one-shot job is
    taken off the queue, the others are re-queued -/
def fire (s : State) (r : String) : State :=
  match s.job r with
  | none => s
  | some j =>
    if j.suspended then s else
    let s := { s with delivered := r :: s.delivered }
    match j.kind with
    | .once => s.delJob r
    | _ => s

def step (s : State) : Op → State × Res
  | .schedule k r => schedule s k r
  | .cancel r => cancel s r
  | .pause r => pause s r
  | .resume r => resume s r
  | .fire r => (fire s r, .ok)

def run (s : State) : List Op → State
  | [] => s
  | o :: os => run (step s o).1 os

/-- `ListSchedules` (as a set; the harness sorts) -/
def list (s : State) : List String := s.keys.filter fun r => (s.job r).isSome

/-! ### cluster cron claim -/

/-- one node handling one tick: true time `t` of the attempt (also the store's clock), the
    node's clock skew `k` (local clock = true time + k) -/
structure Attempt where
  tick : Nat
  t : Int
  k : Int
  deriving Repr, DecidableEq

inductive Outcome where
  | win | lose | skip
  deriving Repr, DecidableEq

/-- the store: claim key ↦ expiry (true time) -/
abbrev Store := List (Nat × Int)

/-- `ClaimScheduleFire` = put-if-absent with TTL: an entry is live while `now < expiry` -/
def putNX (st : Store) (key : Nat) (now ttl : Int) : Store × Bool :=
  match st.lookup key with
  | some exp => if now < exp then (st, false) else ((key, now + ttl) :: st.filter (·.1 != key), true)
  | none => ((key, now + ttl) :: st, true)

/-- `claimClusterFire` with metadata and a cluster: `runTime` maps a tick to its scheduled fire time -/
def claim (runTime : Nat → Int) (ttl : Int) (st : Store) (a : Attempt) : Store × Outcome :=
  let lag := a.t + a.k - runTime a.tick      -- time.Since(RunTime) on the node's clock
  if lag > ttl then (st, .skip) else
  match putNX st a.tick a.t ttl with
  | (st', true) => (st', .win)
  | (st', false) => (st', .lose)

def claims (runTime : Nat → Int) (ttl : Int) : Store → List Attempt → List Outcome
  | _, [] => []
  | st, a :: as => (claim runTime ttl st a).2 :: claims runTime ttl (claim runTime ttl st a).1 as

def wins (os : List Outcome) : Nat := os.count .win

/-! ### cronClaimTTL -/

def minTTL : Int := 60 * 1000000000
def maxTTL : Int := 24 * 3600 * 1000000000

/-- the clamp of `cronClaimTTL`; `none` = one of the two NextFireTime calls failed -/
def claimTTL : Option Int → Int
  | none => minTTL
  | some period => if period < minTTL then minTTL else if period > maxTTL then maxTTL else period

end GoaktVerif.Model.C19
