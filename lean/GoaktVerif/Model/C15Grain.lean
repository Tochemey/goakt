/-
C15, grain path — small-step model of `actorSystem.localSend` (grain_engine.go, synchronous case), `GrainContext.build` /
`Response` (grain_context.go), the `grainContextCh` / `responseCh` pools and `grainMailbox` (grain_mailbox.go: Vyukov
list; `Dequeue` resets the PREVIOUS sentinel — `responseClosed` is not reset — and pushes it into `grainContextCh`).

Caller: `getGrainContext()` at operation start; `Store:responseClosed` = build (closed := false, channels, message);
`Call:Get` = `timers.Get`; `Store:next`, `Swap:tail`, `Store:next`, `Add:len` = `grainMailbox.tryEnqueue`, the last
one followed by the select; on the reply branch both channels go back to their pools; on a timeout branch
`grainContext.responseClosed.Store(true)` — a LATE STORE on a context the mailbox may already have recycled — is one
more step (`Store:responseClosed`) and the channels are left to the GC.  `fixed = true` is the code as it is since fix 6a916c2
(fixes/C15-grain-no-late-store.diff): the timeout branches do not touch the context.
Worker: `Deq` (harness point; `Dequeue` itself is not instrumented; it would busy-wait while a producer is parked
between its tail swap and its link with nothing else linked: then the worker is not runnable), `CAS:responseClosed`
(+ the send, one step in the driver).
-/
namespace GoaktVerif.Model.C15Grain

abbrev CtxId := Nat
abbrev ChanId := Nat
abbrev ReqId := Nat

structure Ctx where
  closed : Bool
  response : Option ChanId
  msg : Option ReqId
  next : Option CtxId
  deriving Repr, DecidableEq

inductive Op where
  | ask (k : ReqId)
  | handle
  deriving Repr, DecidableEq

inductive Res where
  | reply (v : ReqId)
  | timeout
  | handled (k : ReqId)
  | empty
  deriving Repr, DecidableEq

inductive PC where
  | build (i : CtxId) (k : ReqId)                   -- `Store:responseClosed`
  | timer (i : CtxId) (ch : ChanId) (k : ReqId)     -- `Call:Get`
  | enq1 (i : CtxId) (ch : ChanId) (k : ReqId)      -- `Store:next`  (value.next := nil)
  | enq2 (i : CtxId) (ch : ChanId) (k : ReqId)      -- `Swap:tail`
  | enq3 (i : CtxId) (ch : ChanId) (k : ReqId) (prev : CtxId)  -- `Store:next`  (prev.next := value)
  | sel (i : CtxId) (ch : ChanId) (k : ReqId)       -- `Add:len`, then the select
  | late (i : CtxId)                                -- `Store:responseClosed` (timeout branches)
  | hDeq
  | hCas (i : CtxId) (k : ReqId)
  | hSend (i : CtxId) (k : ReqId)
  deriving Repr, DecidableEq

inductive Ev where
  | respDone (k : ReqId)
  | timedOut (k : ReqId)
  deriving Repr, DecidableEq

structure Thread where
  pc : Option PC
  cur : Option Op
  prog : List Op
  hist : List (Op × Res)
  deadline : Bool
  deriving Repr, DecidableEq

structure Cfg where
  fixed : Bool                   -- true: the proposed repair (no late store on the timeout branches)
  ctxs : List Ctx
  chans : List (Option ReqId)
  ctxPool : List CtxId
  chanPool : List ChanId
  head : CtxId
  tail : CtxId
  threads : List Thread
  log : List Ev
  deriving Repr, DecidableEq

def dflt : Ctx := { closed := false, response := none, msg := none, next := none }
def ctxOf (c : Cfg) (i : CtxId) : Ctx := c.ctxs.getD i dflt
def modCtx (c : Cfg) (i : CtxId) (f : Ctx → Ctx) : Cfg := { c with ctxs := c.ctxs.modify i f }
def chanOf (c : Cfg) (i : ChanId) : Option ReqId := c.chans.getD i none
def setChan (c : Cfg) (i : ChanId) (v : Option ReqId) : Cfg := { c with chans := c.chans.set i v }

def getContext (c : Cfg) : CtxId × Cfg :=
  match c.ctxPool with
  | i :: rest => (i, { c with ctxPool := rest })
  | [] => (c.ctxs.length, { c with ctxs := c.ctxs ++ [dflt] })

def getChan (c : Cfg) : ChanId × Cfg :=
  match c.chanPool with
  | i :: rest => (i, { c with chanPool := rest })
  | [] => (c.chans.length, { c with chans := c.chans ++ [none] })

def startNext (c : Cfg) (t : Thread) : Cfg × Thread :=
  match t.prog with
  | [] => (c, { t with pc := none, cur := none, deadline := false })
  | op :: rest =>
    let t := { t with cur := some op, prog := rest, deadline := false }
    match op with
    | .ask k => let (i, c') := getContext c; (c', { t with pc := some (.build i k) })
    | .handle => (c, { t with pc := some .hDeq })

def finishOp (c : Cfg) (t : Thread) (r : Res) : Cfg × Thread :=
  match t.cur with
  | some op => startNext c { t with hist := (op, r) :: t.hist }
  | none => startNext c t

/-- the worker's `Dequeue` would busy-wait -/
def wouldSpin (c : Cfg) : Bool := (ctxOf c c.head).next.isNone && c.head != c.tail

def blocked (c : Cfg) (t : Thread) : Bool :=
  match t.pc with
  | some (.sel _ ch _) => (chanOf c ch).isNone && !t.deadline
  | some .hDeq => wouldSpin c
  | _ => false

def exec (c : Cfg) (t : Thread) : PC → Cfg × Thread
  | .build i k =>
    let c1 := modCtx c i (fun x => { x with closed := false })
    let (ch, c2) := getChan c1
    (modCtx c2 i (fun x => { x with response := some ch, msg := some k }), { t with pc := some (.timer i ch k) })
  | .timer i ch k => (c, { t with pc := some (.enq1 i ch k) })
  | .enq1 i ch k => (modCtx c i (fun x => { x with next := none }), { t with pc := some (.enq2 i ch k) })
  | .enq2 i ch k => ({ c with tail := i }, { t with pc := some (.enq3 i ch k c.tail) })
  | .enq3 i ch k prev => (modCtx c prev (fun x => { x with next := some i }), { t with pc := some (.sel i ch k) })
  | .sel i ch k =>
    match chanOf c ch with
    | some v =>
      let c1 := setChan c ch none
      finishOp { c1 with chanPool := c1.chanPool ++ [ch] } t (.reply v)
    | none =>
      if t.deadline then
        if c.fixed then finishOp { c with log := .timedOut k :: c.log } t .timeout
        else ({ c with log := .timedOut k :: c.log }, { t with pc := some (.late i) })
      else (c, t)
  | .late i => finishOp (modCtx c i (fun x => { x with closed := true })) t .timeout
  | .hDeq =>
    match (ctxOf c c.head).next with
    | none => if c.head = c.tail then finishOp c t .empty else (c, t)
    | some i =>
      let c1 := modCtx c c.head (fun x => { x with response := none, msg := none, next := none })
      let c2 := { c1 with ctxPool := c1.ctxPool ++ [c.head], head := i }
      match (ctxOf c i).msg with
      | some k => (c2, { t with pc := some (.hCas i k) })
      | none => finishOp c2 t .empty
  | .hCas i k =>
    if (ctxOf c i).closed then finishOp { c with log := .respDone k :: c.log } t (.handled k)
    else (modCtx c i (fun x => { x with closed := true }), { t with pc := some (.hSend i k) })
  | .hSend i k =>
    let c1 := match (ctxOf c i).response with
      | some ch => if (chanOf c ch).isNone then setChan c ch (some k) else c
      | none => c
    finishOp { c1 with log := .respDone k :: c1.log } t (.handled k)

def step (c : Cfg) (tid : Nat) : Cfg :=
  match c.threads[tid]? with
  | none => c
  | some t =>
    match t.pc with
    | none => c
    | some pc =>
      let (c', t') := exec c t pc
      { c' with threads := c'.threads.set tid t' }

def timeout (c : Cfg) (tid : Nat) : Cfg :=
  match c.threads[tid]? with
  | none => c
  | some t =>
    match t.pc with
    | some (.late ..) | some .hDeq | some (.hCas ..) | some (.hSend ..) | none => c
    | _ => { c with threads := c.threads.set tid { t with deadline := true } }

inductive Act where
  | run (tid : Nat)
  | timeout (tid : Nat)
  deriving Repr, DecidableEq

def act (c : Cfg) : Act → Cfg
  | .run tid => step c tid
  | .timeout tid => timeout c tid

def runActs (c : Cfg) : List Act → Cfg
  | [] => c
  | a :: as => runActs (act c a) as

def spawn (c : Cfg) : List (List Op) → Cfg
  | [] => c
  | p :: ps =>
    let (c', t) := startNext c { pc := none, cur := none, prog := p, hist := [], deadline := false }
    spawn { c' with threads := c'.threads ++ [t] } ps

def empty (fixed : Bool) : Cfg :=
  { fixed, ctxs := [dflt], chans := [], ctxPool := [], chanPool := [], head := 0, tail := 0, threads := [], log := [] }

def init (fixed : Bool) (progs : List (List Op)) : Cfg := spawn (empty fixed) progs

def label : PC → String
  | .build .. => "Store:responseClosed" | .timer .. => "Call:Get" | .enq1 .. => "Store:next" | .enq2 .. => "Swap:tail"
  | .enq3 .. => "Store:next" | .sel .. => "Add:len" | .late .. => "Store:responseClosed"
  | .hDeq => "Deq" | .hCas .. => "CAS:responseClosed" | .hSend .. => "Send"

/-- number of contexts linked behind the sentinel (at most `fuel`) -/
def linked (c : Cfg) : Nat → CtxId → Nat
  | 0, _ => 0
  | f + 1, i => match (ctxOf c i).next with | none => 0 | some j => 1 + linked c f j

end GoaktVerif.Model.C15Grain
