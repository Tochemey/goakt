/-
C09 — the actor tree (actor/pid_tree.go), executable model.

Go maps are association lists keyed by `Nat` (`aget/aset/adel`); strings (PID.ID(), PID.Name())
are abstracted to `Nat` codes.  Pointer identity matters in two places of the Go code and is kept:

* `*PID` objects: a `Pid` carries a `tag` (the pointer identity), its `id` (= PID.ID()) and its
  `name` (= PID.Name()).  `PID.Equals` compares IDs only.  The `watchers/watchees` maps store `*PID`
  values under the ID key, so the model stores the whole `Pid` (with its tag).
* `*pidNode` objects: `descendants`, `parentNode`, the `names` index and the `shadowed` lists hold node POINTERS.  A pointer
  is modelled as `Ptr = (id, ref)`: the (immutable) `id` field of the node object and its allocation
  number `ref`.  Only LIVE node objects (those whose `pid` field is non-nil, i.e. exactly the values
  of `tree.pids`) are kept in the model; a pointer whose `ref` is not the one stored under its id in
  `pids` is a dangling pointer to a node object that `deleteNode` has already cleared
  (`pid.Store(nil)`).  Every reader in pid_tree.go skips such objects, and everything reachable from
  a cleared node through `descendants` was cleared by the same `deleteNode` call, so cleared objects
  have no observable behaviour; the differential run against the real `tree` checks that claim.

Left out (the driver prints `unsupported`, the generator never produces these):
* `addRootNode` once the root slot has been used (it would alias or revive the single `rootNode`
  object: two keys of `pids` pointing to one node / a node with nil maps);
* `attachNodeLocked(parent, pid)` when `parent` lies in the subtree of `pid` (it would close a cycle in
  `descendants`, on which `deleteNode`/`descendants` do not terminate).  The guard is part of the model.
* nil `*PID` arguments (each op returns at once).
-/
namespace GoaktVerif.Model.C09

/-! ### Go maps as association lists -/

def aget {α : Type} (k : Nat) : List (Nat × α) → Option α
  | [] => none
  | e :: l => if e.1 = k then some e.2 else aget k l

def adel {α : Type} (k : Nat) (l : List (Nat × α)) : List (Nat × α) :=
  l.filter (fun e => e.1 != k)

def aset {α : Type} (k : Nat) (v : α) (l : List (Nat × α)) : List (Nat × α) :=
  (k, v) :: adel k l

/-- apply `f` to the value stored under `k` (if any) -/
def amod {α : Type} (k : Nat) (f : α → α) (l : List (Nat × α)) : List (Nat × α) :=
  l.map (fun e => if e.1 = k then (e.1, f e.2) else e)

/-- apply `f` to every value -/
def amapv {α : Type} (f : α → α) (l : List (Nat × α)) : List (Nat × α) :=
  l.map (fun e => (e.1, f e.2))

def akeys {α : Type} (l : List (Nat × α)) : List Nat := l.map (·.1)

/-! ### PIDs, node pointers, nodes, the tree -/

structure Pid where
  tag : Nat
  id : Nat
  name : Nat
  deriving DecidableEq, Repr

structure Ptr where
  id : Nat
  ref : Nat
  deriving DecidableEq, Repr

structure Node where
  ref : Nat
  pid : Pid
  parent : Option Ptr
  watchers : List (Nat × Pid)
  watchees : List (Nat × Pid)
  desc : List (Nat × Nat)          -- child id ↦ ref of the child node object
  deriving Repr

structure Tree where
  pids : List (Nat × Node)
  names : List (Nat × Ptr)
  /-- per name, the node objects whose `names` entry was taken over by a later node of the same name
      (oldest first); `deleteNode` hands the entry back to the most recent survivor -/
  shadowed : List (Nat × List Ptr)
  counter : Int
  next : Nat                       -- allocation counter for node objects
  rootUsed : Bool                  -- the single rootNode object has been handed out
  deriving Repr

def Tree.empty : Tree := ⟨[], [], [], 0, 0, false⟩

/-- ID of the system's NoSender PID -/
def NOS : Nat := 0

inductive Res where
  | ok | noSender | pidExists | parentNoSender | parentMissing | pidMissing | unsupported
  deriving DecidableEq, Repr

/-- dereference a node pointer: the live node object it points to, if it still is live -/
def Tree.live (t : Tree) (p : Ptr) : Option Node :=
  match aget p.id t.pids with
  | some n => if n.ref = p.ref then some n else none
  | none => none

/-! field updates of one node (the map writes the Go code performs on a `pidNode`) -/
def Node.setWatcher (k : Nat) (p : Pid) (n : Node) : Node := { n with watchers := aset k p n.watchers }
def Node.delWatcher (k : Nat) (n : Node) : Node := { n with watchers := adel k n.watchers }
def Node.setWatchee (k : Nat) (p : Pid) (n : Node) : Node := { n with watchees := aset k p n.watchees }
def Node.delWatchee (k : Nat) (n : Node) : Node := { n with watchees := adel k n.watchees }
def Node.setDesc (k r : Nat) (n : Node) : Node := { n with desc := aset k r n.desc }
def Node.delDesc (k : Nat) (n : Node) : Node := { n with desc := adel k n.desc }
def Node.setParent (p : Ptr) (n : Node) : Node := { n with parent := some p }

def Tree.modNode (t : Tree) (id : Nat) (f : Node → Node) : Tree :=
  { t with pids := amod id f t.pids }

/-! ### traversal (deleteNode / descendants): depth-bounded DFS over live `descendants` pointers -/

/-- the live node objects reachable from pointer `p` (pre-order, with repetitions if a node is
    reachable twice), exploring to depth `fuel` -/
def Tree.subtree (t : Tree) : Nat → Ptr → List Ptr
  | 0, _ => []
  | fuel + 1, p =>
    match t.live p with
    | none => []
    | some n => p :: n.desc.flatMap (fun e => t.subtree fuel ⟨e.1, e.2⟩)

/-- the fuel used by every traversal: more than the number of live nodes, hence more than any path length when the
    live `descendants` graph is acyclic (`attach` refuses to close a cycle; the stop theorems assume it, `Hyp`) -/
def Tree.fuel (t : Tree) : Nat := t.pids.length + 1

/-- ids of the nodes `deleteNode`/`descendants` visit from the node registered under `id` -/
def Tree.reachIds (t : Tree) (id : Nat) : List Nat :=
  match aget id t.pids with
  | none => []
  | some n => (t.subtree t.fuel ⟨id, n.ref⟩).map (·.id)

/-! ### writers -/

def Tree.addRoot (t : Tree) (p : Pid) : Tree × Res :=
  if p.id = NOS then (t, .noSender)
  else if (aget p.id t.pids).isSome then (t, .pidExists)
  else if t.rootUsed then (t, .unsupported)
  else
    let n : Node := { ref := t.next, pid := p, parent := none, watchers := [], watchees := [], desc := [] }
    ({ t with pids := aset p.id n t.pids, names := aset p.name ⟨p.id, t.next⟩ t.names,
              counter := t.counter + 1, next := t.next + 1, rootUsed := true }, .ok)

/-- addNodeLocked -/
def Tree.addNode (t : Tree) (parent p : Pid) : Tree × Res :=
  if parent.id = NOS then (t, .parentNoSender)
  else if (aget p.id t.pids).isSome then (t, .pidExists)
  else
    match aget parent.id t.pids with
    | none => (t, .parentMissing)
    | some pn =>
      let c : Node := { ref := t.next, pid := p, parent := some ⟨parent.id, pn.ref⟩,
                        watchers := [(parent.id, parent)], watchees := [], desc := [] }
      let t1 := (t.modNode parent.id (Node.setDesc p.id t.next)).modNode parent.id (Node.setWatchee p.id p)
      -- `if prev, taken := x.names[name]; taken && prev != childNode`: the new node object is never `prev`
      let sh := match aget p.name t.names with
        | some prev => aset p.name ((aget p.name t.shadowed).getD [] ++ [prev]) t.shadowed
        | none => t.shadowed
      ({ t1 with pids := aset p.id c t1.pids, names := aset p.name ⟨p.id, t.next⟩ t1.names, shadowed := sh,
                 counter := t.counter + 1, next := t.next + 1 }, .ok)

/-- attachNodeLocked; the cycle guard is explained in the header -/
def Tree.attach (t : Tree) (parent p : Pid) : Tree × Res :=
  if parent.id = NOS then (t, .parentNoSender)
  else
    match aget parent.id t.pids with
    | none => (t, .parentMissing)
    | some pn =>
      match aget p.id t.pids with
      | none => (t, .pidMissing)
      | some cn =>
        if (t.reachIds p.id).contains parent.id then (t, .unsupported)
        else
          let t1 := t.modNode p.id (Node.setParent ⟨parent.id, pn.ref⟩)
          let t2 := (t1.modNode parent.id (Node.setDesc p.id cn.ref)).modNode parent.id (Node.setWatchee p.id p)
          let t3 := t2.modNode p.id (Node.setWatcher parent.id parent)
          (t3, .ok)

def Tree.addOrAttach (t : Tree) (parent p : Pid) : Tree × Res :=
  if parent.id = NOS then (t, .ok)
  else if (aget p.id t.pids).isSome then t.attach parent p
  else t.addNode parent p

def Tree.removeWatcher (t : Tree) (watchee watcher : Pid) : Tree :=
  (t.modNode watcher.id (Node.delWatchee watchee.id)).modNode watchee.id (Node.delWatcher watcher.id)

def Tree.removeDescendant (t : Tree) (parentId childId : Nat) : Tree :=
  t.modNode parentId (Node.delDesc childId)

def Tree.addWatcher (t : Tree) (p watcher : Pid) : Tree :=
  if p.id = NOS ∨ watcher.id = NOS then t
  else if (aget p.id t.pids).isNone ∨ (aget watcher.id t.pids).isNone then t
  else
    (t.modNode p.id (Node.setWatcher watcher.id watcher)).modNode watcher.id (Node.setWatchee p.id p)

/-- what the body of deleteNode's second loop does to every OTHER node when node `n` goes -/
def scrub (n : Node) (m : Node) : Node :=
  let isParent : Bool := match n.parent with
    | some pp => pp.id == m.pid.id && pp.ref == m.ref
    | none => false
  { m with
    watchees := if (aget m.pid.id n.watchers).isSome || isParent then adel n.pid.id m.watchees else m.watchees
    watchers := if (aget m.pid.id n.watchees).isSome then adel n.pid.id m.watchers else m.watchers
    desc := if isParent then adel n.pid.id m.desc else m.desc }

/-- the name bookkeeping of one iteration of deleteNode's second loop: `(names, shadowed)` after the node
    object `p` (a live node named `name`) is gone -/
def dropName (names : List (Nat × Ptr)) (shadowed : List (Nat × List Ptr)) (name : Nat) (p : Ptr) :
    List (Nat × Ptr) × List (Nat × List Ptr) :=
  let prevs := (aget name shadowed).getD []
  if aget name names = some p then
    -- `delete(x.names, n.name)`, then hand the name back to the most recent survivor it was taken from
    match prevs.getLast? with
    | some q => (aset name q names, if prevs.length = 1 then adel name shadowed else aset name prevs.dropLast shadowed)
    | none => (adel name names, shadowed)
  else
    -- `n` lost the entry earlier: it must not be handed back to a dead node
    let kept := prevs.filter (· != p)
    if prevs.isEmpty then (names, shadowed)
    else (names, if kept.isEmpty then adel name shadowed else aset name kept shadowed)

/-- one iteration of deleteNode's second loop for the node object `p` points to -/
def Tree.removeNode (t : Tree) (p : Ptr) : Tree :=
  match t.live p with
  | none => t                                   -- `n.pid.Load() == nil`: already cleared
  | some n =>
    let ns := dropName t.names t.shadowed n.pid.name p
    { t with
      pids := amapv (scrub n) (adel p.id t.pids)
      names := ns.1
      shadowed := ns.2
      counter := t.counter - 1 }

def Tree.deleteNode (t : Tree) (p : Pid) : Tree :=
  if p.id = NOS then t
  else
    match aget p.id t.pids with
    | none => t
    | some n => (t.subtree t.fuel ⟨p.id, n.ref⟩).reverse.foldl Tree.removeNode t

def Tree.reset (t : Tree) : Tree := { Tree.empty with next := t.next }

/-! ### readers -/

/-- `tree.children`: live direct children -/
def Tree.children (t : Tree) (id : Nat) : Option (List Pid) :=
  if id = NOS then none else
  match aget id t.pids with
  | none => none
  | some n => some (n.desc.filterMap (fun e => (t.live ⟨e.1, e.2⟩).map (·.pid)))

/-- `tree.descendants` -/
def Tree.descendants (t : Tree) (id : Nat) : Option (List Pid) :=
  if id = NOS then none else
  match aget id t.pids with
  | none => none
  | some n =>
    some ((n.desc.flatMap (fun e => t.subtree t.fuel ⟨e.1, e.2⟩)).filterMap (fun q => (t.live q).map (·.pid)))

/-- `tree.parent` -/
def Tree.parent (t : Tree) (id : Nat) : Option Pid :=
  if id = NOS then none else
  match aget id t.pids with
  | none => none
  | some n => match n.parent with
    | none => none
    | some pp => (t.live pp).map (·.pid)

def Tree.watchers (t : Tree) (id : Nat) : Option (List Pid) :=
  if id = NOS then none else (aget id t.pids).map (fun n => n.watchers.map (·.2))

def Tree.watchees (t : Tree) (id : Nat) : Option (List Pid) :=
  if id = NOS then none else (aget id t.pids).map (fun n => n.watchees.map (·.2))

/-- `tree.siblings`: note the `len(parentNode.descendants) <= 1` shortcut counts cleared entries too -/
def Tree.siblings (t : Tree) (id : Nat) : Option (List Pid) :=
  if id = NOS then none else
  match aget id t.pids with
  | none => none
  | some n => match n.parent with
    | none => none
    | some pp =>
      match t.live pp with
      | none => some []            -- parent object cleared: nothing live hangs below it
      | some pn =>
        if pn.desc.length ≤ 1 then some []
        else some ((pn.desc.filterMap (fun e => (t.live ⟨e.1, e.2⟩).map (·.pid))).filter (fun q => q.id != id))

def Tree.nodeByName (t : Tree) (name : Nat) : Option Pid :=
  match aget name t.names with
  | none => none
  | some p => (t.live p).map (·.pid)

/-! ### op scripts (the differential's case language) -/

inductive Op where
  | addRoot (p : Pid)
  | addNode (parent p : Pid)
  | attach (parent p : Pid)
  | addOrAttach (parent p : Pid)
  | addWatcher (p watcher : Pid)
  | removeWatcher (watchee watcher : Pid)
  | removeDescendant (parentId childId : Nat)
  | deleteNode (p : Pid)
  | reset
  deriving Repr

def Tree.step (t : Tree) : Op → Tree × Res
  | .addRoot p => t.addRoot p
  | .addNode a p => t.addNode a p
  | .attach a p => t.attach a p
  | .addOrAttach a p => t.addOrAttach a p
  | .addWatcher p w => (t.addWatcher p w, .ok)
  | .removeWatcher e w => (t.removeWatcher e w, .ok)
  | .removeDescendant a c => (t.removeDescendant a c, .ok)
  | .deleteNode p => (t.deleteNode p, .ok)
  | .reset => (t.reset, .ok)

def Tree.run (t : Tree) (ops : List Op) : Tree := ops.foldl (fun t o => (t.step o).1) t

end GoaktVerif.Model.C09
