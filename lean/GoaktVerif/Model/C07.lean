/-
C07 — model of goakt's supervision path AS THE CODE IS (core Lean only).

Anchors: supervisor/supervisor.go (NewSupervisor, With*, Directive), actor/pid.go (notifyParent,
handlePanicking, handleStopDirective, handleRestartDirective, suspendGroup, restartChild,
recordFault, suspend, doReinstate, Shutdown/doStop/reset, restartSubtree, Reinstate),
actor/supervision.go (run: a signal of an actor that is not running is dropped).

A family: parent P with children c0..c(n-1), every child spawned with the same supervisor options;
the grandparent G only records what it receives.  Each function below mirrors the Go function of the
same name at quiescence (the harness lets every failure run to completion before the next op).
-/
namespace GoaktVerif.Model.C07

/-! ### supervisor/supervisor.go -/

inductive Strategy | oneForOne | oneForAll
  deriving DecidableEq, Repr

/-- `supervisor.Directive` is an `int`: 0 Stop, 1 Resume, 2 Restart, 3 Escalate, anything else falls
    into `default:` of `handlePanicking` -/
abbrev Directive := Nat
def dStop : Directive := 0
def dResume : Directive := 1
def dRestart : Directive := 2
def dEscalate : Directive := 3

/-- `errorType(err)`: reflect type name with the pointer stripped -/
abbrev ErrType := String
def tyAny : ErrType := "errors.AnyError"
def tyPanic : ErrType := "errors.PanicError"
def tyPanicNil : ErrType := "runtime.PanicNilError"
def tyA : ErrType := "main.ErrA"
def tyB : ErrType := "main.ErrB"

/-- `SupervisorOption`s; `WithAnyErrorDirective d` is `directive tyAny d` (the Go code stores it
    under `errorType(new(errors.AnyError))`, exactly as `WithDirective(&AnyError{}, d)` does) -/
inductive Opt
  | strategy (s : Strategy)
  | directive (ty : ErrType) (d : Directive)
  | retry (max : Nat) (timeout : Int)
  | backoff (initial max resetAfter : Int)
  deriving Repr

/-- xsync.Map as an association list; `Set` replaces -/
def mapGet (m : List (ErrType × Directive)) (k : ErrType) : Option Directive :=
  match m with
  | [] => none
  | (k', v) :: rest => if k' = k then some v else mapGet rest k

def mapSet (m : List (ErrType × Directive)) (k : ErrType) (v : Directive) : List (ErrType × Directive) :=
  match m with
  | [] => [(k, v)]
  | (k', v') :: rest => if k' = k then (k, v) :: rest else (k', v') :: mapSet rest k v

structure Supervisor where
  strategy : Strategy
  maxRetries : Nat
  timeout : Int
  initialDelay : Int
  maxDelay : Int
  backoffResetAfter : Int
  directives : List (ErrType × Directive)
  deriving Repr

def applyOpt (s : Supervisor) : Opt → Supervisor
  | .strategy st => { s with strategy := st }
  | .directive ty d => { s with directives := mapSet s.directives ty d }
  | .retry m t => { s with maxRetries := m, timeout := t }
  | .backoff i m r =>
    if i ≤ 0 then s else
    let m := if m < i then i else m
    let r := if r ≤ 0 then m else r
    { s with initialDelay := i, maxDelay := m, backoffResetAfter := r }

def defaultSupervisor : Supervisor :=
  { strategy := .oneForOne, maxRetries := 0, timeout := -1, initialDelay := 0, maxDelay := 0,
    backoffResetAfter := 0, directives := [(tyPanic, dStop), (tyPanicNil, dRestart)] }

/-- `NewSupervisor(opts...)`: defaults, options in order, then the any-error collapse -/
def newSupervisor (opts : List Opt) : Supervisor :=
  let s := opts.foldl applyOpt defaultSupervisor
  match mapGet s.directives tyAny with
  | some d => { s with directives := [(tyAny, d)] }
  | none => s

/-- the lookup of `notifyParent`: `Directive(err)`, else `Directive(AnyError)`, else none (= suspend) -/
def lookup (s : Supervisor) (ty : ErrType) : Option Directive :=
  match mapGet s.directives ty with
  | some d => some d
  | none => mapGet s.directives tyAny

/-- the reset window of `handleRestartDirective` -/
def window (s : Supervisor) : Int :=
  if s.backoffResetAfter ≤ 0 then s.timeout else s.backoffResetAfter

/-! ### actors -/

structure Child where
  reg : Bool        -- node present in the actors tree
  running : Bool    -- runningState flag
  susp : Bool       -- suspendedState flag
  pre : Nat         -- PreStart calls seen by the actor value
  post : Nat        -- PostStop calls
  handled : Nat     -- the actor's own state: pings handled since the last PreStart
  rc : Nat          -- restartCount
  cf : Nat          -- consecutiveFaults
  last : Int        -- lastFaultAtNano (0 = never)
  hist : List Int   -- ghost: the clock readings of `recordFault`, newest first (never printed)
  failNext : Nat := 0   -- script-controlled: how many of the next PreStart calls return an error
  deriving Repr

def Child.fresh : Child :=
  { reg := true, running := true, susp := false, pre := 1, post := 0, handled := 0, rc := 0, cf := 0, last := 0, hist := [] }

/-- `PID.IsRunning` at quiescence (stopping/passivating flags are clear) -/
def Child.alive (c : Child) : Bool := c.running && !c.susp

inductive EvKind | su | re | st | sa | ri
  deriving DecidableEq, Repr

abbrev Event := EvKind × Nat

structure Family where
  sup : Supervisor
  cs : List Child
  pSig : List Nat     -- senders of the PanicSignals the parent's Receive got
  gSig : List Nat     -- same for the grandparent
  now : Int           -- clock (ns)
  deriving Repr

def clock0 : Int := 1000000000000000000
def tick : Int := 1000000

def Family.init (opts : List Opt) (n : Nat) : Family :=
  { sup := newSupervisor opts, cs := List.replicate n Child.fresh, pSig := [], gSig := [], now := clock0 }

/-- `pid.suspend` -/
def suspend (c : Child) : Child := { c with susp := true }

/-- `pid.doReinstate`; the Bool says whether ActorReinstated was published -/
def doReinstate (c : Child) : Child × Bool :=
  if c.alive then (c, false) else ({ c with susp := false }, true)

/-- `pid.Shutdown` (doStop + reset); the Bool says whether it did anything (ActorStopped published) -/
def shutdown (c : Child) : Child × Bool :=
  if !c.running then (c, false)
  else ({ c with running := false, susp := false, post := c.post + 1, rc := 0 }, true)

/-- `pid.recordFault(window)` -/
def recordFault (w now : Int) (c : Child) : Child :=
  let cf0 := if w > 0 ∧ c.last > 0 ∧ now - c.last > w then 0 else c.cf
  { c with cf := cf0 + 1, last := now, hist := now :: c.hist }

/-- `restartSubtree` of a leaf whose PreStart succeeds: shutdown when running, init, re-attach,
    unsuspend, ActorRestarted.  The restart count is snapshotted before the embedded shutdown (whose
    reset() zeroes it) and stored back + 1 (fix 6e40710) -/
def restartOne (c : Child) : Child × Bool :=
  let (c1, stopped) := if c.alive then shutdown c else (c, false)
  ({ c1 with pre := c1.pre + 1, handled := 0, running := true, reg := true, susp := false, rc := c.rc + 1 }, stopped)

/-! #### a restart whose PreStart fails (scripted by the harness op `F<i><k>`) -/

/-- `pid.init`: PreStart is tried up to DefaultInitMaxRetries = 5 times -/
def initOnce (c : Child) : Child × Bool :=
  if c.failNext ≥ 5 then ({ c with pre := c.pre + 5, failNext := c.failNext - 5 }, false)
  else ({ c with pre := c.pre + c.failNext + 1, failNext := 0 }, true)

/-- one attempt of `restartChild` = `spid.restartUnder(ctx, parent)` (restartSubtree of a leaf): the parent is
    the one restartChild already holds, so the re-attach works even when a failed earlier attempt's shutdown
    made the death watch remove the node (fix 07658af) -/
def restartAttempt (c : Child) : Child × List EvKind × Bool :=
  let (c1, ev1) := if c.alive then ({ (shutdown c).1 with reg := false }, [EvKind.st]) else (c, [])
  let (c2, ok) := initOnce c1
  if ok then
    ({ c2 with handled := 0, running := true, reg := true, susp := false, rc := c.rc + 1 }, ev1 ++ [.sa, .re], true)
  else (c2, ev1, false)

/-- `restartChild`: up to `tries` attempts (the retrier), then a final Shutdown of what is left; after a
    successful (re)try the restart count is the count before the FIRST attempt + 1 -/
def restartLoopFrom (rc0 : Nat) : Nat → Child → Child × List EvKind
  | 0, c =>
    if c.running then ({ (shutdown c).1 with reg := false }, [.st]) else (c, [])
  | tries + 1, c =>
    let (c1, ev, ok) := restartAttempt c
    if ok then ({ c1 with rc := rc0 + 1 }, ev)
    else let (c2, ev2) := restartLoopFrom rc0 tries c1; (c2, ev ++ ev2)

def restartLoop (tries : Nat) (c : Child) : Child × List EvKind := restartLoopFrom c.rc tries c

def restartTries (s : Supervisor) : Nat := if s.maxRetries = 0 ∨ s.timeout ≤ 0 then 1 else s.maxRetries

/-- group of `handleStopDirective` / `handleRestartDirective` for faulty child `i`:
    `i` itself, plus `tree.siblings(cid)` when the strategy is one-for-all -/
def inGroup (f : Family) (all : Bool) (i j : Nat) : Bool :=
  j == i || (all && (f.cs.getD i Child.fresh).reg && (f.cs.getD j Child.fresh).reg)

def evIf (b : Bool) (k : EvKind) (j : Nat) : List Event := if b then [(k, j)] else []

/-- apply `g` to every member of the group (children only) -/
def mapGroup (f : Family) (all : Bool) (i : Nat) (g : Nat → Child → Child) : List Child :=
  f.cs.mapIdx (fun j c => if inGroup f all i j then g j c else c)

/-- the events published while doing so -/
def groupEvents (f : Family) (all : Bool) (i : Nat) (e : Nat → Child → List Event) : List Event :=
  (f.cs.mapIdx (fun j c => if inGroup f all i j then e j c else [])).flatten

/-- Shutdown + tree.deleteNode of one member -/
def stopOne (c : Child) : Child := { (shutdown c).1 with reg := false }

/-- `handleStopDirective`: Shutdown + tree.deleteNode for every member -/
def handleStopDirective (f : Family) (i : Nat) (all : Bool) : Family × List Event :=
  ({ f with cs := mapGroup f all i (fun _ c => stopOne c) },
   groupEvents f all i (fun j c => evIf (shutdown c).2 .st j))

/-- the budget test of `handleRestartDirective` -/
def budgetExhausted (s : Supervisor) (faults : Nat) : Bool :=
  decide (s.maxRetries > 0 ∧ window s > 0 ∧ faults > s.maxRetries)

/-- `suspendGroup`: the faulty child is already suspended; running siblings are suspended too -/
def suspendSibling (i j : Nat) (c : Child) : Child := if j != i && c.alive then suspend c else c

/-- `handleRestartDirective` (+ `suspendGroup`, `restartChild`) -/
def handleRestartDirective (f : Family) (i : Nat) (all : Bool) : Family × List Event :=
  let w := window f.sup
  let f1 := { f with cs := mapGroup f all i (fun _ c => recordFault w f.now c) }
  let faults := (f1.cs.getD i Child.fresh).cf
  if budgetExhausted f.sup faults then
    ({ f1 with cs := mapGroup f1 all i (suspendSibling i) },
     groupEvents f1 all i (fun j c => evIf (j != i && c.alive) .su j))
  else if f.cs.all (fun c => c.failNext == 0) then
    ({ f1 with cs := mapGroup f1 all i (fun _ c => (restartOne c).1) },
     groupEvents f1 all i (fun j c => evIf (restartOne c).2 .st j ++ [(.sa, j), (.re, j)]))
  else
    -- some PreStart is scripted to fail: the attempts are played one by one
    ({ f1 with cs := mapGroup f1 all i (fun _ c => (restartLoop (restartTries f.sup) c).1) },
     groupEvents f1 all i (fun j c => (restartLoop (restartTries f.sup) c).2.map (fun k => (k, j))))

def setChild (f : Family) (i : Nat) (c : Child) : Family := { f with cs := f.cs.set i c }

/-- `handlePanicking` run by the parent for child `i` (already suspended by notifyParent) -/
def handlePanicking (f : Family) (i : Nat) (d : Directive) : Family × List Event :=
  let all := f.sup.strategy == .oneForAll
  let c := f.cs.getD i Child.fresh
  if d = dStop then handleStopDirective f i all
  else if d = dRestart then handleRestartDirective f i all
  else if d = dResume then
    let (c1, ev) := doReinstate c
    (setChild f i c1, evIf ev .ri i)
  else if d = dEscalate then
    -- `cid.Tell(ctx, pid, PanicSignal)`: the receiver is `pid`, the PARENT that runs handlePanicking
    ({ f with pSig := f.pSig ++ [i] }, [])
  else (setChild f i (suspend c), [(.su, i)])

/-- `notifyParent` for a child that is running; `ty = none` encodes `errors.Is(err, ErrDead)` -/
def notifyParent (f : Family) (i : Nat) (ty : Option ErrType) : Family × List Event :=
  match ty with
  | none => (f, [])
  | some ty =>
    let c := f.cs.getD i Child.fresh
    match lookup f.sup ty with
    | none => (setChild f i (suspend c), [(.su, i)])
    | some d =>
      if d = dResume then
        -- not suspended, parent not told; (it would be reinstated here if it were suspended)
        if c.susp then let (c1, ev) := doReinstate c; (setChild f i c1, evIf ev .ri i) else (f, [])
      else
        let (f2, ev) := handlePanicking (setChild f i (suspend c)) i d
        (f2, (.su, i) :: ev)

/-! ### ops of the harness -/

inductive Kind | A | B | P | Q | N | D
  deriving DecidableEq, Repr

/-- the error type the supervisor sees: panics are always wrapped into `*errors.PanicError` by `recovery` -/
def Kind.ty : Kind → Option ErrType
  | .A => some tyA | .B => some tyB | .P => some tyPanic | .Q => some tyPanic | .N => some tyPanicNil | .D => none

inductive Op
  | fail (i : Nat) (k : Kind)
  | ping (i : Nat)
  | reinstate (i : Nat)
  | age (i : Nat)
  | failPre (i : Nat) (k : Nat)   -- harness: the next k PreStart calls of child i fail
  | restartPub (i : Nat)          -- the public `PID.Restart(ctx)` called on child i from outside
  deriving Repr

def Op.idx : Op → Nat
  | .fail i _ => i | .ping i => i | .reinstate i => i | .age i => i | .failPre i _ => i | .restartPub i => i

/-- ops the refinement theorems cover (everything but scripted PreStart failures and the public Restart) -/
def Op.plain : Op → Bool
  | .failPre _ _ => false
  | .restartPub _ => false
  | _ => true

inductive Res | ok | dead | err
  deriving DecidableEq, Repr

def step (f : Family) (op : Op) : Family × Res × List Event :=
  let f := { f with now := f.now + tick }
  match op with
  | .fail i k =>
    let c := f.cs.getD i Child.fresh
    -- `Tell` refuses when the target is not running; supervision.run drops signals of non-running actors
    if !c.alive then (f, .dead, [])
    else let (f2, ev) := notifyParent f i k.ty; (f2, .ok, ev)
  | .ping i =>
    let c := f.cs.getD i Child.fresh
    if !c.alive then (f, .dead, []) else (setChild f i { c with handled := c.handled + 1 }, .ok, [])
  | .reinstate i =>
    let c := f.cs.getD i Child.fresh
    -- `PID.Reinstate`: ActorOf must find the child; no-op unless suspended
    if !c.reg then (f, .err, [])
    else if !c.susp || c.alive then (f, .ok, [])
    else let (c1, ev) := doReinstate c; (setChild f i c1, .ok, evIf ev .ri i)
  | .age i =>
    let c := f.cs.getD i Child.fresh
    if c.last = 0 then (f, .ok, [])
    -- ghost: the whole current run of consecutive faults is moved into the distant past
    else (setChild f i { c with last := 1, hist := List.replicate c.cf 1 }, .ok, [])
  | .failPre i k =>
    let c := f.cs.getD i Child.fresh
    (setChild f i { c with failNext := k }, .ok, [])
  | .restartPub i =>
    let c := f.cs.getD i Child.fresh
    -- the harness only calls Restart on a child the system still resolves by name
    if !c.reg then (f, .err, [])
    else if c.failNext = 0 then
      -- Restart -> restartSubtree of a leaf: as for a group member of a Restart directive, but no fault is recorded
      (setChild f i (restartOne c).1, .ok, evIf (restartOne c).2 .st i ++ [(.sa, i), (.re, i)])
    else
      let (c1, ev, ok) := restartAttempt c
      (setChild f i c1, if ok then .ok else .err, ev.map (fun k => (k, i)))

/-- run a whole op script; returns every intermediate (family, result, events), oldest first -/
def run (f : Family) : List Op → List (Family × Res × List Event)
  | [] => []
  | op :: ops => let r := step f op; r :: run r.1 ops

/-! ### observations (what the harness prints) -/

structure CObs where
  reg : Bool
  alive : Bool
  susp : Bool
  pre : Nat
  post : Nat
  handled : Nat
  rc : Nat
  cf : Nat
  lk : Nat      -- 0 never faulted, 1 aged, 2 real clock reading
  deriving DecidableEq, Repr

structure Obs where
  cs : List CObs
  pSig : List Nat
  gSig : List Nat
  deriving DecidableEq, Repr

def Child.obs (c : Child) : CObs :=
  { reg := c.reg, alive := c.alive, susp := c.susp, pre := c.pre, post := c.post, handled := c.handled,
    rc := c.rc, cf := c.cf, lk := if c.last = 0 then 0 else if c.last = 1 then 1 else 2 }

def Family.obs (f : Family) : Obs := { cs := f.cs.map Child.obs, pSig := f.pSig, gSig := f.gSig }

end GoaktVerif.Model.C07
