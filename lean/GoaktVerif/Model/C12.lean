/-
C12 — passivation (actor/passivation_manager.go, actor/pid.go, passivation/strategy.go).

Executable model of THE CODE AS IT IS, one definition per Go function, statements in the code's
order.  Time is a virtual clock in milliseconds (`State.now`); every `time.Now()` of the code
reads it.  Entry objects (`*passivationEntry`) are identified by their allocation number
(`gen`): the manager's map, heap and channel hold pointers, and the code compares pointers
(`current != entry`), so identity matters.  `entry.index` is kept explicitly (`State.idx`),
exactly as `passivationHeap.Swap/Push/Pop` maintain it — with two copies of one entry in the
heap (not reachable, see `finv_reachable`) it would NOT be a function of the queue.

The heap is Go's container/heap on the `queue` array (`up`, `down`, `Push`, `Pop`, `Remove`,
`Fix` transcribed), so the model's head is the implementation's head also under ties.

The unlock window of `trigger` / `processMessageEntry` (the manager calls
`target.passivationTry` with its mutex released) is modelled by `pre`/`post` op lists that run
before / after the first passivation attempt of a `tick` / `drain`: any op of another goroutine
that completes inside the window.
-/
namespace GoaktVerif.Model.C12

/-- `passivationTouchInterval` in the model's unit (ms); tied to the Go constant in Props
    (`Gen.C12.passivationTouchInterval = touchIv * 1000000`). -/
def touchIv : Nat := 100

/-- number of passivation attempts after which a `tick` is reported as spinning (`trigger`'s
    `for {}` has no bound in the code; the harness uses the same cut-off) -/
def maxTries : Nat := 3

inductive Strat where
  | time (T : Nat)
  | count (n : Int)
  | longLived
  deriving Repr, DecidableEq, Inhabited

def Strat.isTime : Strat → Bool
  | .time _ => true
  | _ => false

def Strat.isCount : Strat → Bool
  | .count _ => true
  | _ => false

/-- the passivation-relevant part of a `*PID` (plus the test actor's PostStop counter) -/
structure Actor where
  strat : Strat := .longLived
  failStop : Bool := false        -- the actor's PostStop returns an error
  latest : Option Nat := none     -- latestReceiveTimeNano (none = 0)
  lastTouch : Option Nat := none  -- lastPassivationTouch (none = 0)
  processed : Int := 0            -- processedCount
  running : Bool := true          -- runningState
  stopping : Bool := false        -- stoppingState
  suspended : Bool := false       -- suspendedState
  pausedF : Bool := false         -- passivationPausedState
  skipNext : Bool := false        -- passivationSkipNextState
  postStops : Nat := 0            -- how often Actor.PostStop ran
  deriving Repr, DecidableEq, Inhabited

/-- `passivationEntry` without `index` (kept in `State.idx`) -/
structure Entry where
  actor : Nat := 0                -- target / id
  strat : Strat := .longLived     -- strategy
  timeout : Nat := 0
  maxMessages : Int := 0
  deadline : Option Nat := none   -- none = zero time.Time
  baseline : Int := 0
  paused : Bool := false
  pending : Bool := false
  enqueued : Bool := false
  deriving Repr, DecidableEq, Inhabited

inductive Halt where
  | panic   -- the code panicked (index out of range inside container/heap)
  | hang    -- `trigger` span more than `maxTries` attempts
  deriving Repr, DecidableEq

/-- who called `tryPassivation` -/
inductive Src where
  | direct   -- a direct call (the raw `try` op)
  | timer    -- `trigger` (time-based path)
  | count    -- `processMessageEntry` (message-count path)
  deriving Repr, DecidableEq

/-- what the theorems talk about -/
inductive Ev where
  /-- `trigger` popped entry `g` of actor `a` at clock `now` (the decision instant): its
      deadline, timeout, the actor's latest activity, entry.paused, actor running, whether `g` is the
      actor's current entry, whether its strategy is time-based -/
  | decide (a g now deadline T : Nat) (latest : Option Nat) (epaused arunning current timeBased : Bool)
  /-- `tryPassivation` ran on actor `a` with these flags BEFORE the call and this result -/
  | tried (a : Nat) (src : Src) (ok : Bool)
      (longLived sysStopping skipNext stopping suspended pausedF running : Bool)
      (now : Nat) (latest : Option Nat) (processed : Int)
  /-- `MessageProcessed` found `processed ≥ baseline + maxMessages` for entry `g` -/
  | crossed (a g : Nat) (processed baseline maxMessages : Int)
  /-- `processMessageEntry` is about to passivate entry `g` -/
  | countFire (a g : Nat)
  /-- the actor's PostStop hook ran (doStop) -/
  | postStop (a : Nat) (wasRunning : Bool)
  deriving Repr, DecidableEq

def upd {α : Type} (f : Nat → α) (k : Nat) (v : α) : Nat → α := fun x => if x = k then v else f x

structure State where
  now : Nat := 0
  nA : Nat := 0
  actors : Nat → Actor := fun _ => {}
  nE : Nat := 0
  objs : Nat → Entry := fun _ => {}
  idx : Nat → Int := fun _ => -1
  entries : Nat → Option Nat := fun _ => none    -- m.entries: actor ↦ entry object
  queue : List Nat := []                          -- m.queue (heap array of entry objects)
  chan : List Nat := []                           -- m.messageTriggers
  sysStopping : Bool := false
  halt : Option Halt := none
  log : List Ev := []                             -- newest first

namespace State

def setA (s : State) (a : Nat) (f : Actor → Actor) : State := { s with actors := upd s.actors a (f (s.actors a)) }
def setE (s : State) (g : Nat) (f : Entry → Entry) : State := { s with objs := upd s.objs g (f (s.objs g)) }
def setIdx (s : State) (g : Nat) (v : Int) : State := { s with idx := upd s.idx g v }
def emit (s : State) (e : Ev) : State := { s with log := e :: s.log }

/-! ### container/heap on `queue` -/

def dl (s : State) (g : Nat) : Int :=
  match (s.objs g).deadline with
  | none => -1
  | some d => d

/-- `h.Less(i, j)`: `h[i].deadline.Before(h[j].deadline)` -/
def less (s : State) (i j : Nat) : Bool :=
  match s.queue[i]?, s.queue[j]? with
  | some gi, some gj => s.dl gi < s.dl gj
  | _, _ => false

/-- `h.Swap(i, j)` -/
def swap (s : State) (i j : Nat) : State :=
  match s.queue[i]?, s.queue[j]? with
  | some gi, some gj =>
    let s := { s with queue := (s.queue.set i gj).set j gi }
    (s.setIdx gj i).setIdx gi j
  | _, _ => s

def up : Nat → State → Nat → State
  | 0, s, _ => s
  | f + 1, s, j =>
    let i := (j - 1) / 2
    if i == j || !s.less j i then s else up f (s.swap i j) i

/-- returns the final position too (`down` reports `i > i0`) -/
def down : Nat → State → Nat → Nat → State × Nat
  | 0, s, i, _ => (s, i)
  | f + 1, s, i, n =>
    let j1 := 2 * i + 1
    if j1 ≥ n then (s, i) else
    let j := if j1 + 1 < n && s.less (j1 + 1) j1 then j1 + 1 else j1
    if !s.less j i then (s, i) else down f (s.swap i j) j n

/-- `passivationHeap.Pop` (remove the last array slot) -/
def popLast (s : State) : State :=
  match s.queue.getLast? with
  | none => s
  | some g => ({ s with queue := s.queue.dropLast }).setIdx g (-1)

/-- `heap.Push` -/
def hpush (s : State) (g : Nat) : State :=
  let n := s.queue.length
  let s := ({ s with queue := s.queue ++ [g] }).setIdx g n
  up (n + 1) s n

/-- `heap.Pop` (caller guarantees a non-empty queue) -/
def hpop (s : State) : State :=
  let n := s.queue.length - 1
  let s := s.swap 0 n
  let (s, _) := down (n + 1) s 0 n
  s.popLast

/-- `heap.Remove(i)`; an index outside the array panics in Go -/
def hremove (s : State) (i : Int) : State :=
  if i < 0 || i ≥ s.queue.length then { s with halt := some .panic } else
  let i := i.toNat
  let n := s.queue.length - 1
  let s :=
    if n ≠ i then
      let s := s.swap i n
      let (s, i') := down (n + 1) s i n
      if i' > i then s else up (n + 1) s i
    else s
  s.popLast

/-- `heap.Fix(i)` -/
def hfix (s : State) (i : Int) : State :=
  if i < 0 || i ≥ s.queue.length then { s with halt := some .panic } else
  let i := i.toNat
  let n := s.queue.length
  let (s, i') := down (n + 1) s i n
  if i' > i then s else up (n + 1) s i

/-! ### passivationManager -/

/-- `entry.refreshDeadline()` -/
def refresh (s : State) (g : Nat) : State :=
  let e := s.objs g
  let last := ((s.actors e.actor).latest).getD s.now
  s.setE g fun e => { e with deadline := some (last + e.timeout) }

/-- `if entry.index >= 0 { heap.Remove(&m.queue, entry.index); entry.index = -1 }` -/
def dropFromHeap (s : State) (g : Nat) : State :=
  if s.idx g ≥ 0 then (s.hremove (s.idx g)).setIdx g (-1) else s

def signal (s : State) (g : Nat) : State := { s with chan := s.chan ++ [g] }

/-- `Register(participant, strategy)` (the manager is started, id and strategy non-nil) -/
def allocEntry (s : State) (a : Nat) : State :=
  { s with nE := s.nE + 1, objs := upd s.objs s.nE { actor := a }, idx := upd s.idx s.nE (-1),
           entries := upd s.entries a (some s.nE) }

/-- the entry `Register` works on: the existing one (taken off the heap) or a new object -/
def regTarget (s : State) (a : Nat) : State × Nat :=
  match s.entries a with
  | none => (s.allocEntry a, s.nE)
  | some g => (s.dropFromHeap g, g)

def delEntry (s : State) (a : Nat) : State := { s with entries := upd s.entries a none }

def regFinish (s : State) (a g : Nat) (st : Strat) : State :=
  let s := s.setE g fun e => { e with strat := st, paused := false, pending := false, enqueued := false }
  match st with
  | .time T => ((s.setE g fun e => { e with timeout := T }).refresh g).hpush g
  | .count n => s.setE g fun e => { e with maxMessages := n, baseline := (s.actors a).processed + 1 }
  | .longLived => s.delEntry a

def register (s : State) (a : Nat) (st : Strat) : State :=
  regFinish (s.regTarget a).1 a (s.regTarget a).2 st

/-- `Unregister` -/
def unregister (s : State) (a : Nat) : State :=
  match s.entries a with
  | none => s
  | some g => (s.dropFromHeap g).delEntry a

/-- `Pause` -/
def mpause (s : State) (a : Nat) : State :=
  match s.entries a with
  | none => s
  | some g =>
    if (s.objs g).paused then s else
    (s.setE g fun e => { e with paused := true }).dropFromHeap g

/-- the state part of `Resume` for a paused entry `g` -/
def resumeEntry (s : State) (g : Nat) : State :=
  let s := s.setE g fun e => { e with paused := false }
  if (s.objs g).strat.isTime then (s.refresh g).hpush g
  else if (s.objs g).pending && !(s.objs g).enqueued then (s.setE g fun e => { e with enqueued := true }).signal g
  else s

/-- `Resume`: the new state -/
def mresumeS (s : State) (a : Nat) : State :=
  match s.entries a with
  | none => s
  | some g => if !(s.objs g).paused then s else s.resumeEntry g

/-- `Resume`: its result (`ok` of the map lookup) -/
def mresumeB (s : State) (a : Nat) : Bool := (s.entries a).isSome

def mresume (s : State) (a : Nat) : State × Bool := (s.mresumeS a, s.mresumeB a)

/-- `Touch` -/
def mtouch (s : State) (a : Nat) : State :=
  match s.entries a with
  | none => s
  | some g =>
    if (s.objs g).paused then s else
    if !(s.objs g).strat.isTime || s.idx g < 0 then s else
    (s.refresh g).hfix (s.idx g)

/-- `MessageProcessed(pid)` -/
def mproc (s : State) (a : Nat) : State :=
  match s.entries a with
  | none => s
  | some g =>
    if !(s.objs g).strat.isCount then s else
    -- `current - entry.baseline < int64(entry.maxMessages)`: both counters are non-negative, the
    -- difference cannot overflow int64 (fix 5123092; the sum `baseline + maxMessages` used to wrap)
    if (s.actors a).processed - (s.objs g).baseline < (s.objs g).maxMessages then s else
    let t := (s.setE g fun e => { e with pending := true }).emit
      (.crossed a g (s.actors a).processed (s.objs g).baseline (s.objs g).maxMessages)
    if (s.objs g).paused || (s.objs g).enqueued then t else
    (t.setE g fun e => { e with enqueued := true }).signal g

/-! ### PID -/

/-- `pid.reset()` + `setState(runningState, false)` (the deferred part of `doStop`) -/
def resetActor (x : Actor) : Actor :=
  { x with latest := none, processed := 0, running := false, stopping := false, suspended := false,
           pausedF := false, skipNext := false }

/-- `doStop`: PostStop runs, then the deferred reset; returns whether it failed -/
def doStopS (s : State) (a : Nat) : State :=
  (s.emit (.postStop a (s.actors a).running)).setA a fun x => resetActor { x with postStops := x.postStops + 1 }

def doStop (s : State) (a : Nat) : State × Bool := (s.doStopS a, (s.actors a).failStop)

/-- the event `tryPassivation` logs: the flags it saw, the clock, the actor's latest activity -/
def triedEv (s : State) (a : Nat) (src : Src) (ok : Bool) : Ev :=
  let x := s.actors a
  .tried a src ok (x.strat == .longLived) s.sysStopping x.skipNext x.stopping x.suspended x.pausedF x.running
    s.now x.latest x.processed

/-- does `tryPassivation` get past its guards (in the code's order; the skip-next flag is
    consumed when it is the blocking one) -/
def tryBlocked (s : State) (a : Nat) : Bool :=
  let x := s.actors a
  x.strat == .longLived || s.sysStopping || x.skipNext || x.stopping || x.suspended || x.pausedF ||
    !x.running   -- under stopLocker: "actor is offline, maybe stopped already" (fix 6f92e10)

/-- `tryPassivation`: the result -/
def tryB (s : State) (a : Nat) : Bool := !s.tryBlocked a && !(s.actors a).failStop

/-- `tryPassivation`: the new state -/
def tryS (s : State) (a : Nat) (src : Src) : State :=
  let x := s.actors a
  if s.tryBlocked a then
    if x.strat != .longLived && !s.sysStopping && x.skipNext then
      (s.setA a fun x => { x with skipNext := false }).emit (s.triedEv a src false)
    else s.emit (s.triedEv a src false)
  else ((s.unregister a).doStopS a).emit (s.triedEv a src (s.tryB a))

def tryPassivation (s : State) (a : Nat) (src : Src) : State × Bool := (s.tryS a src, s.tryB a)

/-- `Shutdown` of a local user actor -/
def shutdown (s : State) (a : Nat) : State :=
  if !(s.actors a).running then s else
  ((s.setA a fun x => { x with stopping := true }).unregister a).doStopS a

/-- `markActivity(now)` -/
def touchDue (s : State) (a : Nat) : Bool :=
  match (s.actors a).lastTouch with
  | none => true
  | some u => u + touchIv ≤ s.now

def markActivity (s : State) (a : Nat) : State :=
  let t := s.setA a fun x => { x with latest := some s.now }
  if s.touchDue a then (t.setA a fun x => { x with lastTouch := some s.now }).mtouch a else t

/-- `recordProcessedMessage` -/
def recordProcessed (s : State) (a : Nat) : State :=
  let t := s.setA a fun x => { x with processed := x.processed + 1 }
  if (s.actors a).strat.isCount then t.mproc a else t

/-- `startPassivation` -/
def startPassivation (s : State) (a : Nat) : State :=
  if (s.actors a).strat == .longLived then s else s.register a (s.actors a).strat

/-- `pausePassivation` -/
def pausePassivation (s : State) (a : Nat) : State :=
  (s.mpause a).setA a fun x => { x with pausedF := true }

/-- `resumePassivation` -/
def resumePassivation (s : State) (a : Nat) : State :=
  if (s.actors a).pausedF then
    let t := s.setA a fun x => { x with pausedF := false }
    if t.mresumeB a then t.mresumeS a else (t.mresumeS a).startPassivation a
  else s.startPassivation a

/-- `suspend` -/
def suspend (s : State) (a : Nat) : State :=
  (s.setA a fun x => { x with suspended := true }).pausePassivation a

/-- `doReinstate` -/
def reinstate (s : State) (a : Nat) : State :=
  if (s.actors a).running && !(s.actors a).stopping && !(s.actors a).suspended then s else
  ((s.setA a fun x => { x with suspended := false, skipNext := true }).markActivity a).resumePassivation a

end State

/-! ### operations -/

/-- ops that may also run inside an unlock window -/
inductive SOp where
  | act (a : Nat) | recd (a : Nat) | pause (a : Nat) | resume (a : Nat) | susp (a : Nat)
  | reinst (a : Nat) | stop (a : Nat)
  -- raw calls (not reachable through the PID API in this form)
  | mreg (a : Nat) | munreg (a : Nat) | mpause (a : Nat) | mresume (a : Nat) | mtouch (a : Nat)
  | mproc (a : Nat) | try_ (a : Nat) | sysstop (b : Bool) | flagstop (a : Nat) (b : Bool)
  -- what the actor runtime does (the PID functions above under the runtime's own guards):
  -- a live actor handles a user message / PausePassivation / ResumePassivation / fails,
  -- `Reinstate` (API guard: only a suspended actor), `Shutdown` is `stop`
  | deliver (a : Nat) | pauseMsg (a : Nat) | resumeMsg (a : Nat) | fail (a : Nat) | reinstateApi (a : Nat)
  deriving Repr, DecidableEq

/-- the runtime-level ops: the ones the theorems about the whole system quantify over -/
def SOp.api : SOp → Bool
  | .deliver _ | .pauseMsg _ | .resumeMsg _ | .fail _ | .reinstateApi _ | .stop _ => true
  | _ => false

/-- the ops of the PID API (what the actor runtime itself does) -/
def SOp.pidLevel : SOp → Bool
  | .act _ | .recd _ | .pause _ | .resume _ | .susp _ | .reinst _ | .stop _ => true
  | _ => false

inductive Op where
  | adv (d : Nat)
  | simple (o : SOp)
  | tick (pre post : List SOp)
  | drain (pre post : List SOp)
  deriving Repr

def Op.api : Op → Bool
  | .adv _ => true
  | .simple o => o.api
  | .tick pre post => pre.all SOp.api && post.all SOp.api
  | .drain pre post => pre.all SOp.api && post.all SOp.api

/-- no other goroutine acts inside the manager's unlock windows -/
def Op.quiet : Op → Bool
  | .tick pre post => pre.isEmpty && post.isEmpty
  | .drain pre post => pre.isEmpty && post.isEmpty
  | _ => true

open State

/-- a simple op; the result is what the harness prints for it (`mresume`, `try`) -/
def sstep (s : State) : SOp → State × Option Bool
  | .act a => (s.markActivity a, none)
  | .recd a => (s.recordProcessed a, none)
  | .pause a => (s.pausePassivation a, none)
  | .resume a => (s.resumePassivation a, none)
  | .susp a => (s.suspend a, none)
  | .reinst a => (s.reinstate a, none)
  | .stop a => (s.shutdown a, none)
  | .mreg a => (s.register a (s.actors a).strat, none)
  | .munreg a => (s.unregister a, none)
  | .mpause a => (s.mpause a, none)
  | .mresume a => (s.mresumeS a, some (s.mresumeB a))
  | .mtouch a => (s.mtouch a, none)
  | .mproc a => (s.mproc a, none)
  | .try_ a => (s.tryS a .direct, some (s.tryB a))
  | .sysstop b => ({ s with sysStopping := b }, none)
  | .flagstop a b => (s.setA a fun x => { x with stopping := b }, none)
  | .deliver a => (if (s.actors a).running then (s.markActivity a).recordProcessed a else s, none)
  | .pauseMsg a => (if (s.actors a).running then s.pausePassivation a else s, none)
  | .resumeMsg a => (if (s.actors a).running then s.resumePassivation a else s, none)
  | .fail a => (if (s.actors a).running then s.suspend a else s, none)
  | .reinstateApi a => (if (s.actors a).suspended then s.reinstate a else s, none)

def srun (s : State) : List SOp → State
  | [] => s
  | o :: os => srun (sstep s o).1 os

/-- `passivate(entry)` with the window ops around the attempt -/
def passivateS (s : State) (g : Nat) (src : Src) (pre post : List SOp) : State :=
  srun ((srun s pre).tryS ((srun s pre).objs g).actor src) post

def passivateB (s : State) (g : Nat) (pre : List SOp) : Bool :=
  (srun s pre).tryB ((srun s pre).objs g).actor

def passivate (s : State) (g : Nat) (src : Src) (pre post : List SOp) : State × Bool :=
  (passivateS s g src pre post, passivateB s g pre)

/-- `nextEntry`: drops paused heads; returns the head if its deadline has passed -/
def nextEntry : Nat → State → State × Option Nat
  | 0, s => (s, none)
  | f + 1, s =>
    match s.queue with
    | [] => (s, none)
    | g :: _ =>
      if (s.objs g).paused then
        if ((s.hremove (s.idx g)).setIdx g (-1)).halt.isSome then ((s.hremove (s.idx g)).setIdx g (-1), none)
        else nextEntry f ((s.hremove (s.idx g)).setIdx g (-1))
      else if s.dl g ≤ s.now then (s, some g) else (s, none)

/-- the event `trigger` logs when it pops entry `g` (the decision instant) -/
def State.decideEv (s : State) (g : Nat) : Ev :=
  let e := s.objs g
  .decide e.actor g s.now (s.dl g).toNat e.timeout (s.actors e.actor).latest e.paused
    (s.actors e.actor).running (s.entries e.actor == some g) e.strat.isTime

/-- `trigger`: pop the head (under the lock) -/
def State.popHead (s : State) (g : Nat) : State := ((s.emit (s.decideEv g)).hpop).setIdx g (-1)

/-- `trigger(expected)`; the fuel is the number of passivation attempts left before the tick is
    reported as spinning (checked where the attempt would start, as the harness does) -/
def trigger : Nat → State → Nat → List SOp → List SOp → State
  | f, s, g, pre, post =>
    match s.queue with
    | [] => s
    | h :: _ =>
      if h ≠ g then s else
      if s.dl g > s.now then s else
      match f with
      | 0 => { s with halt := some .hang }
      | f + 1 =>
        let a := (s.objs g).actor
        let t := passivateS (s.popHead g) g .timer pre post
        if t.entries a ≠ some g then t else
        if passivateB (s.popHead g) g pre then t.delEntry a else
        if (t.objs g).paused then t else
        -- a Resume/Register inside the window has already re-queued the entry: no second push
        if t.idx g < 0 then trigger f ((t.refresh g).hpush g) g [] [] else trigger f t g [] []

/-- `processMessageEntry(entry)` -/
def processMessageEntry (s : State) (g : Nat) (pre post : List SOp) : State :=
  let a := (s.objs g).actor
  if s.entries a ≠ some g then s else
  if (s.objs g).paused then s.setE g fun e => { e with enqueued := false } else
  let t := (passivateS (s.emit (.countFire a g)) g .count pre post).setE g fun e => { e with enqueued := false }
  if t.entries a ≠ some g then t else
  if passivateB (s.emit (.countFire a g)) g pre then (t.delEntry a).setE g fun e => { e with pending := false }
  else if (t.objs g).paused then t
  else if (t.objs g).pending && !(t.objs g).enqueued then (t.setE g fun e => { e with enqueued := true }).signal g
  else t

def tickStep (s : State) (pre post : List SOp) : State :=
  match (nextEntry (s.queue.length + 1) s).2 with
  | none => (nextEntry (s.queue.length + 1) s).1
  | some g => trigger maxTries (nextEntry (s.queue.length + 1) s).1 g pre post

def drainStep (s : State) (pre post : List SOp) : State :=
  match s.chan with
  | [] => s
  | g :: rest => processMessageEntry { s with chan := rest } g pre post

/-- one operation; a halted state (panic / spin) absorbs everything -/
def step (s : State) (op : Op) : State :=
  if s.halt.isSome then s else
  match op with
  | .adv d => { s with now := s.now + d }
  | .simple o => (sstep s o).1
  | .tick pre post => tickStep s pre post
  | .drain pre post => drainStep s pre post

def run (s : State) : List Op → State
  | [] => s
  | o :: os => run (step s o) os

/-- the state after spawning actors with the given strategies (each `newPID` ends with
    `startPassivation`), clock 0 -/
def spawnAll : State → List (Strat × Bool) → State
  | s, [] => s
  | s, (st, fail) :: rest =>
    spawnAll (({ s with nA := s.nA + 1, actors := upd s.actors s.nA { strat := st, failStop := fail } }).startPassivation s.nA) rest

def init (cfg : List (Strat × Bool)) : State := spawnAll {} cfg

end GoaktVerif.Model.C12
