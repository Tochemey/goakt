/-
C23 — wire frames (internal/net/proto_serializer.go, metadata.go, client.go, proto_server.go,
frame_pool.go).  Hand-written executable model over byte lists, core Lean only.

Conventions
* `Bytes = List UInt8`.  Every Go slice expression `d[lo:hi]`, `d[lo:]` and every
  `binary.BigEndian.UintN(d[pos:])` is modelled by a CHECKED operation that returns
  `Err.panic` when Go's runtime bounds check would fire (the check is against `len`, which is
  stricter than Go's `cap` rule for re-slicing: reading stale pool bytes beyond `len` would
  also count as a panic here).  `Props/C23` proves `panic` is unreachable for every input.
* protobuf and the type registry are PARAMETERS (`Codec`): `reg name` = `FindMessageType`
  succeeds, `pdec name payload` = `proto.Unmarshal` accepts the payload.  A decoded message is
  its type name plus its payload bytes.
* the clock is an explicit argument (`remainingOf deadline now`, `deadlineOf now remaining`);
  decoded metadata carries the WIRE field (`remaining`), not a wall-clock deadline.
* Go's `map[string]string` is an association list with `mapSet` (overwrite or append) on the
  decoding side; on the encoding side the (random) iteration order is the order of the list
  given to `mdMarshal`.
-/
namespace GoaktVerif.Model.C23

abbrev Bytes := List UInt8

inductive Err where
  | invalidLength    -- ErrInvalidMessageLength
  | unknownType      -- ErrUnknownMessageType
  | unmarshalFailed  -- ErrUnmarshalBinaryFailed
  | invalidMetadata  -- ErrInvalidMetadata
  | frameTooLarge    -- ErrFrameTooLarge
  | eof              -- io.EOF
  | unexpectedEOF    -- io.ErrUnexpectedEOF
  | panic            -- a Go runtime bounds-check panic (proved unreachable)
  deriving DecidableEq, Repr, Inhabited

abbrev R := Except Err

/-! ## big-endian integers -/

/-- `binary.BigEndian.PutUint16(buf, uint16(n))` (the conversion truncates) -/
def be16 (n : Nat) : Bytes := [UInt8.ofNat (n / 2 ^ 8), UInt8.ofNat n]
/-- `binary.BigEndian.PutUint32(buf, uint32(n))` -/
def be32 (n : Nat) : Bytes :=
  [UInt8.ofNat (n / 2 ^ 24), UInt8.ofNat (n / 2 ^ 16), UInt8.ofNat (n / 2 ^ 8), UInt8.ofNat n]
/-- `binary.BigEndian.PutUint64(buf, uint64(n))` -/
def be64 (n : Nat) : Bytes := be32 (n / 2 ^ 32) ++ be32 n

/-- Go `d[lo:hi]` -/
def slice (d : Bytes) (lo hi : Nat) : R Bytes :=
  if lo ≤ hi ∧ hi ≤ d.length then .ok ((d.drop lo).take (hi - lo)) else .error .panic

/-- `binary.BigEndian.Uint16(d[pos:])` — panics unless `pos + 2 ≤ len d` -/
def u16At (d : Bytes) (pos : Nat) : R Nat :=
  match d.drop pos with
  | a :: b :: _ => .ok (a.toNat * 256 + b.toNat)
  | _ => .error .panic

/-- `binary.BigEndian.Uint32(d[pos:pos+4])` / `Uint32(d[pos:])` — panics unless `pos + 4 ≤ len d` -/
def u32At (d : Bytes) (pos : Nat) : R Nat :=
  match d.drop pos with
  | a :: b :: c :: e :: _ => .ok (((a.toNat * 256 + b.toNat) * 256 + c.toNat) * 256 + e.toNat)
  | _ => .error .panic

/-- `binary.BigEndian.Uint64(d[pos:])` — panics unless `pos + 8 ≤ len d` -/
def u64At (d : Bytes) (pos : Nat) : R Nat :=
  match u32At d pos, u32At d (pos + 4) with
  | .ok hi, .ok lo => .ok (hi * 2 ^ 32 + lo)
  | _, _ => .error .panic

/-- two's complement reading of a 64-bit pattern: Go `int64(u)` -/
def toInt64 (u : Nat) : Int := if u < 2 ^ 63 then (u : Int) else (u : Int) - 2 ^ 64
/-- the 64-bit pattern of an integer: Go `uint64(i)` -/
def ofInt64 (i : Int) : Nat := (i % 2 ^ 64).toNat
/-- int64 wrap-around of an exact integer result -/
def wrap64 (i : Int) : Int := toInt64 (ofInt64 i)

/-! ## the bounds the decoders test

Named (as reducible abbreviations, so every proof sees through them) because `Lemmas/C23Gen` ties each of
them to the condition REGENERATED from the Go source (`Gen.C23.*`, go2lean `if_cond`). -/

/-- `len(data) < 8` (UnmarshalBinary) -/
abbrev UmShort (dataLen : Nat) : Prop := dataLen < 8
/-- `len(data) < messageLength || messageLength < 8` -/
abbrev UmTotal (dataLen messageLength : Nat) : Prop := dataLen < messageLength ∨ messageLength < 8
/-- `8+nameLen > messageLength` -/
abbrev UmName (nameLen messageLength : Nat) : Prop := 8 + nameLen > messageLength
/-- `len(data) < 12` (UnmarshalBinaryWithMetadata) -/
abbrev UwmShort (dataLen : Nat) : Prop := dataLen < 12
/-- `len(data) < messageLength || messageLength < 12` -/
abbrev UwmTotal (dataLen messageLength : Nat) : Prop := dataLen < messageLength ∨ messageLength < 12
/-- `12+nameLen+metaLen > messageLength` -/
abbrev UwmBound (nameLen metaLen messageLength : Nat) : Prop := 12 + nameLen + metaLen > messageLength
/-- `metaLen > 0` -/
abbrev UwmHasMeta (metaLen : Nat) : Prop := metaLen > 0
/-- `totalLen < 8` (readProtoFrame, handleConn) -/
abbrev RdMin (totalLen : Nat) : Prop := totalLen < 8
/-- `totalLen > maxFrameSize` (readProtoFrame, handleConn) -/
abbrev RdMax (totalLen maxFrameSize : Nat) : Prop := totalLen > maxFrameSize
/-- `len(frame) >= 12` (handleConn tries the metadata format) -/
abbrev SrvTriesMeta (frameLen : Nat) : Prop := frameLen ≥ 12
/-- `len(frame) < 12` (unmarshalProtoResponse) -/
abbrev CliShort (frameLen : Nat) : Prop := frameLen < 12
/-- `nameLen > 0 && potentialMetaLen >= 0 && 12+nameLen+potentialMetaLen <= totalLen` -/
abbrev CliDetect (totalLen nameLen potentialMetaLen : Nat) : Prop :=
  nameLen > 0 ∧ 12 + nameLen + potentialMetaLen ≤ totalLen
/-- `len(data) < 10` (Metadata.UnmarshalBinary) -/
abbrev MdShort (dataLen : Nat) : Prop := dataLen < 10
/-- `pos+keyLen > len(data)` / `pos+valLen > len(data)` / `pos+2 > len(data)` / `pos+8 > len(data)` -/
abbrev MdNeeds (pos n dataLen : Nat) : Prop := pos + n > dataLen
/-- `remaining != 0` -/
abbrev MdHasDeadline (remaining : Int) : Prop := remaining ≠ 0

/-! ## metadata (metadata.go) -/

abbrev Headers := List (Bytes × Bytes)

/-- decoded metadata: the header map and the wire `remaining` field (int64 nanoseconds; 0 = no deadline) -/
structure MD where
  headers : Headers
  remaining : Int
  deriving DecidableEq, Repr

/-- `m.headers[key] = val` on an association list: overwrite in place or append -/
def mapSet : Headers → Bytes → Bytes → Headers
  | [], k, v => [(k, v)]
  | (k', v') :: rest, k, v => if k' = k then (k, v) :: rest else (k', v') :: mapSet rest k v

/-- the `remaining` computation of `Metadata.MarshalBinary`: `deadlineNano` is the stored UnixNano
    (0 = none), `now` is `time.Now().UnixNano()`; a zero remainder is nudged to −1 -/
def remainingOf (deadlineNano now : Int) : Int :=
  if deadlineNano ≠ 0 then
    let r := wrap64 (deadlineNano - now)
    if r = 0 then -1 else r
  else 0

/-- the receiving side of `Metadata.UnmarshalBinary`: rebase the remaining time on the local clock -/
def deadlineOf (now remaining : Int) : Int :=
  if MdHasDeadline remaining then wrap64 (now + remaining) else 0

def encHeader (kv : Bytes × Bytes) : Bytes :=
  be16 kv.1.length ++ kv.1 ++ (be16 kv.2.length ++ kv.2)

/-- `Metadata.MarshalBinary` with the map iterated in the order of `hs`, `remaining` already computed -/
def mdMarshal (hs : Headers) (remaining : Int) : Bytes :=
  be16 hs.length ++ (hs.flatMap encHeader ++ be64 (ofInt64 remaining))

/-- the `for range count` loop of `Metadata.UnmarshalBinary`; state = (pos, map) -/
def mdLoop (data : Bytes) : Nat → Nat → Headers → R (Nat × Headers)
  | 0, pos, m => .ok (pos, m)
  | count + 1, pos, m =>
    if MdNeeds pos 2 data.length then .error .invalidMetadata else
    match u16At data pos with
    | .error e => .error e
    | .ok keyLen =>
    let pos := pos + 2
    if MdNeeds pos keyLen data.length then .error .invalidMetadata else
    match slice data pos (pos + keyLen) with
    | .error e => .error e
    | .ok key =>
    let pos := pos + keyLen
    if MdNeeds pos 2 data.length then .error .invalidMetadata else
    match u16At data pos with
    | .error e => .error e
    | .ok valLen =>
    let pos := pos + 2
    if MdNeeds pos valLen data.length then .error .invalidMetadata else
    match slice data pos (pos + valLen) with
    | .error e => .error e
    | .ok val =>
    mdLoop data count (pos + valLen) (mapSet m key val)

/-- `Metadata.UnmarshalBinary` (on a zero-value receiver) -/
def mdUnmarshal (data : Bytes) : R MD :=
  if MdShort data.length then .error .invalidMetadata else
  match u16At data 0 with
  | .error e => .error e
  | .ok count =>
  match mdLoop data count 2 [] with
  | .error e => .error e
  | .ok (pos, m) =>
  if MdNeeds pos 8 data.length then .error .invalidMetadata else
  match u64At data pos with
  | .error e => .error e
  | .ok r => .ok ⟨m, toInt64 r⟩

/-! ## frames (proto_serializer.go) -/

/-- protobuf + registry as parameters -/
structure Codec where
  reg : Bytes → Bool
  pdec : Bytes → Bytes → Bool

/-- the codec that knows every name and accepts every payload (framing-level view) -/
def Codec.top : Codec := ⟨fun _ => true, fun _ _ => true⟩

/-- a decoded frame -/
structure Decoded where
  name : Bytes
  payload : Bytes
  md : Option MD
  deriving DecidableEq, Repr

/-- `ProtoSerializer.MarshalBinary`: `name = proto.MessageName(m)`, `payload = proto.Marshal(m)` -/
def marshal (name payload : Bytes) : R Bytes :=
  if name.length = 0 then .error .unknownType else
  .ok (be32 (4 + 4 + name.length + payload.length) ++ (be32 name.length ++ (name ++ payload)))

/-- `ProtoSerializer.MarshalBinaryWithMetadata`; `metaBytes` = `md.MarshalBinary()` or `[]` for a nil `md` -/
def marshalWithMeta (name payload metaBytes : Bytes) : R Bytes :=
  if name.length = 0 then .error .unknownType else
  .ok (be32 (4 + 4 + name.length + 4 + metaBytes.length + payload.length) ++
       (be32 name.length ++ (be32 metaBytes.length ++ (name ++ (metaBytes ++ payload)))))

/-- `ProtoSerializer.UnmarshalBinary` -/
def unmarshal (c : Codec) (data : Bytes) : R Decoded :=
  if UmShort data.length then .error .invalidLength else
  match u32At data 0 with
  | .error e => .error e
  | .ok messageLength =>
  if UmTotal data.length messageLength then .error .invalidLength else
  match u32At data 4 with
  | .error e => .error e
  | .ok nameLen =>
  if UmName nameLen messageLength then .error .invalidLength else
  match slice data 8 (8 + nameLen) with
  | .error e => .error e
  | .ok typeName =>
  if !c.reg typeName then .error .unknownType else
  match slice data (8 + nameLen) messageLength with
  | .error e => .error e
  | .ok payload =>
  if !c.pdec typeName payload then .error .unmarshalFailed else
  .ok ⟨typeName, payload, none⟩

/-- `ProtoSerializer.UnmarshalBinaryWithMetadata` -/
def unmarshalWithMeta (c : Codec) (data : Bytes) : R Decoded :=
  if UwmShort data.length then .error .invalidLength else
  match u32At data 0 with
  | .error e => .error e
  | .ok messageLength =>
  if UwmTotal data.length messageLength then .error .invalidLength else
  match u32At data 4, u32At data 8 with
  | .error e, _ => .error e
  | _, .error e => .error e
  | .ok nameLen, .ok metaLen =>
  if UwmBound nameLen metaLen messageLength then .error .invalidLength else
  match slice data 12 (12 + nameLen) with
  | .error e => .error e
  | .ok typeName =>
  if !c.reg typeName then .error .unknownType else
  match (if UwmHasMeta metaLen then
           match slice data (12 + nameLen) (12 + nameLen + metaLen) with
           | .error e => .error e
           | .ok mb => match mdUnmarshal mb with
             | .error e => .error e
             | .ok md => .ok (some md)
         else .ok none : R (Option MD)) with
  | .error e => .error e
  | .ok md =>
  match slice data (12 + nameLen + metaLen) messageLength with
  | .error e => .error e
  | .ok payload =>
  if !c.pdec typeName payload then .error .unmarshalFailed else
  .ok ⟨typeName, payload, md⟩

/-! ## framing-level view (what the bytes determine before the parameters are consulted) -/

/-- the three regions of a frame -/
structure Raw where
  name : Bytes
  metaBytes : Bytes   -- `[]` for a legacy frame or `metaLen = 0`
  payload : Bytes
  deriving DecidableEq, Repr

/-- the length checks and slicing of `UnmarshalBinary` -/
def frameLegacy (data : Bytes) : R Raw :=
  if UmShort data.length then .error .invalidLength else
  match u32At data 0 with
  | .error e => .error e
  | .ok messageLength =>
  if UmTotal data.length messageLength then .error .invalidLength else
  match u32At data 4 with
  | .error e => .error e
  | .ok nameLen =>
  if UmName nameLen messageLength then .error .invalidLength else
  match slice data 8 (8 + nameLen), slice data (8 + nameLen) messageLength with
  | .ok typeName, .ok payload => .ok ⟨typeName, [], payload⟩
  | _, _ => .error .panic

/-- the length checks and slicing of `UnmarshalBinaryWithMetadata` -/
def frameMeta (data : Bytes) : R Raw :=
  if UwmShort data.length then .error .invalidLength else
  match u32At data 0 with
  | .error e => .error e
  | .ok messageLength =>
  if UwmTotal data.length messageLength then .error .invalidLength else
  match u32At data 4, u32At data 8 with
  | .error e, _ => .error e
  | _, .error e => .error e
  | .ok nameLen, .ok metaLen =>
  if UwmBound nameLen metaLen messageLength then .error .invalidLength else
  match slice data 12 (12 + nameLen), slice data (12 + nameLen) (12 + nameLen + metaLen),
        slice data (12 + nameLen + metaLen) messageLength with
  | .ok typeName, .ok mb, .ok payload => .ok ⟨typeName, mb, payload⟩
  | _, _, _ => .error .panic

/-- what happens after framing: registry lookup, then metadata, then the payload -/
def finish (c : Codec) (r : Raw) : R Decoded :=
  if !c.reg r.name then .error .unknownType else
  match (if UwmHasMeta r.metaBytes.length then
           match mdUnmarshal r.metaBytes with
           | .error e => .error e
           | .ok md => .ok (some md)
         else .ok none : R (Option MD)) with
  | .error e => .error e
  | .ok md =>
  if !c.pdec r.name r.payload then .error .unmarshalFailed else .ok ⟨r.name, r.payload, md⟩

/-- framing-level view of the server's decode block -/
def serverFrame (frame : Bytes) : R Raw :=
  if SrvTriesMeta frame.length then
    match frameMeta frame with
    | .error .invalidLength => frameLegacy frame
    | r => r
  else frameLegacy frame

/-- does the client's heuristic try the metadata format first? -/
def clientTriesMeta (frame : Bytes) : Bool :=
  if CliShort frame.length then false else
  match u32At frame 0, u32At frame 4, u32At frame 8 with
  | .ok totalLen, .ok nameLen, .ok potentialMetaLen =>
    decide (CliDetect totalLen nameLen potentialMetaLen)
  | _, _, _ => false

/-! ## format detection -/

/-- the decode block of `ProtoServer.handleConn`: metadata format first, legacy on
    `ErrInvalidMessageLength` -/
def serverDecode (c : Codec) (frame : Bytes) : R Decoded :=
  if SrvTriesMeta frame.length then
    match unmarshalWithMeta c frame with
    | .error .invalidLength => unmarshal c frame
    | r => r
  else unmarshal c frame

/-- `Client.unmarshalProtoResponse`: the heuristic on bytes 8:12 -/
def clientDecode (c : Codec) (frame : Bytes) : R Decoded :=
  if CliShort frame.length then unmarshal c frame else
  match u32At frame 0, u32At frame 4, u32At frame 8 with
  | .ok totalLen, .ok nameLen, .ok potentialMetaLen =>
    if CliDetect totalLen nameLen potentialMetaLen then
      match unmarshalWithMeta c frame with
      | .ok r => .ok r
      | .error _ => unmarshal c frame
    else unmarshal c frame
  | _, _, _ => .error .panic

/-! ## frame pool (frame_pool.go) -/

structure PoolCfg where
  minBucketShift : Nat
  numBuckets : Nat

/-- the loop `for v > 0 { v >>= 1; shift++ }` -/
def bitLen (v : Nat) : Nat := if h : v = 0 then 0 else bitLen (v / 2) + 1
decreasing_by omega

/-- `bucketIndex(n)` for an `int` n (negative n fall in bucket 0) -/
def bucketIndex (p : PoolCfg) (n : Int) : Nat :=
  if n ≤ 2 ^ p.minBucketShift then 0 else
  let shift := bitLen (n - 1).toNat
  let idx : Int := (shift : Int) - p.minBucketShift
  if idx ≥ p.numBuckets then p.numBuckets else idx.toNat

/-- `bucketIndexExact(c)`: −1 unless c is an exact bucket size -/
def bucketIndexExact (p : PoolCfg) (c : Nat) : Int :=
  if c = 0 ∨ c &&& (c - 1) ≠ 0 then -1 else
  let shift := bitLen c - 1        -- the loop `for v > 1` counts one less than bitLen
  let idx : Int := (shift : Int) - p.minBucketShift
  if idx < 0 ∨ idx ≥ p.numBuckets then -1 else idx

/-- capacity of the buffer returned by `FramePool.Get(n)` for `n ≥ 0`
    (bucket size for pooled sizes, exactly `n` for oversized requests) -/
def poolCap (p : PoolCfg) (n : Nat) : Nat :=
  let idx := bucketIndex p n
  if idx ≥ p.numBuckets then n else 2 ^ (p.minBucketShift + idx)

/-- `FramePool.Get(n)`: (len, cap) of the result, `panic` for a negative request
    (`(*bp)[:n]` with n < 0) -/
def poolGet (p : PoolCfg) (n : Int) : R (Nat × Nat) :=
  if n < 0 then .error .panic else
  let cap := poolCap p n.toNat
  if n.toNat ≤ cap then .ok (n.toNat, cap) else .error .panic

/-! ## reading frames from a stream (client.go readProtoFrame, proto_server.go handleConn) -/

/-- `io.ReadFull(r, buf)` with `len buf = n` on a stream holding `s`: EOF when nothing could be
    read (and n > 0), ErrUnexpectedEOF on a short read -/
def readFull (s : Bytes) (n : Nat) : R (Bytes × Bytes) :=
  if n ≤ s.length then .ok (s.take n, s.drop n)
  else if s.length = 0 then .error .eof else .error .unexpectedEOF

structure Frame where
  frame : Bytes
  rest : Bytes
  alloc : Nat       -- the size requested from the pool / `make`
  deriving DecidableEq, Repr

/-- the size `readProtoFrame` / `handleConn` request for the frame buffer, if they get that far -/
def allocRequest (maxFrameSize : Nat) (s : Bytes) : Option Nat :=
  match readFull s 4 with
  | .error _ => none
  | .ok (hdr, _) =>
    match u32At hdr 0 with
    | .error _ => none
    | .ok totalLen => if RdMin totalLen ∨ RdMax totalLen maxFrameSize then none else some totalLen

/-- `readProtoFrame(reader, pool, maxFrameSize)` on a reader holding `s` -/
def readFrame (maxFrameSize : Nat) (s : Bytes) : R Frame :=
  match readFull s 4 with
  | .error e => .error e
  | .ok (hdr, s1) =>
  match u32At hdr 0 with
  | .error e => .error e
  | .ok totalLen =>
  if RdMin totalLen then .error .invalidLength else
  if RdMax totalLen maxFrameSize then .error .frameTooLarge else
  -- frame := make([]byte, totalLen); copy(frame[:4], hdr); io.ReadFull(reader, frame[4:])
  if 4 > totalLen then .error .panic else
  match readFull s1 (totalLen - 4) with
  | .error e => .error e
  | .ok (body, rest) => .ok ⟨hdr ++ body, rest, totalLen⟩

/-- read frames until the first error; returns the frames and the terminating error -/
def readAll (maxFrameSize : Nat) (s : Bytes) : List Bytes × Err :=
  match readFrame maxFrameSize s with
  | .error e => ([], e)
  | .ok f =>
    if _hlt : f.rest.length < s.length then
      let (fs, e) := readAll maxFrameSize f.rest
      (f.frame :: fs, e)
    else ([f.frame], .panic)   -- unreachable: a frame consumes at least 8 bytes
termination_by s.length

/-- the read loop of `handleConn` with a recording handler that never replies: the decoded
    requests in order, until the first read or decode error closes the connection -/
def serverLoop (c : Codec) (maxFrameSize : Nat) (s : Bytes) : List Decoded :=
  match readFrame maxFrameSize s with
  | .error _ => []
  | .ok f =>
    match serverDecode c f.frame with
    | .error _ => []
    | .ok d =>
      if _hlt : f.rest.length < s.length then d :: serverLoop c maxFrameSize f.rest else [d]
termination_by s.length

/-- `handleConn` with an echo handler (the handler returns its request): the decoded requests and
    the bytes written to the connection — one `MarshalBinaryTo` (legacy) frame per request; a read,
    decode or marshal failure closes the connection -/
def serverEcho (c : Codec) (maxFrameSize : Nat) (s : Bytes) : List Decoded × Bytes :=
  match readFrame maxFrameSize s with
  | .error _ => ([], [])
  | .ok f =>
    match serverDecode c f.frame with
    | .error _ => ([], [])
    | .ok d =>
      match marshal d.name d.payload with
      | .error _ => ([d], [])
      | .ok resp =>
        if _hlt : f.rest.length < s.length then
          let (ds, w) := serverEcho c maxFrameSize f.rest
          (d :: ds, resp ++ w)
        else ([d], resp)
termination_by s.length

/-- `Client.marshalProtoWithContext`: the metadata format is used only when the context carries a
    non-nil `*Metadata` (`ctxMD = none`: no metadata in the context; `some none`: a nil one) -/
def clientMarshal (ctxMD : Option (Option Bytes)) (name payload : Bytes) : R Bytes :=
  match ctxMD with
  | some (some mb) => marshalWithMeta name payload mb
  | _ => marshal name payload

/-- the response-reading loop of `Client.SendBatchProto`: `n` responses, stop at the first error -/
def clientReadN (c : Codec) (maxFrameSize : Nat) : Nat → Bytes → R (List Decoded)
  | 0, _ => .ok []
  | n + 1, s =>
    match readFrame maxFrameSize s with
    | .error e => .error e
    | .ok f =>
      match clientDecode c f.frame with
      | .error e => .error e
      | .ok d =>
        match clientReadN c maxFrameSize n f.rest with
        | .error e => .error e
        | .ok ds => .ok (d :: ds)

end GoaktVerif.Model.C23
