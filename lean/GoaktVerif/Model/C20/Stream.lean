/-
C20 — sequential model of `eventstream/eventstream.go` (`EventsStream`) and of the bookkeeping half of
`eventstream/subscriber.go`.

* `EventsStream.topics : map[topic]map[subscriberID]Subscriber` is the finite relation `rel` (a list of
  pairs without duplicates; "delete the topic when its inner map becomes empty" is then automatic).
* `EventsStream.subscribers` is `registry`.
* a subscriber is identified by its creation index; its `messages` queue is a `List` — justified by
  `C20_queue_holds` in `Props.C20` (the queue as it is refines a FIFO under every schedule), the operations here
  being executed one at a time.
* `publishToTopic` snapshots the inner map (iteration order is random in Go; every subscriber has its own
  queue, so the order is unobservable) and signals the subscribers that are active.
-/
namespace GoaktVerif.Model.C20.Stream

abbrev Topic := Nat
abbrev SubId := Nat
abbrev Msg := Topic × Nat

structure Sub where
  active : Bool
  topics : List Topic
  queue : List Msg
  deriving Repr, DecidableEq

structure State where
  subs : List Sub
  registry : List SubId
  rel : List (Topic × SubId)
  deriving Repr, DecidableEq

inductive Op where
  | add
  | sub (i : SubId) (t : Topic)
  | unsub (i : SubId) (t : Topic)
  | rm (i : SubId)
  | pub (t : Topic) (k : Nat)
  | bc (k : Nat) (ts : List Topic)
  | it (i : SubId)
  | shut (i : SubId)
  | close
  | count (t : Topic)
  | tops (i : SubId)
  | act (i : SubId)
  deriving Repr, DecidableEq

inductive Out where
  | idx (n : Nat)
  | ok
  | noop
  | nosub
  | msgs (l : List Msg)
  | num (n : Nat)
  | topics (l : List Topic)
  | bool (b : Bool)
  deriving Repr, DecidableEq

def init : State := { subs := [], registry := [], rel := [] }

def insertNew {α} [DecidableEq α] (l : List α) (a : α) : List α := if a ∈ l then l else l ++ [a]

/-- `EventsStream.Unsubscribe(sub i, t)` -/
def unsubscribe (s : State) (i : SubId) (t : Topic) : State :=
  { s with
    subs := s.subs.modify i (fun sb => { sb with topics := sb.topics.filter (· ≠ t) })
    rel := s.rel.filter (· ≠ (t, i)) }

/-- `publishToTopic(t, k)` -/
def publish (s : State) (t : Topic) (k : Nat) : State :=
  { s with subs := s.subs.mapIdx fun i sb =>
      if sb.active && decide ((t, i) ∈ s.rel) then { sb with queue := sb.queue ++ [(t, k)] } else sb }

def insertSorted (t : Topic) : List Topic → List Topic
  | [] => [t]
  | x :: xs => if t ≤ x then t :: x :: xs else x :: insertSorted t xs

def sortTopics (l : List Topic) : List Topic := l.foldr insertSorted []

def step (s : State) : Op → State × Out
  | .add =>
    ({ s with subs := s.subs ++ [{ active := true, topics := [], queue := [] }], registry := s.registry ++ [s.subs.length] },
     .idx s.subs.length)
  | .sub i t =>
    match s.subs[i]? with
    | none => (s, .nosub)
    | some sb =>
      if sb.active then
        ({ s with subs := s.subs.modify i (fun sb => { sb with topics := insertNew sb.topics t }),
                  rel := insertNew s.rel (t, i) }, .ok)
      else (s, .noop)
  | .unsub i t =>
    match s.subs[i]? with
    | none => (s, .nosub)
    | some _ => (unsubscribe s i t, .ok)
  | .rm i =>
    match s.subs[i]? with
    | none => (s, .nosub)
    | some sb =>
      let s1 := sb.topics.foldl (fun s t => unsubscribe s i t) s
      ({ s1 with registry := s1.registry.filter (· ≠ i),
                 subs := s1.subs.modify i (fun sb => { sb with active := false }) }, .ok)
  | .pub t k => (publish s t k, .ok)
  | .bc k ts => (ts.foldl (fun s t => publish s t k) s, .ok)
  | .it i =>
    match s.subs[i]? with
    | none => (s, .nosub)
    | some sb => ({ s with subs := s.subs.modify i (fun sb => { sb with queue := [] }) }, .msgs sb.queue)
  | .shut i =>
    match s.subs[i]? with
    | none => (s, .nosub)
    | some _ => ({ s with subs := s.subs.modify i (fun sb => { sb with active := false }) }, .ok)
  | .close =>
    ({ subs := s.subs.mapIdx (fun i sb => if decide (i ∈ s.registry) then { sb with active := false } else sb),
       registry := [], rel := [] }, .ok)
  | .count t => (s, .num (s.rel.filter (·.1 = t)).length)
  | .tops i =>
    match s.subs[i]? with
    | none => (s, .nosub)
    | some sb => (s, .topics (sortTopics sb.topics))
  | .act i =>
    match s.subs[i]? with
    | none => (s, .nosub)
    | some sb => (s, .bool sb.active)

def run : State → List Op → List Out
  | _, [] => []
  | s, op :: ops => let (s', o) := step s op; o :: run s' ops

/-! ### line protocol -/

def parseNat (s : String) : Option Nat := s.toNat?

def parseOp (w : String) : Option Op :=
  match w.splitOn ":" with
  | ["add"] => some .add
  | ["close"] => some .close
  | ["sub", i, t] => do some (.sub (← parseNat i) (← parseNat t))
  | ["unsub", i, t] => do some (.unsub (← parseNat i) (← parseNat t))
  | ["rm", i] => do some (.rm (← parseNat i))
  | ["pub", t, k] => do some (.pub (← parseNat t) (← parseNat k))
  | ["bc", k, ts] => do
    let ts ← if ts = "-" then some [] else (ts.splitOn ",").mapM parseNat
    some (.bc (← parseNat k) ts)
  | ["it", i] => do some (.it (← parseNat i))
  | ["shut", i] => do some (.shut (← parseNat i))
  | ["count", t] => do some (.count (← parseNat t))
  | ["tops", i] => do some (.tops (← parseNat i))
  | ["act", i] => do some (.act (← parseNat i))
  | _ => none

def showOut : Out → String
  | .idx n => s!"#{n}"
  | .ok => "ok"
  | .noop => "noop"
  | .nosub => "nosub"
  | .msgs l => if l.isEmpty then "-" else ".".intercalate (l.map fun (t, k) => s!"{t}/{k}")
  | .num n => toString n
  | .topics l => if l.isEmpty then "-" else ",".intercalate (l.map toString)
  | .bool b => toString b

def runLine (ws : List String) : String :=
  match ws.mapM parseOp with
  | some ops => " ".intercalate ((run init ops).map showOut)
  | none => "bad-case"

end GoaktVerif.Model.C20.Stream
