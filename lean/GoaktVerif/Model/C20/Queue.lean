/-
C20 — small-step model of `internal/queue/queue.go` (Michael–Scott queue whose nodes are recycled
through a `sync.Pool`) and of the three subscriber methods that use it
(`eventstream/subscriber.go`: `signal`, `Iterator`, `Shutdown`).

One transition per atomic operation, labelled exactly as tools/yieldinject labels the sites of the
Go code (`Kind:field`).  Plain (non-atomic) statements between two sites belong to the step of the
preceding site, exactly as the instrumented code executes them:

* `getItem()` + `newNode.v = v` at the start of `Enqueue` run before the first site `Load:tail`, i.e.
  in the step that finished the thread's previous operation (or at spawn time);
* `value := nextNode.v` and `releaseItem(head)` (`i.v = nil; i.next = nil; pool.Put(i)`) run inside the
  step of the successful `CAS:head`.

`sync.Pool` is nondeterministic (it may return any pooled node, or none).  `getItem` therefore takes
the choice as an argument `pick : Option Nat` (index into the free list; `none` or an index out of
range = a fresh node).  Theorems quantify over every choice; the driver (and the harness, through an
in-package hook on `pool.New`) uses a deterministic policy.

`Mode.pooled` is the code as it was before fix c76ec1e.  `Mode.fresh` is the code as it is since that fix
(fixes/C20-queue-no-node-recycling.diff): `Enqueue` allocates, `Dequeue` does not call `releaseItem`
and clears the value of the new sentinel, and `Length`/`IsEmpty` never report a negative length.
-/
namespace GoaktVerif.Model.C20.Queue

abbrev NodeId := Nat
abbrev Val := Nat

structure Node where
  next : Option NodeId
  val : Option Val
  deriving Repr, DecidableEq

inductive Mode where
  | pooled | fresh
  deriving Repr, DecidableEq

inductive Op where
  | enq (v : Val)   -- Queue.Enqueue(v)
  | deq             -- Queue.Dequeue()
  | len             -- Queue.Length()
  | emp             -- Queue.IsEmpty()
  | sig (v : Val)   -- subscriber.signal(v)
  | iter            -- subscriber.Iterator()
  | shut            -- subscriber.Shutdown()
  deriving Repr, DecidableEq

inductive Res where
  | ok
  | val (r : Option Val)
  | num (n : Int)
  | bool (b : Bool)
  | items (l : List Val) (sawNil : Bool)   -- `sawNil` (ghost): the loop ended because a Dequeue returned nil
  | dropped                                -- (ghost) `signal` found the subscriber inactive; rendered like `ok`
  | panic
  deriving Repr, DecidableEq

/-- who called `Dequeue`: a plain `d` operation, or the loop of `Iterator` with `rem` iterations left
(the current one included) and the values collected so far (reversed) -/
inductive Cont where
  | plain
  | iter (rem : Nat) (acc : List Val)
  deriving Repr, DecidableEq

/-- program counter inside one operation, with the locals that are live at that site -/
inductive PC where
  | enqLoadTail (n : NodeId) (v : Val)             -- `Load:tail`
  | enqLoadNext (n : NodeId) (v : Val) (t : NodeId)      -- `Load:next`   (tail.next)
  | enqHelp (n : NodeId) (v : Val) (t x : NodeId)        -- `CAS:tail`    (help: tail t → x)
  | enqLink (n : NodeId) (v : Val) (t : NodeId)          -- `CAS:next`    (t.next nil → n)
  | enqSwing (n t : NodeId)                              -- `CAS:tail`    (tail t → n)
  | enqAdd                                               -- `Add:len` (+1)
  | deqLoadHead (k : Cont)                               -- `Load:head`
  | deqLoadNext (k : Cont) (h : NodeId)                  -- `Load:next`   (head.next)
  | deqCas (k : Cont) (h x : NodeId)                     -- `CAS:head`    (head h → x)
  | deqAdd (k : Cont) (r : Option Val)                   -- `Add:len` (-1)
  | len                                                  -- `Load:len`
  | emp                                                  -- `Load:len`
  | sigActive (v : Val)                                  -- `Load:active`
  | itLen                                                -- `Load:len`
  | shut                                                 -- `Store:active`
  deriving Repr, DecidableEq

/-- linearization events (ghost): appended by the step that takes effect -/
inductive Ev where
  | enq (v : Val)
  | deq (r : Option Val)
  deriving Repr, DecidableEq

structure Thread where
  pc : Option PC            -- none = finished
  cur : Option Op           -- operation in progress
  prog : List Op            -- operations still to start
  hist : List (Op × Res)    -- completed operations with their results, latest first
  deriving Repr, DecidableEq

structure Cfg where
  mode : Mode
  nodes : List Node         -- the heap: node `i` is `nodes[i]`; allocation appends
  head : NodeId
  tail : NodeId
  len : Int
  pool : List NodeId        -- nodes handed to `pool.Put`, latest first
  active : Bool             -- subscriber.active
  threads : List Thread
  lin : List (Nat × Ev)     -- ghost: linearization log (thread id, event), latest first
  deriving Repr, DecidableEq

def nextOf (c : Cfg) (i : NodeId) : Option NodeId :=
  match c.nodes[i]? with
  | some nd => nd.next
  | none => none

def valOf (c : Cfg) (i : NodeId) : Option Val :=
  match c.nodes[i]? with
  | some nd => nd.val
  | none => none

def setNext (c : Cfg) (i : NodeId) (x : Option NodeId) : Cfg :=
  { c with nodes := c.nodes.modify i (fun nd => { nd with next := x }) }

def setVal (c : Cfg) (i : NodeId) (x : Option Val) : Cfg :=
  { c with nodes := c.nodes.modify i (fun nd => { nd with val := x }) }

/-- what `Length()` reads: the counter as it is (it can be transiently negative: a dequeuer may decrement
before the enqueuer of the same item has incremented); the repaired code reports 0 then -/
def lenRead (c : Cfg) : Int :=
  match c.mode with
  | .pooled => c.len
  | .fresh => if c.len < 0 then 0 else c.len

/-- `q.getItem()` followed by `newNode.v = v` -/
def getItem (c : Cfg) (pick : Option Nat) (v : Val) : NodeId × Cfg :=
  let fresh : NodeId × Cfg := (c.nodes.length, { c with nodes := c.nodes ++ [{ next := none, val := some v }] })
  match c.mode, pick with
  | .pooled, some i =>
    match c.pool[i]? with
    | some n => (n, setVal { c with pool := c.pool.eraseIdx i } n (some v))
    | none => fresh
  | _, _ => fresh

/-- take the next operation of the program and run it up to its first site -/
def startNext (c : Cfg) (t : Thread) (pick : Option Nat) : Cfg × Thread :=
  match t.prog with
  | [] => (c, { t with pc := none, cur := none })
  | op :: rest =>
    let t := { t with cur := some op, prog := rest }
    match op with
    | .enq v =>
      let (n, c') := getItem c pick v
      (c', { t with pc := some (.enqLoadTail n v) })
    | .deq => (c, { t with pc := some (.deqLoadHead .plain) })
    | .len => (c, { t with pc := some .len })
    | .emp => (c, { t with pc := some .emp })
    | .sig v => (c, { t with pc := some (.sigActive v) })
    | .iter => (c, { t with pc := some .itLen })
    | .shut => (c, { t with pc := some .shut })

def finishOp (c : Cfg) (t : Thread) (r : Res) (pick : Option Nat) : Cfg × Thread :=
  match t.cur with
  | some op => startNext c { t with hist := (op, r) :: t.hist } pick
  | none => startNext c t pick

/-- `Dequeue` returns `r` to its caller -/
def ret (c : Cfg) (t : Thread) (k : Cont) (r : Option Val) (pick : Option Nat) : Cfg × Thread :=
  match k with
  | .plain => finishOp c t (.val r) pick
  | .iter rem acc =>
    match r with
    | none => finishOp c t (.items acc.reverse true) pick
    | some v =>
      if rem ≤ 1 then finishOp c t (.items (v :: acc).reverse false) pick
      else (c, { t with pc := some (.deqLoadHead (.iter (rem - 1) (v :: acc))) })

def logEv (c : Cfg) (tid : Nat) (e : Ev) : Cfg := { c with lin := (tid, e) :: c.lin }

/-- effect of the atomic operation thread `tid` is parked at (and of the plain code up to its next site) -/
def exec (c : Cfg) (tid : Nat) (t : Thread) (pick : Option Nat) : PC → Cfg × Thread
  | .enqLoadTail n v => (c, { t with pc := some (.enqLoadNext n v c.tail) })
  | .enqLoadNext n v tl =>
    match nextOf c tl with
    | some x => (c, { t with pc := some (.enqHelp n v tl x) })
    | none => (c, { t with pc := some (.enqLink n v tl) })
  | .enqHelp n v tl x =>
    ((if c.tail = tl then { c with tail := x } else c), { t with pc := some (.enqLoadTail n v) })
  | .enqLink n v tl =>
    match nextOf c tl with
    | none => (logEv (setNext c tl (some n)) tid (.enq v), { t with pc := some (.enqSwing n tl) })
    | some _ => (c, { t with pc := some (.enqLoadTail n v) })
  | .enqSwing n tl =>
    ((if c.tail = tl then { c with tail := n } else c), { t with pc := some .enqAdd })
  | .enqAdd => finishOp { c with len := c.len + 1 } t .ok pick
  | .deqLoadHead k => (c, { t with pc := some (.deqLoadNext k c.head) })
  | .deqLoadNext k h =>
    match nextOf c h with
    | none => ret (logEv c tid (.deq none)) t k none pick
    | some x => (c, { t with pc := some (.deqCas k h x) })
  | .deqCas k h x =>
    if c.head = h then
      let r := valOf c x
      let c1 := { c with head := x }
      let c2 := match c.mode with
        | .pooled => { setNext (setVal c1 h none) h none with pool := h :: c.pool }
        | .fresh => setVal c1 x none
      (logEv c2 tid (.deq r), { t with pc := some (.deqAdd k r) })
    else (c, { t with pc := some (.deqLoadHead k) })
  | .deqAdd k r => ret { c with len := c.len - 1 } t k r pick
  | .len => finishOp c t (.num (lenRead c)) pick
  | .emp => finishOp c t (.bool (lenRead c == 0)) pick
  | .sigActive v =>
    if c.active then
      let (n, c') := getItem c pick v
      (c', { t with pc := some (.enqLoadTail n v) })
    else finishOp c t .dropped pick
  | .itLen =>
    if lenRead c < 0 then finishOp c t .panic pick
    else if lenRead c = 0 then finishOp c t (.items [] false) pick
    else (c, { t with pc := some (.deqLoadHead (.iter (lenRead c).toNat [])) })
  | .shut => finishOp { c with active := false } t .ok pick

/-- one scheduler step: thread `tid` executes the operation it is parked at; `pick` resolves the
`sync.Pool.Get` (if any) performed during the step -/
def stepP (pick : Option Nat) (c : Cfg) (tid : Nat) : Cfg :=
  match c.threads[tid]? with
  | none => c
  | some t =>
    match t.pc with
    | none => c
    | some pc =>
      let (c', t') := exec c tid t pick pc
      { c' with threads := c'.threads.set tid t' }

def label : PC → String
  | .enqLoadTail .. => "Load:tail" | .enqLoadNext .. => "Load:next" | .enqHelp .. => "CAS:tail"
  | .enqLink .. => "CAS:next" | .enqSwing .. => "CAS:tail" | .enqAdd => "Add:len"
  | .deqLoadHead .. => "Load:head" | .deqLoadNext .. => "Load:next" | .deqCas .. => "CAS:head"
  | .deqAdd .. => "Add:len" | .len => "Load:len" | .emp => "Load:len"
  | .sigActive .. => "Load:active" | .itLen => "Load:len" | .shut => "Store:active"

/-- spawn the threads in tid order: each runs to its first site (the pool is empty: fresh nodes) -/
def spawn (c : Cfg) : List (List Op) → Cfg
  | [] => c
  | p :: ps =>
    let (c', t) := startNext c { pc := none, cur := none, prog := p, hist := [] } none
    spawn { c' with threads := c'.threads ++ [t] } ps

def empty (mode : Mode) : Cfg :=
  { mode, nodes := [{ next := none, val := none }], head := 0, tail := 0, len := 0, pool := [],
    active := true, threads := [], lin := [] }

def init (mode : Mode) (progs : List (List Op)) : Cfg := spawn (empty mode) progs

def done (c : Cfg) (tid : Nat) : Bool :=
  match c.threads[tid]? with
  | some t => t.pc.isNone
  | none => true

def allDone (c : Cfg) : Bool := c.threads.all (·.pc.isNone)

/-- a schedule with explicit pool choices -/
def runP (c : Cfg) : List (Nat × Option Nat) → Cfg
  | [] => c
  | (tid, pick) :: s => runP (stepP pick c tid) s

/-! ### sequential reading of the heap (used for the final digest and for the quiescent theorems) -/

/-- values of the nodes after `i`, following `next` (at most `fuel` nodes) -/
def chainVals (c : Cfg) : Nat → NodeId → List (Option Val)
  | 0, _ => []
  | f + 1, i =>
    match nextOf c i with
    | none => []
    | some x => valOf c x :: chainVals c f x

/-- number of `next` hops from `i` to `j` (at most `fuel`) -/
def hops (c : Cfg) (j : NodeId) : Nat → NodeId → Option Nat
  | 0, i => if i = j then some 0 else none
  | f + 1, i =>
    if i = j then some 0
    else match nextOf c i with
      | none => none
      | some x => (hops c j f x).map (· + 1)

/-- `Dequeue` run alone (no interleaving): the loop exits in its first iteration -/
def seqDequeue (c : Cfg) : Option Val × Cfg :=
  match nextOf c c.head with
  | none => (none, c)
  | some x =>
    let r := valOf c x
    let c1 := { c with head := x }
    let c2 := match c.mode with
      | .pooled => { setNext (setVal c1 c.head none) c.head none with pool := c.head :: c.pool }
      | .fresh => setVal c1 x none
    (r, { c2 with len := c2.len - 1 })

/-- repeated sequential `Dequeue` until it returns nil (at most `fuel` times) -/
def seqDrain : Nat → Cfg → List Val × Cfg
  | 0, c => ([], c)
  | f + 1, c =>
    match seqDequeue c with
    | (none, c') => ([], c')
    | (some v, c') => let (l, c'') := seqDrain f c'; (v :: l, c'')

end GoaktVerif.Model.C20.Queue
