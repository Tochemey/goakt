/-
C15 — small-step model of the Ask / Response protocol with its two package-level pools.

Code modelled (`Mode.asIs`: as it was before fix d1a16fa; `Mode.fixed` below is the code as it is):
* `actor/pid.go` `PID.Ask` (`actor/api.go` `Ask` has the same body): `getContext(); build(...)`
  (`responseClosed.Store(false)`, `response = getResponseChannel()`), `doReceive` (enqueue),
  `select { reply | ctx.Done | timer }`, `responseClosed.Store(true)` ON THE CONTEXT POINTER THE CALLER STILL
  HOLDS, `putResponseChannel` (drain, back to the pool);
* `actor/receive_context.go` `Response`: `CAS(responseClosed, false, true)`, then a non-blocking send into
  `rctx.response` (the field is read at send time);
* `actor/pools.go`: `contextCh` and `responseCh` are FIFO channels used as pools (`getContext`,
  `getResponseChannel`, `putResponseChannel`);
* `actor/unbounded_mailbox.go` `Dequeue`: the context handed out becomes the sentinel; the PREVIOUS sentinel is
  `reset()` (response, message := nil; `responseClosed` is deliberately not reset) and pushed into `contextCh`.

Steps: one per atomic site of the instrumented code (`Store:responseClosed`, `Call:Get` = the caller's
`timers.Get` + `select`, `CAS:responseClosed`), plus `Deq` (the worker's `Dequeue`, a harness point) and `Send`
(the channel send inside `Response`; the instrumented code has no site there, so the driver executes
`CAS:responseClosed` and `Send` as one step while the theorems interleave them freely).
A caller's deadline is the step `Timeout` of its timer; the `select` takes the timeout branch only when the
response channel is empty at that moment (a reply that is already there wins).

Variants (`Mode`):
* `asIs`   — the code as it was before fix d1a16fa;
* `noPool` — `getContext` / `getResponseChannel` always allocate (the guard "no pooled reuse");
* `fixed`  — the code as it is since that fix (fixes/C15-ask-no-late-store.diff): after its select the caller does not touch
  the receive context any more (no late `responseClosed.Store(true)`), pools the response channel only when the
  reply has arrived and leaves it to the GC on a timeout.  The caller then has no atomic site after the select,
  so the select and what follows it are one step.
-/
namespace GoaktVerif.Model.C15

abbrev CtxId := Nat
abbrev ChanId := Nat
abbrev ReqId := Nat

inductive Mode where
  | asIs | noPool | fixed
  deriving Repr, DecidableEq

structure Ctx where
  closed : Bool              -- responseClosed
  response : Option ChanId   -- response channel field
  msg : Option ReqId         -- message field (the request id)
  deriving Repr, DecidableEq

inductive Op where
  | ask (k : ReqId)
  | handle
  deriving Repr, DecidableEq

inductive Res where
  | reply (v : ReqId)
  | timeout
  | handled (k : ReqId)
  | empty
  deriving Repr, DecidableEq

inductive PC where
  | askBuild (c : CtxId) (k : ReqId)                  -- `Store:responseClosed` (build)
  | askSelect (c : CtxId) (ch : ChanId) (k : ReqId)   -- `Call:Get` (timers.Get, then the select)
  | askClose (c : CtxId) (ch : ChanId) (r : Res)      -- `Store:responseClosed` (after the select)
  | hDeq                                              -- `Deq`
  | hCas (c : CtxId) (k : ReqId)                      -- `CAS:responseClosed`
  | hSend (c : CtxId) (k : ReqId)                     -- the send of `Response`
  deriving Repr, DecidableEq

/-- ghost events, for stating the property -/
inductive Ev where
  | respDone (k : ReqId)   -- `Response` for request k has returned
  | timedOut (k : ReqId)   -- the Ask for request k took the timeout branch of its select
  deriving Repr, DecidableEq

structure Thread where
  pc : Option PC
  cur : Option Op
  prog : List Op
  hist : List (Op × Res)   -- latest first
  deadline : Bool          -- the timer of the Ask in progress has fired
  deriving Repr, DecidableEq

structure Cfg where
  mode : Mode
  ctxs : List Ctx
  chans : List (Option ReqId)    -- capacity-1 buffers
  ctxPool : List CtxId           -- contextCh (FIFO: take the head, put at the end)
  chanPool : List ChanId         -- responseCh
  sentinel : CtxId               -- the mailbox's current sentinel
  mbox : List CtxId              -- enqueued, not yet dequeued
  threads : List Thread
  log : List Ev                  -- ghost, latest first
  deriving Repr, DecidableEq

def ctxOf (c : Cfg) (i : CtxId) : Ctx := c.ctxs.getD i { closed := false, response := none, msg := none }

def modCtx (c : Cfg) (i : CtxId) (f : Ctx → Ctx) : Cfg := { c with ctxs := c.ctxs.modify i f }

def chanOf (c : Cfg) (i : ChanId) : Option ReqId := (c.chans.getD i none)

def setChan (c : Cfg) (i : ChanId) (v : Option ReqId) : Cfg := { c with chans := c.chans.set i v }

/-- `getContext()` -/
def getContext (c : Cfg) : CtxId × Cfg :=
  match c.mode, c.ctxPool with
  | .noPool, _ => (c.ctxs.length, { c with ctxs := c.ctxs ++ [{ closed := false, response := none, msg := none }] })
  | _, i :: rest => (i, { c with ctxPool := rest })
  | _, [] => (c.ctxs.length, { c with ctxs := c.ctxs ++ [{ closed := false, response := none, msg := none }] })

/-- `getResponseChannel()` -/
def getChan (c : Cfg) : ChanId × Cfg :=
  match c.mode, c.chanPool with
  | .noPool, _ => (c.chans.length, { c with chans := c.chans ++ [none] })
  | _, i :: rest => (i, { c with chanPool := rest })
  | _, [] => (c.chans.length, { c with chans := c.chans ++ [none] })

def startNext (c : Cfg) (t : Thread) : Cfg × Thread :=
  match t.prog with
  | [] => (c, { t with pc := none, cur := none, deadline := false })
  | op :: rest =>
    let t := { t with cur := some op, prog := rest, deadline := false }
    match op with
    | .ask k => let (i, c') := getContext c; (c', { t with pc := some (.askBuild i k) })
    | .handle => (c, { t with pc := some .hDeq })

def finishOp (c : Cfg) (t : Thread) (r : Res) : Cfg × Thread :=
  match t.cur with
  | some op => startNext c { t with hist := (op, r) :: t.hist }
  | none => startNext c t

/-- what the caller does after its select -/
def close (c : Cfg) (t : Thread) (i : CtxId) (ch : ChanId) (r : Res) : Cfg × Thread :=
  match c.mode with
  | .fixed =>
    match r with
    | .reply _ => finishOp { setChan c ch none with chanPool := c.chanPool ++ [ch] } t r
    | _ => finishOp c t r
  | _ =>
    let c1 := modCtx c i (fun x => { x with closed := true })
    let c2 := setChan c1 ch none
    finishOp { c2 with chanPool := c2.chanPool ++ [ch] } t r

/-- after the select: the code as it is has one more atomic site (the late store); the repaired code has none -/
def afterSelect (c : Cfg) (t : Thread) (i : CtxId) (ch : ChanId) (r : Res) : Cfg × Thread :=
  match c.mode with
  | .fixed => close c t i ch r
  | _ => (c, { t with pc := some (.askClose i ch r) })

def exec (c : Cfg) (t : Thread) : PC → Cfg × Thread
  | .askBuild i k =>
    let c1 := modCtx c i (fun x => { x with closed := false })
    let (ch, c2) := getChan c1
    let c3 := modCtx c2 i (fun x => { x with response := some ch, msg := some k })
    ({ c3 with mbox := c3.mbox ++ [i] }, { t with pc := some (.askSelect i ch k) })
  | .askSelect i ch k =>
    match chanOf c ch with
    | some v => afterSelect (setChan c ch none) t i ch (.reply v)
    | none =>
      if t.deadline then afterSelect { c with log := .timedOut k :: c.log } t i ch .timeout
      else (c, t)   -- not runnable
  | .askClose i ch r => close c t i ch r
  | .hDeq =>
    match c.mbox with
    | [] => finishOp c t .empty
    | i :: rest =>
      let c1 := modCtx c c.sentinel (fun x => { x with response := none, msg := none })
      let c2 := { c1 with ctxPool := c1.ctxPool ++ [c.sentinel], sentinel := i, mbox := rest }
      match (ctxOf c i).msg with
      | some k => (c2, { t with pc := some (.hCas i k) })
      | none => finishOp c2 t .empty
  | .hCas i k =>
    if (ctxOf c i).closed then finishOp { c with log := .respDone k :: c.log } t (.handled k)
    else (modCtx c i (fun x => { x with closed := true }), { t with pc := some (.hSend i k) })
  | .hSend i k =>
    let c1 := match (ctxOf c i).response with
      | some ch => if (chanOf c ch).isNone then setChan c ch (some k) else c
      | none => c
    finishOp { c1 with log := .respDone k :: c1.log } t (.handled k)

/-- is thread `tid` runnable (a caller at its select with neither a reply nor a deadline is not) -/
def blocked (c : Cfg) (t : Thread) : Bool :=
  match t.pc with
  | some (.askSelect _ ch _) => (chanOf c ch).isNone && !t.deadline
  | _ => false

def step (c : Cfg) (tid : Nat) : Cfg :=
  match c.threads[tid]? with
  | none => c
  | some t =>
    match t.pc with
    | none => c
    | some pc =>
      let (c', t') := exec c t pc
      { c' with threads := c'.threads.set tid t' }

/-- the deadline of the Ask thread `tid` is executing passes -/
def timeout (c : Cfg) (tid : Nat) : Cfg :=
  match c.threads[tid]? with
  | none => c
  | some t =>
    match t.pc with
    | some (.askBuild ..) | some (.askSelect ..) => { c with threads := c.threads.set tid { t with deadline := true } }
    | _ => c

inductive Act where
  | run (tid : Nat)
  | timeout (tid : Nat)
  deriving Repr, DecidableEq

def act (c : Cfg) : Act → Cfg
  | .run tid => step c tid
  | .timeout tid => timeout c tid

def runActs (c : Cfg) : List Act → Cfg
  | [] => c
  | a :: as => runActs (act c a) as

def spawn (c : Cfg) : List (List Op) → Cfg
  | [] => c
  | p :: ps =>
    let (c', t) := startNext c { pc := none, cur := none, prog := p, hist := [], deadline := false }
    spawn { c' with threads := c'.threads ++ [t] } ps

def empty (mode : Mode) : Cfg :=
  { mode, ctxs := [{ closed := false, response := none, msg := none }], chans := [], ctxPool := [], chanPool := [],
    sentinel := 0, mbox := [], threads := [], log := [] }

def init (mode : Mode) (progs : List (List Op)) : Cfg := spawn (empty mode) progs

def label : PC → String
  | .askBuild .. => "Store:responseClosed" | .askSelect .. => "Call:Get" | .askClose .. => "Store:responseClosed"
  | .hDeq => "Deq" | .hCas .. => "CAS:responseClosed" | .hSend .. => "Send"

end GoaktVerif.Model.C15
