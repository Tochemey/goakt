/-
C04 — small-step model of `UnboundedSegmentedMailbox` (actor/unbounded_segmented_mailbox.go):
a linked list of fixed-size segments (`writeIdx` fetch-add reserves a slot, the slot store publishes
it).  Segments are allocated fresh (`newSegment` = `new(segment)`, no atomic site) and never
recycled; a segment is left by the consumer only after all `segSize` slots were consumed.
Segments are numbered in allocation order, segment 0 is the one the constructor allocates.
`segSize` is the Go constant `segmentSize` (passed in by the case, checked by the harness against
the real constant).

GHOST state (not in the Go code, read by no step except to compute other ghost values, invisible to the tie): every
segment records whether it has been linked into the list (`linked`) and its position in the list
(`ord`), and `last` names the last linked segment.  The proofs use them to speak about the global
order of the slots (`ord * segSize + idx`).
-/
import GoaktVerif.Model.C04.Core

namespace GoaktVerif.Model.C04.Segmented
open GoaktVerif.Model.C04

structure Seg where
  writeIdx : Nat
  deqIdx : Nat
  next : Option Nat
  data : Nat → Option Nat
  linked : Bool := false     -- ghost
  ord : Nat := 0             -- ghost

def Seg.zero : Seg := { writeIdx := 0, deqIdx := 0, next := none, data := fun _ => none }

structure Sh where
  segSize : Nat
  segs : Nat → Seg
  nseg : Nat                 -- segments allocated so far
  head : Nat
  tail : Nat
  length : Int
  last : Nat := 0            -- ghost: the last linked segment

def Sh.upd (s : Sh) (i : Nat) (f : Seg → Seg) : Sh :=
  { s with segs := fun j => if j = i then f (s.segs i) else s.segs j }

/-- `newSegment()`: a fresh zeroed segment -/
def Sh.alloc (s : Sh) : Sh × Nat := ({ s with nseg := s.nseg + 1 }, s.nseg)

/-- successful `CAS(tail.next, nil, g)`: `t.next := g`; ghost: `g` becomes the last linked segment, one
position after `t` -/
def Sh.link (s : Sh) (t g : Nat) : Sh :=
  let o := (s.segs t).ord
  { ((s.upd t fun x => { x with next := some g }).upd g fun x => { x with linked := true, ord := o + 1 }) with last := g }

inductive PC where
  | e1 (v : Nat)                 -- Enqueue: `Load:tail`
  | e2 (v t : Nat)               --   `Add:writeIdx`
  | e3 (v t idx : Nat)           --   idx < segSize: `Store:data`
  | e4 (v : Nat)                 --   `Add:length` (+1), return
  | e5 (v t : Nat)               --   segment full: `Load:next`  [next == nil: newSegment()]
  | e6 (v t s : Nat)             --   `CAS:next` (tail.next: nil → newSeg)
  | e7 (v t s : Nat)             --   `CAS:tail` (tail → newSeg)
  | e9 (v t nx : Nat)            --   next != nil: `CAS:tail` (tail → next)
  | d1                           -- Dequeue: `Load:head`
  | d2 (seg : Nat)               --   `Load:writeIdx`
  | d3 (seg enq : Nat)           --   `Load:deqIdx`  [deq >= enq and deq < segSize: return nil]
  | d4 (seg deq : Nat)           --   `Load:data`
  | d5 (seg deq v : Nat)         --   `Store:data` (nil)
  | d6 (seg deq v : Nat)         --   `Store:deqIdx` (deq+1)
  | d7 (v : Nat)                 --   `Add:length` (-1), return
  | d8 (seg : Nat)               --   segment drained: `Load:next`
  | d9 (seg nx : Nat)            --   `Store:head` (next), continue in the next segment
  | m1                           -- IsEmpty: `Load:head`
  | m2 (seg : Nat)               --   `Load:writeIdx`
  | m3 (seg enq : Nat)           --   `Load:deqIdx`
  | m4 (seg : Nat)               --   `Load:next`
  | l1                           -- Len: `Load:length`
  deriving Repr, DecidableEq

def start : Op → PC
  | .enq v _ => .e1 v
  | .deq => .d1
  | .emp => .m1
  | .len => .l1

def label : PC → String
  | .e1 _ => "Load:tail" | .e2 _ _ => "Add:writeIdx" | .e3 _ _ _ => "Store:data" | .e4 _ => "Add:length"
  | .e5 _ _ => "Load:next" | .e6 _ _ _ => "CAS:next"
  | .e7 _ _ _ => "CAS:tail" | .e9 _ _ _ => "CAS:tail"
  | .d1 => "Load:head" | .d2 _ => "Load:writeIdx" | .d3 _ _ => "Load:deqIdx" | .d4 _ _ => "Load:data"
  | .d5 _ _ _ => "Store:data" | .d6 _ _ _ => "Store:deqIdx" | .d7 _ => "Add:length"
  | .d8 _ => "Load:next" | .d9 _ _ => "Store:head"
  | .m1 => "Load:head" | .m2 _ => "Load:writeIdx" | .m3 _ _ => "Load:deqIdx" | .m4 _ => "Load:next"
  | .l1 => "Load:length"

def setData (g : Seg) (i : Nat) (x : Option Nat) : Seg :=
  { g with data := fun j => if j = i then x else g.data j }

def exec (s : Sh) : PC → Sh × Next PC
  | .e1 v => (s, .goto (.e2 v s.tail))
  | .e2 v t =>
    let idx := (s.segs t).writeIdx
    let s' := s.upd t fun g => { g with writeIdx := g.writeIdx + 1 }
    if idx < s.segSize then (s', .goto (.e3 v t idx)) else (s', .goto (.e5 v t))
  | .e3 v t idx => (s.upd t fun g => setData g idx (some v), .goto (.e4 v))
  | .e4 _ => ({ s with length := s.length + 1 }, .ret .ok)
  | .e5 v t =>
    match (s.segs t).next with
    | some nx => (s, .goto (.e9 v t nx))
    | none => let r := s.alloc; (r.1, .goto (.e6 v t r.2))
  | .e6 v t g =>
    if (s.segs t).next = none then (s.link t g, .goto (.e7 v t g))
    else (s, .goto (.e1 v))
  | .e7 v t g => (if s.tail = t then { s with tail := g } else s, .goto (.e1 v))
  | .e9 v t nx => (if s.tail = t then { s with tail := nx } else s, .goto (.e1 v))
  | .d1 => (s, .goto (.d2 s.head))
  | .d2 seg => (s, .goto (.d3 seg (min (s.segs seg).writeIdx s.segSize)))
  | .d3 seg enq =>
    let deq := (s.segs seg).deqIdx
    if deq < enq then (s, .goto (.d4 seg deq))
    else if deq < s.segSize then (s, .ret .none)
    else (s, .goto (.d8 seg))
  | .d4 seg deq =>
    match (s.segs seg).data deq with
    | none => (s, .ret .none)
    | some v => (s, .goto (.d5 seg deq v))
  | .d5 seg deq v => (s.upd seg fun g => setData g deq none, .goto (.d6 seg deq v))
  | .d6 seg deq v => (s.upd seg fun g => { g with deqIdx := deq + 1 }, .goto (.d7 v))
  | .d7 v => ({ s with length := s.length - 1 }, .ret (.val v))
  | .d8 seg =>
    match (s.segs seg).next with
    | none => (s, .ret .none)
    | some nx => (s, .goto (.d9 seg nx))
  | .d9 _ nx => ({ s with head := nx }, .goto (.d2 nx))
  | .m1 => (s, .goto (.m2 s.head))
  | .m2 seg => (s, .goto (.m3 seg (min (s.segs seg).writeIdx s.segSize)))
  | .m3 seg enq => if (s.segs seg).deqIdx < enq then (s, .ret (.bool false)) else (s, .goto (.m4 seg))
  | .m4 seg => (s, .ret (.bool (s.segs seg).next.isNone))
  | .l1 => (s, .ret (.num s.length))

def init (segSize : Nat) : Sh :=
  { segSize, segs := fun g => if g = 0 then { Seg.zero with linked := true } else Seg.zero,
    nseg := 1, head := 0, tail := 0, length := 0 }

@[reducible] def algo : Algo := { Sh, PC, start, label, exec }

end GoaktVerif.Model.C04.Segmented
