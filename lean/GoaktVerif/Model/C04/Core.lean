/-
C04 — common frame of the small-step mailbox models (engine E3).

A mailbox algorithm is an `Algo`: shared state `Sh`, program counters `PC` (one per atomic-operation
site of the Go code, carrying the thread's locals), `label` (exactly the label tools/yieldinject
gives the site), and `exec` — the effect of the atomic operation at that site together with the
plain code that follows it up to the next site (`goto pc'`) or to the end of the mailbox operation
(`ret r`).  Threads run arbitrary programs (`List Op`); `stepCfg c tid` lets thread `tid` execute the
operation it is parked at.  Theorems quantify over all programs, any number of threads and all
schedules by induction over `Reach`.
-/
namespace GoaktVerif.Model.C04

/-- a mailbox operation; messages are identified by a number, `key` is the sender key (fair mailbox) -/
inductive Op where
  | enq (v : Nat) (key : Nat)
  | deq
  | emp
  | len
  deriving Repr, DecidableEq

/-- result of a mailbox operation -/
inductive Res where
  | ok                -- Enqueue returned nil
  | full              -- Enqueue returned ErrMailboxFull
  | none              -- Dequeue returned nil
  | val (v : Nat)     -- Dequeue returned message v
  | bool (b : Bool)   -- IsEmpty
  | num (n : Int)     -- Len
  deriving Repr, DecidableEq

def Res.toString : Res → String
  | .ok => "ok" | .full => "full" | .none => "nil"
  | .val v => ToString.toString v
  | .bool b => if b then "true" else "false"
  | .num n => ToString.toString n

inductive Next (PC : Type) where
  | goto (pc : PC)
  | ret (r : Res)

structure Algo where
  Sh : Type
  PC : Type
  start : Op → PC
  label : PC → String
  exec : Sh → PC → Sh × Next PC
  /-- the operation at `pc` is a cooperative lock acquisition that cannot proceed now (the step is
  then a no-op and the harness reports the label with the suffix `!blocked`) -/
  blocked : Sh → PC → Bool := fun _ _ => false

/-- a finished operation with the logical time stamps of its invocation and return -/
structure Done where
  op : Op
  res : Res
  inv : Nat
  ret : Nat
  deriving Repr, DecidableEq

structure Thread (PC : Type) where
  pc : Option PC        -- none = finished
  prog : List Op        -- remaining operations (after the current one)
  cur : Option Op := none  -- the operation in progress
  started : Nat := 0    -- logical time stamp at which the current operation was invoked
  hist : List Done := []   -- finished operations, latest first

def Thread.results {PC : Type} (t : Thread PC) : List Res := t.hist.map (·.res)

/-- `clock` is the harness's logical clock: it ticks once when an operation is invoked and once when
it returns (the invocation of a thread's next operation follows the return of the previous one in
the same step).  It only serves the real-time order used by the implementation oracle; no
algorithm reads it. -/
structure Cfg (A : Algo) where
  sh : A.Sh
  threads : List (Thread A.PC)
  clock : Nat := 0

variable {A : Algo}

/-- a thread whose current operation returned `r` at time `now + 1` moves to the first site of its
next operation (invoked at `now + 2`) -/
def Thread.finish (A : Algo) (t : Thread A.PC) (r : Res) (now : Nat) : Thread A.PC :=
  let hist := { op := t.cur.getD .len, res := r, inv := t.started, ret := now + 1 } :: t.hist
  match t.prog with
  | [] => { pc := none, prog := [], cur := none, started := 0, hist }
  | op :: rest => { pc := some (A.start op), prog := rest, cur := some op, started := now + 2, hist }

def Thread.advance (A : Algo) (t : Thread A.PC) (now : Nat) : Next A.PC → Thread A.PC
  | .goto pc => { t with pc := some pc }
  | .ret r => t.finish A r now

/-- clock after thread `t` took the step with outcome `nx` -/
def tick (t : Thread A.PC) (now : Nat) : Next A.PC → Nat
  | .goto _ => now
  | .ret _ => if t.prog.isEmpty then now + 1 else now + 2

def mkThread (A : Algo) (prog : List Op) (started : Nat) : Thread A.PC :=
  match prog with
  | [] => { pc := none, prog := [] }
  | op :: rest => { pc := some (A.start op), prog := rest, cur := some op, started }

/-- threads are spawned in order; each invokes its first operation at spawn time -/
def spawn (A : Algo) : List (List Op) → Nat → List (Thread A.PC) × Nat
  | [], now => ([], now)
  | p :: ps, now =>
    let now' := if p.isEmpty then now else now + 1
    let r := spawn A ps now'
    (mkThread A p now' :: r.1, r.2)

def initCfg (A : Algo) (sh : A.Sh) (progs : List (List Op)) : Cfg A :=
  let r := spawn A progs 0
  { sh, threads := r.1, clock := r.2 }

/-- thread `tid` executes the atomic operation it is parked at (no-op when it has none) -/
def stepCfg (c : Cfg A) (tid : Nat) : Cfg A :=
  match c.threads[tid]? with
  | none => c
  | some t =>
    match t.pc with
    | none => c
    | some pc =>
      let r := A.exec c.sh pc
      { sh := r.1, threads := c.threads.set tid (t.advance A c.clock r.2), clock := tick t c.clock r.2 }

def stepLabel (c : Cfg A) (tid : Nat) : String :=
  match c.threads[tid]? with
  | none => "!nothread"
  | some t =>
    match t.pc with
    | none => "!done"
    | some pc => if A.blocked c.sh pc then A.label pc ++ "!blocked" else A.label pc

def runSched (c : Cfg A) : List Nat → Cfg A
  | [] => c
  | t :: ts => runSched (stepCfg c t) ts

def isDone (c : Cfg A) (tid : Nat) : Bool :=
  match c.threads[tid]? with
  | some t => t.pc.isNone
  | none => true

/-- configurations reachable by some schedule from an initial configuration -/
inductive Reach (A : Algo) (c0 : Cfg A) : Cfg A → Prop where
  | init : Reach A c0 c0
  | step {c : Cfg A} (tid : Nat) : Reach A c0 c → Reach A c0 (stepCfg c tid)

theorem reach_runSched (c0 c : Cfg A) (h : Reach A c0 c) (s : List Nat) : Reach A c0 (runSched c s) := by
  induction s generalizing c with
  | nil => exact h
  | cons t ts ih => exact ih _ (Reach.step t h)

/-! ### sequential use (final drain; single-threaded specs) -/

/-- run one operation to completion on the calling thread alone (`fuel` bounds spinning) -/
def seqOp (A : Algo) : Nat → A.Sh → A.PC → A.Sh × Option Res
  | 0, sh, _ => (sh, none)
  | f + 1, sh, pc =>
    match A.exec sh pc with
    | (sh', .ret r) => (sh', some r)
    | (sh', .goto pc') => seqOp A f sh' pc'

def opFuel : Nat := 100000

/-- `Dequeue` until it answers nil (at most `n` times) -/
def drain (A : Algo) : Nat → A.Sh → A.Sh × List Nat
  | 0, sh => (sh, [])
  | n + 1, sh =>
    match seqOp A opFuel sh (A.start .deq) with
    | (sh', some (.val v)) => let r := drain A n sh'; (r.1, v :: r.2)
    | (sh', _) => (sh', [])

/-- the digest the harness prints after the run: drained ids, then `Len()` -/
def finalDigest (A : Algo) (sh : A.Sh) : String :=
  let d := drain A 100000 sh
  let l := match (seqOp A opFuel d.1 (A.start .len)).2 with
    | some r => r.toString
    | none => "?"
  (" ".intercalate (d.2.map toString) ++ " # " ++ l).trimAscii.toString

/-! ### parsing of thread programs -/

def parseOp (s : String) : Option Op :=
  if s = "d" then some .deq
  else if s = "emp" then some .emp
  else if s = "len" then some .len
  else if s.startsWith "e" then
    match ((s.drop 1).toString.splitOn "@") with
    | [v] => v.toNat?.map (Op.enq · 0)
    | [v, k] => match v.toNat?, k.toNat? with
      | some v, some k => some (.enq v k)
      | _, _ => none
    | _ => none
  else none

def parseProgs (progs : List (List String)) : Option (List (List Op)) :=
  progs.mapM (fun p => p.mapM parseOp)

end GoaktVerif.Model.C04
