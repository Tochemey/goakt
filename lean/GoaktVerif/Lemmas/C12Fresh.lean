/-
C12, the time clause: the invariant that ties an entry's deadline to its actor's activity stamps
(through the 100 ms coalescing of Touch); with it every `decide` event is sound (`evOK_decideEv`).  Here: what
each function of the manager and of the PID that can break it needs to keep it; the walk through the operations
is in C12Stable.  The invariant has a structural part (heap, map) and a part per
actor (`ActorOK`); an operation that leaves heap and map alone re-establishes `ActorOK` for its actor.
-/
import GoaktVerif.Lemmas.C12

namespace GoaktVerif.C12
open GoaktVerif.Model.C12 GoaktVerif.Model.C12.State

/-- the deadline of entry `g` (of actor `a`) is no older than the last Touch and less than
    `touchIv` older than the latest activity -/
def FreshAt (s : State) (a g : Nat) : Prop :=
  ∃ d, (s.objs g).deadline = some d ∧
    (∀ u, (s.actors a).lastTouch = some u → u + (s.objs g).timeout ≤ d) ∧
    (∀ l, (s.actors a).latest = some l → l + (s.objs g).timeout < d + touchIv)

/-- everything but "paused entries are off the heap" -/
structure FCore (s : State) : Prop where
  sync : Sync s
  /-- the map's entry for actor `a` targets `a` -/
  owner : ∀ a g, s.entries a = some g → (s.objs g).actor = a
  /-- entry objects in use are allocated -/
  entBound : ∀ a g, s.entries a = some g → g < s.nE
  idxBound : ∀ g, 0 ≤ s.idx g → g < s.nE
  touchLe : ∀ a u, (s.actors a).lastTouch = some u → u ≤ s.now
  latestLe : ∀ a l, (s.actors a).latest = some l → l ≤ s.now
  touchLatest : ∀ a u l, (s.actors a).lastTouch = some u → (s.actors a).latest = some l → u ≤ l
  /-- every current, unpaused, time-based entry that is ON the heap is fresh -/
  fresh : ∀ a g, s.entries a = some g → (s.objs g).strat.isTime = true → (s.objs g).paused = false →
      0 ≤ s.idx g → FreshAt s a g

def POff (s : State) : Prop := ∀ g, (s.objs g).paused = true → s.idx g < 0

structure FInv (s : State) : Prop where
  core : FCore s
  pausedOff : POff s

/-- states that agree on everything the invariant reads -/
structure SameF (s t : State) : Prop where
  now : t.now = s.now
  nE : t.nE = s.nE
  objs : ∀ g, (t.objs g).actor = (s.objs g).actor ∧ (t.objs g).strat = (s.objs g).strat ∧
    (t.objs g).timeout = (s.objs g).timeout ∧ (t.objs g).deadline = (s.objs g).deadline ∧
    (t.objs g).paused = (s.objs g).paused
  actors : ∀ a, (t.actors a).latest = (s.actors a).latest ∧ (t.actors a).lastTouch = (s.actors a).lastTouch
  entries : t.entries = s.entries
  queue : t.queue = s.queue
  idx : t.idx = s.idx

def ActorOK (s : State) (a : Nat) : Prop :=
  (∀ u, (s.actors a).lastTouch = some u → u ≤ s.now) ∧
  (∀ l, (s.actors a).latest = some l → l ≤ s.now) ∧
  (∀ u l, (s.actors a).lastTouch = some u → (s.actors a).latest = some l → u ≤ l) ∧
  (∀ g, s.entries a = some g → (s.objs g).strat.isTime = true → (s.objs g).paused = false → 0 ≤ s.idx g →
    FreshAt s a g)

theorem FCore.actor {s : State} (hc : FCore s) (a : Nat) : ActorOK s a :=
  ⟨hc.touchLe a, hc.latestLe a, hc.touchLatest a, hc.fresh a⟩

theorem FCore.of_actors {t : State} (sync : Sync t)
    (owner : ∀ a g, t.entries a = some g → (t.objs g).actor = a ∧ g < t.nE)
    (idxBound : ∀ g, 0 ≤ t.idx g → g < t.nE) (h : ∀ a, ActorOK t a) : FCore t :=
  ⟨sync, fun a g he => (owner a g he).1, fun a g he => (owner a g he).2, idxBound,
   fun a => (h a).1, fun a => (h a).2.1, fun a => (h a).2.2.1, fun a => (h a).2.2.2⟩

theorem ActorOK.congr {s t : State} {a : Nat} (h : ActorOK s a) (hnow : s.now ≤ t.now)
    (hl : (t.actors a).latest = (s.actors a).latest) (hu : (t.actors a).lastTouch = (s.actors a).lastTouch)
    (he : ∀ g, t.entries a = some g → s.entries a = some g ∧ (0 ≤ t.idx g → 0 ≤ s.idx g) ∧
      (t.objs g).strat = (s.objs g).strat ∧ (t.objs g).timeout = (s.objs g).timeout ∧
      (t.objs g).deadline = (s.objs g).deadline ∧ (t.objs g).paused = (s.objs g).paused) : ActorOK t a := by
  obtain ⟨h1, h2, h3, h4⟩ := h
  unfold ActorOK FreshAt
  rw [hl, hu]
  refine ⟨fun u hu' => Nat.le_trans (h1 u hu') hnow, fun l hl' => Nat.le_trans (h2 l hl') hnow, h3,
    fun g heg ht hp hx => ?_⟩
  obtain ⟨he', hx', hs, hto, hd, hpa⟩ := he g heg
  rw [hs] at ht
  rw [hpa] at hp
  rw [hto, hd]
  exact h4 g he' ht hp (hx' hx)

theorem SameF.finv {s t : State} (h : SameF s t) (hi : FInv s) : FInv t := by
  have ho := h.objs
  have hc := hi.core
  refine ⟨.of_actors (fun g i => by rw [h.queue, h.idx]; exact hc.sync g i) (fun a g he => ?_) (fun g hx => ?_)
    fun a => (hc.actor a).congr (Nat.le_of_eq h.now.symm) (h.actors a).1 (h.actors a).2 fun g he => ?_, fun g hp => ?_⟩
  · rw [h.entries] at he
    rw [(ho g).1, h.nE]
    exact ⟨hc.owner a g he, hc.entBound a g he⟩
  · rw [h.nE]; exact hc.idxBound g (h.idx ▸ hx)
  · exact ⟨h.entries ▸ he, fun hx => h.idx ▸ hx, (ho g).2⟩
  · rw [h.idx]; exact hi.pausedOff g ((ho g).2.2.2.2 ▸ hp)

theorem SameF.refl (s : State) : SameF s s :=
  ⟨rfl, rfl, fun _ => ⟨rfl, rfl, rfl, rfl, rfl⟩, fun _ => ⟨rfl, rfl⟩, rfl, rfl, rfl⟩

theorem SameF.of_eq {s t : State} (hnow : t.now = s.now) (hnE : t.nE = s.nE) (ho : t.objs = s.objs)
    (ha : t.actors = s.actors) (he : t.entries = s.entries) (hq : t.queue = s.queue) (hx : t.idx = s.idx) : SameF s t :=
  ⟨hnow, hnE, fun _ => by rw [ho]; exact ⟨rfl, rfl, rfl, rfl, rfl⟩, fun _ => by rw [ha]; exact ⟨rfl, rfl⟩, he, hq, hx⟩

theorem sameF_emit {s : State} {e : Ev} : SameF s (s.emit e) := .of_eq rfl rfl rfl rfl rfl rfl rfl
theorem sameF_signal (s : State) (g : Nat) : SameF s (s.signal g) := .of_eq rfl rfl rfl rfl rfl rfl rfl

theorem sameF_setA (s : State) (a : Nat) (f : Actor → Actor)
    (h : (f (s.actors a)).latest = (s.actors a).latest ∧ (f (s.actors a)).lastTouch = (s.actors a).lastTouch) :
    SameF s (s.setA a f) := by
  refine ⟨rfl, rfl, fun _ => ⟨rfl, rfl, rfl, rfl, rfl⟩, fun b => ?_, rfl, rfl, rfl⟩
  simp only [setA, upd]
  split
  · subst b; exact h
  · exact ⟨rfl, rfl⟩

theorem sameF_setE (s : State) (g : Nat) (f : Entry → Entry)
    (h : (f (s.objs g)).actor = (s.objs g).actor ∧ (f (s.objs g)).strat = (s.objs g).strat ∧
      (f (s.objs g)).timeout = (s.objs g).timeout ∧ (f (s.objs g)).deadline = (s.objs g).deadline ∧
      (f (s.objs g)).paused = (s.objs g).paused) : SameF s (s.setE g f) := by
  refine ⟨rfl, rfl, fun x => ?_, fun _ => ⟨rfl, rfl⟩, rfl, rfl, rfl⟩
  simp only [setE, upd]
  split
  · subst x; exact h
  · exact ⟨rfl, rfl, rfl, rfl, rfl⟩

theorem finv_heap {P : Nat → Prop} {s t : State} (h : Heaped P s t) (hc : FCore s)
    (hon : ∀ x, P x → 0 ≤ s.idx x ∨
      (x < s.nE ∧ ∀ a, s.entries a = some x → (s.objs x).strat.isTime = true → FreshAt s a x))
    (hp : ∀ x, (s.objs x).paused = true → ¬ P x) : FInv t := by
  have hcr := h.core
  refine ⟨.of_actors h.sync (fun a g he => ?_) (fun x hx => ?_) fun a => ?_,
    fun x hx => Int.not_le.mp fun h0 => hp x (hcr.objs ▸ hx) (h.on x h0)⟩
  · rw [hcr.entries] at he
    rw [hcr.objs, hcr.nE]
    exact ⟨hc.owner a g he, hc.entBound a g he⟩
  · rw [hcr.nE]; exact (hon x (h.on x hx)).elim (hc.idxBound x) (·.1)
  · have ha := hc.actor a
    unfold ActorOK FreshAt at ha ⊢
    rw [hcr.actors, hcr.now, hcr.entries, hcr.objs]
    refine ⟨ha.1, ha.2.1, ha.2.2.1, fun g he ht hp' hx => ?_⟩
    rcases hon g (h.on g hx) with h | h
    · exact ha.2.2.2 g he ht hp' h
    · exact h.2 a he ht

/-- nothing new on the heap -/
theorem finv_heap_back {P : Nat → Prop} {s t : State} (h : Heaped P s t) (hP : ∀ x, P x → 0 ≤ s.idx x) (hi : FInv s) : FInv t :=
  finv_heap h hi.core (fun x hx => .inl (hP x hx)) fun x hx hw => Int.not_le.mpr (hi.pausedOff x hx) (hP x hw)

/-- taking an entry off the heap; `paused` may already be set on that very entry -/
theorem finv_dropFromHeap (s : State) (g : Nat) (hc : FCore s)
    (hp : ∀ g', g' ≠ g → (s.objs g').paused = true → s.idx g' < 0) :
    FInv (s.dropFromHeap g) :=
  finv_heap (heaped_dropFromHeap s g hc.sync) hc (fun _ hx => .inl hx.2) fun x hx hw => Int.not_le.mpr (hp x hw.1 hx) hw.2

theorem finv_hpush (s : State) (g : Nat) (hi : FInv s) (hneg : s.idx g < 0) (hb : g < s.nE)
    (hnp : (s.objs g).paused = false)
    (hf : ∀ a, s.entries a = some g → (s.objs g).strat.isTime = true → FreshAt s a g) : FInv (s.hpush g) :=
  finv_heap (heaped_hpush s g hi.core.sync hneg) hi.core (fun x hx => hx.elim (fun e => .inr (e ▸ ⟨hb, hf⟩)) .inl)
    fun x hx hw => hw.elim (fun e => by rw [e, hnp] at hx; cases hx) (Int.not_le.mpr (hi.pausedOff x hx))

theorem finv_hfix (s : State) (i : Int) (hi : FInv s) : FInv (s.hfix i) :=
  finv_heap_back (heaped_hfix s i hi.core.sync) (fun _ h => h) hi

theorem setE_objs (s : State) (g : Nat) (f : Entry → Entry) (x : Nat) :
    (s.setE g f).objs x = if x = g then f (s.objs g) else s.objs x := rfl

theorem fcore_setE (s : State) (g : Nat) (f : Entry → Entry) (hc : FCore s)
    (hact : (f (s.objs g)).actor = (s.objs g).actor)
    (hfr : ∀ a, s.entries a = some g → (f (s.objs g)).strat.isTime = true → (f (s.objs g)).paused = false →
      0 ≤ s.idx g → FreshAt (s.setE g f) a g) : FCore (s.setE g f) := by
  refine .of_actors hc.sync (fun a g' he => ⟨?_, hc.entBound a g' he⟩) hc.idxBound fun a => ?_
  · rw [setE_objs]
    split
    · subst g'; rw [hact]; exact hc.owner a g he
    · exact hc.owner a g' he
  · by_cases he : s.entries a = some g
    · refine ⟨hc.touchLe a, hc.latestLe a, hc.touchLatest a, fun g' he' ht hp hx => ?_⟩
      obtain rfl : g = g' := Option.some.inj (he.symm.trans he')
      rw [setE_objs, if_pos rfl] at ht hp
      exact hfr a he ht hp hx
    · refine (hc.actor a).congr (Nat.le_refl _) rfl rfl fun g' he' => ?_
      rw [setE_objs, if_neg fun (h : g' = g) => he (h ▸ he')]
      exact ⟨he', id, rfl, rfl, rfl, rfl⟩

theorem finv_setE (s : State) (g : Nat) (f : Entry → Entry) (hi : FInv s)
    (hact : (f (s.objs g)).actor = (s.objs g).actor) (hp : (f (s.objs g)).paused = true → s.idx g < 0)
    (hfr : ∀ a, s.entries a = some g → (f (s.objs g)).strat.isTime = true → (f (s.objs g)).paused = false →
      0 ≤ s.idx g → FreshAt (s.setE g f) a g) : FInv (s.setE g f) := by
  refine ⟨fcore_setE s g f hi.core hact hfr, fun x => ?_⟩
  rw [setE_objs]
  split
  · subst x; exact hp
  · exact hi.pausedOff x

theorem finv_setE_off (s : State) (g : Nat) (f : Entry → Entry) (hi : FInv s) (hneg : s.idx g < 0)
    (hact : (f (s.objs g)).actor = (s.objs g).actor) : FInv (s.setE g f) :=
  finv_setE s g f hi hact (fun _ => hneg) fun _ _ _ _ hx => absurd hx (Int.not_le.mpr hneg)

theorem finv_refresh (s : State) (g : Nat) (hi : FInv s) :
    FInv (s.refresh g) ∧ (∀ a, s.entries a = some g → FreshAt (s.refresh g) a g) := by
  have hc := hi.core
  have hfr : ∀ a, s.entries a = some g → FreshAt (s.refresh g) a g := fun a he => by
    have hobj : (s.refresh g).objs g =
        { s.objs g with deadline := some (((s.actors a).latest).getD s.now + (s.objs g).timeout) } := by
      simp [refresh, setE_objs, hc.owner a g he]
    unfold FreshAt
    rw [hobj]
    refine ⟨_, rfl, fun u hu => ?_, fun l hl => ?_⟩
    · have hu' : (s.actors a).lastTouch = some u := hu
      show u + (s.objs g).timeout ≤ _
      cases hl : (s.actors a).latest with
      | none => have := hc.touchLe a u hu'; simp only [Option.getD_none]; omega
      | some l => have := hc.touchLatest a u l hu' hl; simp only [Option.getD_some]; omega
    · have hl' : (s.actors a).latest = some l := hl
      show l + (s.objs g).timeout < _
      rw [hl']; simp only [Option.getD_some, touchIv]; omega
  unfold refresh at hfr ⊢
  exact ⟨finv_setE s g _ hi rfl (hi.pausedOff g) fun a he _ _ _ => hfr a he, hfr⟩

theorem finv_delEntry (s : State) (a : Nat) (hi : FInv s) : FInv (s.delEntry a) := by
  have hc := hi.core
  have hent : ∀ b g, (s.delEntry a).entries b = some g → s.entries b = some g := fun b g he => by
    simp only [delEntry, upd] at he
    split at he
    · cases he
    · exact he
  exact ⟨.of_actors hc.sync (fun b g he => ⟨hc.owner b g (hent b g he), hc.entBound b g (hent b g he)⟩) hc.idxBound
    fun b => (hc.actor b).congr (Nat.le_refl _) rfl rfl fun g he => ⟨hent b g he, id, rfl, rfl, rfl, rfl⟩, hi.pausedOff⟩

theorem finv_allocEntry (s : State) (a : Nat) (hi : FInv s) : FInv (s.allocEntry a) := by
  have hc := hi.core
  have hnE : s.idx s.nE < 0 := Int.not_le.mp fun h => Nat.lt_irrefl _ (hc.idxBound _ h)
  have hent : ∀ b g, (s.allocEntry a).entries b = some g → (b = a ∧ g = s.nE) ∨
      (s.entries b = some g ∧ (s.allocEntry a).objs g = s.objs g ∧ (s.allocEntry a).idx g = s.idx g) := fun b g he => by
    simp only [allocEntry, upd] at he ⊢
    split at he
    · exact .inl ⟨‹_›, (Option.some.inj he).symm⟩
    · have := hc.entBound b g he
      exact .inr ⟨he, by rw [if_neg (by omega)], by rw [if_neg (by omega)]⟩
  refine ⟨.of_actors (sync_setIdx_neg s s.nE hc.sync hnE) (fun b g he => ?_) (fun g hx => ?_) fun b => ?_, fun g hp => ?_⟩
  · rcases hent b g he with ⟨rfl, rfl⟩ | ⟨he', ho, _⟩
    · simp [allocEntry, upd]
    · rw [ho]; exact ⟨hc.owner b g he', Nat.lt_succ_of_lt (hc.entBound b g he')⟩
  · simp only [allocEntry, upd] at hx ⊢
    split at hx
    · omega
    · exact Nat.lt_succ_of_lt (hc.idxBound g hx)
  · refine ⟨hc.touchLe b, hc.latestLe b, hc.touchLatest b, fun g he ht hp hx => ?_⟩
    rcases hent b g he with ⟨_, rfl⟩ | ⟨he', ho, hx'⟩
    · simp [allocEntry, upd] at hx
    · rw [ho] at ht hp
      rw [hx'] at hx
      unfold FreshAt
      rw [ho]
      exact hc.fresh b g he' ht hp hx
  · simp only [allocEntry, upd] at hp ⊢
    split
    · omega
    · rw [if_neg ‹_›] at hp; exact hi.pausedOff g hp

theorem finv_regTarget (s : State) (a : Nat) (hi : FInv s) :
    FInv (s.regTarget a).1 ∧ (s.regTarget a).1.idx (s.regTarget a).2 < 0 ∧ (s.regTarget a).2 < (s.regTarget a).1.nE := by
  unfold regTarget
  cases he : s.entries a with
  | none => exact ⟨finv_allocEntry s a hi, by simp [allocEntry, upd], by simp [allocEntry]⟩
  | some g =>
    exact ⟨finv_dropFromHeap s g hi.core fun g' _ => hi.pausedOff g', (heaped_dropFromHeap s g hi.core.sync).off,
      by rw [(sameCore_dropFromHeap s g).nE]; exact hi.core.entBound a g he⟩

theorem finv_requeue (s : State) (g : Nat) (hi : FInv s) (hneg : s.idx g < 0) (hb : g < s.nE)
    (hnp : (s.objs g).paused = false) : FInv ((s.refresh g).hpush g) :=
  have h := finv_refresh s g hi
  finv_hpush _ g h.1 hneg hb (by simpa [refresh, setE_objs] using hnp) fun b hb' _ => h.2 b hb'

theorem finv_regFinish (s : State) (a g : Nat) (st : Strat) (hi : FInv s) (hneg : s.idx g < 0) (hb : g < s.nE) :
    FInv (s.regFinish a g st) := by
  unfold regFinish
  have h1 := finv_setE_off s g (fun e => { e with strat := st, paused := false, pending := false, enqueued := false })
    hi hneg rfl
  cases st with
  | time T =>
    exact finv_requeue _ g (finv_setE_off _ g (fun e => { e with timeout := T }) h1 hneg rfl) hneg hb
      (by simp [setE_objs])
  | count n => exact finv_setE_off _ g _ h1 hneg rfl
  | longLived => exact finv_delEntry _ a h1

theorem finv_register (s : State) (a : Nat) (st : Strat) (hi : FInv s) : FInv (s.register a st) := by
  obtain ⟨h1, h3, h4⟩ := finv_regTarget s a hi
  exact finv_regFinish _ a _ st h1 h3 h4

theorem finv_unregister (s : State) (a : Nat) (hi : FInv s) : FInv (s.unregister a) := by
  -- `fun_cases f args` gives one goal per leaf of `f` in Model/C12.lean, numbered in the order of the leaves there,
  -- with the pattern equations and guard outcomes on the way as hypotheses
  fun_cases State.unregister s a
  case case1 => exact hi -- no entry
  case case2 => -- off the heap, out of the map
    exact finv_delEntry _ a (finv_dropFromHeap s _ hi.core fun g' _ => hi.pausedOff g')

theorem finv_mpause (s : State) (a : Nat) (hi : FInv s) : FInv (s.mpause a) := by
  fun_cases State.mpause s a
  case case1 | case2 => exact hi -- no entry; paused already
  case case3 g _ _ => -- the flag, then off the heap: the core invariant survives the flag (a paused entry is exempt from freshness)
    refine finv_dropFromHeap _ g (fcore_setE s g _ hi.core rfl fun _ _ _ hp => Bool.noConfusion hp) fun g' hg hp => ?_
    rw [setE_objs, if_neg hg] at hp
    exact hi.pausedOff g' hp

theorem finv_resumeEntry (s : State) (a g : Nat) (hi : FInv s) (he : s.entries a = some g)
    (hp : (s.objs g).paused = true) : FInv (s.resumeEntry g) := by
  have hneg := hi.pausedOff g hp
  have h1 := finv_setE_off s g (fun e => { e with paused := false }) hi hneg rfl
  fun_cases State.resumeEntry s g
  case case1 t _ => -- time-based: refresh, push
    exact finv_requeue _ g h1 hneg (hi.core.entBound a g he) (by simp [setE_objs, t])
  case case2 => exact (sameF_signal _ _).finv (finv_setE_off _ g _ h1 hneg rfl) -- pending and not enqueued: onto the channel
  case case3 => exact h1 -- only the flag

theorem finv_mresumeS (s : State) (a : Nat) (hi : FInv s) : FInv (s.mresumeS a) := by
  fun_cases State.mresumeS s a
  case case1 | case2 => exact hi -- no entry; not paused
  case case3 g he hp => exact finv_resumeEntry s a g hi he (by simpa using hp) -- a paused entry

theorem finv_mtouch (s : State) (a : Nat) (hi : FInv s) : FInv (s.mtouch a) := by
  fun_cases State.mtouch s a
  case case1 | case2 | case3 => exact hi -- no entry; paused; not time-based or off the heap
  case case4 => exact finv_hfix _ _ (finv_refresh s _ hi).1 -- refresh, then Fix

theorem upd_upd {α : Type} (f : Nat → α) (k : Nat) (v w : α) : upd (upd f k v) k w = upd f k w := by
  funext x; simp only [upd]; split <;> rfl

theorem finv_setActor (s : State) (a : Nat) (x : Actor) (hi : FInv s)
    (h1 : ∀ u, x.lastTouch = some u → u ≤ s.now) (h2 : ∀ l, x.latest = some l → l ≤ s.now)
    (h3 : ∀ u l, x.lastTouch = some u → x.latest = some l → u ≤ l)
    (h4 : ∀ g, s.entries a = some g → (s.objs g).strat.isTime = true → (s.objs g).paused = false → 0 ≤ s.idx g →
      ∃ d, (s.objs g).deadline = some d ∧ (∀ u, x.lastTouch = some u → u + (s.objs g).timeout ≤ d) ∧
        (∀ l, x.latest = some l → l + (s.objs g).timeout < d + touchIv)) :
    FInv { s with actors := upd s.actors a x } := by
  have hc := hi.core
  refine ⟨.of_actors hc.sync (fun b g he => ⟨hc.owner b g he, hc.entBound b g he⟩) hc.idxBound fun b => ?_, hi.pausedOff⟩
  by_cases hb : b = a
  · subst hb
    simp only [ActorOK, FreshAt, upd, ↓reduceIte]
    exact ⟨h1, h2, h3, h4⟩
  · exact (hc.actor b).congr (Nat.le_refl _) (by simp [upd, hb]) (by simp [upd, hb]) fun g he => ⟨he, id, rfl, rfl, rfl, rfl⟩

/-- the deferred `reset` of `doStop` forgets the latest activity -/
theorem finv_doStopS (s : State) (a : Nat) (hi : FInv s) : FInv (s.doStopS a) := by
  have hi' : FInv (s.emit (.postStop a (s.actors a).running)) := sameF_emit.finv hi
  have hc := hi'.core
  refine finv_setActor _ a _ hi' (hc.touchLe a) (by simp [resetActor]) (by simp [resetActor]) fun g he ht hp hx => ?_
  obtain ⟨d, hd, h1, _⟩ := hc.fresh a g he ht hp hx
  exact ⟨d, hd, h1, by simp [resetActor]⟩

/-- Touch right after both stamps of `a` were set to the clock: a deadline moved to `now + timeout` is fresh
    for the old stamps and for the new; an entry Touch does not reach (paused, not time-based, off the heap) is exempt -/
theorem finv_stampTouch (s : State) (a : Nat) (x : Actor) (hi : FInv s) (hl : x.latest = some s.now)
    (hu : x.lastTouch = some s.now) : FInv (State.mtouch { s with actors := upd s.actors a x } a) := by
  have hc := hi.core
  have h1 : ∀ u, x.lastTouch = some u → u ≤ s.now := fun u h => Nat.le_of_eq (Option.some.inj (hu.symm.trans h)).symm
  have h2 : ∀ l, x.latest = some l → l ≤ s.now := fun l h => Nat.le_of_eq (Option.some.inj (hl.symm.trans h)).symm
  have h3 : ∀ u l, x.lastTouch = some u → x.latest = some l → u ≤ l := fun u l h h' =>
    Nat.le_of_eq ((Option.some.inj (hu.symm.trans h)).symm.trans (Option.some.inj (hl.symm.trans h')))
  have hexempt : (∀ g, s.entries a = some g → (s.objs g).strat.isTime = true → (s.objs g).paused = false →
      0 ≤ s.idx g → False) → FInv { s with actors := upd s.actors a x } := fun hex =>
    finv_setActor s a x hi h1 h2 h3 fun g he ht hp hx => (hex g he ht hp hx).elim
  fun_cases State.mtouch { s with actors := upd s.actors a x } a
  case case1 he => exact hexempt fun g hg => by rw [he] at hg; cases hg -- no entry
  case case2 g he hp => -- paused
    exact hexempt fun g' hg _ hp' _ => by rw [he] at hg; cases hg; rw [hp] at hp'; cases hp'
  case case3 g he _ hc2 => -- not time-based or off the heap
    refine hexempt fun g' hg htm _ hx => ?_
    rw [he] at hg; cases hg
    simp only [Bool.or_eq_true, Bool.not_eq_true', decide_eq_true_eq] at hc2
    rcases hc2 with h | h
    · rw [h] at htm; cases htm
    · omega
  case case4 g he _ _ => -- refresh, then Fix
    have hown := hc.owner a g he
    have heq : State.refresh { s with actors := upd s.actors a x } g =
        { (s.setE g fun e => { e with deadline := some (s.now + e.timeout) }) with
          actors := upd s.actors a x } := by
      simp [refresh, setE, upd, hown, hl]
    rw [heq]
    refine finv_hfix _ _ (finv_setActor _ a x (finv_setE s g _ hi rfl (hi.pausedOff g) fun b hb _ _ _ => ?_) h1 h2 h3
      fun g' hg' _ _ _ => ?_)
    · refine ⟨s.now + (s.objs g).timeout, by simp [setE_objs], fun u hu' => ?_, fun l hl' => ?_⟩
      · have := hc.touchLe b u hu'; simp only [setE_objs, ↓reduceIte]; omega
      · have := hc.latestLe b l hl'; simp only [setE_objs, ↓reduceIte, touchIv]; omega
    · obtain rfl : g = g' := Option.some.inj (he.symm.trans hg')
      refine ⟨s.now + (s.objs g).timeout, by simp [setE_objs], fun u hu' => ?_, fun l hl' => ?_⟩
      · have := h1 u hu'; simp only [setE_objs, ↓reduceIte]; omega
      · have := h2 l hl'; simp only [setE_objs, ↓reduceIte, touchIv]; omega

/-- `markActivity`: the coalescing argument.  Not due: the new stamp is less than `touchIv` after the
    last Touch, and the deadline is at least that Touch plus the timeout.  Due: both stamps, then Touch. -/
theorem finv_markActivity (s : State) (a : Nat) (hi : FInv s) : FInv (s.markActivity a) := by
  have hc := hi.core
  fun_cases State.markActivity s a
  case case1 t _ => -- Touch is due
    have e : t.setA a (fun x => { x with lastTouch := some s.now }) =
        { s with actors := upd s.actors a { s.actors a with latest := some s.now, lastTouch := some s.now } } := by
      simp [t, setA, upd, upd_upd]
    rw [e]
    exact finv_stampTouch s a _ hi rfl rfl
  case case2 hnd => -- not due
    obtain ⟨u, hu, hlt⟩ : ∃ u, (s.actors a).lastTouch = some u ∧ s.now < u + touchIv := by
      unfold touchDue at hnd
      split at hnd
      · exact absurd rfl hnd
      · rename_i u hu; exact ⟨u, hu, by simpa using hnd⟩
    refine finv_setActor s a _ hi (hc.touchLe a) (fun _ h => Nat.le_of_eq (Option.some.inj h).symm)
      (fun u' _ hu' h => Option.some.inj h ▸ hc.touchLe a u' hu') fun g he ht hp hx => ?_
    obtain ⟨d, hd, h1, _⟩ := hc.fresh a g he ht hp hx
    refine ⟨d, hd, h1, fun l hl => ?_⟩
    have := h1 u hu
    have : l = s.now := (Option.some.inj hl).symm
    omega

/-- under the invariant the head of the heap is never paused: `nextEntry` only inspects -/
theorem nextEntry_cases (f : Nat) (s : State) (hi : FInv s) : nextEntry f s = (s, none) ∨
    ∃ g, nextEntry f s = (s, some g) ∧ s.queue[0]? = some g ∧ s.dl g ≤ s.now := by
  fun_cases nextEntry f s
  case case1 | case2 | case6 => exact .inl rfl -- no fuel; empty heap; head not due
  case case3 _ g _ hq hp _ | case4 _ g _ hq hp _ => -- a paused head: it would be on the heap and off it
    have := hi.pausedOff g hp
    have := (hi.core.sync g 0).mp (by rw [hq]; rfl)
    omega
  case case5 _ g _ hq _ hd => exact .inr ⟨g, rfl, by rw [hq]; rfl, hd⟩ -- the head, due

theorem nextEntry_eq (f : Nat) (s : State) (hi : FInv s) : (nextEntry f s).1 = s := by
  rcases nextEntry_cases f s hi with h | ⟨_, h, _⟩ <;> rw [h]

theorem nextEntry_head (f : Nat) (s : State) (g : Nat) (hi : FInv s) (h : (nextEntry f s).2 = some g) :
    s.queue[0]? = some g ∧ s.dl g ≤ s.now := by
  rcases nextEntry_cases f s hi with h' | ⟨g', h', hq⟩
  · rw [h'] at h; cases h
  · rw [h'] at h; cases h; exact hq

theorem head_fresh (s : State) (a g : Nat) (hi : FInv s) (hq : s.queue[0]? = some g) (he : s.entries a = some g)
    (ht : (s.objs g).strat.isTime = true) (hp : (s.objs g).paused = false) : FreshAt s a g :=
  hi.core.fresh a g he ht hp (by have := (hi.core.sync g 0).mp hq; omega)

/-- the decision: whenever the head of the heap is due and is its actor's current, unpaused, time-based
    entry, the actor's latest activity is more than `timeout − touchIv` old -/
theorem decision_fresh (s : State) (a g : Nat) (hi : FInv s) (hq : s.queue[0]? = some g) (hd : s.dl g ≤ s.now)
    (he : s.entries a = some g) (ht : (s.objs g).strat.isTime = true) (hp : (s.objs g).paused = false)
    (l : Nat) (hl : (s.actors a).latest = some l) : l + (s.objs g).timeout < s.now + touchIv := by
  obtain ⟨d, hdl, _, h2⟩ := head_fresh s a g hi hq he ht hp
  have := h2 l hl
  simp only [dl, hdl] at hd
  omega

/-- due by `trigger`'s own check, fresh by the invariant -/
theorem evOK_decideEv (s : State) (g : Nat) (hi : FInv s) (hq : s.queue[0]? = some g) (h : s.dl g ≤ s.now) :
    evOK (s.decideEv g) = true := by
  simp only [decideEv, evOK, Bool.and_eq_true, decide_eq_true_eq, Bool.or_eq_true, Bool.not_eq_true']
  refine ⟨by omega, ?_⟩
  by_cases hc : ((s.entries (s.objs g).actor == some g) && !(s.objs g).paused && (s.objs g).strat.isTime) = true
  · right
    simp only [Bool.and_eq_true, beq_iff_eq, Bool.not_eq_true'] at hc
    cases hl : (s.actors (s.objs g).actor).latest with
    | none => rfl
    | some l =>
      obtain ⟨d, hdl, _, h2⟩ := head_fresh s _ g hi hq hc.1.1 hc.2 hc.1.2
      simp only [dl, hdl, decide_eq_true_eq, Int.toNat_natCast]
      exact h2 l hl
  · left
    simpa using hc

theorem finv_adv (s : State) (d : Nat) (hi : FInv s) : FInv { s with now := s.now + d } :=
  have hc := hi.core
  ⟨.of_actors hc.sync (fun a g he => ⟨hc.owner a g he, hc.entBound a g he⟩) hc.idxBound fun a =>
    (hc.actor a).congr (Nat.le_add_right _ _) rfl rfl fun _ he => ⟨he, id, rfl, rfl, rfl, rfl⟩, hi.pausedOff⟩


end GoaktVerif.C12
