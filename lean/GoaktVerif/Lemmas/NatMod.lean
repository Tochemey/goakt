/-
Residues of positions in a window shorter than the modulus (ring buffers indexed by `pos % size`), and the
successor of a reduced cursor.  `omega` does not reach these: the modulus is a variable.
-/
namespace GoaktVerif.NatMod

/-- two positions of a window of length `n` with the same residue mod `n` are the same position -/
theorem mod_inj {n a p q : Nat} (hp1 : a ≤ p) (hp2 : p < a + n) (hq1 : a ≤ q) (hq2 : q < a + n)
    (h : p % n = q % n) : p = q := by
  have e1 := Nat.div_add_mod p n
  have e2 := Nat.div_add_mod q n
  rcases Nat.lt_trichotomy (p / n) (q / n) with hlt | heq | hlt
  · have := Nat.mul_le_mul_left n (Nat.succ_le_of_lt hlt); rw [Nat.mul_succ] at this; omega
  · rw [heq] at e1; omega
  · have := Nat.mul_le_mul_left n (Nat.succ_le_of_lt hlt); rw [Nat.mul_succ] at this; omega

theorem add_mod_ne {h i j c : Nat} (hi : i < c) (hj : j < c) (hij : i ≠ j) : (h + i) % c ≠ (h + j) % c :=
  fun e => hij (by have := mod_inj (a := h) (by omega) (by omega) (by omega) (by omega) e; omega)

theorem succ_mod {c n : Nat} (h : c < n) : (c + 1) % n = if c + 1 = n then 0 else c + 1 := by
  split
  · next e => rw [e, Nat.mod_self]
  · exact Nat.mod_eq_of_lt (by omega)

end GoaktVerif.NatMod
