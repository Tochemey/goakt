import GoaktVerif.Model.C42c

/-!
C43 on the chunk-aware model (Model/C42c): the producer controller never sends a SequencedMessage — whole message
or chunk — beyond the highest `requestUpToSeq` the consumer controller has sent so far.  For every chunk size,
every frame-length sequence, every window and every fault schedule.  (The model follows /repo 78360fc: a registration
takes `min demandUpTo currentSeq`.)  The argument needs nothing about the consumer controller's internals: `g` is the
ghost "highest request so far", computed from what the consumer controller actually sent.
-/
namespace GoaktVerif.C43c
open GoaktVerif.Model.C42c
open GoaktVerif.Model.C42 (HS CMsg PUMsg Delivery Step maxWindow)

/-- highest requestUpToSeq among `l`, starting from `g` -/
def reqMax : List CMsg → Nat → Nat
  | [], g => g
  | .request _ _ _ u _ :: r, g => reqMax r (max g u)
  | _ :: r, g => reqMax r g

theorem reqMax_ge (l : List CMsg) (g : Nat) : g ≤ reqMax l g := by
  induction l generalizing g with
  | nil => exact Nat.le_refl _
  | cons x xs ih =>
    cases x with
    | request s n c u v => exact Nat.le_trans (Nat.le_max_left g u) (ih _)
    | register n => exact ih g
    | ack s n c => exact ih g

theorem reqMax_mem (l : List CMsg) (g : Nat) {s n c u : Nat} {v : Bool} (h : CMsg.request s n c u v ∈ l) : u ≤ reqMax l g := by
  induction l generalizing g with
  | nil => cases h
  | cons x xs ih =>
    rcases List.mem_cons.mp h with e | h'
    · subst e; exact Nat.le_trans (Nat.le_max_right g u) (reqMax_ge _ _)
    · cases x with
      | request s' n' c' u' v' => exact ih _ h'
      | register n' => exact ih g h'
      | ack s' n' c' => exact ih g h'

/-- sequences of the SequencedMessages (whole or chunk) among a handler's outputs -/
def sentSeqs : List POut → List Nat
  | [] => []
  | .toConsumer (.sequenced _ m) :: r => m.seq :: sentSeqs r
  | _ :: r => sentSeqs r

theorem sentSeqs_append (a b : List POut) : sentSeqs (a ++ b) = sentSeqs a ++ sentSeqs b := by
  induction a with
  | nil => rfl
  | cons x xs ih =>
    cases x with
    | toConsumer m => cases m <;> simp [sentSeqs, ih]
    | toUser m => simp [sentSeqs, ih]

/-- what a producer handler call guarantees: the emission limit stays within `g`, and so does everything sent -/
structure POk (p' : Producer) (o : List POut) (g : Nat) : Prop where
  dem : p'.demandUpTo ≤ g
  sent : ∀ q ∈ sentSeqs o, q ≤ g

theorem POk.noout {p : Producer} {g : Nat} (h : p.demandUpTo ≤ g) : POk p [] g := ⟨h, nofun⟩

theorem POk.ite {g : Nat} {c : Prop} [Decidable c] {a b : Producer × List POut}
    (pos : c → POk a.1 a.2 g) (neg : ¬c → POk b.1 b.2 g) : POk (if c then a else b).1 (if c then a else b).2 g :=
  iteInduction (motive := fun r : Producer × List POut => POk r.1 r.2 g) pos neg

theorem emit_sent (p : Producer) (m : UMsg) : ∀ q ∈ sentSeqs (p.emitSequenced m), q ≤ p.demandUpTo :=
  iteInduction (motive := fun o => ∀ q ∈ sentSeqs o, q ≤ p.demandUpTo) (fun _ => nofun) fun h q hq => by
    cases List.mem_singleton.mp hq
    simp only [Bool.or_eq_true, decide_eq_true_eq, not_or, Nat.not_lt] at h
    exact h.2

theorem flatMap_emit_sent (p : Producer) (l : List UMsg) : ∀ q ∈ sentSeqs (l.flatMap p.emitSequenced), q ≤ p.demandUpTo := by
  induction l with
  | nil => exact nofun
  | cons m r ih =>
    rw [List.flatMap_cons, sentSeqs_append]
    exact fun q hq => (List.mem_append.mp hq).elim (emit_sent p m q) (ih q)

theorem sentSeqs_toUser {α} (f : α → PUMsg) (l : List α) : sentSeqs (l.map fun m => .toUser (f m)) = [] := by
  induction l with
  | nil => rfl
  | cons x xs ih => exact ih

theorem advance_ok (p : Producer) (c : Nat) :
    (p.advanceConfirmed c).1.demandUpTo = p.demandUpTo ∧ sentSeqs (p.advanceConfirmed c).2 = [] := by
  refine iteInduction (motive := fun r : Producer × List POut => r.1.demandUpTo = p.demandUpTo ∧ sentSeqs r.2 = [])
    (fun _ => ⟨rfl, rfl⟩) fun _ => ⟨rfl, ?_⟩
  exact iteInduction (motive := fun o => sentSeqs o = []) (fun _ => sentSeqs_toUser _ _) fun _ => rfl

theorem allow_ok (p : Producer) : p.allowNextRequest.1.demandUpTo = p.demandUpTo ∧ sentSeqs p.allowNextRequest.2 = [] :=
  iteInduction (motive := fun r : Producer × List POut => r.1.demandUpTo = p.demandUpTo ∧ sentSeqs r.2 = [])
    (fun _ => ⟨rfl, rfl⟩) fun _ => ⟨rfl, rfl⟩

theorem replyStored_ok (p : Producer) : p.replyStored.1.demandUpTo = p.demandUpTo ∧ sentSeqs p.replyStored.2 = [] :=
  ⟨rfl, rfl⟩

theorem POk.allow {p0 : Producer} {o : List POut} {g : Nat} (hd : p0.demandUpTo ≤ g) (hs : ∀ q ∈ sentSeqs o, q ≤ g) :
    POk p0.allowNextRequest.1 (o ++ p0.allowNextRequest.2) g :=
  ⟨(allow_ok p0).1 ▸ hd, by rw [sentSeqs_append, (allow_ok p0).2, List.append_nil]; exact hs⟩

/-- all emissions go through `emitSequenced`, a registration only lowers the limit, a Request sets a granted value -/
theorem handle_ok (p : Producer) (pin : PIn) (g : Nat) (h : p.demandUpTo ≤ g)
    (hreq : ∀ s n c u v, pin = .fromConsumer (.request s n c u v) → u ≤ g) :
    POk (p.handle pin).1 (p.handle pin).2 g := by
  unfold Producer.handle
  refine .ite (fun _ => .noout h) fun _ => ?_
  rcases pin with (n | ⟨s, n, c, u, v⟩ | ⟨s, n, c⟩) | ⟨s, t, i, v, l⟩ | ⟨s, t, i⟩ | _
  · exact ⟨iteInduction (motive := fun p1 : Producer => p1.demandUpTo ≤ g)
      (fun _ => Nat.le_trans (Nat.min_le_left ..) h) (fun _ => h), nofun⟩
  · refine .ite (fun _ => .noout h) fun _ => .ite (fun _ => .noout h) fun _ => ?_
    have hu := hreq s n c u v rfl
    refine POk.allow (p0 := { (p.advanceConfirmed c).1 with demandUpTo := u, windowSpan := u - c }) hu ?_
    rw [sentSeqs_append, (advance_ok p c).2, List.nil_append]
    exact iteInduction (motive := fun o => ∀ q ∈ sentSeqs o, q ≤ g)
      (fun _ q hq => Nat.le_trans (flatMap_emit_sent _ _ q hq) hu) fun _ => nofun
  · exact .ite (fun _ => .noout h) fun _ => .ite (fun _ => .noout h) fun _ =>
      ⟨(advance_ok p c).1 ▸ h, by rw [(advance_ok p c).2]; exact nofun⟩
  · -- `handleProduced`: three guards that skip, two that `terminate` (which leaves `demandUpTo` alone), then `storeChunks`
    -- (its window check terminates, else it replies `Stored`), else `completeStore`: none sends a SequencedMessage
    refine .ite (fun _ => .noout h) fun _ => .ite (fun _ => .noout h) fun _ => .ite (fun _ => .noout h) fun _ =>
      .ite (fun _ => .noout h) fun _ => .ite (fun _ => .noout h) fun _ => .ite (fun _ => ?_) fun _ => ⟨h, nofun⟩
    exact .ite (fun _ => .noout h) fun _ => ⟨h, nofun⟩
  · -- `handleStoredAck`: only the second branch (`completeAccept`) emits, through `emitSequenced`
    refine .ite (fun _ => .noout h) fun _ => .ite (fun _ => ?_) fun _ =>
      .ite (fun _ => .noout h) fun _ => .ite (fun _ => .noout h) fun _ => .noout h
    refine POk.allow (p0 := Producer.resetHandshake _) h ?_
    exact iteInduction (motive := fun o => ∀ q ∈ sentSeqs o, q ≤ g)
      (fun _ q hq => Nat.le_trans (emit_sent _ _ q hq) h) fun _ q hq => Nat.le_trans (flatMap_emit_sent _ _ q hq) h
  · unfold Producer.handleTick
    cases p.handshake
    case storedAck => exact ⟨h, by cases p.storedMessage <;> exact nofun⟩
    all_goals exact ⟨h, nofun⟩

/-- world invariant: the emission limit and every Request still in flight are within the highest request so far -/
structure DInv (w : World) (g : Nat) : Prop where
  dem : w.p.demandUpTo ≤ g
  net : ∀ s n c u v, CMsg.request s n c u v ∈ w.netCP → u ≤ g

/-- the ghost after a step: requests the consumer controller sent in this step raise it -/
def gAfter (o : StepOut) (g : Nat) : Nat := reqMax (cpOf o.couts) g

theorem stepP_ok {w : World} {g : Nat} (h : DInv w g) (pin : PIn)
    (hreq : ∀ s n c u v, pin = .fromConsumer (.request s n c u v) → u ≤ g) :
    DInv (w.stepP pin).1 (gAfter (w.stepP pin).2 g) ∧ ∀ q ∈ sentSeqs (w.stepP pin).2.pouts, q ≤ g :=
  have hk := handle_ok w.p pin g h.dem hreq
  ⟨⟨hk.dem, h.net⟩, hk.sent⟩

theorem stepC_ok {w : World} {g : Nat} (h : DInv w g) (cin : CIn) :
    DInv (w.stepC cin).1 (gAfter (w.stepC cin).2 g) ∧ ∀ q ∈ sentSeqs (w.stepC cin).2.pouts, q ≤ g :=
  ⟨⟨Nat.le_trans h.dem (reqMax_ge _ _), fun s n c u v hm => (List.mem_append.mp hm).elim
    (fun hm => Nat.le_trans (h.net s n c u v hm) (reqMax_ge _ _)) (reqMax_mem _ _)⟩, nofun⟩

/-- every step keeps the invariant, and everything the producer controller sends in it is within `g` -/
theorem step_ok {w : World} {g : Nat} (h : DInv w g) (s : Step) :
    DInv (w.step s).1 (gAfter (w.step s).2 g) ∧ ∀ q ∈ sentSeqs (w.step s).2.pouts, q ≤ g := by
  -- the invariant reads the producer controller and the consumer→producer link only
  have lost : ∀ w' : World, (w'.p = w.p ∧ ∀ x ∈ w'.netCP, x ∈ w.netCP) → DInv w' g := fun w' hw =>
    ⟨hw.1 ▸ h.dem, fun s n c u v hm => h.net s n c u v (hw.2 _ hm)⟩
  have same : ∀ w' : World, (w'.p = w.p ∧ ∀ x ∈ w'.netCP, x ∈ w.netCP) →
      DInv w' (gAfter {} g) ∧ ∀ q ∈ sentSeqs ({} : StepOut).pouts, q ≤ g := fun w' hw => ⟨lost w' hw, nofun⟩
  have keep : ∀ x ∈ w.netCP, x ∈ w.netCP := fun _ hx => hx
  have erase : ∀ i, ∀ x ∈ w.netCP.eraseIdx i, x ∈ w.netCP := fun i x hx => (List.eraseIdx_sublist _ i).mem hx
  cases s with
  | deliverPC i =>
    simp only [World.step]
    cases w.netPC[i]? with
    | none => exact same w ⟨rfl, keep⟩
    | some x => exact stepC_ok (lost { w with netPC := w.netPC.eraseIdx i } ⟨rfl, keep⟩) _
  | dupPC i =>
    simp only [World.step]
    cases w.netPC[i]? with
    | none => exact same w ⟨rfl, keep⟩
    | some x => exact stepC_ok h _
  | dropPC i => exact same _ ⟨rfl, keep⟩
  | deliverCP i =>
    simp only [World.step]
    cases hx : w.netCP[i]? with
    | none => exact same w ⟨rfl, keep⟩
    | some x =>
      exact stepP_ok (lost { w with netCP := w.netCP.eraseIdx i } ⟨rfl, erase i⟩) (.fromConsumer x)
        fun s n c u v e => by cases e; exact h.net _ _ _ _ _ (List.mem_of_getElem? hx)
  | dupCP i =>
    simp only [World.step]
    cases hx : w.netCP[i]? with
    | none => exact same w ⟨rfl, keep⟩
    | some x => exact stepP_ok h (.fromConsumer x) fun s n c u v e => by cases e; exact h.net _ _ _ _ _ (List.mem_of_getElem? hx)
  | dropCP i => exact same _ ⟨rfl, erase i⟩
  | tickP => exact stepP_ok h .tick nofun
  | tickC => exact stepC_ok h .tick
  | userP =>
    simp only [World.step]
    cases w.inboxP with
    | nil => exact same w ⟨rfl, keep⟩
    | cons m0 rest =>
      cases m0 with
      | requestNext s t =>
        -- the endpoint's memory may change before the handler runs; the producer controller and the link do not
        have hw : ∀ (c : Prop) [Decidable c] (a b : World), (a.p = w.p ∧ ∀ x ∈ a.netCP, x ∈ w.netCP) →
            (b.p = w.p ∧ ∀ x ∈ b.netCP, x ∈ w.netCP) →
            (if c then a else b).p = w.p ∧ ∀ x ∈ (if c then a else b).netCP, x ∈ w.netCP := fun c _ a b ha hb =>
          iteInduction (motive := fun x : World => x.p = w.p ∧ ∀ y ∈ x.netCP, y ∈ w.netCP) (fun _ => ha) fun _ => hb
        simp only []
        split
        · refine stepP_ok (lost _ ?_) (.produced _ _ _ _ _) nofun
          exact hw _ _ _ ⟨rfl, keep⟩ ⟨rfl, keep⟩
        · refine same _ ?_
          exact hw _ _ _ ⟨rfl, keep⟩ ⟨rfl, keep⟩
      | stored s t i q => exact stepP_ok (lost { w with inboxP := rest } ⟨rfl, keep⟩) _ nofun
      | deliveryConfirmed s i q => exact same _ ⟨rfl, keep⟩
  | userPDrop => exact same _ ⟨rfl, keep⟩
  | userC confirm =>
    simp only [World.step]
    cases w.inboxC with
    | nil => exact same w ⟨rfl, keep⟩
    | cons d rest =>
      cases confirm with
      | true => exact stepC_ok (lost { w with inboxC := rest } ⟨rfl, keep⟩) (.confirmed d.session d.id d.seq)
      | false => exact same _ ⟨rfl, keep⟩
  | userCDrop => exact same _ ⟨rfl, keep⟩
  | time t => exact same _ ⟨rfl, keep⟩

/-- run a script checking, at every step, that nothing is sent beyond the highest request so far -/
def demandOK (w : World) (g : Nat) : List Step → Bool
  | [] => true
  | s :: ss =>
    let r := w.step s
    (sentSeqs r.2.pouts).all (fun q => decide (q ≤ g)) && demandOK r.1 (gAfter r.2 g) ss

theorem demandOK_of_inv {w : World} {g : Nat} (h : DInv w g) (ss : List Step) : demandOK w g ss = true := by
  induction ss generalizing w g with
  | nil => rfl
  | cons s ss ih =>
    have hs := step_ok h s
    simp only [demandOK, Bool.and_eq_true, List.all_eq_true, decide_eq_true_eq]
    exact ⟨hs.2, ih hs.1⟩

theorem init_inv (window interval : Nat) (dc : Bool) (maxChunk : Nat) (lens : List Nat) :
    DInv (World.init window interval dc maxChunk lens) 0 := by
  refine ⟨Nat.le_refl _, ?_⟩
  intro s n c u v hm
  simp [World.init, Consumer.register, cpOf] at hm

end GoaktVerif.C43c
