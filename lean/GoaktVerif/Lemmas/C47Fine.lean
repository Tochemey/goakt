/-
C47: the case equations of the breaker's functions, what one step of the ATOMIC-level interleaving model
(`Model.C47.fstep`) writes, and the semaphore invariant, for every schedule, any number of threads, any clock behaviour.
-/
import GoaktVerif.Model.C47
import GoaktVerif.Lemmas.ListFacts

namespace GoaktVerif.C47
open GoaktVerif.Model.C47

/-- does a thread at this pc hold a half-open token -/
def holds : Pc → Nat
  | .running tok => if tok then 1 else 0
  | .recEval tok _ => if tok then 1 else 0
  | .recToClosed tok => if tok then 1 else 0
  | .rel tok => if tok then 1 else 0
  | _ => 0

def tokens (pcs : List Pc) : Nat := (pcs.map holds).sum

theorem tokens_set {pcs : List Pc} {tid : Nat} {pc : Pc} (pc' : Pc) (h : pcs[tid]? = some pc) :
    tokens (pcs.set tid pc') + holds pc = tokens pcs + holds pc' :=
  sum_map_set holds pcs tid pc' pc h

theorem holds_le_tokens {pcs : List Pc} {tid : Nat} {pc : Pc} (h : pcs[tid]? = some pc) :
    holds pc ≤ tokens pcs := by
  have := tokens_set .idle h
  have h0 : holds Pc.idle = 0 := rfl
  omega

section
variable {cf : Conf} {now : Int} {b : Br}

theorem trySem_of_lt (h : b.sem < cf.hmax) :
    trySem cf b = ((true, true), { b with sem := b.sem + 1 }) := if_pos h

theorem trySem_of_ge (h : ¬ b.sem < cf.hmax) : trySem cf b = ((false, false), b) := if_neg h

theorem openToHalfOpen_of_ne (hs : b.state ≠ .opened) : openToHalfOpen now b = (b.state, b) :=
  if_pos hs

theorem openToHalfOpen_early (hs : b.state = .opened) (hlt : now < b.openUntil) :
    openToHalfOpen now b = (.opened, b) := by
  unfold openToHalfOpen; rw [if_neg (not_not_intro hs), if_pos hlt]

theorem openToHalfOpen_late (hs : b.state = .opened) (hge : ¬ now < b.openUntil) :
    openToHalfOpen now b = (.halfOpen, { b with w := b.w.hardReset now, state := .halfOpen }) := by
  unfold openToHalfOpen; rw [if_neg (not_not_intro hs), if_neg hge]

end

theorem transitionTo_sem (cf : Conf) (now : Int) (t : St) (b : Br) : (transitionTo cf now t b).sem = b.sem := by
  -- `fun_cases f args` gives one goal per leaf of `f` in Model/C47.lean, numbered in the order of the leaves there,
  -- with the pattern equations and guard outcomes on the way as hypotheses and a `let` of `f` as a local definition
  fun_cases transitionTo cf now t b
  case case1 => rfl -- already in the target state
  case case2 | case3 => rfl -- to Open: the deadline is set; to another state: the window is reset

theorem transitionTo_state (cf : Conf) (now : Int) (t : St) (b : Br) : (transitionTo cf now t b).state = t := by
  fun_cases transitionTo cf now t b
  case case1 | case2 | case3 => rfl -- already in the target state; to Open; to another state: the field is written

theorem openToHalfOpen_sem (now : Int) (b : Br) : (openToHalfOpen now b).2.sem = b.sem := by
  fun_cases openToHalfOpen now b
  case case1 | case2 | case3 => rfl -- not Open; Open before the deadline; to HalfOpen: window and state only

theorem halfOpenToClosed_sem (now : Int) (b : Br) : (halfOpenToClosed now b).sem = b.sem := by
  unfold halfOpenToClosed; split <;> rfl

/-- what one atomic step writes: state and `openUntil` only inside the three transition functions,
    the semaphore only where the thread's own token changes hands -/
theorem pcStep_cases {cf : Conf} {now : Int} {b b' : Br} {o : Outcome} {pc pc' : Pc}
    (h : pcStep cf now b o pc = some (b', pc')) :
    ((b'.state = b.state ∧ b'.openUntil = b.openUntil) ∨ b' = (openToHalfOpen now b).2 ∨
      b' = transitionTo cf now .opened b ∨ ∃ tok, pc = .recToClosed tok ∧ b' = halfOpenToClosed now b) ∧
    ((b'.sem = b.sem ∧ holds pc' = holds pc) ∨
      (b.sem < cf.hmax ∧ b'.sem = b.sem + 1 ∧ holds pc = 0 ∧ holds pc' = 1) ∨
      (b'.sem = b.sem - 1 ∧ holds pc = 1 ∧ holds pc' = 0)) := by
  cases pc with
  | idle => simp only [pcStep] at h; split at h <;> cases h <;> exact ⟨.inl ⟨rfl, rfl⟩, .inl ⟨rfl, rfl⟩⟩
  | acqOpen =>
    simp only [pcStep] at h
    split at h <;> cases h <;> exact ⟨.inr (.inl rfl), .inl ⟨openToHalfOpen_sem now b, rfl⟩⟩
  | acqSem =>
    simp only [pcStep] at h
    by_cases hc : b.sem < cf.hmax
    · rw [trySem_of_lt hc] at h; cases h
      exact ⟨.inl ⟨rfl, rfl⟩, .inr (.inl ⟨hc, rfl, rfl, rfl⟩)⟩
    · rw [trySem_of_ge hc] at h; cases h
      exact ⟨.inl ⟨rfl, rfl⟩, .inl ⟨rfl, rfl⟩⟩
  | running tok =>
    simp only [pcStep] at h
    split at h <;> cases h <;> exact ⟨.inl ⟨rfl, rfl⟩, .inl ⟨rfl, rfl⟩⟩
  | recEval tok t =>
    simp only [pcStep] at h
    split at h
    · cases h; exact ⟨.inl ⟨rfl, rfl⟩, .inl ⟨rfl, rfl⟩⟩
    · split at h <;> cases h
      · exact ⟨.inr (.inr (.inl rfl)), .inl ⟨transitionTo_sem .., rfl⟩⟩
      · exact ⟨.inl ⟨rfl, rfl⟩, .inl ⟨rfl, rfl⟩⟩
  | recToClosed tok => cases h; exact ⟨.inr (.inr (.inr ⟨tok, rfl, rfl⟩)), .inl ⟨halfOpenToClosed_sem .., rfl⟩⟩
  | rel tok =>
    cases h
    cases tok
    · exact ⟨.inl ⟨rfl, rfl⟩, .inl ⟨rfl, rfl⟩⟩
    · exact ⟨.inl ⟨rfl, rfl⟩, .inr (.inr ⟨rfl, rfl, rfl⟩)⟩
  | done a => cases h

theorem pcStep_sem {cf : Conf} {now : Int} {b b' : Br} {o : Outcome} {pc pc' : Pc}
    (h : pcStep cf now b o pc = some (b', pc')) (hle : b.sem ≤ cf.hmax) (hh : holds pc ≤ b.sem) :
    b'.sem + holds pc = b.sem + holds pc' ∧ b'.sem ≤ cf.hmax := by
  rcases (pcStep_cases h).2 with ⟨e1, e2⟩ | ⟨hc, e1, e2, e3⟩ | ⟨e1, e2, e3⟩
  · exact ⟨by rw [e1, e2], e1 ▸ hle⟩
  · exact ⟨by rw [e1, e2, e3], e1 ▸ hc⟩
  · rw [e2] at hh
    exact ⟨by rw [e1, e2, e3, Nat.sub_add_cancel hh]; rfl, e1 ▸ Nat.le_trans (Nat.sub_le _ _) hle⟩

inductive FReach (cf : Conf) (s0 : FSys) : FSys → Prop where
  | init : FReach cf s0 s0
  | step {s s' : FSys} (l : FLabel) : FReach cf s0 s → fstep cf s l = some s' → FReach cf s0 s'

theorem fstep_cases {cf : Conf} {s s' : FSys} {l : FLabel} (h : fstep cf s l = some s') :
    (∃ d, l = .tick d ∧ s' = { s with now := s.now + d }) ∨
    ∃ tid o pc b' pc', l = .thr tid o ∧ s.pcs[tid]? = some pc ∧ pcStep cf s.now s.b o pc = some (b', pc') ∧
      s' = { s with b := b', pcs := s.pcs.set tid pc' } := by
  cases l with
  | tick d => cases h; exact .inl ⟨d, rfl, rfl⟩
  | thr tid o =>
    simp only [fstep] at h
    split at h
    · cases h
    · split at h
      · cases h
      · cases h; exact .inr ⟨tid, o, _, _, _, rfl, ‹_›, ‹_›, rfl⟩

/-- the semaphore invariant: tokens in the channel = threads holding one, never above capacity -/
def SemInv (cf : Conf) (s : FSys) : Prop := s.b.sem = tokens s.pcs ∧ s.b.sem ≤ cf.hmax

theorem semInv_step {cf : Conf} {s s' : FSys} {l : FLabel} (hi : SemInv cf s) (h : fstep cf s l = some s') :
    SemInv cf s' := by
  obtain ⟨d, -, rfl⟩ | ⟨tid, o, pc, b', pc', -, hp, hst, rfl⟩ := fstep_cases h
  · exact hi
  · have hh : holds pc ≤ s.b.sem := hi.1 ▸ holds_le_tokens hp
    obtain ⟨h1, h2⟩ := pcStep_sem hst hi.2 hh
    have h3 := tokens_set pc' hp
    have := hi.1
    exact ⟨by show b'.sem = tokens (s.pcs.set tid pc'); omega, h2⟩

theorem semInv_new (cf : Conf) (t0 : Int) (n : Nat) : SemInv cf (FSys.new cf t0 n) :=
  ⟨(sum_map_eq_zero holds fun _ hx => by rw [List.eq_of_mem_replicate hx]; rfl).symm, Nat.zero_le _⟩

theorem semInv_reach (cf : Conf) (t0 : Int) (n : Nat) (s : FSys)
    (h : FReach cf (FSys.new cf t0 n) s) : SemInv cf s := by
  induction h with
  | init => exact semInv_new cf t0 n
  | step l _ hs ih => exact semInv_step ih hs

end GoaktVerif.C47
