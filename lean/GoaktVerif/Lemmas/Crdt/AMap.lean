/-
Lemmas about the sorted association lists that model Go maps (Model/Crdt/AMap.lean):
lookup after set / erase, preservation of sortedness, and extensionality
(`AMap.ext`: sorted maps with the same lookups are equal).  Reads are `List.lookup` (`get?_eq_lookup`) and, on a sorted
map, `erase` is the filter of Lemmas/Assoc.lean (`erase_eq_filter`).
-/
import GoaktVerif.Model.Crdt.AMap
import GoaktVerif.Lemmas.Assoc
import GoaktVerif.Lemmas.ListFacts

namespace GoaktVerif.Model.Crdt

namespace AMap
variable {V : Type}

@[simp] theorem get?_nil (x : Nat) : get? ([] : AMap V) x = none := rfl

theorem get?_cons (k : Nat) (v : V) (m : AMap V) (x : Nat) :
    get? ((k, v) :: m) x = if x = k then some v else get? m x := rfl

theorem get?_eq_lookup (m : AMap V) (x : Nat) : get? m x = List.lookup x m := by
  induction m with
  | nil => rfl
  | cons p m ih => rw [get?_cons, Assoc.lookup_cons_ite, ih]

theorem nodup_keys {m : AMap V} (h : Sorted m) : (keys m).Nodup :=
  List.pairwise_map.mpr (h.imp Nat.ne_of_lt)

theorem get?_set (m : AMap V) (x y : Nat) (v : V) :
    get? (set m x v) y = if y = x then some v else get? m y := by
  -- `fun_induction f args` yields one goal per leaf of the model's definition of `f`, with every branch condition as a hypothesis
  -- and the induction hypothesis of the recursive call; `case1`, `case2`, … follow the leaves in Model/Crdt/AMap.lean.
  fun_induction set m x v
  -- the empty map; `x` below the first key: the binding is put in front
  case case1 | case2 => rfl
  -- `x` is the first key: its value is replaced
  case case3 => rw [get?_cons, get?_cons]; split <;> rfl
  -- `x` above the first key `k`: into the tail
  case case4 k _ _ x _ _ h2 ih =>
    rw [get?_cons, get?_cons, ih]
    by_cases hy : y = k
    · simp only [if_pos hy, if_neg fun e : y = x => h2 (e.symm.trans hy)]
    · simp only [if_neg hy]

theorem getD_set (m : AMap V) (x y : Nat) (v d : V) :
    getD (set m x v) y d = if y = x then v else getD m y d := by
  unfold getD; rw [get?_set]; split <;> rfl

theorem getD_of_get?_none {m : AMap V} {k : Nat} (h : get? m k = none) (d : V) : getD m k d = d := by
  unfold getD; rw [h]; rfl

theorem get?_eq_none_iff (m : AMap V) (x : Nat) : get? m x = none ↔ x ∉ keys m := by
  rw [get?_eq_lookup]; exact Assoc.lookup_eq_none_iff m x

theorem get?_eq_none_of_lt {m : AMap V} {x : Nat} (h : ∀ q ∈ m, x < q.1) : get? m x = none :=
  (get?_eq_none_iff m x).mpr fun hx => by
    obtain ⟨q, hq, e⟩ := List.mem_map.mp hx
    exact Nat.lt_irrefl _ (e ▸ h q hq)

theorem mem_of_get? {m : AMap V} {x : Nat} {v : V} (h : get? m x = some v) : (x, v) ∈ m :=
  Assoc.mem_of_lookup ((get?_eq_lookup m x).symm.trans h)

theorem sorted_cons {p : Nat × V} {m : AMap V} :
    Sorted (p :: m) ↔ (∀ q ∈ m, p.1 < q.1) ∧ Sorted m := List.pairwise_cons

theorem sorted_nil : Sorted ([] : AMap V) := List.Pairwise.nil

theorem get?_of_mem {m : AMap V} (hs : Sorted m) {x : Nat} {v : V} (h : (x, v) ∈ m) : get? m x = some v :=
  (get?_eq_lookup m x).trans (Assoc.lookup_of_mem (nodup_keys hs) h)

theorem mem_set {m : AMap V} {x : Nat} {v : V} {q : Nat × V} (h : q ∈ set m x v) : q = (x, v) ∨ q ∈ m := by
  fun_induction set m x v
  -- the empty map
  case case1 => exact Or.inl (List.mem_singleton.mp h)
  -- `x` below the first key: the binding is put in front
  case case2 => exact List.mem_cons.mp h
  -- `x` is the first key: its value is replaced
  case case3 =>
    rcases List.mem_cons.mp h with h | h
    · exact Or.inl h
    · exact Or.inr (List.mem_cons_of_mem _ h)
  -- `x` above the first key: into the tail
  case case4 ih =>
    rcases List.mem_cons.mp h with h | h
    · exact Or.inr (h ▸ List.mem_cons_self)
    · exact (ih h).imp_right (List.mem_cons_of_mem _)

theorem sorted_set {m : AMap V} (hs : Sorted m) (x : Nat) (v : V) : Sorted (set m x v) := by
  fun_induction set m x v
  -- the empty map
  case case1 => exact List.pairwise_singleton _ _
  -- `x` below the first key, hence below every key
  case case2 hlt =>
    refine sorted_cons.mpr ⟨fun q hq => ?_, hs⟩
    rcases List.mem_cons.mp hq with h | h
    · exact h ▸ hlt
    · exact Nat.lt_trans hlt ((sorted_cons.mp hs).1 q h)
  -- `x` is the first key: the keys are the same
  case case3 => exact sorted_cons.mpr (sorted_cons.mp hs :)
  -- `x` above the first key: what the tail gains is `x`
  case case4 h1 h2 ih =>
    have hs' := sorted_cons.mp hs
    refine sorted_cons.mpr ⟨fun q hq => ?_, ih hs'.2⟩
    rcases mem_set hq with h | h
    · subst h; exact Nat.lt_of_le_of_ne (Nat.le_of_not_lt h1) (Ne.symm h2)
    · exact hs'.1 q h

/-- on a map `delete` is the filter of Lemmas/Assoc.lean: the first binding of a key is its only one -/
theorem erase_eq_filter {m : AMap V} (hs : Sorted m) (x : Nat) : erase m x = m.filter fun p => p.1 != x := by
  fun_induction erase m x
  -- the empty map
  case case1 => rfl
  -- `x` is the first key: it goes, every later key is larger
  case case2 =>
    rw [List.filter_cons, if_neg (fun h => bne_iff_ne.mp h rfl)]
    exact (List.filter_eq_self.mpr fun q hq => bne_iff_ne.mpr (Nat.ne_of_gt ((sorted_cons.mp hs).1 q hq))).symm
  -- another first key: it stays, on with the tail
  case case3 e ih => rw [List.filter_cons, if_pos (bne_iff_ne.mpr (Ne.symm e)), ih (sorted_cons.mp hs).2]

theorem sorted_erase {m : AMap V} (hs : Sorted m) (x : Nat) : Sorted (erase m x) :=
  erase_eq_filter hs x ▸ hs.filter _

theorem get?_erase {m : AMap V} (hs : Sorted m) (x y : Nat) :
    get? (erase m x) y = if y = x then none else get? m y := by
  rw [erase_eq_filter hs, get?_eq_lookup, get?_eq_lookup]
  exact Assoc.lookup_del x (fun _ => bne_iff_ne) m y

/-- extensionality: a sorted association list is determined by its lookups, since it lists exactly the bindings they give -/
theorem ext {a b : AMap V} (ha : Sorted a) (hb : Sorted b) (h : ∀ x, get? a x = get? b x) : a = b :=
  sorted_ext_mem (fun _ _ h1 h2 => Nat.lt_asymm h1 h2) ha hb fun p =>
    ⟨fun hp => mem_of_get? ((h p.1).symm.trans (get?_of_mem ha hp)),
     fun hp => mem_of_get? ((h p.1).trans (get?_of_mem hb hp))⟩

theorem set_same {m : AMap V} (hm : Sorted m) (n : Nat) (v : V) (h : get? m n = some v) : set m n v = m :=
  ext (sorted_set hm n v) hm fun y => by
    rw [get?_set]
    split
    · rename_i e; rw [e, h]
    · rfl

theorem mem_keys_iff (m : AMap V) (x : Nat) : x ∈ keys m ↔ (get? m x).isSome := by
  rw [Option.isSome_iff_ne_none, Ne, get?_eq_none_iff, Decidable.not_not]

theorem get?_isSome_of_mem {m : AMap V} {q : Nat × V} (h : q ∈ m) : (get? m q.1).isSome := by
  rw [← mem_keys_iff]; exact List.mem_map_of_mem h

theorem sorted_map_val {W : Type} {m : AMap V} (h : Sorted m) (f : Nat × V → W) :
    Sorted (m.map fun p => (p.1, f p)) :=
  List.pairwise_map.mpr h

theorem get?_setOpt (m : AMap V) (k : Nat) (o : Option V) (x : Nat) :
    get? (setOpt m k o) x = if x = k then o.or (get? m x) else get? m x := by
  cases o with
  | none => exact (ite_self _).symm
  | some v => exact get?_set ..

theorem sorted_setOpt {m : AMap V} (h : Sorted m) (k : Nat) (o : Option V) : Sorted (setOpt m k o) := by
  cases o with
  | none => exact h
  | some v => exact sorted_set h k v

theorem get?_foldl_setOpt (l : List Nat) (f : Nat → Option V) (m : AMap V) (k : Nat) :
    get? (l.foldl (fun m e => setOpt m e (f e)) m) k = if k ∈ l then (f k).or (get? m k) else get? m k := by
  induction l generalizing m with
  | nil => exact (if_neg List.not_mem_nil).symm
  | cons e l ih =>
    rw [List.foldl_cons, ih, get?_setOpt]
    by_cases hke : k = e
    · subst hke
      rw [if_pos rfl, if_pos List.mem_cons_self]
      split
      · cases f k <;> rfl
      · rfl
    · rw [if_neg hke]
      by_cases hl : k ∈ l
      · rw [if_pos hl, if_pos (List.mem_cons_of_mem _ hl)]
      · rw [if_neg hl, if_neg fun h => (List.mem_cons.mp h).elim hke hl]

theorem sorted_foldl_setOpt (l : List Nat) (f : Nat → Option V) {m : AMap V} (hm : Sorted m) :
    Sorted (l.foldl (fun m e => setOpt m e (f e)) m) :=
  List.foldlRecOn l _ hm fun _ h e _ => sorted_setOpt h e (f e)

theorem get?_foldl_set (l : List (Nat × V)) (hl : Sorted l) (acc : AMap V) (x : Nat) :
    get? (l.foldl (fun m p => set m p.1 p.2) acc) x = (get? l x).or (get? acc x) := by
  induction l generalizing acc with
  | nil => rfl
  | cons p t ih =>
    have hs := sorted_cons.mp hl
    rw [List.foldl_cons, ih hs.2, get?_set, get?_cons]
    by_cases hx : x = p.1
    · rw [if_pos hx, if_pos hx, hx, get?_eq_none_of_lt hs.1]; rfl
    · rw [if_neg hx, if_neg hx]

/-- rebuilding a map from its own entry list (`ORSetFromRawState` on decoded entries) -/
theorem ofList_of_sorted (l : AMap V) (hl : Sorted l) : ofList l = l :=
  ext (List.foldlRecOn l _ sorted_nil fun _ h p _ => sorted_set h p.1 p.2) hl fun x =>
    (get?_foldl_set l hl [] x).trans Option.or_none

theorem sortedB_iff (m : AMap V) : sortedB m = true ↔ Sorted m := by
  induction m with
  | nil => exact ⟨fun _ => sorted_nil, fun _ => rfl⟩
  | cons p m ih =>
    cases m with
    | nil => exact ⟨fun _ => List.pairwise_singleton _ _, fun _ => rfl⟩
    | cons q m =>
      show (decide (p.1 < q.1) && sortedB (q :: m)) = true ↔ _
      rw [Bool.and_eq_true, decide_eq_true_eq, ih]
      constructor
      · intro ⟨h1, h2⟩
        refine sorted_cons.mpr ⟨fun r hr => ?_, h2⟩
        rcases List.mem_cons.mp hr with h | h
        · exact h ▸ h1
        · exact Nat.lt_trans h1 ((sorted_cons.mp h2).1 r h)
      · exact fun h => ⟨(sorted_cons.mp h).1 q List.mem_cons_self, (sorted_cons.mp h).2⟩

instance (m : AMap V) : Decidable (Sorted m) := decidable_of_iff _ (sortedB_iff m)

end AMap
end GoaktVerif.Model.Crdt
