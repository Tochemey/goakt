/-
Dot lists: `containsDot`, the filter loop shared by ORSet.Merge / MVRegister.Merge (`keepLoopG`),
the rule by which a dot survives a merge (`keeps`) with its algebra, strictly sorted key lists, and the
observation of a dot store (`OsCore`: clock function, holds relation) with its join `osJoin` and order `osLe`.
The observations (these, and `osCoreOf`, `mvCoreOf`, `LwCore`, `lwJoin` in Lemmas/C38) are in namespace `GoaktVerif.C39`,
whose semilattices and statements are over them.
-/
import GoaktVerif.Lemmas.Crdt.Merge
import GoaktVerif.Model.Crdt.ORSet

namespace GoaktVerif.Model.Crdt
open AMap

theorem dotBeq_iff (a b : Dot) : (a.nodeID == b.nodeID && a.counter == b.counter) = true ↔ a = b := by
  obtain ⟨n1, c1⟩ := a
  obtain ⟨n2, c2⟩ := b
  rw [Bool.and_eq_true, beq_iff_eq, beq_iff_eq, Dot.mk.injEq]

/-- `containsDot` / `containsMVDot` on a list of elements that carry a dot -/
theorem hasDot_iff {α : Type} (dot : α → Dot) (l : List α) (t : Dot) :
    (l.any fun x => (dot x).nodeID == t.nodeID && (dot x).counter == t.counter) = true ↔ ∃ f ∈ l, dot f = t := by
  rw [List.any_eq_true]
  simp only [dotBeq_iff]

theorem containsDot_iff (l : List Dot) (d : Dot) : containsDot l d = true ↔ d ∈ l :=
  (hasDot_iff id l d).trans ⟨fun ⟨x, hx, e⟩ => (show x = d from e) ▸ hx, fun h => ⟨d, h, rfl⟩⟩

theorem isDominated_iff (d : Dot) (c : AMap Nat) : isDominated d c = true ↔ d.counter ≤ c.getD d.nodeID 0 :=
  decide_eq_true_iff

theorem keepTest_iff (d : Dot) (c : AMap Nat) (b : Bool) :
    (!isDominated d c || b) = true ↔ ¬ d.counter ≤ c.getD d.nodeID 0 ∨ b = true := by
  rw [Bool.or_eq_true, Bool.not_eq_true', ← Bool.not_eq_true, isDominated_iff]

/-- membership in a fold of an append-if-new step; the step need be characterised only on accumulators made of
    elements of `acc` and `l` -/
theorem mem_foldl_append {α : Type} {app : List α → α → List α} {l acc : List α}
    (happ : ∀ acc' d, d ∈ l → (∀ y ∈ acc', y ∈ acc ∨ y ∈ l) → ∀ x, x ∈ app acc' d ↔ x ∈ acc' ∨ x = d) (x : α) :
    x ∈ l.foldl app acc ↔ x ∈ acc ∨ x ∈ l := by
  induction l generalizing acc with
  | nil => exact ⟨Or.inl, fun h => h.elim id fun h => nomatch h⟩
  | cons d l ih =>
    have hd := happ acc d List.mem_cons_self fun y hy => Or.inl hy
    rw [List.foldl_cons, ih, hd, List.mem_cons, or_assoc]
    intro acc' d' hd' hsub
    refine happ acc' d' (List.mem_cons_of_mem _ hd') fun y hy => ?_
    rcases hsub y hy with h | h
    · exact ((hd y).mp h).imp_right fun e : y = d => e ▸ List.mem_cons_self
    · exact Or.inr (List.mem_cons_of_mem _ h)

/-- The filter loop of ORSet.Merge (`ORSet.keptLoop`: `α = Dot`, `dot = id`) and of MVRegister.Merge
    (`MVRegister.keepLoop`: `α = MvEntry`): both unfold to it.  An element of `mine` is appended, unless an element
    with its dot is there already, when the other side has not seen its dot or holds it. -/
def keepLoopG {α : Type} (dot : α → Dot) (acc mine : List α) (oc : AMap Nat) (od : List α) : List α :=
  mine.foldl (fun acc e =>
    if !isDominated (dot e) oc || od.any (fun x => (dot x).nodeID == (dot e).nodeID && (dot x).counter == (dot e).counter)
    then (if acc.any (fun x => (dot x).nodeID == (dot e).nodeID && (dot x).counter == (dot e).counter) then acc
      else acc ++ [e])
    else acc) acc

theorem mem_keepLoopG {α : Type} (dot : α → Dot) (acc mine : List α) (oc : AMap Nat) (od : List α)
    (hf : ∀ a ∈ acc ++ mine, ∀ b ∈ acc ++ mine, dot a = dot b → a = b) (x : α) :
    x ∈ keepLoopG dot acc mine oc od ↔
      x ∈ acc ∨ (x ∈ mine ∧ (¬ (dot x).counter ≤ oc.getD (dot x).nodeID 0 ∨ ∃ f ∈ od, dot f = dot x)) := by
  have sub : ∀ {y l}, y ∈ acc ∨ y ∈ List.filter l mine → y ∈ acc ++ mine := fun h =>
    List.mem_append.mpr (h.imp_right fun h => (List.mem_filter.mp h).1)
  unfold keepLoopG
  rw [← List.foldl_filter, mem_foldl_append, List.mem_filter, keepTest_iff, hasDot_iff]
  intro acc' d hd hsub x
  -- an element of `acc'` with the dot of `d` is `d`
  split
  · rename_i h
    obtain ⟨a, ha, had⟩ := (hasDot_iff dot acc' (dot d)).mp h
    exact ⟨Or.inl, fun h => h.elim id fun e => e ▸ hf a (sub (hsub a ha)) d (sub (Or.inr hd)) had ▸ ha⟩
  · rw [List.mem_append, List.mem_singleton]

theorem mem_keptLoop (acc mine : List Dot) (oc : AMap Nat) (od : List Dot) (x : Dot) :
    x ∈ ORSet.keptLoop acc mine oc od ↔
      x ∈ acc ∨ (x ∈ mine ∧ (¬ x.counter ≤ oc.getD x.nodeID 0 ∨ x ∈ od)) :=
  (mem_keepLoopG id acc mine oc od (fun _ _ _ _ h => h) x).trans (or_congr_right (and_congr_right fun _ =>
    or_congr_right ⟨fun ⟨f, hf, e⟩ => (show f = x from e) ▸ hf, fun h => ⟨x, h, rfl⟩⟩))

/-- A dot with counter `c` survives the merge of two dot stores iff one side holds it (`pa`, `pb`) and the
    other side holds it too or has not seen it (`ca`, `cb`: the sides' clock entries for the dot's node).
    Both ORSet.Merge (per element) and MVRegister.Merge act by this rule, with the clocks merged by `max`. -/
def keeps (pa pb : Prop) (ca cb c : Nat) : Prop := (pa ∧ (¬ c ≤ cb ∨ pb)) ∨ (pb ∧ (¬ c ≤ ca ∨ pa))

theorem keeps_comm {pa pb : Prop} {ca cb c : Nat} : keeps pa pb ca cb c ↔ keeps pb pa cb ca c := Or.comm

theorem keeps_self {p : Prop} {ca c : Nat} : keeps p p ca ca c ↔ p :=
  ⟨fun h => h.elim And.left And.left, fun h => Or.inl ⟨h, Or.inr h⟩⟩

theorem keeps_left {pa pb : Prop} {ca cb c : Nat} (h : keeps pa pb ca cb c) : ¬ c ≤ ca ∨ pa :=
  h.elim (fun h => Or.inr h.1) And.right

theorem keeps_right {pa pb : Prop} {ca cb c : Nat} (h : keeps pa pb ca cb c) : ¬ c ≤ cb ∨ pb :=
  keeps_left (keeps_comm.mp h)

theorem keeps_sub {pa pb : Prop} {ca cb c : Nat} (h : keeps pa pb ca cb c) : pa ∨ pb := h.imp And.left And.left

theorem keeps_assoc {pa pb pc : Prop} {ca cb cc c : Nat} :
    keeps (keeps pa pb ca cb c) pc (max ca cb) cc c ↔ keeps pa (keeps pb pc cb cc c) ca (max cb cc) c := by
  -- both sides say: some store holds the dot, and each store that has seen it (c ≤ its clock) holds it
  unfold keeps
  grind

/-- the dots Merge keeps for one element -/
theorem mem_kept (s o : ORSet) (e : Nat) (x : Dot) :
    x ∈ ORSet.kept s o e ↔
      keeps (x ∈ s.dotsOf e) (x ∈ o.dotsOf e) (s.clock.getD x.nodeID 0) (o.clock.getD x.nodeID 0) x.counter := by
  unfold ORSet.kept keeps
  rw [mem_keptLoop, mem_keptLoop]
  simp only [List.not_mem_nil, false_or]

theorem sortedNat_ext {a b : List Nat} (ha : a.Pairwise (· < ·)) (hb : b.Pairwise (· < ·))
    (h : ∀ x, x ∈ a ↔ x ∈ b) : a = b := sorted_ext_mem (fun _ _ => Nat.lt_asymm) ha hb h

end GoaktVerif.Model.Crdt

namespace GoaktVerif.C39
open GoaktVerif.Model.Crdt

/-- observation of an OR-set: clock as a function, (element, dot) membership as a relation -/
abbrev OsCore := (Nat → Nat) × (Nat → Dot → Prop)

/-- the merge rule on observations: clocks by `max`, dots by `keeps` (its body written out: the `keeps_*` lemmas apply to
    `osJoin` up to unfolding) -/
def osJoin (a b : OsCore) : OsCore :=
  (fun n => max (a.1 n) (b.1 n),
   fun e d => (a.2 e d ∧ (¬ d.counter ≤ b.1 d.nodeID ∨ b.2 e d)) ∨ (b.2 e d ∧ (¬ d.counter ≤ a.1 d.nodeID ∨ a.2 e d)))

theorem osJoin_comm (a b : OsCore) : osJoin a b = osJoin b a :=
  Prod.ext (funext fun _ => Nat.max_comm ..) (funext fun _ => funext fun _ => propext keeps_comm)

theorem osJoin_idem (a : OsCore) : osJoin a a = a :=
  Prod.ext (funext fun _ => Nat.max_self _) (funext fun _ => funext fun _ => propext keeps_self)

theorem osJoin_assoc (a b c : OsCore) : osJoin (osJoin a b) c = osJoin a (osJoin b c) :=
  Prod.ext (funext fun _ => Nat.max_assoc ..) (funext fun _ => funext fun _ => propext keeps_assoc)

/-- The order of which `osJoin` is the join: `a` has seen at least what `s` has seen, and every dot `a` holds is held
    by `s` or unseen by `s` (nothing that `s` saw and dropped comes back).  On OR-sets it is `Spec.C38.leOS`, on
    MV registers `Spec.C38.leMV`. -/
def osLe (s a : OsCore) : Prop :=
  (∀ n, s.1 n ≤ a.1 n) ∧ ∀ e d, a.2 e d → ¬ d.counter ≤ s.1 d.nodeID ∨ s.2 e d

theorem osLe_join_left (a b : OsCore) : osLe a (osJoin a b) :=
  ⟨fun _ => Nat.le_max_left .., fun _ _ h => keeps_left h⟩

theorem osLe_join_right (a b : OsCore) : osLe b (osJoin a b) :=
  ⟨fun _ => Nat.le_max_right .., fun _ _ h => keeps_right h⟩

theorem osJoin_of_le {s a : OsCore} (hs : ∀ e d, s.2 e d → d.counter ≤ s.1 d.nodeID) (h : osLe s a) : osJoin s a = a :=
  Prod.ext (funext fun n => Nat.max_eq_right (h.1 n)) (funext fun e => funext fun d => propext
    ⟨fun hk => hk.elim (fun hk => hk.2.elim (fun hn => absurd (Nat.le_trans (hs e d hk.1) (h.1 _)) hn) id) And.left,
     fun hk => Or.inr ⟨hk, h.2 e d hk⟩⟩)

end GoaktVerif.C39
