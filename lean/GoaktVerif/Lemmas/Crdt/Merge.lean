/-
Characterisation of the two map-merge loops of the crdt package:
`mergeMax` (GCounter.Merge) and `mergeClock` (MVRegister.Merge, ORSet.Merge).
-/
import GoaktVerif.Lemmas.Crdt.AMap

namespace GoaktVerif.Model.Crdt
open AMap

theorem foldl_pointwise {β : Type} {stp : AMap Nat → Nat × Nat → AMap Nat} {obs : AMap Nat → Nat → β}
    {f : β → Nat → β}
    (hstp : ∀ m p k, obs (stp m p) k = if k = p.1 then f (obs m p.1) p.2 else obs m k)
    (a : AMap Nat) {b : AMap Nat} (hb : Sorted b) (k : Nat) :
    obs (b.foldl stp a) k = match get? b k with
      | some v => f (obs a k) v
      | none => obs a k := by
  induction b generalizing a with
  | nil => rfl
  | cons p b ih =>
    obtain ⟨k0, v0⟩ := p
    have hb' := sorted_cons.mp hb
    rw [List.foldl_cons, ih _ hb'.2, hstp, get?_cons]
    by_cases hk : k = k0
    · subst hk; rw [get?_eq_none_of_lt hb'.1, if_pos rfl, if_pos rfl]
    · simp only [if_neg hk]

/-- pointwise join of two optional slots -/
def optMax : Option Nat → Option Nat → Option Nat
  | none, none => none
  | some x, none => some x
  | none, some y => some y
  | some x, some y => some (max x y)

theorem optMax_comm (a b : Option Nat) : optMax a b = optMax b a := by
  cases a <;> cases b <;> simp only [optMax, Nat.max_comm]

theorem optMax_assoc (a b c : Option Nat) : optMax (optMax a b) c = optMax a (optMax b c) := by
  cases a <;> cases b <;> cases c <;> simp only [optMax, Nat.max_assoc]

theorem optMax_idem (a : Option Nat) : optMax a a = a := by
  cases a <;> simp only [optMax, Nat.max_self]

theorem optMax_none (a : Option Nat) : optMax a none = a := by cases a <;> rfl

/-- one iteration of GCounter.Merge's loop -/
def maxStep (m : AMap Nat) (p : Nat × Nat) : AMap Nat :=
  match AMap.get? m p.1 with
  | none => AMap.set m p.1 p.2
  | some lv => if p.2 > lv then AMap.set m p.1 p.2 else m

theorem mergeMax_eq (a b : AMap Nat) : mergeMax a b = b.foldl maxStep a := rfl

theorem get?_maxStep (m : AMap Nat) (p : Nat × Nat) (k : Nat) :
    get? (maxStep m p) k = if k = p.1 then optMax (get? m p.1) (some p.2) else get? m k := by
  -- `fun_cases f args` yields one goal per leaf of the definition of `f`, with every branch condition and match equation as
  -- hypotheses; `case1`, `case2`, … follow the order of the leaves of `maxStep` and `raise` above.
  fun_cases maxStep m p
  -- the node is new: its count is set
  case case1 h => rw [h]; exact get?_set ..
  -- the peer's count is larger: it is set
  case case2 lv h hgt =>
    rw [h, get?_set]
    show _ = if k = p.1 then some (max lv p.2) else _
    rw [Nat.max_eq_right (Nat.le_of_lt hgt)]
  -- the local count is at least the peer's: nothing changes
  case case3 lv h hle =>
    split
    · rw [‹k = p.1›, h]; exact congrArg some (Nat.max_eq_left (Nat.le_of_not_lt hle)).symm
    · rfl

theorem maxStep_ne_nil (m : AMap Nat) (p : Nat × Nat) : maxStep m p ≠ [] := fun h => by
  have := get?_maxStep m p p.1
  rw [h, if_pos rfl] at this
  cases hg : get? m p.1 <;> rw [hg] at this <;> cases this

theorem mem_maxStep {m : AMap Nat} {p q : Nat × Nat} (h : q ∈ maxStep m p) : q = p ∨ q ∈ m := by
  unfold maxStep at h
  split at h
  · exact mem_set h
  · split at h
    · exact mem_set h
    · exact Or.inr h

theorem sorted_maxStep {m : AMap Nat} (h : Sorted m) (p : Nat × Nat) : Sorted (maxStep m p) := by
  fun_cases maxStep m p
  -- the node is new, or the peer's count is larger: the count is set
  case case1 | case2 => exact sorted_set h _ _
  -- the local count is at least the peer's: nothing changes
  case case3 => exact h

theorem sorted_mergeMax {a : AMap Nat} (ha : Sorted a) (b : AMap Nat) : Sorted (mergeMax a b) :=
  List.foldlRecOn b maxStep ha fun _ hm p _ => sorted_maxStep hm p

theorem get?_mergeMax (a : AMap Nat) {b : AMap Nat} (hb : Sorted b) (k : Nat) :
    get? (mergeMax a b) k = optMax (get? a k) (get? b k) := by
  rw [mergeMax_eq, foldl_pointwise (f := fun o v => optMax o (some v)) get?_maxStep a hb]
  cases get? b k with
  | none => exact (optMax_none _).symm
  | some v => rfl

theorem mergeMax_nil_left {a : AMap Nat} (ha : Sorted a) : mergeMax [] a = a :=
  AMap.ext (sorted_mergeMax sorted_nil a) ha fun x => by
    rw [get?_mergeMax _ ha]
    cases get? a x <;> rfl

/-- `if v > m[k] { m[k] = v }` on a version vector (absent = 0): the step of the clock-merge loop and
    of both loops of ORSet.Delta -/
def raise (m : AMap Nat) (k v : Nat) : AMap Nat := if v > getD m k 0 then set m k v else m

theorem getD_raise (m : AMap Nat) (k v n : Nat) :
    getD (raise m k v) n 0 = if n = k then max (getD m k 0) v else getD m n 0 := by
  fun_cases raise m k v
  -- `v` is larger: it is set
  case case1 hgt => rw [AMap.getD_set, Nat.max_eq_right (Nat.le_of_lt hgt)]
  -- `v` is not larger: nothing changes
  case case2 hle =>
    split
    · rw [‹n = k›, Nat.max_eq_left (Nat.le_of_not_lt hle)]
    · rfl

theorem raise_mono (m : AMap Nat) (k v n : Nat) : getD m n 0 ≤ getD (raise m k v) n 0 := by
  rw [getD_raise]
  split
  · rw [‹n = k›]; exact Nat.le_max_left ..
  · exact Nat.le_refl _

theorem raise_ge (m : AMap Nat) (k v : Nat) : v ≤ getD (raise m k v) k 0 := by
  rw [getD_raise, if_pos rfl]; exact Nat.le_max_right ..

theorem sorted_raise {m : AMap Nat} (h : Sorted m) (k v : Nat) : Sorted (raise m k v) := by
  fun_cases raise m k v
  -- `v` is larger: it is set
  case case1 => exact sorted_set h _ _
  -- `v` is not larger: nothing changes
  case case2 => exact h

theorem mergeClock_eq (a b : AMap Nat) : mergeClock a b = b.foldl (fun m p => raise m p.1 p.2) a := rfl

theorem sorted_mergeClock {a : AMap Nat} (ha : Sorted a) (b : AMap Nat) : Sorted (mergeClock a b) :=
  List.foldlRecOn b _ ha fun _ hm p _ => sorted_raise hm p.1 p.2

theorem getD_mergeClock (a : AMap Nat) {b : AMap Nat} (hb : Sorted b) (k : Nat) :
    getD (mergeClock a b) k 0 = max (getD a k 0) (getD b k 0) := by
  rw [mergeClock_eq, foldl_pointwise (obs := fun m k => getD m k 0) (f := max)
    (fun m p k => getD_raise m p.1 p.2 k) a hb]
  unfold getD
  cases get? b k with
  | none => exact (Nat.max_zero _).symm
  | some v => rfl

end GoaktVerif.Model.Crdt
