/-
Join-semilattices with unit on the well-formed elements of a carrier (`Semi`) and the join `J` of a list, which depends only
on the SET of its elements; the algebra under C39's replication invariant.
-/
namespace GoaktVerif.C39

structure Semi (C : Type) where
  join : C → C → C
  bot : C
  WF : C → Prop
  wf_bot : WF bot
  wf_join : ∀ a b, WF a → WF b → WF (join a b)
  comm : ∀ a b, WF a → WF b → join a b = join b a
  assoc : ∀ a b c, WF a → WF b → WF c → join (join a b) c = join a (join b c)
  idem : ∀ a, WF a → join a a = a
  bot_join : ∀ a, WF a → join bot a = a

variable {C : Type} (S : Semi C)

/-- the join of a list, folded left to right from the unit — the order in which a replica that
    starts empty merges what arrives -/
def J (l : List C) : C := l.foldl S.join S.bot

theorem join_bot (a : C) (h : S.WF a) : S.join a S.bot = a := by
  rw [S.comm a S.bot h S.wf_bot, S.bot_join a h]

theorem wf_foldl (a : C) (l : List C) (ha : S.WF a) (hl : ∀ x ∈ l, S.WF x) : S.WF (l.foldl S.join a) :=
  List.foldlRecOn l S.join ha fun b hb x hx => S.wf_join b x hb (hl x hx)

theorem wf_J (l : List C) (hl : ∀ x ∈ l, S.WF x) : S.WF (J S l) := wf_foldl S _ l S.wf_bot hl

theorem foldl_eq (a : C) (l : List C) (ha : S.WF a) (hl : ∀ x ∈ l, S.WF x) :
    l.foldl S.join a = S.join a (J S l) := by
  induction l generalizing a with
  | nil => exact (join_bot S a ha).symm
  | cons x t ih =>
    have hx := hl x List.mem_cons_self
    have ht : ∀ y ∈ t, S.WF y := fun y hy => hl y (List.mem_cons_of_mem _ hy)
    simp only [List.foldl_cons, J]
    rw [ih (S.join a x) (S.wf_join a x ha hx) ht, ih (S.join S.bot x) (S.wf_join _ _ S.wf_bot hx) ht,
      S.bot_join x hx, S.assoc a x (J S t) ha hx (wf_J S t ht)]

theorem J_cons (x : C) (t : List C) (hx : S.WF x) (ht : ∀ y ∈ t, S.WF y) :
    J S (x :: t) = S.join x (J S t) := by
  simp only [J, List.foldl_cons]
  rw [foldl_eq S _ t (S.wf_join _ _ S.wf_bot hx) ht, S.bot_join x hx]
  rfl

/-- merging what arrived in two batches = merging the two joins -/
theorem J_append (l1 l2 : List C) (h1 : ∀ x ∈ l1, S.WF x) (h2 : ∀ x ∈ l2, S.WF x) :
    J S (l1 ++ l2) = S.join (J S l1) (J S l2) := by
  simp only [J, List.foldl_append]
  exact foldl_eq S _ l2 (wf_J S l1 h1) h2

theorem J_snoc (l : List C) (x : C) (hl : ∀ y ∈ l, S.WF y) (hx : S.WF x) :
    J S (l ++ [x]) = S.join (J S l) x := by
  rw [J_append S l [x] hl (fun y hy => List.mem_singleton.mp hy ▸ hx)]
  exact congrArg _ (S.bot_join x hx)

/-- every element is below the join -/
theorem J_absorb (l : List C) (hl : ∀ x ∈ l, S.WF x) (x : C) (hx : x ∈ l) : S.join x (J S l) = J S l := by
  induction l with
  | nil => cases hx
  | cons y t ih =>
    have hy := hl y List.mem_cons_self
    have ht : ∀ z ∈ t, S.WF z := fun z hz => hl z (List.mem_cons_of_mem _ hz)
    have hJt := wf_J S t ht
    rw [J_cons S y t hy ht]
    rcases List.mem_cons.mp hx with rfl | hxt
    · rw [← S.assoc x x _ hy hy hJt, S.idem x hy]
    · have hxw := ht x hxt
      rw [← S.assoc x y _ hxw hy hJt, S.comm x y hxw hy, S.assoc y x _ hy hxw hJt, ih ht hxt]

/-- the join is the LEAST upper bound -/
theorem J_least (l : List C) (hl : ∀ x ∈ l, S.WF x) (u : C) (hu : S.WF u)
    (h : ∀ x ∈ l, S.join x u = u) : S.join (J S l) u = u := by
  induction l with
  | nil => exact S.bot_join u hu
  | cons y t ih =>
    have hy := hl y List.mem_cons_self
    have ht : ∀ z ∈ t, S.WF z := fun z hz => hl z (List.mem_cons_of_mem _ hz)
    rw [J_cons S y t hy ht, S.assoc y _ u hy (wf_J S t ht) hu,
      ih ht (fun x hx => h x (List.mem_cons_of_mem _ hx)), h y List.mem_cons_self]

theorem J_mono (l1 l2 : List C) (h1 : ∀ x ∈ l1, S.WF x) (h2 : ∀ x ∈ l2, S.WF x)
    (hsub : ∀ x ∈ l1, x ∈ l2) : S.join (J S l1) (J S l2) = J S l2 :=
  J_least S l1 h1 _ (wf_J S l2 h2) (fun x hx => J_absorb S l2 h2 x (hsub x hx))

/-- any order, any duplication: the join depends only on the set of elements -/
theorem J_sameSet (l1 l2 : List C) (h1 : ∀ x ∈ l1, S.WF x) (h2 : ∀ x ∈ l2, S.WF x)
    (h12 : ∀ x ∈ l1, x ∈ l2) (h21 : ∀ x ∈ l2, x ∈ l1) : J S l1 = J S l2 := by
  have a := J_mono S l1 l2 h1 h2 h12
  have b := J_mono S l2 l1 h2 h1 h21
  rw [S.comm _ _ (wf_J S l2 h2) (wf_J S l1 h1)] at b
  rw [← a, b]

end GoaktVerif.C39
