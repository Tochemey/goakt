/-
The lock-free behaviour stack at atomic granularity (Model/C14/Conc.lean).  Every `next` points to an older node, so the walk
from `top` is a function of (top, heap) that appending a node does not disturb; on that rest the invariant `Inv` of every
step, the effect of each step on the abstract stack (`abs_exec`) and the balance length + pending − depth (`len_exec`).
-/
import GoaktVerif.Model.C14.Conc
import GoaktVerif.Lemmas.ListFacts
import GoaktVerif.Lemmas.Run

namespace GoaktVerif.C14.Conc
open GoaktVerif.Model.C14.Conc

/-- every `next` points to an older (smaller) address: the chain is acyclic and immutable -/
def HeapWF (heap : List Node) : Prop :=
  ∀ (a : Nat) (nd : Node), heap[a]? = some nd → ∀ j, nd.next = some j → j < a

def PtrOK (heap : List Node) (o : Option Nat) : Prop := ∀ a, o = some a → a < heap.length

section
variable {heap : List Node}

theorem chain_none (f : Nat) : chain heap f none = [] := by
  cases f <;> rfl

/-- the walk from `o` reads only addresses up to `o`: neither what a heap holds behind them nor fuel beyond them matters -/
theorem chain_stable (hw : HeapWF heap) {heap' : List Node} (hp : ∀ a, a < heap.length → heap'[a]? = heap[a]?)
    {f f' : Nat} {o : Option Nat} (h : ∀ a, o = some a → a < heap.length ∧ a < f ∧ a < f') :
    chain heap' f o = chain heap f' o := by
  induction f generalizing o f' with
  | zero => cases o with
    | none => exact (chain_none f').symm
    | some a => exact absurd (h a rfl).2.1 (Nat.not_lt_zero a)
  | succ f ih =>
    cases o with
    | none => exact (chain_none f').symm
    | some a =>
      obtain ⟨ha, h1, h2⟩ := h a rfl
      obtain ⟨f', rfl⟩ : ∃ g, f' = g + 1 := ⟨f' - 1, (Nat.sub_add_cancel (Nat.zero_lt_of_lt h2)).symm⟩
      rw [chain, chain, hp a ha]
      cases hx : heap[a]? with
      | none => rfl
      | some x =>
        refine congrArg (x.val :: ·) (ih fun j hj => ?_)
        have hlt := hw a x hx j hj
        exact ⟨Nat.lt_trans hlt ha, Nat.lt_of_lt_of_le hlt (Nat.le_of_lt_succ h1), Nat.lt_of_lt_of_le hlt (Nat.le_of_lt_succ h2)⟩

end

def ThrOK (heap : List Node) (t : Thread) : Prop :=
  match t.pc with
  | some (.pushCAS _ o) => PtrOK heap o
  | some (.popNext a) => a < heap.length
  | some (.popCAS a n) => a < heap.length ∧ n = nextAt heap a
  | _ => True

structure Inv (c : Cfg) : Prop where
  heap : HeapWF c.heap
  top : PtrOK c.heap c.top
  thr : ∀ t ∈ c.threads, ThrOK c.heap t

theorem startNext_pc (t : Thread) : (startNext t).pc = none ∨ ∃ op, (startNext t).pc = some (pcOf op) := by
  unfold startNext
  cases t.todo with
  | nil => exact .inl rfl
  | cons op r => exact .inr ⟨op, rfl⟩

section
variable {heap : List Node}

theorem startNext_ok {t : Thread} : ThrOK heap (startNext t) := by
  unfold ThrOK
  rcases startNext_pc t with h | ⟨op, h⟩
  · rw [h]; trivial
  · rw [h]; cases op <;> trivial

theorem finish_ok {t : Thread} {r : Res} : ThrOK heap (finish t r) := startNext_ok

theorem lt_append {a : Nat} (nd : Node) (h : a < heap.length) : a < (heap ++ [nd]).length := by
  rw [List.length_append]; exact Nat.lt_add_right 1 h

theorem heapWF_append {b : Nat} {o : Option Nat} (hw : HeapWF heap) (ho : PtrOK heap o) :
    HeapWF (heap ++ [⟨b, o⟩]) := by
  intro a nd ha j hj
  by_cases hlt : a < heap.length
  · exact hw a nd (List.getElem?_append_left hlt ▸ ha) j hj
  · rw [List.getElem?_append_right (Nat.not_lt.1 hlt), List.getElem?_singleton] at ha
    split at ha
    · cases ha; exact Nat.lt_of_lt_of_le (ho j hj) (Nat.not_lt.1 hlt)
    · cases ha

theorem nextAt_append (nd : Node) (a : Nat) (ha : a < heap.length) :
    nextAt (heap ++ [nd]) a = nextAt heap a := by
  rw [nextAt, List.getElem?_append_left ha]; rfl

theorem thrOK_append {nd : Node} {t : Thread} (h : ThrOK heap t) : ThrOK (heap ++ [nd]) t := by
  obtain ⟨pc, todo, hist⟩ := t
  cases pc with
  | none => trivial
  | some pc =>
    cases pc with
    | pushCAS _ o => exact fun a ha => lt_append nd (h a ha)
    | popNext a => exact lt_append nd h
    | popCAS a n => exact ⟨lt_append nd h.1, h.2.trans (nextAt_append _ _ h.1).symm⟩
    | _ => trivial

theorem nextAt_ok (hw : HeapWF heap) (a : Nat) (ha : a < heap.length) : PtrOK heap (nextAt heap a) := by
  intro j hj
  unfold nextAt at hj
  cases hx : heap[a]? with
  | none => rw [hx] at hj; cases hj
  | some x => rw [hx] at hj; exact Nat.lt_trans (hw a x hx j hj) ha

end

section
variable (c : Cfg) (t : Thread) (pc : Pc)

theorem exec_inv (hi : Inv c) (ht : ThrOK c.heap { t with pc := some pc }) :
    HeapWF (exec c t pc).2.2.1 ∧ PtrOK (exec c t pc).2.2.1 (exec c t pc).1
    ∧ ThrOK (exec c t pc).2.2.1 (exec c t pc).2.2.2
    ∧ (∀ u, ThrOK c.heap u → ThrOK (exec c t pc).2.2.1 u) := by
  obtain ⟨hw, htop, _⟩ := hi
  -- `fun_cases exec c t pc` yields one goal per leaf of the model's definition, with the pc substituted and every branch
  -- condition as a hypothesis; `case1`, `case2`, … follow the order of the leaves of `exec` in Model/C14/Conc.lean.
  fun_cases exec c t pc
  -- `pushLoad`: the top it reads is in the heap
  case case1 => exact ⟨hw, htop, htop, fun _ hu => hu⟩
  -- `pushCAS` won: the new node, linked to the old top, is appended to the heap
  case case2 =>
    exact ⟨heapWF_append hw ht, fun a ha => by cases ha; rw [List.length_append]; exact Nat.lt_succ_self _,
      trivial, fun _ hu => thrOK_append hu⟩
  -- `pushCAS`, `popCAS` lost: back to the load
  case case3 | case9 => exact ⟨hw, htop, trivial, fun _ hu => hu⟩
  -- `pushAdd`, `popLoad` on an empty stack, `popAdd`, `peekLoad`, `lenLoad`, `resetLen`: the operation returns
  case case4 | case5 | case10 | case11 | case12 | case14 => exact ⟨hw, htop, finish_ok, fun _ hu => hu⟩
  -- `popLoad` on a non-empty stack: the top it reads is in the heap
  case case6 a ha => exact ⟨hw, htop, htop a ha, fun _ hu => hu⟩
  -- `popNext`
  case case7 => exact ⟨hw, htop, ⟨ht, rfl⟩, fun _ hu => hu⟩
  -- `popCAS` won: the new top is the `next` read at `popNext`
  case case8 a n _ => exact ⟨hw, ht.2 ▸ nextAt_ok hw a ht.1, trivial, fun _ hu => hu⟩
  -- `resetTop`
  case case13 => exact ⟨hw, (fun _ ha => nomatch ha), trivial, fun _ hu => hu⟩

theorem inv_init (progs : List (List Op)) : Inv (init progs) :=
  ⟨(fun _ _ ha => nomatch ha), (fun _ ha => nomatch ha), fun t ht => by
    obtain ⟨p, _, rfl⟩ := List.mem_map.1 ht
    exact startNext_ok⟩

theorem step_cases (tid : Nat) :
    step c tid = c ∨ ∃ t pc, c.threads[tid]? = some t ∧ t.pc = some pc ∧
      step c tid = { top := (exec c t pc).1, length := (exec c t pc).2.1, heap := (exec c t pc).2.2.1,
                     threads := c.threads.set tid (exec c t pc).2.2.2 } := by
  unfold step
  cases hth : c.threads[tid]? with
  | none => exact .inl rfl
  | some t =>
    simp only
    cases hpc : t.pc with
    | none => exact .inl rfl
    | some pc => exact .inr ⟨t, pc, rfl, hpc, rfl⟩

theorem Inv.thrOK_at {c : Cfg} (hi : Inv c) {tid : Nat} {t : Thread} {pc : Pc} (hth : c.threads[tid]? = some t)
    (hpc : t.pc = some pc) : ThrOK c.heap { t with pc := some pc } := by
  have := hi.thr t (List.mem_of_getElem? hth)
  unfold ThrOK at this
  rw [hpc] at this
  exact this

theorem inv_step (c : Cfg) (tid : Nat) (hi : Inv c) : Inv (step c tid) := by
  rcases step_cases c tid with h | ⟨t, pc, hth, hpc, h⟩ <;> rw [h]
  · exact hi
  · obtain ⟨h1, h2, h3, h4⟩ := exec_inv c t pc hi (hi.thrOK_at hth hpc)
    exact ⟨h1, h2, fun u hu => (List.mem_or_eq_of_mem_set hu).elim (fun hu => h4 u (hi.thr u hu)) fun e => e ▸ h3⟩

theorem inv_run (sched : List Nat) (hi : Inv c) : Inv (run c sched) :=
  Run.inv' (fun _ => rfl) (fun _ _ _ => rfl) (fun c t => inv_step c t) sched c hi

def absOf (top : Option Nat) (heap : List Node) : List Nat := chain heap heap.length top

theorem abs_eq_absOf (c : Cfg) : abs c = absOf c.top c.heap := rfl

theorem absOf_none (heap : List Node) : absOf none heap = [] := chain_none _

/-- a node linked on top of `o` sits at `heap.length`; below it the chain is the old one -/
theorem absOf_link {heap : List Node} {o : Option Nat} (hw : HeapWF heap) (ho : PtrOK heap o) (b : Nat) :
    absOf (some heap.length) (heap ++ [⟨b, o⟩]) = b :: absOf o heap := by
  rw [absOf, List.length_append, List.length_singleton, chain, List.getElem?_append_right (Nat.le_refl _), Nat.sub_self]
  exact congrArg (b :: ·) (chain_stable hw (fun _ ha => List.getElem?_append_left ha) fun a ha => ⟨ho a ha, ho a ha, ho a ha⟩)

/-- the sequential-stack operation a step performs (its linearization point), if any -/
def effect (c : Cfg) : Pc → List Nat → List Nat
  | .pushCAS b old => if c.top = old then (b :: ·) else id
  | .popCAS a _ => if c.top = some a then List.tail else id
  | .resetTop => fun _ => []
  | _ => id

theorem abs_pop (hi : Inv c) (a : Nat) (htop : c.top = some a) :
    abs c = valAt c.heap a :: absOf (nextAt c.heap a) c.heap := by
  have ha := hi.top a htop
  have hx : c.heap[a]? = some c.heap[a] := List.getElem?_eq_getElem ha
  rw [abs_eq_absOf, htop]
  unfold absOf valAt nextAt
  rw [hx]
  obtain ⟨L, hL⟩ : ∃ L, c.heap.length = L + 1 := ⟨_, (Nat.sub_add_cancel (Nat.zero_lt_of_lt ha)).symm⟩
  rw [hL, chain, hx]
  refine congrArg (c.heap[a].val :: ·) (chain_stable hi.heap (fun _ _ => rfl) fun j hj => ?_)
  have hlt := hi.heap a _ hx j hj
  have : j < L := Nat.lt_of_lt_of_le hlt (Nat.le_of_lt_succ (Nat.lt_of_lt_of_eq ha hL))
  exact ⟨Nat.lt_trans hlt ha, this, Nat.lt_succ_of_lt this⟩

theorem abs_exec (hi : Inv c) (ht : ThrOK c.heap { t with pc := some pc }) :
    absOf (exec c t pc).1 (exec c t pc).2.2.1 = effect c pc (abs c) := by
  fun_cases exec c t pc
  -- `pushCAS` won: the new node is linked on top
  case case2 b => rw [effect, if_pos rfl]; exact absOf_link hi.heap ht b
  -- `pushCAS`, `popCAS` lost: no effect
  case case3 _ _ h | case9 _ _ h => rw [effect, if_neg h]; rfl
  -- `popCAS` won: the top node is unlinked
  case case8 a n h => rw [effect, if_pos h, abs_pop c hi a h, ht.2]; rfl
  -- `resetTop`
  case case13 => exact absOf_none _
  -- every other pc leaves `top` and `heap` alone
  case case1 | case4 | case5 | case6 | case7 | case10 | case11 | case12 | case14 => rfl

/-- +1: the push already linked its node but has not counted it yet; -1: the pop already unlinked
    its node but has not discounted it yet -/
def pendPc : Pc → Int
  | .pushAdd => 1
  | .popAdd _ => -1
  | _ => 0

def pend (t : Thread) : Int :=
  match t.pc with
  | some pc => pendPc pc
  | none => 0

def pendSum (ts : List Thread) : Int := (ts.map pend).sum

theorem pendSum_set (ts : List Thread) (i : Nat) (x y : Thread) (h : ts[i]? = some x) :
    pendSum (ts.set i y) = pendSum ts - pend x + pend y :=
  sum_map_set_int pend ts i y x h

theorem pendSum_zero {ts : List Thread} (h : ∀ t ∈ ts, pend t = 0) : pendSum ts = 0 :=
  sum_map_eq_zero_int pend h

theorem pend_startNext : pend (startNext t) = 0 := by
  unfold pend
  rcases startNext_pc t with h | ⟨op, h⟩
  · rw [h]
  · rw [h]; cases op <;> rfl

theorem pend_finish (r : Res) : pend (finish t r) = 0 := pend_startNext _

/-- no thread will ever run Reset -/
def NoResetT (t : Thread) : Prop := Op.reset ∉ t.todo ∧ t.pc ≠ some .resetTop ∧ t.pc ≠ some .resetLen

theorem noReset_startNext (h : Op.reset ∉ t.todo) : NoResetT (startNext t) := by
  unfold startNext
  cases hd : t.todo with
  | nil => exact ⟨List.not_mem_nil, nofun, nofun⟩
  | cons op r =>
    rw [hd] at h
    cases op with
    | reset => exact absurd List.mem_cons_self h
    | _ => exact ⟨fun e => h (List.mem_cons_of_mem _ e), nofun, nofun⟩

theorem exec_thread :
    (∃ r, (exec c t pc).2.2.2 = finish t r) ∨
    ∃ pc', (exec c t pc).2.2.2 = { t with pc := some pc' } ∧ pc' ≠ .resetTop ∧ (pc' = .resetLen → pc = .resetTop) := by
  fun_cases exec c t pc
  -- `pushAdd`, `popLoad` on an empty stack, `popAdd`, `peekLoad`, `lenLoad`, `resetLen`: the operation returns
  case case4 | case5 | case10 | case11 | case12 | case14 => exact .inl ⟨_, rfl⟩
  -- `resetTop`: on to `resetLen`
  case case13 => exact .inr ⟨_, rfl, nofun, fun _ => rfl⟩
  -- `pushLoad`, `pushCAS` (won or lost), `popLoad` on a non-empty stack, `popNext`, `popCAS` (won or lost): on to a pc
  -- that is neither `resetTop` nor `resetLen`
  case case1 | case2 | case3 | case6 | case7 | case8 | case9 => exact .inr ⟨_, rfl, nofun, nofun⟩

theorem exec_noReset (h : Op.reset ∉ t.todo) (h1 : pc ≠ .resetTop) :
    NoResetT (exec c t pc).2.2.2 := by
  rcases exec_thread c t pc with ⟨r, e⟩ | ⟨pc', e, n1, n2⟩ <;> rw [e]
  · exact noReset_startNext _ h
  · exact ⟨h, fun e => n1 (Option.some.inj e), fun e => h1 (n2 (Option.some.inj e))⟩

/-- the change of `length`, of the stepping thread's pending count and of the depth balance out -/
theorem len_exec (hi : Inv c) (ht : ThrOK c.heap { t with pc := some pc })
    (hpc : t.pc = some pc) (h1 : pc ≠ .resetTop) (h2 : pc ≠ .resetLen) :
    (exec c t pc).2.1 + pend (exec c t pc).2.2.2 - ((absOf (exec c t pc).1 (exec c t pc).2.2.1).length : Int)
      = c.length + pend t - ((abs c).length : Int) := by
  rw [abs_exec c t pc hi ht, show pend t = pendPc pc by rw [pend, hpc]]
  fun_cases exec c t pc
  -- `resetTop` is excluded
  case case13 => exact absurd rfl h1
  -- `resetLen` is excluded
  case case14 => exact absurd rfl h2
  -- `pushLoad`, `popLoad` on a non-empty stack, `popNext`: nothing moves
  case case1 | case6 | case7 => rfl
  -- `pushCAS` won: one deeper, the count is pending
  case case2 =>
    rw [effect, if_pos rfl]
    show c.length + 1 - (((abs c).length + 1 : Nat) : Int) = c.length + 0 - _
    omega
  -- `pushCAS`, `popCAS` lost: nothing moves
  case case3 _ _ h | case9 _ _ h => rw [effect, if_neg h]; rfl
  -- `pushAdd`: the pending count is entered
  case case4 =>
    show c.length + 1 + pend (finish t .ok) - ((abs c).length : Int) = c.length + 1 - ((abs c).length : Int)
    rw [pend_finish, Int.add_zero]
  -- `popLoad` on an empty stack, `peekLoad`, `lenLoad`: the operation returns, nothing pending
  case case5 | case11 | case12 => show c.length + pend (finish t _) - _ = _; rw [pend_finish]; rfl
  -- `popCAS` won: one shallower, the discount is pending
  case case8 a n h =>
    rw [effect, if_pos h, abs_pop c hi a h]
    show c.length + -1 - ((absOf (nextAt c.heap a) c.heap).length : Int) = c.length + 0 - ((_ + 1 : Nat) : Int)
    omega
  -- `popAdd`: the pending discount is entered
  case case10 =>
    show c.length - 1 + pend (finish t _) - ((abs c).length : Int) = c.length + -1 - ((abs c).length : Int)
    rw [pend_finish]; omega

end

end GoaktVerif.C14.Conc
