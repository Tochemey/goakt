/-
The dispatch protocol (actor/dispatch_state.go, ready queue) shared by the actor machine (Model/C01.lean) and the
grain machine (Model/C01G.lean), as a relation `DStep` on what one stepping thread sees, and the two invariants it keeps:
the token / owner invariant `TokInv` and the wake-up clause `WakeInv`.
-/
import GoaktVerif.Lemmas.ListFacts

namespace GoaktVerif.Lemmas.Dispatch

/-- `sum f l` adds the measure `f` up over the threads `l`: what `Model.C01.sumBy` and `Model.C01G.sumBy` (two
    definitions, over two thread types) have in common. -/
structure IsSum {T : Type} (sum : (T → Nat) → List T → Nat) : Prop where
  nil : ∀ f, sum f [] = 0
  cons : ∀ f t ts, sum f (t :: ts) = f t + sum f ts

namespace IsSum
variable {T : Type} {sum : (T → Nat) → List T → Nat} (L : IsSum sum) {f g : T → Nat} {l l' : List T}
include L

theorem eq_sum_map (f : T → Nat) (l : List T) : sum f l = (l.map f).sum := by
  induction l with
  | nil => exact L.nil f
  | cons x xs ih => rw [L.cons, ih, List.map_cons, List.sum_cons]

theorem perm (f : T → Nat) (h : l.Perm l') : sum f l = sum f l' := by
  rw [L.eq_sum_map, L.eq_sum_map]; exact (h.map f).sum_nat

theorem le (l : List T) (h : ∀ t, f t ≤ g t) : sum f l ≤ sum g l := by
  induction l with
  | nil => rw [L.nil, L.nil]; exact Nat.le_refl 0
  | cons x xs ih => rw [L.cons, L.cons]; exact Nat.add_le_add (h x) ih

theorem zero (h : ∀ t ∈ l, f t = 0) : sum f l = 0 := by
  rw [L.eq_sum_map]; exact sum_map_eq_zero f h

theorem exists_pos (f : T → Nat) (l : List T) (h : 0 < sum f l) : ∃ t ∈ l, 0 < f t := by
  induction l with
  | nil => rw [L.nil] at h; exact absurd h (Nat.lt_irrefl 0)
  | cons x xs ih =>
    rw [L.cons] at h
    by_cases hx : 0 < f x
    · exact ⟨x, List.mem_cons_self, hx⟩
    · obtain ⟨t, ht, h'⟩ := ih (by omega)
      exact ⟨t, List.mem_cons_of_mem _ ht, h'⟩

theorem length_flatMap {β : Type} (g : T → List β) (l : List T) :
    (l.flatMap g).length = sum (fun t => (g t).length) l := by
  rw [L.eq_sum_map]; exact List.length_flatMap

/-- the sum over the OTHER threads, as a step computes it -/
theorem sub_getElem (f : T → Nat) (l : List T) (i : Nat) (h : i < l.length) :
    sum f l - f l[i] = sum f (l.eraseIdx i) := by
  rw [L.perm f (perm_cons_eraseIdx l i h), L.cons]; omega

end IsSum

/-- State `sc`, ready-queue entries `rq`, history variable `mx` (most handlers ever in progress at once), and the
    role of the stepping thread as 0/1 measures of its program counter: holds the Scheduled token (`k`), owns the
    turn (`o`), sender between reservation and the outcome of TrySchedule (`i`), worker between the releasing store
    and the outcome of its reclaim check (`r a`: it still answers for work of kind `a`).  `ι` is what the check looks
    at, one thing after the other: the two queues of a grain.  An actor's check (`mailbox.IsEmpty() &&
    systemMailbox.IsEmpty()`, the system mailbox always empty in the model) decides on one reading: `ι = Unit`. -/
structure DView (σ ι : Type) where
  sc : σ
  rq : Nat
  mx : Nat
  k : Nat
  o : Nat
  i : Nat
  r : ι → Nat

/-- `I S P`: Idle, Scheduled, Processing; `n`: OTHER threads inside a handler; `E a`: what a reclaiming worker saw
    when it gave up on work of kind `a`.  `claim` / `leave`: TrySchedule won / lost; `push`: dispatcher.schedule, worker.reschedule;
    `pop`: a worker's take; `take` / `lose`: TakeForProcessing won / lost (`lose` is unreachable: a token means
    Scheduled); `release`: the reset of finishOrReclaim; `giveUp`: a reading of its re-check (actor: `IsEmpty`;
    grain: hasPendingWork, which reads the responses queue first and the mailbox after it, so that a worker stops answering
    for the responses before it stops answering for the mailbox) found nothing, and the worker stops answering for that
    kind of work only; `rejoin`: a worker that gave up on the responses found the mailbox non-empty and goes on to TrySchedule (grains);
    `yield`: end of the budget. -/
inductive DStep {σ ι : Type} (I S P : σ) (E : ι → Prop) (n : Nat) : DView σ ι → DView σ ι → Prop
  | skip {v} : DStep I S P E n v v
  | arrive {v} : DStep I S P E n v { v with i := 1 }
  | leave {v} : v.sc ≠ I → DStep I S P E n v { v with i := 0, r := fun _ => 0 }
  | claim {v} : v.sc = I → DStep I S P E n v { v with sc := S, k := 1, i := 0, r := fun _ => 0 }
  | push {v} : v.k = 1 → DStep I S P E n v { v with rq := v.rq + 1, k := 0 }
  | pop {v} : 0 < v.rq → v.k = 0 → DStep I S P E n v { v with rq := v.rq - 1, k := 1 }
  | take {v} : v.sc = S → v.k = 1 → DStep I S P E n v { v with sc := P, k := 0, o := 1 }
  | lose {v} : v.sc ≠ S → v.k = 1 → DStep I S P E n v { v with k := 0 }
  | enter {v} : v.o = 1 → DStep I S P E n v { v with mx := max v.mx (n + 1) }
  | release {v} : v.o = 1 → DStep I S P E n v { v with sc := I, o := 0, r := fun _ => 1 }
  | giveUp {v} {r' : ι → Nat} : (∀ a, r' a = v.r a ∨ r' a = 0 ∧ E a) → DStep I S P E n v { v with r := r' }
  | rejoin {v} : DStep I S P E n v { v with r := fun _ => 1 }
  | yield {v} : v.o = 1 → DStep I S P E n v { v with sc := S, k := 1, o := 0 }

structure Three {σ : Type} (I S P : σ) : Prop where
  IS : I ≠ S
  IP : I ≠ P
  SP : S ≠ P
  all : ∀ x, x = I ∨ x = S ∨ x = P

variable {σ ι : Type} {I S P : σ} {E : ι → Prop} {n : Nat} {v v' : DView σ ι}

theorem DStep.inv [DecidableEq σ] (H : Three I S P) (h : DStep I S P E n v v') {R1 R2 : Nat}
    (h1 : v.rq + (v.k + R1) = if v.sc = S then 1 else 0) (h2 : v.o + R2 = if v.sc = P then 1 else 0)
    (h3 : v.mx ≤ 1) (hn : n ≤ R2) :
    v'.rq + (v'.k + R1) = (if v'.sc = S then 1 else 0) ∧ v'.o + R2 = (if v'.sc = P then 1 else 0) ∧ v'.mx ≤ 1 := by
  obtain ⟨hIS, hIP, hSP, _⟩ := H
  -- `omega` on a conjunction would bring in `Classical.choice`, which C01 does not rest on
  cases h with
  | skip | arrive | leave | giveUp | rejoin => exact ⟨h1, h2, h3⟩
  | claim hs => simp only [hs, hIS, hIP, hSP, ↓reduceIte] at h1 h2 ⊢; exact ⟨by omega, h2, h3⟩
  | push hk => simp only [hk] at h1 ⊢; exact ⟨by omega, h2, h3⟩
  | pop hr hk => simp only [hk] at h1 ⊢; exact ⟨by omega, h2, h3⟩
  | take hs hk => simp only [hs, hk, hSP, hSP.symm, ↓reduceIte] at h1 h2 ⊢; exact ⟨by omega, by omega, h3⟩
  | lose hs hk => simp only [hs, hk, ↓reduceIte] at h1; exfalso; omega
  | enter ho =>
    -- the owner is the only one: no other thread is inside a handler
    refine ⟨h1, h2, Nat.max_le.mpr ⟨h3, ?_⟩⟩
    split at h2 <;> omega
  | release ho =>
    have hs : v.sc = P := Decidable.byContradiction fun hn => by rw [if_neg hn] at h2; omega
    simp only [hs, ho, hIS, hIP, hSP.symm, ↓reduceIte] at h1 h2 ⊢; exact ⟨h1, by omega, h3⟩
  | yield ho =>
    have hs : v.sc = P := Decidable.byContradiction fun hn => by rw [if_neg hn] at h2; omega
    simp only [hs, ho, hSP, hSP.symm, ↓reduceIte] at h1 h2 ⊢; exact ⟨by omega, by omega, h3⟩

/-- `Rin`, `Rre`: in-flight senders / reclaiming workers among the OTHER threads.  `hp`: work pending only after
    the step comes with its sender in flight or with a state that is not Idle; `hg`: a worker gives up on pending work only while its sender is. -/
theorem DStep.wake (H : Three I S P) (h : DStep I S P E n v v') (a : ι) {pend pend' : Prop} {Rin Rre : Nat}
    (hp : pend' → pend ∨ 0 < v'.i ∨ v'.sc ≠ I) (hg : E a → pend → 0 < v.i + Rin)
    (hJ : pend → v.sc ≠ I ∨ 0 < v.i + Rin ∨ 0 < v.r a + Rre) :
    pend' → v'.sc ≠ I ∨ 0 < v'.i + Rin ∨ 0 < v'.r a + Rre := by
  intro hp'
  rcases hp hp' with hq | hi | hs
  · have hJ := hJ hq
    cases h with
    | skip | push | pop | lose | enter => exact hJ
    | leave hs => exact .inl hs
    | claim | yield => exact .inl H.IS.symm
    | take => exact .inl H.IP.symm
    | arrive => exact .inr (.inl (by show 0 < 1 + Rin; omega))
    | release | rejoin => exact .inr (.inr (by show 0 < 1 + Rre; omega))
    | giveUp hr =>
      rcases hr a with e | ⟨_, e⟩
      · rw [show ({ v with r := _ } : DView σ ι).r a = v.r a from e]; exact hJ
      · exact .inr (.inl (hg e hq))
  · exact .inr (.inl (by omega))
  · exact .inl hs

/-- The wake-up clause over the threads `l`: pending work comes with a state that is not `I`, a sender in flight (`i`) or a
    worker in its reclaim check (`r`).  Beside `TokInv` it is what "no lost wake-up" rests on (`TokInv.responsible`). -/
def WakeInv {T : Type} (sum : (T → Nat) → List T → Nat) (I : σ) (i r : T → Nat) (pend : Prop) (sc : σ) (l : List T) : Prop :=
  pend → sc ≠ I ∨ 0 < sum i l ∨ 0 < sum r l

namespace WakeInv
variable {T : Type} {sum : (T → Nat) → List T → Nat} {sc sc' : σ} {i r : T → Nat} {pend pend' : Prop} {l l' : List T}

theorem init (h : ¬pend) : WakeInv sum I i r pend sc l := fun hp => absurd hp h

variable (L : IsSum sum)
include L

theorem perm (p : l.Perm l') (h : WakeInv sum I i r pend sc l) : WakeInv sum I i r pend sc l' := by
  unfold WakeInv at h ⊢; rwa [← L.perm _ p, ← L.perm _ p]

/-- `hp`, `hg` as in `DStep.wake` -/
theorem step {rq mx k o rq' mx' k' o' : Nat} {ρ : T → ι → Nat} {t t' : T} {R : List T} (H : Three I S P) (a : ι)
    (hd : DStep I S P E n ⟨sc, rq, mx, k, o, i t, ρ t⟩ ⟨sc', rq', mx', k', o', i t', ρ t'⟩)
    (hp : pend' → pend ∨ 0 < i t' ∨ sc' ≠ I) (hg : E a → pend → 0 < sum i (t :: R))
    (h : WakeInv sum I i (ρ · a) pend sc (t :: R)) : WakeInv sum I i (ρ · a) pend' sc' (t' :: R) := by
  unfold WakeInv at h ⊢; simp only [L.cons] at h hg ⊢
  exact hd.wake H a hp hg h

end WakeInv

/-- The token / owner invariant over the threads `l`: one token (a ready-queue entry, or a thread with `k = 1`) iff the
    state is `S`; one turn owner (`o = 1`) iff it is `P`; never two handlers at once. -/
def TokInv [DecidableEq σ] {T : Type} (sum : (T → Nat) → List T → Nat) (S P : σ) (k o : T → Nat)
    (sc : σ) (rq mx : Nat) (l : List T) : Prop :=
  rq + sum k l = (if sc = S then 1 else 0) ∧ sum o l = (if sc = P then 1 else 0) ∧ mx ≤ 1

namespace TokInv
variable [DecidableEq σ] {T : Type} {sum : (T → Nat) → List T → Nat} (L : IsSum sum) {sc sc' : σ} {k o : T → Nat}
  {rq mx rq' mx' : Nat} {l l' : List T}
include L

theorem perm (p : l.Perm l') (h : TokInv sum S P k o sc rq mx l) : TokInv sum S P k o sc rq mx l' := by
  unfold TokInv at h ⊢; rwa [← L.perm _ p, ← L.perm _ p]

theorem step {i i' : Nat} {r r' : ι → Nat} {t t' : T} {R : List T} (H : Three I S P)
    (hd : DStep I S P E n ⟨sc, rq, mx, k t, o t, i, r⟩ ⟨sc', rq', mx', k t', o t', i', r'⟩) (hn : n ≤ sum o R)
    (h : TokInv sum S P k o sc rq mx (t :: R)) : TokInv sum S P k o sc' rq' mx' (t' :: R) := by
  unfold TokInv at h ⊢; simp only [L.cons] at h ⊢
  exact hd.inv H h.1 h.2.1 h.2.2 hn

theorem init (H : Three I S P) (hk : ∀ t ∈ l, k t = 0) (ho : ∀ t ∈ l, o t = 0) :
    TokInv sum S P k o I 0 0 l := by
  unfold TokInv; rw [L.zero hk, L.zero ho, if_neg H.IS, if_neg H.IP]; exact ⟨rfl, rfl, Nat.zero_le 1⟩

/-- `f`: being inside a handler, which only an owner is -/
theorem bound {f : T → Nat} (hf : ∀ t, f t ≤ o t) (h : TokInv sum S P k o sc rq mx l) :
    sum f l ≤ 1 ∧ sum o l ≤ 1 ∧ mx ≤ 1 := by
  have ho : sum o l ≤ 1 := by rw [h.2.1]; split <;> decide
  exact ⟨Nat.le_trans (L.le l hf) ho, ho, h.2.2⟩

theorem not_idle {t : T} {R : List T} (H : Three I S P) (h : TokInv sum S P k o sc rq mx (t :: R)) (ho : o t = 1) :
    sc ≠ I := by
  intro e
  have h2 := h.2.1
  rw [L.cons, ho, e, if_neg H.IP] at h2
  omega

theorem responsible (H : Three I S P) {i r : T → Nat} {pend : Prop} (h : TokInv sum S P k o sc rq mx l)
    (hJ : WakeInv sum I i r pend sc l) (hp : pend) :
    0 < rq ∨ ∃ t ∈ l, 0 < k t ∨ 0 < o t ∨ 0 < i t ∨ 0 < r t := by
  obtain ⟨h1, h2, _⟩ := h
  have tok : 0 < rq + sum k l → 0 < rq ∨ ∃ t ∈ l, 0 < k t ∨ 0 < o t ∨ 0 < i t ∨ 0 < r t := fun h =>
    (Nat.eq_zero_or_pos rq).symm.imp_right fun e => (L.exists_pos k l (by omega)).imp fun _ ht => ⟨ht.1, .inl ht.2⟩
  rcases hJ hp with hs | hin | hre
  · rcases H.all sc with e | e | e
    · exact absurd e hs
    · exact tok (by rw [h1, if_pos e]; exact Nat.one_pos)
    · exact .inr ((L.exists_pos o l (by rw [h2, if_pos e]; exact Nat.one_pos)).imp fun _ ht => ⟨ht.1, .inr (.inl ht.2)⟩)
  · exact .inr ((L.exists_pos i l hin).imp fun _ ht => ⟨ht.1, .inr (.inr (.inl ht.2))⟩)
  · exact .inr ((L.exists_pos r l hre).imp fun _ ht => ⟨ht.1, .inr (.inr (.inr ht.2))⟩)

end TokInv

end GoaktVerif.Lemmas.Dispatch
