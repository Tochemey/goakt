/-
C34, one handler call as seen by one node (`stepL`), for arbitrary global state, timestamp,
notification and `fire` flag.

The case analysis of `stepL` is done once (`stepL_moves`).  For the departure entries (`leftTs`, `leftEp`, `leftF`,
the reported NodeLeft) it yields the two halves of a call, as in the Go handlers: first a departure is tracked or
handed an epoch (`Assign`), then a pending departure whose epoch is complete, or whose timeout fired, is reported
(`Flush`); what a reported NodeLeft rests on is read off the entries between the halves.  For the arrival entries
(`joinTs`, `joinF`, the reported NodeJoined) it yields the list of ways a call can change them (`JoinMove`).  The
`stepL_*` lemmas are readings of these.
-/
import GoaktVerif.Model.C34

namespace GoaktVerif.C34
open GoaktVerif.Model.C34

/-- per-node invariant: a node in the left filter has no pending departure, and an assigned
    left epoch belongs to a pending departure -/
def LInv (l : Loc) : Prop :=
  (l.leftF = true → l.leftTs = none) ∧ (l.leftEp.isSome = true → l.leftTs.isSome = true)

def isLeftOf (op : Op) (n : Node) : Bool :=
  match op with
  | .left m _ => m == n
  | _ => false

theorem isLeftOf_iff {op : Op} {n : Node} : isLeftOf op n = true ↔ ∃ c, op = .left n c := by
  cases op <;> simp [isLeftOf]

theorem LInv_init : LInv Loc.init := by simp [LInv, Loc.init]

section
variable (g : Glob) (ts : Nat) (op : Op) (fire : Bool) (n : Node) (l : Loc)

theorem pendLeft_cases (e : Epoch) :
    (l.leftEp ≠ some e ∧ l.pendLeft e = (l, none)) ∨
    (l.leftEp = some e ∧ l.leftTs = none ∧ l.pendLeft e = ({ l with leftEp := none }, none)) ∨
    (l.leftEp = some e ∧ ∃ t, l.leftTs = some t ∧ l.pendLeft e =
      ({ l with leftEp := none, leftTs := none, joinF := false, leftF := true },
       if l.leftF = true then none else some t)) := by
  unfold Loc.pendLeft
  by_cases h : l.leftEp = some e
  · rw [if_pos h]
    cases ht : l.leftTs with
    | none => exact Or.inr (Or.inl ⟨h, rfl, by simp⟩)
    | some t => exact Or.inr (Or.inr ⟨h, t, rfl, by simp⟩)
  · rw [if_neg h]; exact Or.inl ⟨h, rfl⟩

variable {l} in
theorem pendJoin_left {e : Epoch} : (l.pendJoin e).1.leftTs = l.leftTs ∧
    (l.pendJoin e).1.leftEp = l.leftEp ∧ (l.pendJoin e).1.leftF = l.leftF := by
  unfold Loc.pendJoin; split
  · split <;> exact ⟨rfl, rfl, rfl⟩
  · exact ⟨rfl, rfl, rfl⟩

/-- First half of a handler call: the tracking part of trackNodeLeftEvent, and assignLeftEpochLocked. -/
inductive Assign (l1 : Loc) : Prop
  | keep (hts : l1.leftTs = l.leftTs) (hep : l1.leftEp = l.leftEp) (hf : l1.leftF = l.leftF)
  | track (hop : isLeftOf op n = true) (hn : n ≠ self) (htr : leftTracked l = true)
      (hts : l1.leftTs = some ts) (hep : l1.leftEp = l.leftEp ∨ g.leftLatest ≠ 0 ∧ l1.leftEp = some g.leftLatest)
      (hf : l1.leftF = l.leftF)
  | assign (m : Node) (e : Epoch) (hop : op = .start .left m e) (hs : g.startSeen e = false)
      (hp : l.leftTs.isSome = true) (hts : l1.leftTs = l.leftTs) (hep : l1.leftEp = some e) (hf : l1.leftF = l.leftF)

/-- Second half: emitPendingLeftForEpochLocked or emitOverdueNodeLeft (with emitNodeLeftLocked), on the entries `l1`
    the first half left. -/
inductive Flush (l1 : Loc) (r : Loc × Ev) : Prop
  /-- also when an epoch assigned without a pending departure is dropped -/
  | keep (hts : r.1.leftTs = l1.leftTs) (hep : r.1.leftEp = l1.leftEp ∨ r.1.leftEp = none)
      (hf : r.1.leftF = l1.leftF) (hev : r.2.left = none)
  | flush (t : Nat) (hp : l1.leftTs = some t) (hts : r.1.leftTs = none) (hep : r.1.leftEp = none)
      (hf : r.1.leftF = true) (hev : r.2.left = if l1.leftF = true then none else some t)
      (why : op = .overdue n ∨ ∃ e, l1.leftEp = some e ∧ (g.completeSeen e = true ∨ op = .complete e))

def LeftMove (r : Loc × Ev) : Prop := ∃ l1, Assign g ts op n l l1 ∧ Flush g op n l1 r

variable {g ts op n l} in
theorem LeftMove.of_pendLeft {l1 : Loc} (a : Assign g ts op n l l1) {e : Epoch} {j : Option Nat}
    (hc : g.completeSeen e = true ∨ op = .complete e)
    (q : Loc) (hq : q.leftTs = (l1.pendLeft e).1.leftTs ∧ q.leftEp = (l1.pendLeft e).1.leftEp ∧
      q.leftF = (l1.pendLeft e).1.leftF) : LeftMove g ts op n l (q, ⟨(l1.pendLeft e).2, j⟩) := by
  obtain ⟨h1, h2, h3⟩ := hq
  refine ⟨l1, a, ?_⟩
  rcases pendLeft_cases l1 e with ⟨_, h⟩ | ⟨_, ht, h⟩ | ⟨he, t, ht, h⟩ <;> rw [h] at h1 h2 h3 ⊢
  · exact .keep h1 (Or.inl h2) h3 rfl
  · exact .keep h1 (Or.inr h2) h3 rfl
  · exact .flush t ht h1 h2 h3 rfl (Or.inr ⟨e, he, hc⟩)

/-- the joined-filter entry of `n` is cleared by a call that reports `a` as left only if the call is a
    left notification for `n` or flushes `n`'s pending departure -/
def JoinFCleared (a : Option Nat) : Prop :=
  isLeftOf op n = true ∨ (l.leftTs.isSome = true ∧ a = if l.leftF = true then none else l.leftTs)

/-- The ways one handler call can change the tracked arrival and the joined-filter of one node and
    report the arrival (the assigned join epoch, and the tracked arrival once it changes, play no part in what
    is proved). -/
inductive JoinMove (r : Loc × Ev) : Prop
  | keep (hts : r.1.joinTs = l.joinTs)
      (hf : r.1.joinF = l.joinF ∨ r.1.joinF = false ∧ JoinFCleared op n l r.2.left) (hev : r.2.join = none)
  | track (hn : n ≠ self) (hf0 : l.joinF = false) (hev : r.2.join = none)
  | flush (hp : l.joinTs.isSome = true ∨ n ≠ self ∧ l.joinF = false)
      (hf : r.1.joinF = true) (hev : r.2.join = none ∨ l.joinF = false ∨ JoinFCleared op n l r.2.left)

theorem pendJoin_cases (e : Epoch) :
    (l.pendJoin e).1.joinTs = l.joinTs ∧ (l.pendJoin e).1.joinF = l.joinF ∧ (l.pendJoin e).2 = none ∨
    l.joinTs.isSome = true ∧ (l.pendJoin e).1.joinF = true ∧
      ((l.pendJoin e).2 = none ∨ l.joinF = false) := by
  unfold Loc.pendJoin
  by_cases h : l.joinEp = some e
  · rw [if_pos h]
    cases ht : l.joinTs with
    | none => simp
    | some t => cases hf : l.joinF <;> simp
  · rw [if_neg h]; exact Or.inl ⟨rfl, rfl, rfl⟩

theorem pendLeft_join (e : Epoch) : (l.pendLeft e).1.joinTs = l.joinTs ∧
    ((l.pendLeft e).1.joinF = l.joinF ∨ (l.pendLeft e).1.joinF = false ∧ l.leftTs.isSome = true ∧
      (l.pendLeft e).2 = if l.leftF = true then none else l.leftTs) := by
  rcases pendLeft_cases l e with ⟨_, h⟩ | ⟨_, _, h⟩ | ⟨_, t, ht, h⟩ <;> rw [h]
  · exact ⟨rfl, Or.inl rfl⟩
  · exact ⟨rfl, Or.inl rfl⟩
  · exact ⟨rfl, Or.inr ⟨rfl, by simp [ht], by rw [ht]⟩⟩

section
variable {op n l} {p : Loc} {e : Epoch}

theorem JoinMove.of_pendLeft (hts : p.joinTs = l.joinTs) (hf : p.joinF = l.joinF)
    (hl : p.leftTs = l.leftTs) (hlf : p.leftF = l.leftF) :
    JoinMove op n l ((p.pendLeft e).1, ⟨(p.pendLeft e).2, none⟩) := by
  obtain ⟨h1, h2⟩ := pendLeft_join p e
  refine .keep (h1.trans hts) ?_ rfl
  rcases h2 with h2 | ⟨h2, h3, h4⟩
  · exact Or.inl (h2.trans hf)
  · exact Or.inr ⟨h2, Or.inr ⟨hl ▸ h3, by rw [← hl, ← hlf]; exact h4⟩⟩

theorem JoinMove.of_pendJoin {a : Option Nat} (hts : p.joinTs = l.joinTs)
    (hf : p.joinF = l.joinF ∨ p.joinF = false ∧ JoinFCleared op n l a) :
    JoinMove op n l ((p.pendJoin e).1, ⟨a, (p.pendJoin e).2⟩) := by
  rcases pendJoin_cases p e with ⟨h1, h2, h3⟩ | ⟨h0, h2, h3⟩
  · exact .keep (h1.trans hts) (by rw [h2]; exact hf) h3
  · refine .flush (Or.inl (hts ▸ h0)) h2 ?_
    rcases h3 with h3 | h3
    · exact Or.inl h3
    · rcases hf with hf | hf
      · exact Or.inr (Or.inl (hf ▸ h3))
      · exact Or.inr (Or.inr hf.2)
end

structure Moves (r : Loc × Ev) : Prop where
  left : LeftMove g ts op n l r
  join : JoinMove op n l r

theorem stepL_moves : Moves g ts op n l (stepL g ts op fire n l) := by
  have keepJ : ∀ {q : Loc} {a : Option Nat}, q.joinTs = l.joinTs → q.joinF = l.joinF →
      JoinMove op n l (q, ⟨a, none⟩) := fun h h' => .keep h (Or.inl h') rfl
  have idle : Assign g ts op n l l := .keep rfl rfl rfl
  -- nothing is reported after the first half `a`
  have only : ∀ {l1 : Loc} {j : Option Nat}, Assign g ts op n l l1 → LeftMove g ts op n l (l1, ⟨none, j⟩) :=
    fun a => ⟨_, a, .keep rfl (Or.inl rfl) rfl rfl⟩
  have keepL : ∀ {q : Loc} {j : Option Nat}, q.leftTs = l.leftTs ∧ q.leftEp = l.leftEp ∧ q.leftF = l.leftF →
      LeftMove g ts op n l (q, ⟨none, j⟩) := fun h => only (.keep h.1 h.2.1 h.2.2)
  have same : Moves g ts op n l (l, Ev.none) := ⟨only idle, keepJ rfl rfl⟩
  cases op with
  | join m =>
    simp only [stepL]
    refine iteInduction (fun _ => iteInduction (fun h2 => ?_) fun _ => same) fun _ => iteInduction (fun _ => ?_) fun _ => same
    · have ⟨hn, hf0⟩ : n ≠ self ∧ l.joinF = false := by
        simp only [joinTracked, Bool.and_eq_true, bne_iff_ne, Bool.not_eq_true'] at h2; exact ⟨h2.1.1, h2.1.2⟩
      have tracked : ∀ {q : Loc}, q.leftTs = l.leftTs ∧ q.leftEp = l.leftEp ∧ q.leftF = l.leftF →
          Moves g ts (.join m) n l (q, Ev.none) :=
        fun h' => ⟨keepL h', .track hn hf0 rfl⟩
      refine iteInduction (fun _ => iteInduction (fun _ => ⟨keepL pendJoin_left, ?_⟩) fun _ => tracked ⟨rfl, rfl, rfl⟩)
        fun _ => tracked ⟨rfl, rfl, rfl⟩
      refine .flush (Or.inr ⟨hn, hf0⟩) ?_ (Or.inr (Or.inl hf0)); simp [Loc.pendJoin]
    · exact ⟨keepL pendJoin_left, .of_pendJoin rfl (Or.inl rfl)⟩
  | left m c =>
    simp only [stepL]
    refine iteInduction (fun h1 => iteInduction (fun _ => same) fun h2 => ?_) fun _ =>
      iteInduction (fun h6 => ⟨.of_pendLeft idle (Or.inl h6.2.2) _ ⟨rfl, rfl, rfl⟩, .of_pendLeft rfl rfl rfl rfl⟩) fun _ => same
    have hop : isLeftOf (.left m c) n = true := by simp [isLeftOf, h1]
    have cleared : ∀ {q : Loc} {a : Option Nat}, q.joinTs = l.joinTs → q.joinF = false →
        JoinMove (.left m c) n l (q, ⟨a, none⟩) := fun h h' => .keep h (Or.inr ⟨h', Or.inl hop⟩) rfl
    refine iteInduction (fun h3 => iteInduction (fun h4 => ?_) fun _ => ?_) fun _ => ⟨keepL ⟨rfl, rfl, rfl⟩, cleared rfl rfl⟩
    · have a : Assign g ts (.left m c) n l { l with joinF := false, leftTs := some ts, leftEp := some g.leftLatest } :=
        .track hop h2 h3 rfl (Or.inr ⟨h4, rfl⟩) rfl
      exact iteInduction (fun h5 => ⟨.of_pendLeft a (Or.inl h5) _ ⟨rfl, rfl, rfl⟩,
        cleared (pendLeft_join _ _).1 ((pendLeft_join _ _).2.elim id (·.1))⟩) fun _ => ⟨only a, cleared rfl rfl⟩
    · exact ⟨only (.track hop h2 h3 rfl (Or.inl rfl) rfl), cleared rfl rfl⟩
  | overdue m =>
    simp only [stepL]
    refine iteInduction (fun h => ?_) fun _ => same
    obtain ⟨t, ht⟩ := Option.isSome_iff_exists.mp h.2
    exact ⟨⟨l, idle, .flush t ht rfl rfl rfl (by simp [ht]) (Or.inl (by rw [h.1]))⟩,
      .keep rfl (Or.inr ⟨rfl, Or.inr ⟨h.2, rfl⟩⟩) rfl⟩
  | complete e =>
    simp only [stepL]
    refine iteInduction (fun _ => same) fun _ => ⟨.of_pendLeft idle (Or.inr rfl) _ pendJoin_left, ?_⟩
    obtain ⟨h1, h2⟩ := pendLeft_join l e
    exact .of_pendJoin h1 (h2.imp_right fun h => ⟨h.1, Or.inr h.2⟩)
  | start rs m e =>
    cases rs with
    | other => exact same
    | join =>
      simp only [stepL]
      refine iteInduction (fun _ => same) fun _ => iteInduction (fun _ => ?_) fun _ => ?_
      · cases l.joinTs.isSome <;> exact ⟨keepL pendJoin_left, .of_pendJoin rfl (Or.inl rfl)⟩
      · cases l.joinTs.isSome <;> exact ⟨keepL ⟨rfl, rfl, rfl⟩, keepJ rfl rfl⟩
    | left =>
      simp only [stepL]
      refine iteInduction (fun _ => same) fun hs => ?_
      have hs' : g.startSeen e = false := by simpa using hs
      cases ht : l.leftTs with
      | none =>
        simp only [Option.isSome_none, Bool.false_eq_true, if_false]
        exact iteInduction (fun hc => ⟨.of_pendLeft idle (Or.inl hc) _ ⟨rfl, rfl, rfl⟩, .of_pendLeft rfl rfl rfl rfl⟩) fun _ => same
      | some t =>
        simp only [Option.isSome_some, if_true]
        have a : Assign g ts (.start .left m e) n l { l with leftTs := some t, leftEp := some e } :=
          .assign m e rfl hs' (by simp [ht]) ht.symm rfl rfl
        exact iteInduction (fun hc => ⟨.of_pendLeft a (Or.inl hc) _ ⟨rfl, rfl, rfl⟩, .of_pendLeft rfl rfl ht.symm rfl⟩)
          fun _ => ⟨only a, keepJ rfl rfl⟩

theorem stepL_leftMove : LeftMove g ts op n l (stepL g ts op fire n l) := (stepL_moves g ts op fire n l).left

theorem stepL_joinMove : JoinMove op n l (stepL g ts op fire n l) := (stepL_moves g ts op fire n l).join

end

section
variable {g : Glob} {ts : Nat} {op : Op} {fire : Bool} {n : Node} {l : Loc}

theorem Assign.leftF {l1 : Loc} (a : Assign g ts op n l l1) : l1.leftF = l.leftF := by
  cases a <;> assumption

theorem Flush.sub {l1 : Loc} {r : Loc × Ev} (f : Flush g op n l1 r) :
    (∀ t, r.1.leftTs = some t → l1.leftTs = some t) ∧ ∀ e, r.1.leftEp = some e → l1.leftEp = some e := by
  cases f with
  | keep hts hep => exact ⟨fun t h => hts ▸ h, fun e h => hep.elim (· ▸ h) fun h' => nomatch h'.symm.trans h⟩
  | flush _ _ hts hep => exact ⟨fun t h => (nomatch hts.symm.trans h), fun e h => nomatch hep.symm.trans h⟩

theorem Flush.emit {l1 : Loc} {r : Loc × Ev} {t : Nat} (f : Flush g op n l1 r) (h : r.2.left = some t) :
    l1.leftTs = some t ∧ l1.leftF = false ∧ r.1.leftF = true ∧
      (op = .overdue n ∨ ∃ e, l1.leftEp = some e ∧ (g.completeSeen e = true ∨ op = .complete e)) := by
  cases f with
  | keep _ _ _ hev => cases hev.symm.trans h
  | flush t' hp _ _ hf hev why =>
    rw [hev] at h; split at h
    · cases h
    · cases h; exact ⟨hp, Bool.not_eq_true _ ▸ ‹¬ _›, hf, why⟩

theorem stepL_leftF_mono (h : l.leftF = true) : (stepL g ts op fire n l).1.leftF = true := by
  obtain ⟨l1, a, f⟩ := stepL_leftMove g ts op fire n l
  cases f with
  | keep _ _ hf => exact hf.trans (a.leftF.trans h)
  | flush _ _ _ _ hf => exact hf

theorem stepL_left_emit (h : (stepL g ts op fire n l).2.left.isSome = true) :
    l.leftF = false ∧ (stepL g ts op fire n l).1.leftF = true := by
  obtain ⟨l1, a, f⟩ := stepL_leftMove g ts op fire n l
  obtain ⟨t, ht⟩ := Option.isSome_iff_exists.mp h
  exact ⟨a.leftF ▸ (f.emit ht).2.1, (f.emit ht).2.2.1⟩

theorem stepL_LInv (h : LInv l) : LInv (stepL g ts op fire n l).1 := by
  obtain ⟨l1, a, f⟩ := stepL_leftMove g ts op fire n l
  have h1 : LInv l1 := by cases a <;> grind [LInv, leftTracked]
  cases f <;> grind [LInv]

theorem stepL_left_none (h : l.leftTs = none) (hop : n = self ∨ isLeftOf op n = false) :
    (stepL g ts op fire n l).1.leftTs = none ∧ (stepL g ts op fire n l).2.left = none := by
  obtain ⟨l1, a, f⟩ := stepL_leftMove g ts op fire n l
  have h1 : l1.leftTs = none := by
    cases a with
    | keep hts => exact hts.trans h
    | track hop' hn => exact (hop.elim hn fun e => nomatch hop'.symm.trans e).elim
    | assign _ _ _ _ hp => rw [h] at hp; cases hp
  cases f with
  | keep hts _ _ hev => exact ⟨hts.trans h1, hev⟩
  | flush t hp => cases hp.symm.trans h1

theorem stepL_join_emit (h : (stepL g ts op fire n l).2.join.isSome = true) :
    (stepL g ts op fire n l).1.joinF = true := by
  cases stepL_joinMove g ts op fire n l <;> simp_all

/-- while the joined-filter holds `n`, it keeps holding and no NodeJoined(n) is emitted, unless
    the call is a left notification for `n` or emits NodeLeft(n) -/
theorem stepL_joinF_keep (hi : LInv l) (hj : l.joinF = true) (hop : isLeftOf op n = false)
    (hl : (stepL g ts op fire n l).2.left = none) :
    (stepL g ts op fire n l).1.joinF = true ∧ (stepL g ts op fire n l).2.join = none := by
  have hc : ¬ JoinFCleared op n l (stepL g ts op fire n l).2.left := by
    rintro (h | ⟨h1, h2⟩)
    · rw [hop] at h; cases h
    · obtain ⟨t, ht⟩ := Option.isSome_iff_exists.mp h1
      cases hf : l.leftF with
      | true => rw [hi.1 hf] at ht; cases ht
      | false => rw [hl, hf, ht] at h2; cases h2
  cases stepL_joinMove g ts op fire n l <;> simp_all

theorem stepL_self_join (hn : n = self) (h : l.joinTs = none) :
    (stepL g ts op fire n l).1.joinTs = none ∧ (stepL g ts op fire n l).2.join = none := by
  cases stepL_joinMove g ts op fire n l <;> simp_all

end

section
variable (g : Glob) (ts : Nat) (op : Op) (fire : Bool) (n : Node) (l : Loc)

theorem stepL_no_left (h : l.leftTs = none) (hop : isLeftOf op n = false) :
    (stepL g ts op fire n l).1.leftTs = none ∧ (stepL g ts op fire n l).2.left = none :=
  stepL_left_none h (Or.inr hop)

end

section
variable (g : Glob) (op : Op)

theorem stepG_complete_prov (e : Epoch) (h : (stepG g op).completeSeen e = true) :
    g.completeSeen e = true ∨ op = .complete e := by
  unfold stepG upd at h
  split at h <;> grind

theorem stepG_complete_mono (e : Epoch) (h : g.completeSeen e = true) :
    (stepG g op).completeSeen e = true := by
  unfold stepG upd
  split <;> grind

theorem stepG_leftLatest_prov :
    (stepG g op).leftLatest = g.leftLatest ∨ ∃ m, op = .start .left m (stepG g op).leftLatest := by
  cases op with
  | start r m e =>
    cases r with
    | left =>
      simp only [stepG]
      by_cases hs : g.startSeen e = true
      · rw [if_pos hs]; exact Or.inl rfl
      · rw [if_neg hs]; exact Or.inr ⟨m, rfl⟩
    | join => simp only [stepG]; split <;> exact Or.inl rfl
    | other => exact Or.inl rfl
  | _ => exact Or.inl rfl

end

end GoaktVerif.C34
