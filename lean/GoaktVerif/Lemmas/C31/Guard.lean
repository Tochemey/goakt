/-
C31: the inductive invariant of ALL executions (the manager's direct deactivation owns the grain's
dispatch turn) and its preservation by every step.  A case reads `{ hG with … }`: the fields named are
the ones the step touches, the others are taken over (the record updates of `Model/C31` unfold by themselves).
-/
import GoaktVerif.Lemmas.C31

namespace GoaktVerif.C31
open GoaktVerif.Model.C31 GoaktVerif.Spec.C06
open GoaktVerif.Model.C06 (Sched trySchedule)
open GoaktVerif.Pool (forall_upd owner_move owner_enter owner_leave)
open GoaktVerif.C06 (recvB_ok postB_ok postE_postBy)

def lateDirect (c : Cfg) : Bool :=
  match c.dea with
  | some i => (c.threads i == .mDea .deaE) || (c.threads i == .mDea .fin)
  | none => false

/-- The dispatch turn is held by the worker (`w ≠ .idle`) or by the pool thread inside the manager's direct
    deactivation (`dea = some i`, at `.mDea pc`), never both, and then the dispatch state is Processing; the
    monitor's books are what the holder's program counter says. -/
structure GInv (c : Cfg) : Prop where
  d1 : ∀ i, (c.threads i).direct = true ↔ c.dea = some i
  ex : c.w ≠ .idle → c.dea = none
  t1 : c.dea ≠ none → c.sched = .processing
  t2 : c.w ≠ .idle → c.sched = .processing
  recvBy : c.mon.recvBy = (match c.w with | .rcv _ => some 0 | _ => none)
  postBy : c.mon.postBy = (match c.w with
    | .dea .deaE _ _ => [0]
    | _ => match c.dea with
      | some i => if c.threads i = .mDea .deaE then [i + 2] else []
      | none => [])
  k : c.active = true → c.mon.posts = 0 ∨ c.w.inDeaLate = true ∨ lateDirect c = true
  kb1 : ∀ v b, c.w = .dea .deaB v b → c.active = true
  kb2 : ∀ i, c.threads i = .mDea .deaB → c.active = true
  early0 : c.mon.preDone = false → c.mon.posts = 0
  ok2 : c.mon.c2 = true
  ok3 : c.mon.c3 = true
  ok4 : c.mon.c4 = true

theorem inDea_of_late (w : GW) (h : w.inDeaLate = true) : w.inDea = true := by
  cases w <;> first | rfl | cases h

theorem GInv.posts_zero {c : Cfg} (hG : GInv c) (ha : c.active = true) (hw : c.w.inDeaLate = false)
    (hl : lateDirect c = false) : c.mon.posts = 0 := by
  rcases hG.k ha with h | h | h
  · exact h
  · rw [hw] at h; cases h
  · rw [hl] at h; cases h

theorem GInv.free {c : Cfg} (hG : GInv c) (hs : c.sched ≠ .processing) : c.w = .idle ∧ c.dea = none :=
  ⟨Decidable.of_not_not fun h => hs (hG.t2 h), Decidable.of_not_not fun h => hs (hG.t1 h)⟩

-- `lateDirect` (clause `k`) and the `match` of clause `postBy` read the deactivator's program counter through `dea`;
-- what they are while thread `i` is at `.mDea pc`
section direct
variable {c : Cfg} {i : Nat} {pc : DPC} (hpc : c.threads i = .mDea pc) (hd : c.dea = some i)
include hd hpc

theorem lateDirect_of_pc : lateDirect c = (pc != .deaB) := by
  rw [lateDirect, hd]; dsimp only; rw [hpc]; cases pc <;> rfl

theorem postBy_of_pc (hw : c.w = .idle) :
    (match c.w with
      | .dea .deaE _ _ => [0]
      | _ => match c.dea with
        | some i => if c.threads i = .mDea .deaE then [i + 2] else []
        | none => []) = if pc = .deaE then [i + 2] else [] := by
  rw [hw, hd]; dsimp only; rw [hpc]; cases pc <;> rfl
end direct

theorem GInv.kb2_setT {c : Cfg} (hG : GInv c) (i : Nat) {pc : GT} (h : pc ≠ .mDea .deaB) :
    ∀ j, (setT c i pc).threads j = .mDea .deaB → c.active = true :=
  forall_upd (P := fun _ (t : GT) => t = .mDea .deaB → c.active = true) (fun e => absurd e h) fun j _ => hG.kb2 j

/-- frame: re-pointing a thread from outside the direct deactivation to outside it -/
theorem ginv_setT {c : Cfg} (i : Nat) {pc₀ pc : GT} (hG : GInv c) (hpc : c.threads i = pc₀)
    (h : (pc₀.direct || pc.direct) = false := by rfl) : GInv (setT c i pc) := by
  have ⟨h1, h2⟩ := Bool.or_eq_false_iff.1 h
  have h1 := (congrArg GT.direct hpc).trans h1
  have hni : c.dea ≠ some i := fun h => Bool.noConfusion (h1.symm.trans ((hG.d1 i).2 h))
  have d1 := owner_move hG.d1 (h2.trans h1.symm)
  have kb2 := hG.kb2_setT i fun h => Bool.noConfusion (h2.symm.trans (congrArg GT.direct h))
  obtain ⟨_, _, _, _, _, _, _, _, _, _, _, dea, _, _⟩ := c
  cases dea with
  | none => exact { hG with d1, kb2 }
  | some d =>
    have hdi : ¬d = i := fun h => hni (h ▸ rfl)
    exact { hG with
      d1, kb2
      postBy := by simp only [setT, if_neg hdi]; exact hG.postBy
      k := by simp only [setT, lateDirect, if_neg hdi]; exact hG.k }

theorem ginv_w (c : Cfg) (hB : Base c) (hG : GInv c) : GInv (wStep c) := by
  cases c
  -- `w` is the fifth field of `Cfg` from the end
  rename_i w _ _ _ _
  cases w
  case idle =>
    unfold wStep
    dsimp only
    split
    next hs =>
      have hd := (hG.free (by rw [hs]; nofun)).2
      exact { hG with ex := fun _ => hd, t1 := fun _ => rfl, t2 := fun _ => rfl, kb1 := nofun }
    · exact hG
  all_goals
    have hd := hG.ex nofun
    have hs := hG.t2 nofun
    dsimp only at hd hs
    subst hd hs
  case loop b =>
    cases b with
    | zero => exact { hG with ex := fun _ => rfl, t1 := nofun, t2 := fun h => absurd rfl h, kb1 := nofun }
    | succ b =>
      unfold wStep
      dsimp only
      split
      -- the mailbox is empty: the turn ends
      · exact { hG with ex := fun _ => rfl, t1 := nofun, t2 := fun h => absurd rfl h, kb1 := nofun }
      -- a user message: OnReceive if active, else failed
      · split
        next ha =>
          have ok := recvB_ok (g := wid) hG.ok3 hG.ok4 (hG.posts_zero ha rfl rfl) hG.postBy
          exact { hG with ex := fun _ => rfl, t2 := fun _ => rfl, recvBy := rfl, kb1 := nofun, ok3 := ok.1, ok4 := ok.2 }
        · exact { hG with ex := fun _ => rfl, t2 := fun _ => rfl, kb1 := nofun }
      -- a PoisonPill
      · split
        next ha => exact { hG with ex := fun _ => rfl, t2 := fun _ => rfl, kb1 := fun _ _ _ => ha }
        · exact { hG with ex := fun _ => rfl, t2 := fun _ => rfl, kb1 := nofun }
      -- a passivation pill
      · split
        · exact { hG with ex := fun _ => rfl, t2 := fun _ => rfl, kb1 := nofun }
        next h =>
          -- the passivation pill is obeyed only by an active process
          have ha := active_of_not_gone fun h' => h (by rw [h']; rfl)
          exact { hG with ex := fun _ => rfl, t2 := fun _ => rfl, kb1 := fun _ _ _ => ha }
  case rcv b => exact { hG with ex := fun _ => rfl, t2 := fun _ => rfl, recvBy := rfl, kb1 := nofun }
  case dea pc v b =>
    cases pc with
    | deaB =>
      have ha := hG.kb1 _ _ rfl
      -- last argument: with `w = .dea .deaB` the right side of `recvBy` is `none`, and `sameOrNone none wid` is `true`
      have ok := postB_ok (g := wid) (v := v) hG.ok2 hG.ok4 (hG.posts_zero ha rfl rfl) (congrArg (sameOrNone · wid) hG.recvBy)
      have hpd := hB.started (.inl ha)
      exact { hG with
        ex := fun _ => rfl, t2 := fun _ => rfl, kb1 := nofun
        postBy := congrArg (wid :: ·) hG.postBy
        k := fun _ => .inr (.inl rfl)
        early0 := absurd_tf hpd
        ok2 := ok.1, ok4 := ok.2 }
    | deaE =>
      exact { hG with
        ex := fun _ => rfl, t2 := fun _ => rfl, kb1 := nofun
        postBy := postE_postBy hG.postBy
        k := fun _ => .inr (.inl rfl) }
    | fin =>
      exact { hG with ex := fun _ => rfl, t2 := fun _ => rfl, kb1 := nofun, k := nofun, kb2 := fun i h => nomatch (hG.d1 i).1 (congrArg GT.direct h) }

theorem ginv_enqueue {c : Cfg} (hG : GInv c) {box : List GMsg} :
    GInv { c with box := box, sched := trySchedule c.sched } :=
  { hG with
    t1 := fun h => congrArg trySchedule (hG.t1 h)
    t2 := fun h => congrArg trySchedule (hG.t2 h) }

theorem GInv.direct_idle {c : Cfg} (hG : GInv c) {i : Nat} {pc : DPC} (hpc : c.threads i = .mDea pc) :
    c.dea = some i ∧ c.w = .idle :=
  have hd := (hG.d1 i).1 (congrArg GT.direct hpc)
  ⟨hd, Decidable.of_not_not fun h => nomatch hd.symm.trans (hG.ex h)⟩

theorem ginv_t (c : Cfg) (i : Nat) (hB : Base c) (hG : GInv c) : GInv (tStep c i) := by
  -- `fun_cases tStep c i` yields one goal per leaf of the model's definition, with the pc equation and every branch condition
  -- as hypotheses; `case1`, `case2`, … follow the order of the leaves in Model/C31.lean.
  fun_cases tStep c i
  -- done, fresh, sEnsure waiting on the single-flight: nothing moves
  case case1 | case2 | case8 => exact hG
  -- aB
  case case3 p hpc =>
    -- OnActivate starts: the monitor counts OnDeactivates from zero
    exact ginv_setT i { hG with k := fun _ => .inl rfl, early0 := fun _ => rfl } hpc
  -- aE
  case case4 p hpc =>
    have hp := hG.early0 (hB.of_creating (congrArg GT.creating hpc)).2
    exact ginv_setT i { hG with k := fun _ => .inl hp, kb1 := fun _ _ _ => rfl, kb2 := fun _ _ => rfl, early0 := nofun }
      hpc
  -- sEnsure resolves (three ways), sRecv on an inactive process, mCheck gives up, mCheck → mTake: only the thread moves
  case case5 p hpc _ | case6 p hpc _ _ | case7 p hpc _ _ _ | case10 p hpc _ | case11 hpc _ | case13 hpc _ _ =>
    exact ginv_setT i hG hpc
  -- sRecv on an active process, mCheck of a reentrant grain, mTake that finds a turn queued or running: an enqueue
  case case9 p hpc _ | case12 hpc _ _ | case16 hpc _ => exact ginv_setT i (ginv_enqueue hG) hpc
  -- mTake, Idle, re-test failed: no turn was in progress, and the turn is released at once
  case case14 hpc hs _ =>
    have ⟨hw, hd⟩ := hG.free (by rw [hs]; nofun)
    exact ginv_setT i { hG with t1 := fun h => absurd hd h, t2 := fun h => absurd hw h } hpc
  -- mTake, Idle, re-test passed: the manager thread takes the turn; no other direct deactivation, no worker turn
  case case15 hpc hs h =>
    have ⟨hw, hd⟩ := hG.free (by rw [hs]; nofun)
    have ha := active_of_not_gone h
    have hp := hG.posts_zero ha (by rw [hw]; rfl) (by rw [lateDirect, hd])
    have hpb := hG.postBy
    rw [hw, hd] at hpb
    exact { hG with
      d1 := owner_enter hG.d1 hd rfl
      ex := fun h => absurd hw h, t1 := fun _ => rfl, t2 := fun h => absurd hw h
      postBy := hpb.trans (postBy_of_pc (pc := .deaB) (setT_self { c with sched := _, dea := _ } i _) rfl hw).symm
      k := fun _ => .inl hp
      kb2 := fun _ _ => ha }
  -- mDea .deaB: OnDeactivate starts on the manager goroutine, which owns the turn
  case case17 hpc =>
    have ⟨hd, hw⟩ := hG.direct_idle hpc
    have ha := hG.kb2 i hpc
    have hp := hG.posts_zero ha (by rw [hw]; rfl) (lateDirect_of_pc hpc hd)
    have hpd := hB.started (.inl ha)
    have hpb := hG.postBy.trans (postBy_of_pc hpc hd hw)
    have ok := postB_ok (g := tidOf i) (v := .pass) hG.ok2 hG.ok4 hp (by rw [hG.recvBy, hw]; rfl)
    exact { hG with
      d1 := owner_move hG.d1 (congrArg GT.direct hpc).symm
      postBy := (congrArg (tidOf i :: ·) hpb).trans (postBy_of_pc (pc := .deaE) (setT_self (emit c _) i _) hd hw).symm
      k := fun _ => .inr (.inr (lateDirect_of_pc (pc := .deaE) (setT_self (emit c _) i _) hd))
      kb2 := hG.kb2_setT i nofun
      early0 := absurd_tf hpd
      ok2 := ok.1, ok4 := ok.2 }
  -- mDea .deaE
  case case18 hpc =>
    have ⟨hd, hw⟩ := hG.direct_idle hpc
    have hpb := hG.postBy.trans (postBy_of_pc hpc hd hw)
    exact { hG with
      d1 := owner_move hG.d1 (congrArg GT.direct hpc).symm
      postBy := (postE_postBy hpb).trans (postBy_of_pc (pc := .fin) (setT_self (emit c _) i _) hd hw).symm
      k := fun _ => .inr (.inr (lateDirect_of_pc (pc := .fin) (setT_self (emit c _) i _) hd))
      kb2 := hG.kb2_setT i nofun }
  -- mDea .fin: the turn is released
  case case19 hpc =>
    have ⟨hd, hw⟩ := hG.direct_idle hpc
    have d1 := owner_leave (a := GT.done) hG.d1 hd rfl
    exact { hG with
      d1
      ex := fun _ => rfl, t1 := fun h => absurd rfl h, t2 := fun h => absurd hw h
      postBy := by simp only [setT, finish, hw]; exact hG.postBy.trans (postBy_of_pc hpc hd hw)
      k := nofun, kb1 := fun _ _ h => nomatch hw.symm.trans h
      kb2 := fun j h => nomatch (d1 j).1 (congrArg GT.direct h) }

theorem ginv_step (c : Cfg) (a : Nat) (hB : Base c) (hG : GInv c) : GInv (step c a) :=
  match a with
  | 0 => ginv_w c hB hG
  | k + 1 => ginv_t c k hB hG

theorem ginv_init (reent expired : Bool) (budget : Nat) (prog : Nat → GT) (hp : admissible prog) :
    GInv (init reent expired budget prog) :=
  have hnd (i) : (prog i).direct = false := by
    by_cases hi : i = 0
    · obtain ⟨p, h0⟩ := hp.1; rw [hi, h0]; rfl
    · exact (GT.of_initial (hp.2 i hi)).2
  { d1 := fun i => ⟨fun h => (nomatch (hnd i).symm.trans h), nofun⟩
    ex := fun _ => rfl, t1 := fun h => absurd rfl h, t2 := fun h => absurd rfl h
    recvBy := rfl, postBy := rfl, k := fun _ => .inl rfl, kb1 := nofun
    kb2 := fun i h => nomatch (hnd i).symm.trans (congrArg GT.direct h)
    early0 := fun _ => rfl, ok2 := rfl, ok3 := rfl, ok4 := rfl }

end GoaktVerif.C31
