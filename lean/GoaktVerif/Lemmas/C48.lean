/-
C48 (TTL map): the Go map as an association list, the representation invariant `Inv`, the abstraction
`abs`; unmapping keys is filtering the items; `evict` and `maybeCompact` keep both.
-/
import GoaktVerif.Model.C48
import GoaktVerif.Lemmas.Assoc

namespace GoaktVerif.C48
open GoaktVerif.Model.C48

theorem find_eq_lookup (m : Items) (k : Nat) : m.find k = List.lookup k m :=
  Assoc.lookup_of_eqns Items.find (fun _ => rfl) (fun _ _ _ _ => rfl) m k

theorem find_del (m : Items) (k k' : Nat) :
    (Items.del m k).find k' = if k' = k then none else m.find k' := by
  rw [find_eq_lookup, find_eq_lookup]; exact Assoc.lookup_del k (fun _ => by simp) m k'

theorem find_put (m : Items) (k i k' : Nat) :
    (Items.put m k i).find k' = if k' = k then some i else m.find k' := by
  rw [find_eq_lookup, find_eq_lookup]; exact Assoc.lookup_put k (fun _ => by simp) i m k'

def Keys (m : Items) : List Nat := m.map Prod.fst

theorem find_eq_none_iff (m : Items) (k : Nat) : m.find k = none ↔ k ∉ Keys m := by
  rw [find_eq_lookup]; exact Assoc.lookup_eq_none_iff m k

section
variable {m : Items}

theorem mem_of_find {k i : Nat} (h : m.find k = some i) : (k, i) ∈ m :=
  Assoc.mem_of_lookup (find_eq_lookup m k ▸ h)

theorem find_of_mem {k i : Nat} (hn : (Keys m).Nodup) (h : (k, i) ∈ m) : m.find k = some i :=
  (find_eq_lookup m k).trans (Assoc.lookup_of_mem hn h)

theorem find_iff_mem (hn : (Keys m).Nodup) {k i : Nat} : m.find k = some i ↔ (k, i) ∈ m :=
  ⟨mem_of_find, find_of_mem hn⟩

theorem nodup_del (k : Nat) (h : (Keys m).Nodup) : (Keys (Items.del m k)).Nodup :=
  Assoc.nodup_keys_filter _ h

theorem find_filter (hn : (Keys m).Nodup) (p : Nat × Nat → Bool) (k : Nat) :
    Items.find (m.filter p) k = (m.find k).filter fun i => p (k, i) :=
  Option.ext fun j => by
    rw [find_iff_mem (Assoc.nodup_keys_filter p hn), List.mem_filter, Option.filter_eq_some_iff, find_iff_mem hn]

theorem nodup_put (k i : Nat) (h : (Keys m).Nodup) : (Keys (Items.put m k i)).Nodup :=
  Assoc.nodup_keys_put k (fun _ => by simp) i h

end

theorem length_del_le (m : Items) (k : Nat) : (Items.del m k).length ≤ m.length :=
  List.length_filter_le _ _

/-- the slot condition: every mapped key points at a slot at or after `head` holding that key -/
def SlotOK (head : Nat) (order : List Entry) (it : Items) : Prop :=
  ∀ k i, it.find k = some i → head ≤ i ∧ ∃ e, order[i]? = some e ∧ e.key = k

structure Inv (s : TTL) : Prop where
  nodup : (Keys s.items).Nodup
  head_le : s.head ≤ s.order.length
  slot : SlotOK s.head s.order s.items

/-- abstraction function: key ↦ (value, expireAt) of the slot its index points at -/
def abs (s : TTL) (k : Nat) : Option (Int × Int) :=
  match s.items.find k with
  | some i => (s.order[i]?).map (fun e => (e.val, e.exp))
  | none => none

theorem inv_new (ttl : Int) : Inv (TTL.new ttl) :=
  ⟨List.nodup_nil, Nat.le_refl 0, fun _ _ h => nomatch h⟩

theorem abs_new (ttl : Int) (k : Nat) : abs (TTL.new ttl) k = none := rfl

theorem slot_inj {head : Nat} {order : List Entry} {it : Items} (h : SlotOK head order it)
    {k k' i : Nat} (h1 : it.find k = some i) (h2 : it.find k' = some i) : k = k' := by
  obtain ⟨_, e, he, hk⟩ := h k i h1
  obtain ⟨_, e', he', hk'⟩ := h k' i h2
  rw [he] at he'
  cases he'
  rw [← hk, ← hk']

/-- the value a lookup yields from an abstract entry when the clock reads `now` -/
def liveVal (now : Int) : Option (Int × Int) → Option Int
  | some (v, e) => if now < e then some v else none
  | none => none

/-- `a` is `b`, or `a` is absent and `b` is an entry that is expired at `now` -/
def DropsExpired (now : Int) (a b : Option (Int × Int)) : Prop :=
  a = b ∨ (a = none ∧ ∃ v e, b = some (v, e) ∧ e ≤ now)

theorem DropsExpired.refl (now : Int) (a : Option (Int × Int)) : DropsExpired now a a := Or.inl rfl

theorem DropsExpired.trans {now : Int} {a b c : Option (Int × Int)}
    (h1 : DropsExpired now a b) (h2 : DropsExpired now b c) : DropsExpired now a c := by
  rcases h1 with rfl | ⟨ha, v, e, hb, hle⟩
  · exact h2
  · rcases h2 with rfl | ⟨hb', _⟩
    · exact Or.inr ⟨ha, v, e, hb, hle⟩
    · rw [hb] at hb'; cases hb'

theorem DropsExpired.mono {now now' : Int} {a b : Option (Int × Int)} (h : now ≤ now')
    (h1 : DropsExpired now a b) : DropsExpired now' a b :=
  h1.imp_right fun ⟨ha, v, e, hb, hle⟩ => ⟨ha, v, e, hb, Int.le_trans hle h⟩

/-- what `SMap.set` / `SMap.del` do pointwise, on both sides -/
theorem DropsExpired.ite {now : Int} {a b : Option (Int × Int)} (p : Prop) [Decidable p] (x : Option (Int × Int))
    (h : DropsExpired now a b) : DropsExpired now (if p then x else a) (if p then x else b) :=
  if hp : p then (if_pos hp).symm ▸ (if_pos hp).symm ▸ .inl rfl else (if_neg hp).symm ▸ (if_neg hp).symm ▸ h

theorem DropsExpired.liveVal {now : Int} {a b : Option (Int × Int)} (h : DropsExpired now a b) :
    liveVal now a = liveVal now b := by
  rcases h with rfl | ⟨rfl, v, e, rfl, hle⟩
  · rfl
  · exact (if_neg (Int.not_lt.2 hle)).symm

section
variable {s : TTL}

theorem inv_filter (hi : Inv s) (p : Nat × Nat → Bool) : Inv { s with items := s.items.filter p } :=
  ⟨Assoc.nodup_keys_filter p hi.nodup, hi.head_le, fun k i h =>
    hi.slot k i (Option.filter_eq_some_iff.1 (find_filter hi.nodup p k ▸ h)).1⟩

theorem abs_eq_bind (s : TTL) (k : Nat) :
    abs s k = (s.items.find k).bind fun i => (s.order[i]?).map fun e => (e.val, e.exp) := by
  unfold abs; cases s.items.find k <;> rfl

theorem abs_filter (hi : Inv s) (p : Nat × Nat → Bool) (k : Nat) :
    abs { s with items := s.items.filter p } k =
      ((s.items.find k).filter fun i => p (k, i)).bind fun i => (s.order[i]?).map fun e => (e.val, e.exp) := by
  rw [abs_eq_bind, find_filter hi.nodup]

theorem drops_filter (now : Int) (hi : Inv s) (p : Nat × Nat → Bool)
    (hp : ∀ k i e, s.items.find k = some i → s.order[i]? = some e → p (k, i) = false → e.exp ≤ now) (k : Nat) :
    DropsExpired now (abs { s with items := s.items.filter p } k) (abs s k) := by
  rw [abs_filter hi, abs_eq_bind]
  cases hf : s.items.find k with
  | none => exact .inl rfl
  | some i =>
    obtain ⟨_, e, he, _⟩ := hi.slot k i hf
    rw [Option.filter_some]
    cases hpk : p (k, i) with
    | true => exact .inl rfl
    | false => exact .inr ⟨rfl, e.val, e.exp, by rw [Option.bind_some, he]; rfl, hp k i e hf he hpk⟩

end

theorem drop_cons_getElem? {α} {l : List α} {h : Nat} {e : α} {rest : List α}
    (hd : l.drop h = e :: rest) : l[h]? = some e ∧ l.drop (h + 1) = rest := by
  rw [← List.head?_drop, ← List.tail_drop, hd]; exact ⟨rfl, rfl⟩

/-- the mappings that point at slot `h` or behind it -/
def fromSlot (h : Nat) (it : Items) : Items := it.filter fun p => decide (h ≤ p.2)

section
variable {h : Nat} {order : List Entry} {it : Items}

theorem slotOK_fromSlot (h' : Nat) (hn : (Keys it).Nodup) (hs : SlotOK h order it) :
    SlotOK h' order (fromSlot h' it) := fun k i hf => by
  obtain ⟨h1, h2⟩ := Option.filter_eq_some_iff.1 (find_filter hn _ k ▸ hf)
  exact ⟨of_decide_eq_true h2, (hs k i h1).2⟩

theorem fromSlot_fromSlot {h' : Nat} (hle : h ≤ h') (it : Items) : fromSlot h' (fromSlot h it) = fromSlot h' it := by
  rw [fromSlot, fromSlot, List.filter_filter]
  exact List.filter_congr fun p _ => by
    by_cases hp : h' ≤ p.2
    · simp [hp, Nat.le_trans hle hp]
    · simp [hp]

theorem fromSlot_self (hn : (Keys it).Nodup) (hs : SlotOK h order it) : fromSlot h it = it :=
  List.filter_eq_self.2 fun (k, i) hp => decide_eq_true (hs k i (find_of_mem hn hp)).1

/-- one iteration of the eviction loop on slot `h`: whether or not the `delete` fires, what is left is
    `fromSlot (h + 1)` -/
theorem evict_slot {e : Entry} (he : order[h]? = some e) (hn : (Keys it).Nodup) (hs : SlotOK h order it) :
    (if it.find e.key = some h then Items.del it e.key else it) = fromSlot (h + 1) it := by
  -- the only mapping that can sit at slot `h` is that of `e.key`
  have key : ∀ k i, (k, i) ∈ it → h ≤ i ∧ (i = h → k = e.key) := fun k i hp => by
    obtain ⟨hle, e', he', hk⟩ := hs k i (find_of_mem hn hp)
    exact ⟨hle, fun hi => by subst hi; cases he.symm.trans he'; exact hk.symm⟩
  split
  · rename_i hf
    refine List.filter_congr fun (k, i) hp => ?_
    obtain ⟨hle, hk⟩ := key k i hp
    by_cases hke : k = e.key
    · have : i = h := Option.some.inj ((find_of_mem hn hp).symm.trans (hke ▸ hf))
      simp [hke, this]
    · have : h + 1 ≤ i := Nat.lt_of_le_of_ne hle fun hi => hke (hk hi.symm)
      simp [hke, this]
  · rename_i hf
    refine (List.filter_eq_self.2 fun (k, i) hp => ?_).symm
    obtain ⟨hle, hk⟩ := key k i hp
    exact decide_eq_true (Nat.lt_of_le_of_ne hle fun hi => hf (by rw [← hk hi.symm, hi]; exact find_of_mem hn hp))

end

/-- What the eviction loop does, for any starting head `h` with `l = order[h:]`: the head moves forward over a run
    of EXPIRED slots, and exactly the mappings that point at or behind the new head are kept. -/
theorem evictGo_spec (now : Int) (order : List Entry) :
    ∀ (l : List Entry) (h : Nat) (it : Items), order.drop h = l → h ≤ order.length →
      (Keys it).Nodup → SlotOK h order it →
      let r := evictGo now l h it
      h ≤ r.1 ∧ r.1 ≤ order.length ∧ (∀ i e, h ≤ i → i < r.1 → order[i]? = some e → e.exp ≤ now) ∧
        r.2 = fromSlot r.1 it := by
  intro l
  induction l with
  | nil =>
    exact fun h it _ hh hn hs =>
      ⟨Nat.le_refl _, hh, fun i _ h1 h2 => absurd h1 (Nat.not_le.2 h2), (fromSlot_self hn hs).symm⟩
  | cons e rest ih =>
    intro h it hd hh hn hs
    obtain ⟨he, hrest⟩ := drop_cons_getElem? hd
    rw [evictGo]
    split
    · exact ⟨Nat.le_refl _, hh, fun i _ h1 h2 => absurd h1 (Nat.not_le.2 h2), (fromSlot_self hn hs).symm⟩
    · rw [evict_slot he hn hs]
      obtain ⟨r1, r2, r3, r4⟩ := ih (h + 1) _ hrest (List.getElem?_eq_some_iff.1 he).1 (Assoc.nodup_keys_filter _ hn) (slotOK_fromSlot _ hn hs)
      refine ⟨Nat.le_of_succ_le r1, r2, fun i e' h1 h2 hi => ?_, r4.trans (fromSlot_fromSlot r1 it)⟩
      rcases Nat.eq_or_lt_of_le h1 with rfl | h1
      · cases he.symm.trans hi; exact Int.not_lt.1 ‹_›
      · exact r3 i e' h1 h2 hi

theorem evict_eq (now : Int) (s : TTL) :
    evict now s = { s with head := (evictGo now (s.order.drop s.head) s.head s.items).1,
                           items := (evictGo now (s.order.drop s.head) s.head s.items).2 } := rfl

theorem inv_evict (now : Int) (s : TTL) (hi : Inv s) : Inv (evict now s) := by
  obtain ⟨_, r2, _, r4⟩ := evictGo_spec now s.order _ s.head s.items rfl hi.head_le hi.nodup hi.slot
  rw [evict_eq, r4]
  exact ⟨Assoc.nodup_keys_filter _ hi.nodup, r2, slotOK_fromSlot _ hi.nodup hi.slot⟩

/-- eviction filters the items, and every mapping it drops pointed at a slot the head moved over, an expired one -/
theorem abs_evict (now : Int) (s : TTL) (hi : Inv s) (k : Nat) :
    DropsExpired now (abs (evict now s) k) (abs s k) := by
  obtain ⟨_, _, r3, r4⟩ := evictGo_spec now s.order _ s.head s.items rfl hi.head_le hi.nodup hi.slot
  rw [evict_eq, r4]
  exact drops_filter now hi _
    (fun k i e hf he hp => r3 i e (hi.slot k i hf).1 (Nat.not_le.1 (of_decide_eq_false hp)) he) k

theorem evict_order (now : Int) (s : TTL) : (evict now s).order = s.order := rfl
theorem evict_ttl (now : Int) (s : TTL) : (evict now s).ttl = s.ttl := rfl

/-- the slow path keeps the slots that are the live mapping of their key -/
theorem compactSlow_eq (it : Items) : ∀ (l : List Entry) (i : Nat),
    compactSlow it l i = ((l.zipIdx i).filter fun p => decide (it.find p.1.key = some p.2)).map (·.1)
  | [], _ => rfl
  | e :: rest, i => by
    rw [compactSlow, List.zipIdx_cons, List.filter_cons, compactSlow_eq it rest (i + 1)]
    simp only [decide_eq_true_eq]
    split <;> rfl

theorem mem_compactSlow {it : Items} {l : List Entry} {i : Nat} {e : Entry} :
    e ∈ compactSlow it l i ↔ ∃ j, l[j]? = some e ∧ it.find e.key = some (i + j) := by
  rw [compactSlow_eq]
  simp only [List.mem_map, List.mem_filter, List.mem_zipIdx_iff_le_and_getElem?_sub, decide_eq_true_eq]
  constructor
  · rintro ⟨⟨e', j⟩, ⟨⟨h1, h2⟩, h3⟩, rfl⟩
    exact ⟨j - i, h2, by rw [h3]; congr 1; exact (Nat.add_sub_cancel' h1).symm⟩
  · rintro ⟨j, h1, h2⟩
    exact ⟨(e, i + j), ⟨⟨Nat.le_add_right _ _, by rw [Nat.add_sub_cancel_left]; exact h1⟩, h2⟩, rfl⟩

theorem compactSlow_keys_nodup {it : Items} {l : List Entry} {i : Nat} :
    ((compactSlow it l i).map Entry.key).Nodup := by
  rw [compactSlow_eq, List.map_map, List.nodup_iff_pairwise_ne, List.pairwise_map]
  -- slot indices increase along the region, and two kept slots with one key would both be that key's mapping
  have hlt : (l.zipIdx i).Pairwise fun a b => a.2 < b.2 := by
    rw [← List.pairwise_map (f := Prod.snd) (R := (· < ·)), List.zipIdx_map_snd]; exact List.pairwise_lt_range'
  refine ((hlt.filter _).imp_of_mem ?_)
  intro a b ha hb hab hk
  have h1 := of_decide_eq_true (List.mem_filter.1 ha).2
  have h2 := of_decide_eq_true (List.mem_filter.1 hb).2
  have hk : a.1.key = b.1.key := hk
  rw [hk, h2] at h1
  exact Nat.ne_of_lt hab (Option.some.inj h1).symm

theorem compactSlow_all (it : Items) (l : List Entry) (i : Nat)
    (h : ∀ j e, l[j]? = some e → it.find e.key = some (i + j)) : compactSlow it l i = l := by
  rw [compactSlow_eq, List.filter_eq_self.2, List.zipIdx_map_fst]
  intro p hp
  obtain ⟨h1, h2⟩ := List.mem_zipIdx_iff_le_and_getElem?_sub.1 hp
  exact decide_eq_true (by rw [h _ _ h2, Nat.add_sub_cancel' h1])

/-- `reindex`: a key of the list gets (one of) its position(s); other keys are untouched -/
theorem find_reindex_notin : ∀ (l : List Entry) (p : Nat) (it : Items) (k : Nat),
    k ∉ l.map Entry.key → (reindex l p it).find k = it.find k := by
  intro l
  induction l with
  | nil => intro p it k _; rfl
  | cons a rest ih =>
    intro p it k hk
    simp only [List.map_cons, List.mem_cons, not_or] at hk
    simp only [reindex]
    rw [ih (p + 1) _ k hk.2, find_put, if_neg hk.1]

theorem find_reindex_in : ∀ (l : List Entry) (p : Nat) (it : Items),
    (l.map Entry.key).Nodup → ∀ q e, l[q]? = some e → (reindex l p it).find e.key = some (p + q) := by
  intro l
  induction l with
  | nil => intro p it _ q e h; simp at h
  | cons a rest ih =>
    intro p it hn q e h
    simp only [List.map_cons, List.nodup_cons] at hn
    simp only [reindex]
    cases q with
    | zero =>
      simp only [List.getElem?_cons_zero, Option.some.injEq] at h
      subst h
      rw [find_reindex_notin rest (p + 1) _ a.key hn.1, find_put, if_pos rfl, Nat.add_zero]
    | succ q =>
      simp only [List.getElem?_cons_succ] at h
      rw [ih (p + 1) _ hn.2 q e h, Nat.add_right_comm]; rfl

theorem nodup_reindex (l : List Entry) {p : Nat} {it : Items} (h : (Keys it).Nodup) : (Keys (reindex l p it)).Nodup := by
  induction l generalizing p it with
  | nil => exact h
  | cons a rest ih => exact ih (nodup_put _ _ h)

/-- pigeonhole: `n` distinct numbers inside `[a, a+n)` are all of them -/
theorem pigeon (idxs : List Nat) (a n : Nat) (hn : idxs.Nodup) (hr : ∀ x ∈ idxs, a ≤ x ∧ x < a + n)
    (hl : n ≤ idxs.length) : ∀ j, a ≤ j → j < a + n → j ∈ idxs := by
  intro j h1 h2
  refine Decidable.byContradiction fun hj => ?_
  have hsub : idxs ⊆ (List.range' a n).erase j := by
    intro x hx
    have := hr x hx
    have hxj : x ≠ j := fun h => hj (h ▸ hx)
    exact (List.mem_erase_of_ne hxj).mpr (List.mem_range'_1.mpr ⟨this.1, this.2⟩)
  have hle := List.Nodup.length_le_of_subset hn hsub
  have hmem : j ∈ List.range' a n := List.mem_range'_1.mpr ⟨h1, h2⟩
  rw [List.length_erase] at hle
  simp only [hmem, if_true, List.length_range'] at hle
  omega

/-- the fast-path test is sound: if `len(items)` equals the size of the region then every slot
    of the region is the live mapping of its key -/
theorem region_full (s : TTL) (hi : Inv s) (hfull : s.items.length = s.order.length - s.head) :
    ∀ j e, (s.order.drop s.head)[j]? = some e → s.items.find e.key = some (s.head + j) := by
  intro j e he
  rw [List.getElem?_drop] at he
  have hjlt : s.head + j < s.order.length := (List.getElem?_eq_some_iff.1 he).1
  have hnodup : (s.items.map Prod.snd).Nodup := by
    have := hi.nodup
    rw [Keys, List.nodup_iff_pairwise_ne, List.pairwise_map] at this
    rw [List.nodup_iff_pairwise_ne, List.pairwise_map]
    exact this.imp_of_mem fun {p1 p2} hp1 hp2 hne heq =>
      hne (slot_inj hi.slot (find_of_mem hi.nodup hp1) (heq ▸ find_of_mem hi.nodup hp2))
  have e0 : s.head + (s.order.length - s.head) = s.order.length := Nat.add_sub_cancel' hi.head_le
  have hrange : ∀ x ∈ s.items.map Prod.snd, s.head ≤ x ∧ x < s.head + (s.order.length - s.head) := by
    intro x hx
    obtain ⟨⟨k, i⟩, hp, rfl⟩ := List.mem_map.mp hx
    obtain ⟨h1, e', he', _⟩ := hi.slot k i (find_of_mem hi.nodup hp)
    exact ⟨h1, Nat.lt_of_lt_of_eq (List.getElem?_eq_some_iff.1 he').1 e0.symm⟩
  have hmem := pigeon _ s.head (s.order.length - s.head) hnodup hrange (by rw [List.length_map, hfull]; exact Nat.le_refl _)
    (s.head + j) (Nat.le_add_right _ _) (Nat.lt_of_lt_of_eq hjlt e0.symm)
  obtain ⟨⟨k, i⟩, hp, hpi⟩ := List.mem_map.mp hmem
  simp only at hpi
  subst hpi
  have f := find_of_mem hi.nodup hp
  obtain ⟨_, e', he', hk⟩ := hi.slot k _ f
  rw [he] at he'
  cases he'
  rw [hk]; exact f

theorem kept_eq_slow (s : TTL) (hi : Inv s) :
    (if s.items.length = s.order.length - s.head then s.order.drop s.head
      else compactSlow s.items (s.order.drop s.head) s.head)
    = compactSlow s.items (s.order.drop s.head) s.head := by
  split
  · rename_i hfull
    exact (compactSlow_all s.items _ s.head (region_full s hi hfull)).symm
  · rfl

theorem maybeCompact_ttl (s : TTL) : (maybeCompact s).ttl = s.ttl := by
  unfold maybeCompact; split <;> rfl

/-- compaction preserves the invariant and does not change the abstraction at all -/
theorem compact_spec (s : TTL) (hi : Inv s) :
    Inv (maybeCompact s) ∧ ∀ k, abs (maybeCompact s) k = abs s k := by
  -- `fun_cases f args` gives one goal per leaf of `f` in Model/C48.lean, numbered in the order of the leaves there,
  -- with the guard outcomes on the way as hypotheses and a `let` of `f` as a local definition
  fun_cases maybeCompact s
  case case1 => exact ⟨hi, fun _ => rfl⟩ -- nothing popped, or less than half of the array: as it is
  case case2 _ region kept => -- the live region is moved to the front and reindexed
    simp only [kept, region, kept_eq_slow s hi]
    generalize hkept : compactSlow s.items (s.order.drop s.head) s.head = kept
    have hkn : (kept.map Entry.key).Nodup := by rw [← hkept]; exact compactSlow_keys_nodup
    have hmem : ∀ e, e ∈ kept ↔ ∃ j, (s.order.drop s.head)[j]? = some e ∧ s.items.find e.key = some (s.head + j) := by
      intro e; rw [← hkept]; exact mem_compactSlow
    -- every mapped key has its slot in `kept`
    have hin : ∀ k i, s.items.find k = some i → ∃ e, s.order[i]? = some e ∧ e.key = k ∧ e ∈ kept := by
      intro k i hf
      obtain ⟨hle, e, he, hk⟩ := hi.slot k i hf
      refine ⟨e, he, hk, (hmem e).mpr ⟨i - s.head, ?_, ?_⟩⟩
      · rw [List.getElem?_drop]
        have : s.head + (i - s.head) = i := by omega
        rw [this]; exact he
      · rw [hk, hf]; congr 1; omega
    have hnone : ∀ k, s.items.find k = none → (reindex kept 0 s.items).find k = none := by
      intro k hf
      rw [find_reindex_notin kept 0 s.items k, hf]
      intro hm
      obtain ⟨e, he, hk⟩ := List.mem_map.mp hm
      obtain ⟨j, _, h2⟩ := (hmem e).mp he
      rw [hk, hf] at h2; cases h2
    constructor
    · refine ⟨nodup_reindex _ hi.nodup, Nat.zero_le _, ?_⟩
      intro k q hq
      refine ⟨Nat.zero_le _, ?_⟩
      simp only at hq ⊢
      by_cases hk : k ∈ kept.map Entry.key
      · obtain ⟨e, he, hke⟩ := List.mem_map.mp hk
        obtain ⟨q', hq'⟩ := List.getElem?_of_mem he
        have := find_reindex_in kept 0 s.items hkn q' e hq'
        rw [hke, hq] at this
        simp only [Nat.zero_add, Option.some.injEq] at this
        subst this
        exact ⟨e, hq', hke⟩
      · rw [find_reindex_notin kept 0 s.items k hk] at hq
        obtain ⟨e, _, hke, hek⟩ := hin k q hq
        exact absurd (List.mem_map.mpr ⟨e, hek, hke⟩) hk
    · intro k
      simp only [abs]
      cases hf : s.items.find k with
      | none => rw [hnone k hf]
      | some i =>
        obtain ⟨e, he, hke, hek⟩ := hin k i hf
        obtain ⟨q, hq⟩ := List.getElem?_of_mem hek
        have := find_reindex_in kept 0 s.items hkn q e hq
        rw [hke] at this
        simp only [Nat.zero_add] at this
        simp only [this, hq, he]

end GoaktVerif.C48
