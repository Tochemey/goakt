/-
C16, actor requester: every function of the machine, up to `step`, keeps the invariant (as an instance of a transition of
the shared `Core`) and runs no continuation off the turn, but for the one that a late `Then` runs in the caller (`late`):
one statement per function (`K`; `k_step` for `step`), proved in one pass.
-/
import GoaktVerif.Lemmas.C16.Basic

namespace GoaktVerif.C16
open GoaktVerif.Model.C16 GoaktVerif.C16T

theorem ReqOK.fired_zero {r : Req} (h : ReqOK r) (hnc : r.completed = false) : r.fired = 0 :=
  ((reqOK_iff r).mp h).fired_zero hnc

theorem Inv.installed {s : St} (h : Inv s) {k : Nat} {r : Req} (hg : getReq s.reqs k = some r) :
    s.installed = true := by
  cases hi : s.installed
  · rw [h.notinst hi] at hg; cases hg
  · rfl

/-- the one place where a `Core` fact about `Assoc.upsert` becomes the invariant of a state whose table is `setReq` -/
theorem Inv.of_store {s' : St} {reqs : List (Nat × Req)} {k : Nat} {r' : Req} (hr : s'.reqs = setReq reqs k r')
    (hc : Core sig (Assoc.upsert reqs k r') s'.inFlight s'.blocking s'.maxInFlight s'.log) (hi : s'.installed = true) : Inv s' :=
  (inv_iff s').mpr ⟨hr ▸ setReq_eq .. ▸ hc, fun hni => nomatch hi.symm.trans hni⟩

theorem inv_log_plain {s : St} (h : Inv s) (e : Entry) (he : ∀ k, isCbOf k e = false) :
    Inv { s with log := s.log ++ [e] } :=
  (inv_iff _).mpr ⟨h.core.log_plain [e] (fun _ hm k => by rw [List.mem_singleton.mp hm]; exact he k), h.notinst⟩

/-- the completed form of a request answered by an envelope -/
def completedReq (r : Req) (o : Outcome) : Req :=
  { r with completed := true, outcome := o, who := .envelope, inMap := false,
           fired := if r.hasCb then r.fired + 1 else r.fired }

/-- does completing `r` release the stash? -/
def releases (s : St) (r : Req) : Prop :=
  r.mode = .stash ∧ (if r.mode = .stash then s.blocking - 1 else s.blocking) = 0

instance (s : St) (r : Req) : Decidable (releases s r) := by unfold releases; infer_instance

theorem doResponse_pending (s : St) (k : Nat) (o : Outcome) (r : Req) (hi : s.installed = true)
    (hg : getReq s.reqs k = some r) (hm : r.inMap = true) (hc : r.completed = false) :
    doResponse s k o =
      { s with
        reqs := setReq s.reqs k (completedReq r o),
        inFlight := s.inFlight - 1,
        blocking := if r.mode = .stash then s.blocking - 1 else s.blocking,
        queue := if releases s r then s.queue ++ s.stash else s.queue,
        stash := if releases s r then [] else s.stash,
        log := if r.hasCb then s.log ++ [Entry.cb k o true] else s.log } := by
  simp [doResponse, hi, hg, hm, hc, completedReq, releases]

/-- the hypothesis is one equation between tuples so that callers close it by `rfl` -/
theorem Inv.frame {s s' : St} (h : Inv s)
    (he : (s'.reqs, s'.inFlight, s'.blocking, s'.maxInFlight, s'.log, s'.installed)
        = (s.reqs, s.inFlight, s.blocking, s.maxInFlight, s.log, s.installed)) : Inv s' := by
  simp only [Prod.mk.injEq] at he
  obtain ⟨h1, h2, h3, h4, h5, h6⟩ := he
  exact ⟨h1 ▸ h.reqs_ok, h1 ▸ h2 ▸ h.inflight, h1 ▸ h3 ▸ h.blocking, h2 ▸ h4 ▸ h.limit, h1 ▸ h5 ▸ h.log_cb,
    h1 ▸ h6 ▸ h.notinst⟩

theorem inv_setReq_same {s : St} (h : Inv s) (k : Nat) (r r' : Req) (hg : getReq s.reqs k = some r)
    (hm : inMapP r' = inMapP r) (hb : r'.mode = r.mode) (hf : r'.fired = r.fired) (hok : sig.ROK r') :
    Inv { s with reqs := setReq s.reqs k r' } :=
  .of_store rfl (h.core.touch k r r' (lookup_of_get hg) hm (by show r'.mode = Mode.stash ↔ _; rw [hb]; rfl) hf
    hok) (h.installed hg)

theorem inv_then_completed {s : St} (h : Inv s) (k : Nat) (r : Req) (hg : getReq s.reqs k = some r)
    (hcb : r.hasCb = false) (hc : r.completed = true) :
    Inv { s with reqs := setReq s.reqs k { r with hasCb := true, fired := r.fired + 1 },
                 log := s.log ++ [Entry.cb k r.outcome false] } :=
  .of_store rfl (h.core.lateThen k r (Entry.cb k r.outcome false) (lookup_of_get hg) hcb hc rfl Iff.rfl hc rfl rfl
    (fun _ => rfl)) (h.installed hg)

def cancelOne (r : Req) : Req :=
  if r.inMap && !r.completed then { r with completed := true, outcome := .canceled, who := .shutdown, inMap := false }
  else { r with inMap := false }

theorem cancelAll_eq (l : List (Nat × Req)) : cancelAll l = mapVals cancelOne l := by
  unfold cancelAll mapVals
  apply List.map_congr_left
  intro p _
  simp only [cancelOne]
  split <;> rfl

theorem cancelOne_inMap (r : Req) : (cancelOne r).inMap = false := by
  unfold cancelOne; split <;> rfl

theorem cancelOne_fired (r : Req) : (cancelOne r).fired = r.fired := by
  unfold cancelOne; split <;> rfl

theorem reqOK_cancelOne {r : Req} (h : ReqOK r) : ReqOK (cancelOne r) := by
  unfold cancelOne
  split
  · next hc =>
    simp only [Bool.and_eq_true, Bool.not_eq_true'] at hc
    have hf0 := h.fired_zero hc.2
    exact ⟨by simp [hf0], by simp [hf0], nofun, nofun⟩
  · exact ⟨h.fired_le, h.fired_imp, h.env_fired, nofun⟩

theorem inv_shutdown {s : St} (h : Inv s) :
    Inv { s with running := false, reqs := cancelAll s.reqs, inFlight := 0, blocking := 0 } := by
  refine (inv_iff _).mpr ⟨?_, fun hni => ?_⟩
  · show Core sig (cancelAll s.reqs) 0 0 s.maxInFlight s.log
    rw [cancelAll_eq]
    exact h.core.clear cancelOne s.log cancelOne_inMap
      (fun r hr => (reqOK_iff _).mp (reqOK_cancelOne ((reqOK_iff r).mpr hr))) (h.core.log_mapVals cancelOne cancelOne_fired)
  · show cancelAll s.reqs = []
    rw [h.notinst hni]; rfl

def notOffTurn : Entry → Bool
  | .cb _ _ false => false
  | _ => true

/-- from `s` to `s'` the invariant is kept and no continuation ran off the turn -/
abbrev K (s s' : St) : Prop := Keeps Inv St.log notOffTurn [] s s'

theorem K.refl (s : St) : K s s := .same id rfl

theorem K.frame (s s' : St) (he : (s'.reqs, s'.inFlight, s'.blocking, s'.maxInFlight, s'.log, s'.installed)
    = (s.reqs, s.inFlight, s.blocking, s.maxInFlight, s.log, s.installed)) : K s s' :=
  .same (fun h => h.frame he) (congrArg (·.2.2.2.2.1) he)

theorem K.plain (s : St) (e : Entry) (he : ∀ k, isCbOf k e = false) (ht : notOffTurn e = true) :
    K s { s with log := s.log ++ [e] } :=
  .onTurn e ht (fun h => inv_log_plain h e he) rfl

theorem k_doRequest (s : St) (k : Nat) (m : Option Mode) (t : Bool) : K s (doRequest s k m t) := by
  -- `fun_cases f args` (`fun_induction`, with induction hypotheses, where `f` recurses) yields one goal per leaf of the model's
  -- definition of `f`: guards passed on the way as hypotheses, the leaf's result in the goal; `case1`, … in the order of Model/C16.lean.
  fun_cases doRequest s k m t
  -- the label was issued before: ignored
  case case1 => exact .refl s
  -- refused (not installed; mode off; over the limit): only `req k dis` or `req k lim` is logged
  case case2 | case3 | case4 => exact .plain s _ (fun _ => rfl) rfl
  -- admitted
  case case5 hnone hinst _ _ hroom =>
    exact .onTurn (Entry.req k .ok) rfl (fun h => .of_store rfl
      (h.core.register k (Entry.req k .ok) (lookup_of_get (Option.not_isSome_iff_eq_none.mp hnone)) hroom rfl rfl rfl
        (fun _ => rfl)) (by simpa using hinst)) rfl

theorem k_doResponse (s : St) (k : Nat) (o : Outcome) : K s (doResponse s k o) := by
  fun_cases doResponse s k o
  -- not installed; unknown label; no longer tracked; already completed: dropped
  case case1 | case2 | case3 | case4 => exact .refl s
  -- a pending tracked request is completed
  case case5 hi r hg hm hnc _ _ _ =>
    refine .of_log (if r.hasCb then [Entry.cb k o true] else []) (fun h => .of_store rfl
      (h.core.complete k r (Entry.cb k o true) (lookup_of_get hg) (show r.inMap = true by simpa using hm)
        (show r.completed = false by simpa using hnc) rfl rfl rfl rfl (fun _ => rfl)) (by simpa using hi)) ?_ fun p hp => ?_
    · show (if _ then _ else _ : List Entry) = _
      split <;> simp
    · split
      · exact List.filter_cons_of_neg (by simp [hp (Entry.cb k o true) rfl])
      · rfl

theorem k_dispatch (s : St) (m : Msg) : K s (dispatch s m) := by
  fun_cases dispatch s m
  -- the stash gate: the message goes to the stash
  case case1 => exact .frame _ _ rfl
  -- user message
  case case2 => exact .plain s _ (fun _ => rfl) rfl
  -- hold, with a permit and without
  case case3 | case4 => exact (K.plain s Entry.held (fun _ => rfl) rfl).trans (K.frame _ _ rfl)
  case case5 k m t _ => exact k_doRequest s k m t  -- request command
  case case6 k o _ => exact k_doResponse s k o     -- response

theorem k_pump (fuel : Nat) (s : St) : K s (pump fuel s) := by
  fun_induction pump fuel s
  -- out of fuel; a handler parked; mailbox empty
  case case1 | case2 | case3 => exact .refl _
  -- the head of the mailbox is dispatched, then the loop goes on
  case case4 s _ m rest _ ih => exact ((K.frame s { s with queue := rest } rfl).trans (k_dispatch _ m)).trans ih

theorem k_enqueue (s : St) (m : Msg) : K s (enqueue s m) :=
  (K.frame s { s with queue := s.queue ++ [m] } rfl).trans (k_pump _ _)

/-- the continuation that a late `Then` runs in the caller, by contract -/
def late (s : St) : Op → List Entry
  | .T k =>
    match getReq s.reqs k with
    | none => []
    | some r => if r.hasCb then [] else if r.completed then [Entry.cb k r.outcome false] else []
  | _ => []

theorem k_step (s : St) (op : Op) : Keeps Inv St.log notOffTurn (late s op) s (step s op).1 := by
  fun_cases step s op
  -- q, m, a, H to a requester that is gone; r, x, c for an unknown label or a requester that is gone; c on a completed or
  -- already cancelled request; S while a handler is parked or after a shutdown: nothing changes
  case case1 | case3 | case5 | case7 | case11 | case12 | case14 | case15 | case17 | case18 | case19 | case25 | case26 =>
    exact K.refl s
  -- q, m, a, H; r, x on a known label: one message is enqueued
  case case2 | case4 | case6 | case8 | case13 | case16 => exact k_enqueue s _
  -- L with a handler parked: it goes on; without: a permit
  case case9 => exact (K.frame s { s with held := false } rfl).trans (k_pump _ _)
  case case10 => exact K.frame _ _ rfl
  -- c on a pending request: the flag is set, the cancellation enqueued
  case case20 k r hg _ _ =>
    exact (Keeps.same (fun h => inv_setReq_same h k r { r with cancelRequested := true } hg
      rfl rfl rfl ((reqOK_iff r).mp (h.reqs_ok k r hg)).of_fields) rfl).trans (k_enqueue _ _)
  -- T on an unknown label; with a continuation already registered
  case case21 k hg => simp only [late, hg]; exact K.refl s
  case case22 k r hg hcb => simp only [late, hg, hcb, if_true]; exact K.refl s
  -- T after completion: the continuation runs now, in the caller
  case case23 k r hg hcb hc =>
    simp only [late, hg, hcb, if_pos hc]
    exact .emit _ (fun h => inv_then_completed h k r hg (by simpa using hcb) hc) rfl
  -- T before completion: the continuation is registered
  case case24 k r hg hcb hc =>
    simp only [late, hg, hcb, if_neg hc]
    have hc' : r.completed = false := by simpa using hc
    exact .same (fun h => inv_setReq_same h k r { r with hasCb := true } hg rfl rfl rfl
      ((reqOK_iff _).mp ⟨(h.reqs_ok k r hg).fired_le, by simp [(h.reqs_ok k r hg).fired_zero hc'], by simp [hc'],
        (h.reqs_ok k r hg).map_pending⟩)) rfl
  -- S: shutdown
  case case27 => exact .same inv_shutdown rfl

theorem inv_step {s : St} (h : Inv s) (op : Op) : Inv (step s op).1 := (k_step s op).1 h

end GoaktVerif.C16
