/-
C16, grain requester: the invariant, and its reading as the shared `Core` of Lemmas/C16/Table.lean plus one clause
of its own (labels are distinct).
-/
import GoaktVerif.Model.C16G
import GoaktVerif.Lemmas.C16.Table

namespace GoaktVerif.C16G
open GoaktVerif.Model.C16G GoaktVerif.C16T
open GoaktVerif.Model.C16 (Mode)

theorem getReq_eq (l : List (Nat × Req)) (k : Nat) : getReq l k = l.lookup k :=
  Assoc.lookup_of_eqns getReq (fun _ => rfl) (fun _ _ _ _ => rfl) l k

theorem lookup_of_get {l : List (Nat × Req)} {k : Nat} {o : Option Req} (hg : getReq l k = o) : l.lookup k = o :=
  getReq_eq .. ▸ hg

theorem setReq_eq (l : List (Nat × Req)) (k : Nat) (r : Req) : setReq l k r = Assoc.upsert l k r :=
  Assoc.upsert_of_eqns setReq (fun _ _ => rfl) (fun _ _ _ _ _ => rfl) l k r

def cnt (P : Req → Bool) (l : List (Nat × Req)) : Nat := (l.filter (fun p => P p.2)).length

theorem cnt_nil (P : Req → Bool) : cnt P [] = 0 := rfl

def isCbOf (k : Nat) : Entry → Bool
  | .cb k' _ _ => k' == k
  | _ => false

/-- how often the continuation of request `k` ran, according to the requester's log -/
def cbCount (k : Nat) (log : List Entry) : Nat := (log.filter (isCbOf k)).length

def firedOf (l : List (Nat × Req)) (k : Nat) : Nat := ((getReq l k).map (·.fired)).getD 0

structure ReqOK (r : Req) : Prop where
  fired_le : r.fired ≤ 1
  fired_imp : r.fired = 1 → r.completed = true ∧ r.hasCb = true
  done_fired : r.completed = true → r.hasCb = true → r.fired = 1
  map_pending : r.inMap = true → r.completed = false

def inMapP (r : Req) : Bool := r.inMap
def blockP (r : Req) : Bool := r.inMap && decide (r.mode = .stash)

structure Inv (s : St) : Prop where
  reqs_ok : ∀ (k : Nat) (r : Req), getReq s.reqs k = some r → ReqOK r
  inflight : s.inFlight = (cnt inMapP s.reqs : Nat)
  blocking : s.blocking = (cnt blockP s.reqs : Nat)
  limit : s.maxInFlight > 0 → s.inFlight ≤ s.maxInFlight
  log_cb : ∀ k : Nat, cbCount k s.log = firedOf s.reqs k
  keys : (s.reqs.map Prod.fst).Nodup

/-- what the shared clauses read of the grain's records and log; every completion runs a registered continuation -/
def sig : Sig Req Entry where
  inMap := inMapP
  stash r := r.mode = .stash
  decStash _ := inferInstance
  completed r := r.completed
  hasCb r := r.hasCb
  fired r := r.fired
  runs _ := True
  isCb := isCbOf

theorem reqOK_iff (r : Req) : ReqOK r ↔ sig.ROK r :=
  ⟨fun ⟨a, b, c, d⟩ => ⟨a, b, fun hc _ => c hc, d⟩, fun ⟨a, b, c, d⟩ => ⟨a, b, fun hc => c hc trivial, d⟩⟩

/-- `cnt`, `cbCount` unfold to the generic `count`, `Sig.cbCount` at `sig`: those clauses pass as they are -/
theorem inv_iff (s : St) :
    Inv s ↔ Core sig s.reqs s.inFlight s.blocking s.maxInFlight s.log ∧ (s.reqs.map Prod.fst).Nodup := by
  constructor
  · intro ⟨h1, h2, h3, h4, h5, h6⟩
    exact ⟨⟨fun k r hg => (reqOK_iff r).mp (h1 k r (getReq_eq _ _ ▸ hg)), h2, h3, h4,
      fun k => by rw [Sig.firedOf, ← getReq_eq]; exact h5 k⟩, h6⟩
  · intro ⟨⟨h1, h2, h3, h4, h5⟩, h6⟩
    exact ⟨fun k r hg => (reqOK_iff r).mpr (h1 k r (getReq_eq _ _ ▸ hg)), h2, h3, h4,
      fun k => by rw [firedOf, getReq_eq]; exact h5 k, h6⟩

theorem Inv.core {s : St} (h : Inv s) : Core sig s.reqs s.inFlight s.blocking s.maxInFlight s.log :=
  ((inv_iff s).mp h).1

theorem inv_init (inst : Bool) (m : Mode) (max : Nat) (g : Bool := false) : Inv (St.init inst m max g) := by
  refine ⟨?_, ?_, ?_, ?_, ?_, ?_⟩ <;> simp [St.init, getReq, cnt, cbCount, firedOf]

end GoaktVerif.C16G
