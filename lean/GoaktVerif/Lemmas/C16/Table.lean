/-
C16, what the actor requester and the grain requester share: the table of request records, the two counters over it,
the fire counts and the continuation entries of the log.  Generic in the record and entry types; `Core` is stated on
these components, so a change of any other field of a model state needs no argument.
-/
import GoaktVerif.Lemmas.Assoc

namespace GoaktVerif.C16T

variable {R E : Type}

theorem fst_ite {α β : Type} {P : α → Prop} {c : Prop} [Decidable c] {x y : α × β} (hx : P x.1) (hy : P y.1) :
    P (if c then x else y).1 :=
  iteInduction (motive := fun z : α × β => P z.1) (fun _ => hx) (fun _ => hy)

def mapVals (f : R → R) (l : List (Nat × R)) : List (Nat × R) := l.map (fun p => (p.1, f p.2))

theorem lookup_mapVals (f : R → R) (l : List (Nat × R)) (k : Nat) : (mapVals f l).lookup k = (l.lookup k).map f :=
  Assoc.lookup_map_val f l k

theorem keys_mapVals (f : R → R) (l : List (Nat × R)) : (mapVals f l).map Prod.fst = l.map Prod.fst := by
  simp [mapVals]

def count (P : R → Bool) (l : List (Nat × R)) : Nat := (l.filter (fun p => P p.2)).length

theorem count_cons (P : R → Bool) (k : Nat) (r : R) (l : List (Nat × R)) :
    count P ((k, r) :: l) = (P r).toNat + count P l := by
  unfold count
  cases h : P r <;> simp [h]; omega

/-- setting a label moves a count by the new record against the one it replaces -/
theorem count_upsert (P : R → Bool) (l : List (Nat × R)) (k : Nat) (r : R) :
    count P (Assoc.upsert l k r) + ((l.lookup k).any P).toNat = count P l + (P r).toNat := by
  induction l with
  | nil => simp [Assoc.upsert, count_cons, show count P [] = 0 from rfl]
  | cons p rest ih =>
    obtain ⟨k0, r0⟩ := p
    rw [Assoc.upsert, Assoc.lookup_cons_ite]
    by_cases h0 : k0 = k
    · simp only [h0, if_true, count_cons, Option.any_some]; omega
    · simp only [h0, Ne.symm h0, if_false, count_cons]; omega

theorem count_eq_countP (P : R → Bool) (l : List (Nat × R)) : count P l = l.countP fun p => P p.2 :=
  List.countP_eq_length_filter.symm

theorem count_mapVals (P : R → Bool) (f : R → R) (l : List (Nat × R)) :
    count P (mapVals f l) = count (fun r => P (f r)) l := by
  rw [count_eq_countP, count_eq_countP, mapVals, List.countP_map]; rfl

theorem count_false (l : List (Nat × R)) : count (fun _ => false) l = 0 := by
  rw [count_eq_countP, List.countP_false]; rfl

theorem count_le_of_imp (P Q : R → Bool) (h : ∀ r, P r = true → Q r = true) (l : List (Nat × R)) :
    count P l ≤ count Q l := by
  rw [count_eq_countP, count_eq_countP]; exact List.countP_mono_left fun p _ => h p.2

/-- what the invariant reads of a request record and of a log entry -/
structure Sig (R E : Type) where
  inMap : R → Bool
  stash : R → Prop
  decStash : DecidablePred stash
  completed : R → Bool
  hasCb : R → Bool
  fired : R → Nat
  /-- the completion was of a kind that runs a registered continuation -/
  runs : R → Prop
  isCb : Nat → E → Bool

variable (σ : Sig R E)

instance : DecidablePred σ.stash := σ.decStash

structure Sig.ROK (r : R) : Prop where
  fired_le : σ.fired r ≤ 1
  fired_imp : σ.fired r = 1 → σ.completed r = true ∧ σ.hasCb r = true
  done_fired : σ.completed r = true → σ.runs r → σ.hasCb r = true → σ.fired r = 1
  map_pending : σ.inMap r = true → σ.completed r = false

/-- `ROK` reads a record through `σ` only: a write to what `σ` does not read (mode, outcome, a flag) keeps it -/
theorem Sig.ROK.of_fields {σ : Sig R E} {r r' : R} (h : σ.ROK r) (hf : σ.fired r' = σ.fired r := by rfl)
    (hc : σ.completed r' = σ.completed r := by rfl) (hcb : σ.hasCb r' = σ.hasCb r := by rfl)
    (hr : σ.runs r' = σ.runs r := by rfl) (hm : σ.inMap r' = σ.inMap r := by rfl) : σ.ROK r' :=
  ⟨hf ▸ h.fired_le, hf ▸ hc ▸ hcb ▸ h.fired_imp, hf ▸ hc ▸ hcb ▸ hr ▸ h.done_fired, hm ▸ hc ▸ h.map_pending⟩

theorem Sig.ROK.fired_zero {σ : Sig R E} {r : R} (h : σ.ROK r) (hnc : σ.completed r = false) : σ.fired r = 0 := by
  have := h.fired_le
  by_cases h1 : σ.fired r = 1
  · have := (h.fired_imp h1).1; rw [hnc] at this; cases this
  · omega

def Sig.blocks (r : R) : Bool := σ.inMap r && decide (σ.stash r)

def Sig.cbCount (k : Nat) (log : List E) : Nat := (log.filter (σ.isCb k)).length

def Sig.firedOf (l : List (Nat × R)) (k : Nat) : Nat := ((l.lookup k).map σ.fired).getD 0

structure Core (reqs : List (Nat × R)) (inFlight blocking : Int) (max : Nat) (log : List E) : Prop where
  reqs_ok : ∀ (k : Nat) (r : R), reqs.lookup k = some r → σ.ROK r
  inflight : inFlight = (count σ.inMap reqs : Nat)
  blocking : blocking = (count σ.blocks reqs : Nat)
  limit : max > 0 → inFlight ≤ max
  log_cb : ∀ k : Nat, σ.cbCount k log = σ.firedOf reqs k

variable {σ} {reqs : List (Nat × R)} {a b : Int} {m : Nat} {log : List E}

theorem Sig.cbCount_append (k : Nat) (x y : List E) : σ.cbCount k (x ++ y) = σ.cbCount k x + σ.cbCount k y := by
  simp [Sig.cbCount, List.filter_append]

theorem Sig.cbCount_plain (k : Nat) (ev : List E) (h : ∀ e ∈ ev, σ.isCb k e = false) : σ.cbCount k ev = 0 := by
  simpa [Sig.cbCount, List.filter_eq_nil_iff] using h

theorem Sig.cbCount_nil (k : Nat) : σ.cbCount k ([] : List E) = 0 := rfl

theorem Sig.cbCount_cons (k : Nat) (e : E) (l : List E) : σ.cbCount k (e :: l) = (σ.isCb k e).toNat + σ.cbCount k l := by
  cases h : σ.isCb k e <;> simp [Sig.cbCount, h]; omega

theorem Sig.cbCount_single (k : Nat) (e : E) : σ.cbCount k [e] = (σ.isCb k e).toNat :=
  Sig.cbCount_cons k e []

theorem Sig.firedOf_some {l : List (Nat × R)} {k : Nat} {r : R} (hg : l.lookup k = some r) : σ.firedOf l k = σ.fired r := by
  rw [Sig.firedOf, hg]; rfl

theorem Sig.firedOf_none {l : List (Nat × R)} {k : Nat} (hg : l.lookup k = none) : σ.firedOf l k = 0 := by
  rw [Sig.firedOf, hg]; rfl

theorem Sig.firedOf_upsert (l : List (Nat × R)) (k : Nat) (r : R) (k' : Nat) :
    σ.firedOf (Assoc.upsert l k r) k' = if k' = k then σ.fired r else σ.firedOf l k' := by
  rw [Sig.firedOf, Assoc.lookup_upsert]; split <;> rfl

theorem Sig.firedOf_mapVals (f : R → R) (l : List (Nat × R)) (k : Nat) :
    σ.firedOf (mapVals f l) k = ((l.lookup k).map fun r => σ.fired (f r)).getD 0 := by
  rw [Sig.firedOf, lookup_mapVals, Option.map_map]; rfl

/-- a pass over a table with distinct labels that emits entries record by record, each about its own label only -/
theorem Sig.cbCount_flatMap (ev : Nat × R → List E) (hev : ∀ p k, p.1 ≠ k → σ.cbCount k (ev p) = 0) (l : List (Nat × R))
    (hnd : (l.map Prod.fst).Nodup) (k : Nat) :
    σ.cbCount k (l.flatMap ev) = ((l.lookup k).map fun r => σ.cbCount k (ev (k, r))).getD 0 := by
  induction l with
  | nil => rfl
  | cons p rest ih =>
    obtain ⟨k0, r0⟩ := p
    rw [List.map_cons, List.nodup_cons] at hnd
    rw [List.flatMap_cons, Sig.cbCount_append, ih hnd.2, Assoc.lookup_cons_ite]
    by_cases hk : k = k0
    · subst hk; rw [if_pos rfl, (Assoc.lookup_eq_none_iff _ _).mpr hnd.1]; rfl
    · rw [if_neg hk, hev _ _ (Ne.symm hk), Nat.zero_add]

theorem Core.cb_le_one (h : Core σ reqs a b m log) (k : Nat) : σ.cbCount k log ≤ 1 := by
  rw [h.log_cb k]
  cases hg : reqs.lookup k with
  | none => rw [Sig.firedOf_none hg]; exact Nat.zero_le 1
  | some r => rw [Sig.firedOf_some hg]; exact (h.reqs_ok k r hg).fired_le

theorem Core.zero (h : Core σ reqs a b m log) (h0 : count σ.inMap reqs = 0) : a = 0 ∧ b = 0 := by
  have := count_le_of_imp σ.blocks σ.inMap (fun r hb => (Bool.and_eq_true _ _ ▸ hb).1) reqs
  have := h.inflight
  have := h.blocking
  omega

theorem Core.log_plain (h : Core σ reqs a b m log) (ev : List E) (hev : ∀ e ∈ ev, ∀ k, σ.isCb k e = false) :
    Core σ reqs a b m (log ++ ev) :=
  ⟨h.reqs_ok, h.inflight, h.blocking, h.limit, fun k => by
    rw [Sig.cbCount_append, h.log_cb, Sig.cbCount_plain k ev (fun e he => hev e he k), Nat.add_zero]⟩

/-- one label is set (a new request, a completion, a flag): the counters move by the new record against the old
    one, the log gains the continuation runs the new record has over the old one -/
theorem Core.update (h : Core σ reqs a b m log) (k : Nat) (r' : R) (a' b' : Int) (ev : List E)
    (hok : σ.ROK r')
    (ha : a' + ((reqs.lookup k).any σ.inMap).toNat = a + (σ.inMap r').toNat)
    (hb : b' + ((reqs.lookup k).any σ.blocks).toNat = b + (σ.blocks r').toNat)
    (hlim : m > 0 → a' ≤ m)
    (hk : σ.cbCount k ev + σ.firedOf reqs k = σ.fired r')
    (hother : ∀ k', k ≠ k' → σ.cbCount k' ev = 0) :
    Core σ (Assoc.upsert reqs k r') a' b' m (log ++ ev) := by
  refine ⟨?_, ?_, ?_, hlim, ?_⟩
  · intro k' r hr
    rw [Assoc.lookup_upsert] at hr
    split at hr
    · cases hr; exact hok
    · exact h.reqs_ok k' r hr
  · rw [← Int.add_left_inj, ha, h.inflight, ← Int.natCast_add, ← Int.natCast_add, count_upsert]
  · rw [← Int.add_left_inj, hb, h.blocking, ← Int.natCast_add, ← Int.natCast_add, count_upsert]
  · intro k'
    rw [Sig.cbCount_append, h.log_cb, Sig.firedOf_upsert]
    by_cases hkk : k = k'
    · subst hkk; rw [if_pos rfl]; omega
    · rw [if_neg (Ne.symm hkk), hother k' hkk, Nat.add_zero]

theorem Core.register (h : Core σ reqs a b m log) (k : Nat) {r' : R} (e : E) (hnone : reqs.lookup k = none)
    (hroom : ¬ (m > 0 ∧ a ≥ m)) (hin : σ.inMap r' = true) (hc : σ.completed r' = false) (hf : σ.fired r' = 0)
    (he : ∀ k', σ.isCb k' e = false) :
    Core σ (Assoc.upsert reqs k r') (a + 1) (if σ.stash r' then b + 1 else b) m (log ++ [e]) := by
  refine h.update k r' _ _ [e] ⟨(by rw [hf]; exact Nat.zero_le 1), (fun hx => by rw [hf] at hx; cases hx),
    (fun hd => by rw [hc] at hd; cases hd), fun _ => hc⟩ ?_ ?_ ?_ ?_ ?_
  · simp [hnone, hin]
  · simp only [hnone, Option.any_none, Sig.blocks, hin, Bool.true_and]
    split <;> simp [*]
  · intro hm
    have : ¬ a ≥ (m : Int) := fun hge => hroom ⟨hm, hge⟩
    omega
  · simp [Sig.firedOf_none hnone, hf, Sig.cbCount_single, he]
  · intro k' _; simp [Sig.cbCount_single, he]

theorem Core.complete (h : Core σ reqs a b m log) (k : Nat) (r : R) {r' : R} (e : E) (hg : reqs.lookup k = some r)
    (hm : σ.inMap r = true) (hnc : σ.completed r = false) (h1 : σ.inMap r' = false) (h2 : σ.completed r' = true)
    (h3 : σ.hasCb r' = σ.hasCb r) (h4 : σ.fired r' = if σ.hasCb r then σ.fired r + 1 else σ.fired r)
    (he : ∀ k', σ.isCb k' e = (k == k')) :
    Core σ (Assoc.upsert reqs k r') (a - 1) (if σ.stash r then b - 1 else b) m (if σ.hasCb r then log ++ [e] else log) := by
  have hf0 := (h.reqs_ok k r hg).fired_zero hnc
  have hlog : (if σ.hasCb r then log ++ [e] else log) = log ++ (if σ.hasCb r then [e] else []) := by
    split <;> first | rfl | simp
  rw [hlog]
  refine h.update k r' _ _ _ ⟨?_, ?_, ?_, (fun hd => by rw [h1] at hd; cases hd)⟩ ?_ ?_ ?_ ?_ ?_
  · rw [h4, hf0]; split <;> omega
  · rw [h4, hf0, h3]; intro hx; refine ⟨h2, ?_⟩
    split at hx
    · assumption
    · cases hx
  · rw [h4, hf0, h3]; intro _ _ hcb; simp [hcb]
  · simp [hg, hm, h1]
  · simp only [hg, Option.any_some, Sig.blocks, hm, h1, Bool.true_and, Bool.false_and]
    split <;> simp [*]
  · intro hmax; have := h.limit hmax; omega
  · rw [Sig.firedOf_some hg, h4, hf0]
    split <;> simp [Sig.cbCount_single, Sig.cbCount_nil, he]
  · intro k' hk
    split <;> simp [Sig.cbCount_single, Sig.cbCount_nil, he, hk]

/-- `Then` on a request that is already completed: the continuation runs now -/
theorem Core.lateThen (h : Core σ reqs a b m log) (k : Nat) (r : R) {r' : R} (e : E) (hg : reqs.lookup k = some r)
    (hcb : σ.hasCb r = false) (hc : σ.completed r = true) (h1 : σ.inMap r' = σ.inMap r) (hs : σ.stash r' ↔ σ.stash r)
    (h2 : σ.completed r' = true) (h3 : σ.hasCb r' = true) (h4 : σ.fired r' = σ.fired r + 1)
    (he : ∀ k', σ.isCb k' e = (k == k')) :
    Core σ (Assoc.upsert reqs k r') a b m (log ++ [e]) := by
  have hr := h.reqs_ok k r hg
  have hf0 : σ.fired r = 0 := by
    have := hr.fired_le
    by_cases hx : σ.fired r = 1
    · have := (hr.fired_imp hx).2; rw [hcb] at this; cases this
    · omega
  have hnm : σ.inMap r = false := by
    cases hm : σ.inMap r
    · rfl
    · have := hr.map_pending hm; rw [hc] at this; cases this
  refine h.update k r' _ _ [e] ⟨(by omega), (fun _ => ⟨h2, h3⟩), (fun _ _ _ => by omega),
    (fun hd => by rw [h1, hnm] at hd; cases hd)⟩ ?_ ?_ h.limit ?_ ?_
  · simp [hg, h1]
  · simp [hg, Sig.blocks, h1, hs]
  · simp [Sig.firedOf_some hg, h4, hf0, Sig.cbCount_single, he]
  · intro k' hk; simp [Sig.cbCount_single, he, hk]

/-- a record is replaced by one the counts and the log do not tell apart -/
theorem Core.touch (h : Core σ reqs a b m log) (k : Nat) (r r' : R) (hg : reqs.lookup k = some r)
    (h1 : σ.inMap r' = σ.inMap r) (hs : σ.stash r' ↔ σ.stash r) (hf : σ.fired r' = σ.fired r) (hok : σ.ROK r') :
    Core σ (Assoc.upsert reqs k r') a b m log := by
  have := h.update k r' a b [] hok (by simp [hg, h1]) (by simp [hg, Sig.blocks, h1, hs]) h.limit
    (by rw [Sig.firedOf_some hg, hf]; exact Nat.zero_add _) (fun _ _ => rfl)
  rwa [List.append_nil] at this

theorem Core.rok_mapVals (h : Core σ reqs a b m log) (f : R → R) (hok : ∀ r, σ.ROK r → σ.ROK (f r)) (k : Nat) (r : R)
    (hr : (mapVals f reqs).lookup k = some r) : σ.ROK r := by
  rw [lookup_mapVals] at hr
  cases hg : reqs.lookup k with
  | none => rw [hg] at hr; cases hr
  | some r0 => rw [hg] at hr; cases hr; exact hok _ (h.reqs_ok k r0 hg)

theorem Core.log_mapVals (h : Core σ reqs a b m log) (f : R → R) (hf : ∀ r, σ.fired (f r) = σ.fired r) (k : Nat) :
    σ.cbCount k log = σ.firedOf (mapVals f reqs) k := by
  rw [h.log_cb, Sig.firedOf_mapVals]; simp only [hf]; rfl

theorem Core.map (h : Core σ reqs a b m log) (f : R → R) (hm : ∀ r, σ.inMap (f r) = σ.inMap r)
    (hs : ∀ r, σ.stash (f r) ↔ σ.stash r) (hf : ∀ r, σ.fired (f r) = σ.fired r) (hok : ∀ r, σ.ROK r → σ.ROK (f r)) :
    Core σ (mapVals f reqs) a b m log := by
  refine ⟨h.rok_mapVals f hok, ?_, ?_, h.limit, h.log_mapVals f hf⟩
  · rw [count_mapVals, h.inflight]; simp only [hm]
  · rw [count_mapVals, h.blocking]; simp only [Sig.blocks, hm, hs]; rfl

theorem Core.clear (h : Core σ reqs a b m log) (f : R → R) (log' : List E) (hm : ∀ r, σ.inMap (f r) = false)
    (hok : ∀ r, σ.ROK r → σ.ROK (f r)) (hlog : ∀ k, σ.cbCount k log' = σ.firedOf (mapVals f reqs) k) :
    Core σ (mapVals f reqs) 0 0 m log' := by
  refine ⟨h.rok_mapVals f hok, ?_, ?_, fun _ => Int.natCast_nonneg _, hlog⟩
  · rw [count_mapVals]; simp only [hm, count_false]; rfl
  · rw [count_mapVals]; simp only [Sig.blocks, hm, Bool.false_and, count_false]; rfl

/-- What one stretch of a requester's life does: `I` is kept, and the log grows by `ev` and by entries of kind `turn`
    (for the grain the continuations run on the turn, for the actor every entry but a continuation run off the turn),
    which no filter `p` of interest lets through.  The first half is an implication so that the second holds of every state. -/
def Keeps {S : Type} (I : S → Prop) (log : S → List E) (turn : E → Bool) (ev : List E) (s s' : S) : Prop :=
  (I s → I s') ∧
    ∀ p : E → Bool, (∀ e, turn e = true → p e = false) → (log s').filter p = (log s).filter p ++ ev.filter p

section Keeps
variable {S : Type} {I : S → Prop} {log : S → List E} {turn : E → Bool} {s s' : S}

theorem Keeps.of_log {ev : List E} (ev' : List E) (hi : I s → I s') (hl : log s' = log s ++ ev')
    (hev : ∀ p : E → Bool, (∀ e, turn e = true → p e = false) → ev'.filter p = ev.filter p) :
    Keeps I log turn ev s s' :=
  ⟨hi, fun p hp => by rw [hl, List.filter_append, hev p hp]⟩

theorem Keeps.same (hi : I s → I s') (hl : log s' = log s) : Keeps I log turn [] s s' :=
  .of_log [] hi (hl.trans (List.append_nil _).symm) fun _ _ => rfl

theorem Keeps.emit (ev : List E) (hi : I s → I s') (hl : log s' = log s ++ ev) : Keeps I log turn ev s s' :=
  .of_log ev hi hl fun _ _ => rfl

theorem Keeps.onTurn (e : E) (he : turn e = true) (hi : I s → I s') (hl : log s' = log s ++ [e]) :
    Keeps I log turn [] s s' :=
  .of_log [e] hi hl fun p hp => List.filter_cons_of_neg (by simp [hp e he])

theorem Keeps.trans {s₁ s₂ s₃ : S} {e₁ e₂ : List E} (h₁ : Keeps I log turn e₁ s₁ s₂) (h₂ : Keeps I log turn e₂ s₂ s₃) :
    Keeps I log turn (e₁ ++ e₂) s₁ s₃ :=
  ⟨fun h => h₂.1 (h₁.1 h), fun p hp => by rw [h₂.2 p hp, h₁.2 p hp, List.filter_append, List.append_assoc]⟩

end Keeps

end GoaktVerif.C16T
