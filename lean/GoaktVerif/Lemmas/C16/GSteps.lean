/-
C16, grain requester: every function of the machine, up to `step`, keeps the invariant (as an instance of a transition of
the shared `Core`), logs nothing but what it takes from the mailbox and continuations run on the turn, and leaves the rest
of the mailbox in place: one statement per function, proved in one pass.  For the handling of one message or response
(`k_dispatch`, `k_doResponse`) it is `Keeps` on the log plus "the mailbox is as it was"; from the turn loop on (`t_pump` ..
`t_step`) it is `Turn`, which is `Keeps` read on the log followed by the waiting mailbox (`Turn.of_keeps` goes from the one
to the other).
-/
import GoaktVerif.Lemmas.C16.GBasic

namespace GoaktVerif.C16G
open GoaktVerif.Model.C16G GoaktVerif.C16T
open GoaktVerif.Model.C16 (Mode)

theorem Inv.of_store {s s' : St} (h : Inv s) {k : Nat} {r' : Req} (hr : s'.reqs = setReq s.reqs k r')
    (hc : Core sig (Assoc.upsert s.reqs k r') s'.inFlight s'.blocking s'.maxInFlight s'.log) : Inv s' :=
  (inv_iff s').mpr ⟨hr ▸ setReq_eq .. ▸ hc, hr ▸ setReq_eq .. ▸ Assoc.nodup_keys_upsert _ _ h.keys⟩

theorem ReqOK.fired_zero {r : Req} (h : ReqOK r) (hnc : r.completed = false) : r.fired = 0 :=
  ((reqOK_iff r).mp h).fired_zero hnc

theorem inv_log_plain {s : St} (h : Inv s) (e : Entry) (he : ∀ k, isCbOf k e = false) :
    Inv { s with log := s.log ++ [e] } :=
  (inv_iff _).mpr ⟨h.core.log_plain [e] (fun _ hm k => by rw [List.mem_singleton.mp hm]; exact he k), h.keys⟩

theorem Inv.frame {s s' : St} (h : Inv s)
    (he : (s'.reqs, s'.inFlight, s'.blocking, s'.maxInFlight, s'.log) = (s.reqs, s.inFlight, s.blocking, s.maxInFlight, s.log)) :
    Inv s' := by
  simp only [Prod.mk.injEq] at he
  obtain ⟨h1, h2, h3, h4, h5⟩ := he
  exact ⟨h1 ▸ h.reqs_ok, h1 ▸ h2 ▸ h.inflight, h1 ▸ h3 ▸ h.blocking, h2 ▸ h4 ▸ h.limit, h1 ▸ h5 ▸ h.log_cb, h1 ▸ h.keys⟩

/-- a refused request enters the table completed, untracked, with its continuation (if any) already run -/
theorem inv_refuse {s : St} (h : Inv s) (k : Nat) (o : Outcome) (t : Bool) (hnone : getReq s.reqs k = none) :
    Inv (refuse s k o t) := by
  have hn := lookup_of_get hnone
  refine h.of_store (k := k) rfl ?_
  show Core sig _ s.inFlight s.blocking s.maxInFlight (s.log ++ [Entry.req k] ++ (if t then [Entry.cb k o true] else []))
  rw [List.append_assoc]
  refine h.core.update k _ _ _ _ ((reqOK_iff _).mp ?_) (by simp [hn, sig, inMapP]) (by simp [hn, sig, Sig.blocks, inMapP])
    h.limit ?_ ?_
  · cases t <;> constructor <;> simp
  · cases t <;> simp [Sig.firedOf_none hn, Sig.cbCount_cons, Sig.cbCount_nil, sig, isCbOf]
  · intro k' hk; cases t <;> simp [hk, Sig.cbCount_cons, Sig.cbCount_nil, sig, isCbOf]

/-- completing a pending tracked request (by an envelope, or by the teardown): the common bookkeeping -/
def completedReq (r : Req) (o : Outcome) : Req :=
  { r with completed := true, outcome := o, inMap := false, fired := if r.hasCb then r.fired + 1 else r.fired }

theorem reqOK_completed {r : Req} (h : ReqOK r) (hnc : r.completed = false) (o : Outcome) : ReqOK (completedReq r o) := by
  have hf0 := h.fired_zero hnc
  refine ⟨?_, ?_, ?_, nofun⟩ <;> simp only [completedReq, hf0] <;> cases r.hasCb <;> simp

def tearOne (r : Req) : Req :=
  if r.inMap && !r.completed then completedReq r .canceled else { r with inMap := false }

theorem teardown_fst (l : List (Nat × Req)) : (teardownReqs l).1 = mapVals tearOne l := by
  -- `fun_cases f args` (`fun_induction`, with induction hypotheses, where `f` recurses) yields one goal per leaf of the model's
  -- definition of `f`: guards passed on the way as hypotheses, the leaf's result in the goal; `case1`, … in the order of Model/C16G.lean.
  fun_induction teardownReqs l
  -- the empty table
  case case1 => rfl
  -- a pending tracked record is completed; any other only leaves the map
  case case2 k r rest rest' ev hx hc ih | case3 k r rest rest' ev hx hc ih =>
    rw [hx] at ih
    simp only [mapVals, List.map_cons, tearOne, hc] at ih ⊢
    exact congrArg _ ih

theorem tearOne_inMap (r : Req) : (tearOne r).inMap = false := by
  unfold tearOne completedReq; split <;> rfl

theorem reqOK_tearOne {r : Req} (h : ReqOK r) : ReqOK (tearOne r) := by
  unfold tearOne
  split
  · next hc =>
    simp only [Bool.and_eq_true, Bool.not_eq_true'] at hc
    exact reqOK_completed h hc.2 _
  · exact ⟨h.fired_le, h.fired_imp, h.done_fired, nofun⟩

/-- what the teardown logs for one record -/
def tearEv (p : Nat × Req) : List Entry :=
  if p.2.inMap && !p.2.completed && p.2.hasCb then [Entry.cb p.1 .canceled true] else []

theorem teardown_snd (l : List (Nat × Req)) : (teardownReqs l).2 = l.flatMap tearEv := by
  induction l with
  | nil => rfl
  | cons p rest ih =>
    simp only [teardownReqs, List.flatMap_cons, tearEv, ← ih]
    cases p.2.inMap <;> cases p.2.completed <;> cases p.2.hasCb <;> rfl

/-- the teardown runs exactly the continuation of a request it completes -/
theorem tearEv_fired (k : Nat) (r : Req) (hr : ReqOK r) : sig.cbCount k (tearEv (k, r)) + r.fired = (tearOne r).fired := by
  unfold tearEv tearOne completedReq
  cases hm : r.inMap <;> cases hc : r.completed <;> cases hcb : r.hasCb <;>
    simp [Sig.cbCount_single, Sig.cbCount_nil, sig, isCbOf, hr.fired_zero, hc]

theorem inv_pill {s : St} (h : Inv s) : Inv (dispatch s .pill) := by
  refine (inv_iff _).mpr ⟨?_, ?_⟩
  · show Core sig (teardownReqs s.reqs).1 0 0 s.maxInFlight (s.log ++ (teardownReqs s.reqs).2 ++ [Entry.deactivated])
    rw [teardown_fst, teardown_snd]
    refine h.core.clear tearOne _ tearOne_inMap
      (fun r hr => (reqOK_iff _).mp (reqOK_tearOne ((reqOK_iff r).mpr hr))) (fun k => ?_)
    rw [Sig.cbCount_append, Sig.cbCount_append, h.core.log_cb, Sig.firedOf_mapVals, Sig.firedOf,
      Sig.cbCount_flatMap tearEv (fun p k' hk => ?_) _ h.keys, Sig.cbCount_single]
    · cases hg : s.reqs.lookup k with
      | none => rfl
      | some r =>
        have := tearEv_fired k r ((reqOK_iff r).mpr (h.core.reqs_ok k r hg))
        show r.fired + sig.cbCount k (tearEv (k, r)) + 0 = (tearOne r).fired
        omega
    · unfold tearEv; split <;> simp [Sig.cbCount_single, Sig.cbCount_nil, sig, isCbOf, hk]
  · show ((teardownReqs s.reqs).1.map Prod.fst).Nodup
    rw [teardown_fst, keys_mapVals]; exact h.keys

theorem inv_setReq_same {s : St} (h : Inv s) (k : Nat) (r r' : Req) (hg : getReq s.reqs k = some r)
    (hm : inMapP r' = inMapP r) (hb : r'.mode = r.mode) (hf : r'.fired = r.fired) (hok : sig.ROK r') :
    Inv { s with reqs := setReq s.reqs k r' } :=
  h.of_store rfl (h.core.touch k r r' (lookup_of_get hg) hm (by show r'.mode = Mode.stash ↔ _; rw [hb]; rfl) hf
    hok)

theorem inv_then_completed {s : St} (h : Inv s) (k : Nat) (r : Req) (hg : getReq s.reqs k = some r)
    (hcb : r.hasCb = false) (hc : r.completed = true) :
    Inv { s with reqs := setReq s.reqs k { r with hasCb := true, fired := r.fired + 1 },
                 log := s.log ++ [Entry.cb k r.outcome false] } :=
  h.of_store rfl (h.core.lateThen k r (Entry.cb k r.outcome false) (lookup_of_get hg) hcb hc rfl Iff.rfl hc rfl rfl
    (fun _ => rfl))

/-- `state.cancel()` on one record: only `cancelRequested` is written, which `sig` does not read -/
def markOne (r : Req) : Req :=
  { r with cancelRequested := r.cancelRequested || (r.inMap && !r.completed) }

theorem markCancel_eq (l : List (Nat × Req)) : markCancel l = mapVals markOne l := by
  refine List.map_congr_left fun p _ => ?_
  obtain ⟨k, ⟨mode, completed, outcome, hasCb, cancelRequested, inMap, sent, replied, fired⟩⟩ := p
  cases inMap <;> cases completed <;> cases cancelRequested <;> rfl

theorem inv_markCancel {s : St} (h : Inv s) : Inv { s with reqs := markCancel s.reqs } := by
  refine (inv_iff _).mpr ⟨?_, ?_⟩
  · show Core sig (markCancel s.reqs) s.inFlight s.blocking s.maxInFlight s.log
    rw [markCancel_eq]
    exact h.core.map markOne (fun _ => rfl) (fun _ => Iff.rfl) (fun _ => rfl)
      fun _ hr => hr.of_fields
  · show ((markCancel s.reqs).map Prod.fst).Nodup
    rw [markCancel_eq, keys_mapVals]; exact h.keys

/-- the log entry a user-mailbox message leaves when it is handled -/
def entryOf : Msg → Entry
  | .user k => .handled k
  | .hold => .held
  | .reqCmd k _ _ => .req k
  | .pill => .deactivated

/-- what an op delivers into the user mailbox -/
def delivered (s : St) : Op → List Entry
  | .q k _ _ => if s.poisoned then [] else [Entry.req k]
  | .m k => if s.poisoned then [] else [Entry.handled k]
  | .H => if s.poisoned then [] else [Entry.held]
  | .S => if s.poisoned then [] else [Entry.deactivated]
  | _ => []

def onTurnCb : Entry → Bool
  | .cb _ _ true => true
  | _ => false

theorem filter_teardown (p : Entry → Bool) (hp : ∀ e, onTurnCb e = true → p e = false) (l : List (Nat × Req)) :
    (teardownReqs l).2.filter p = [] := by
  rw [teardown_snd, List.filter_eq_nil_iff]
  intro e he
  obtain ⟨q, _, hq⟩ := List.mem_flatMap.mp he
  unfold tearEv at hq
  split at hq
  · rw [List.mem_singleton.mp hq, hp _ rfl]; exact Bool.false_ne_true
  · cases hq

/-- handled so far, then what still waits in the user mailbox: the log as it will read once the mailbox is worked off,
    continuations apart -/
def vlog (s : St) : List Entry := s.log ++ s.queue.map entryOf

/-- A stretch of the grain's life from `s` to `s'` during which `d` is delivered into the user mailbox:
    `Keeps` read on `vlog`.  The mailbox is handled from its head; nothing in it is reordered, dropped or handled twice. -/
abbrev Turn (d : List Entry) (s s' : St) : Prop := Keeps Inv vlog onTurnCb d s s'

theorem Turn.of_same {s s' : St} (ms : List Msg) (hi : Inv s → Inv s') (hl : s'.log = s.log) (hq : s'.queue = s.queue ++ ms) :
    Turn (ms.map entryOf) s s' :=
  .emit _ hi (by rw [vlog, hl, hq, List.map_append, ← List.append_assoc]; rfl)

/-- the head of a queue is taken (`s₀` is `s` without it) and handled, which leaves `ev` in the log -/
theorem Turn.of_keeps {ev : List Entry} {s s₀ s₁ : St} (h : Keeps Inv St.log onTurnCb ev s₀ s₁) (hi : Inv s → Inv s₀)
    (hl : s₀.log = s.log) (hq : ev ++ s₁.queue.map entryOf = s.queue.map entryOf) : Turn [] s s₁ :=
  ⟨fun hs => h.1 (hi hs), fun p hp => by
    rw [vlog, vlog, List.filter_append, h.2 p hp, hl, List.append_assoc, ← List.filter_append, hq, ← List.filter_append]
    exact (List.append_nil _).symm⟩

/-- one user-mailbox message (already taken from the mailbox) is handled -/
theorem k_dispatch (s : St) (m : Msg) :
    Keeps Inv St.log onTurnCb [entryOf m] s (dispatch s m) ∧ (dispatch s m).queue = s.queue := by
  cases m with
  | user k => exact ⟨.emit _ (fun h => inv_log_plain h _ (fun _ => rfl)) rfl, rfl⟩
  | hold =>
    simp only [dispatch]
    split <;> exact ⟨.emit _ (fun h => (inv_log_plain h Entry.held (fun _ => rfl)).frame rfl) rfl, rfl⟩
  | reqCmd k m t =>
    show Keeps _ _ _ _ s (doRequest s k m t) ∧ (doRequest s k m t).queue = _
    fun_cases doRequest s k m t
    -- the label was issued before: only `req k` is logged
    case case1 => exact ⟨.emit _ (fun h => inv_log_plain h _ (fun _ => rfl)) rfl, rfl⟩
    -- refused (not installed; mode off; over the limit): the continuation, if given at once, runs on the turn
    case case2 hn _ | case3 hn _ _ _ | case4 hn _ _ _ _ =>
      refine ⟨.of_log ([Entry.req k] ++ if t then [Entry.cb k _ true] else [])
        (fun h => inv_refuse h k _ t (Option.not_isSome_iff_eq_none.mp hn)) (List.append_assoc ..) fun p hp => ?_, rfl⟩
      cases t <;> simp [List.filter_cons, entryOf, hp (Entry.cb k _ true) rfl]
    -- admitted
    case case5 hn _ _ _ hl =>
      exact ⟨.emit _ (fun h => h.of_store rfl (h.core.register k (Entry.req k)
        (lookup_of_get (Option.not_isSome_iff_eq_none.mp hn)) hl rfl rfl rfl (fun _ => rfl))) rfl, rfl⟩
  | pill =>
    refine ⟨.of_log ((teardownReqs s.reqs).2 ++ [Entry.deactivated]) inv_pill (List.append_assoc ..) fun p hp => ?_, rfl⟩
    rw [List.filter_append, filter_teardown p hp]; rfl

theorem k_doResponse (s : St) (k : Nat) (o : Outcome) :
    Keeps Inv St.log onTurnCb [] s (doResponse s k o) ∧ (doResponse s k o).queue = s.queue := by
  fun_cases doResponse s k o
  -- not installed; unknown label; no longer tracked; already completed: dropped
  case case1 | case2 | case3 | case4 => exact ⟨.same id rfl, rfl⟩
  -- a pending tracked request is completed
  case case5 _ r hg hm hnc =>
    refine ⟨.of_log (if r.hasCb then [Entry.cb k o true] else []) (fun h => h.of_store rfl
      (h.core.complete k r (Entry.cb k o true) (lookup_of_get hg) (show r.inMap = true by simpa using hm)
        (show r.completed = false by simpa using hnc) rfl rfl rfl rfl (fun _ => rfl))) ?_ fun p hp => ?_, rfl⟩
    · show (if _ then _ else _ : List Entry) = _
      split <;> simp
    · split
      · exact List.filter_cons_of_neg (by simp [hp (Entry.cb k o true) rfl])
      · rfl

/-- the turn loop handles a prefix of the user mailbox -/
theorem t_pump (fuel : Nat) (s : St) : Turn [] s (pump fuel s) := by
  fun_induction pump fuel s
  -- out of fuel; a handler parked or the grain inactive; paused with no response waiting; both mailboxes empty
  case case1 | case2 | case4 | case5 => exact .same id rfl
  -- a response is taken first
  case case3 s _ k o rest _ ih =>
    obtain ⟨h1, h2⟩ := k_doResponse { s with responses := rest } k o
    exact (Turn.of_keeps (s := s) h1 (fun h => h.frame rfl) rfl (by rw [h2]; rfl)).trans ih
  -- else the head of the user mailbox
  case case6 s _ _ _ m rest hq ih =>
    obtain ⟨h1, h2⟩ := k_dispatch { s with queue := rest } m
    exact (Turn.of_keeps (s := s) h1 (fun h => h.frame rfl) rfl (by rw [h2, hq]; rfl)).trans ih

theorem t_drain {s s' : St} (ms : List Msg) (hi : Inv s → Inv s') (hl : s'.log = s.log) (hq : s'.queue = s.queue ++ ms) :
    Turn (ms.map entryOf) s (drain s') := by
  simpa [drain] using (Turn.of_same ms hi hl hq).trans (t_pump (s'.queue.length + s'.responses.length + 1) s')

theorem t_respond {s s' : St} (k : Nat) (o : Outcome) (hi : Inv s → Inv s') (hl : s'.log = s.log) (hq : s'.queue = s.queue) :
    Turn [] s (respond s' k o) := by
  fun_cases respond s' k o
  -- the grain is inactive: the envelope is dropped
  case case1 => exact .of_same [] hi hl (by simp [hq])
  -- it joins the responses and the turn loop runs
  case case2 => exact t_drain [] (fun h => (hi h).frame rfl) hl (by simp [hq])

/-- every op but `T`: a `Then` registered from outside the grain runs its continuation, if the request is completed, in
    the caller and not on the turn -/
theorem t_step (s : St) (op : Op) (hT : ∀ k, op ≠ .T k) : Turn (delivered s op) s (step s op).1 := by
  have hdel : ∀ m, Turn (if s.poisoned then [] else [entryOf m]) s (deliver s m).1 := by
    intro m
    fun_cases deliver s m
    -- poisoned: refused; else the message joins the user mailbox and the turn loop runs
    case case1 hp => rw [if_pos hp]; exact .same id rfl
    case case2 hp => rw [if_neg hp]; exact t_drain [m] (fun h => h.frame rfl) rfl rfl
  have same : Turn [] s s := .same id rfl
  fun_cases step s op
  -- q, m, H: delivered into the user mailbox unless the grain is poisoned
  case case1 k m t => exact hdel (.reqCmd k m t)
  case case2 k => exact hdel (.user k)
  case case3 => exact hdel .hold
  -- L with a handler parked: it goes on; without: a permit
  case case4 => exact t_drain [] (fun h => h.frame rfl) rfl (List.append_nil _).symm
  case case5 => exact .of_same [] (fun h => h.frame rfl) rfl (List.append_nil _).symm
  -- r, x, c for an unknown label; r, x for a request never sent; r answered before (grain target); c on a completed or
  -- already cancelled request: nothing changes
  case case6 | case7 | case8 | case10 | case11 | case13 | case14 => exact same
  -- r: the reply is recorded; x; c: the flag is set; and the response goes to the grain
  case case9 k r hg _ _ =>
    exact t_respond k .ok (fun h => inv_setReq_same h k r { r with replied := true } hg rfl rfl rfl
      ((reqOK_iff r).mp (h.reqs_ok k r hg)).of_fields) rfl rfl
  case case12 k _ _ _ => exact t_respond k .timeout id rfl rfl
  case case15 k r hg _ =>
    exact t_respond k .canceled (fun h => inv_setReq_same h k r { r with cancelRequested := true } hg rfl rfl rfl
      ((reqOK_iff r).mp (h.reqs_ok k r hg)).of_fields) rfl rfl
  -- T (four leaves): excluded
  case case16 | case17 | case18 | case19 => exact absurd rfl (hT _)
  -- S on a poisoned grain: nothing; else the pill is delivered behind the cancellations
  case case20 hp => rw [delivered, if_pos hp]; exact same
  case case21 hp _ =>
    rw [delivered, if_neg hp]
    exact t_drain [.pill] (fun h => (inv_markCancel h).frame rfl) rfl rfl

theorem inv_step {s : St} (h : Inv s) (op : Op) : Inv (step s op).1 := by
  cases op with
  | T k =>
    simp only [step]
    split
    · exact h
    · next r hg =>
      have hr := h.reqs_ok k r hg
      split
      · exact h
      · next hcb =>
        split
        · next hc => exact inv_then_completed h k r hg (by simpa using hcb) hc
        · next hc =>
          have hc' : r.completed = false := by simpa using hc
          exact inv_setReq_same h k r { r with hasCb := true } hg rfl rfl rfl
            ((reqOK_iff _).mp ⟨hr.fired_le, by simp [hr.fired_zero hc'], by simp [hc'], hr.map_pending⟩)
  | _ =>
    refine (t_step s _ ?_).1 h
    exact fun _ => nofun

end GoaktVerif.C16G
