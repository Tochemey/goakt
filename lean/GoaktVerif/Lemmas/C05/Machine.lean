/-
C05 — the invariant of whole configurations (shared state + threads) and its preservation by
`step`, for every thread id chosen by the scheduler: hence for every schedule.
-/
import GoaktVerif.Lemmas.Pool
import GoaktVerif.Lemmas.C05.Cons

namespace GoaktVerif.Model.C05

def Res.items : Res → List Nat
  | .item x => [x]
  | .ran xs => xs
  | _ => []

def Thread.held (t : Thread) : List Nat :=
  match t.pc with
  | some pc => pc.held
  | none => []

/-- every item the thread's takes have returned so far (results of `take`, items run by `run`) -/
def Thread.returned (t : Thread) : List Nat := t.results.flatMap Res.items ++ t.run.getD []

/-- which operations a thread may issue: only workers (`tid < n`) take and push locally -/
def Op.ok (n tid : Nat) : Op → Prop
  | .push _ => True
  | .close => True
  | _ => tid < n

instance (n tid : Nat) : DecidablePred (Op.ok n tid) := fun op => by cases op <;> unfold Op.ok <;> infer_instance

structure TOk (n tid : Nat) (t : Thread) : Prop where
  pc : ∀ pc, t.pc = some pc → pc.ok n tid
  prog : ∀ op ∈ t.prog, op.ok n tid

theorem begin_ok {n tid : Nat} {op : Op} (h : op.ok n tid) : (begin tid op).1.ok n tid := by
  cases op with
  | push k => exact Nat.succ_ne_zero k
  | pushLocal k => exact ⟨rfl, h, Nat.succ_ne_zero k⟩
  | take | run => exact ⟨rfl, h⟩
  | close => trivial

@[simp] theorem begin_run (tid : Nat) (op : Op) : (begin tid op).2.getD [] = [] := by
  cases op <;> rfl

theorem startNext_ok {n tid : Nat} {t : Thread} (h : ∀ op ∈ t.prog, op.ok n tid) : TOk n tid (startNext tid t) := by
  -- `fun_cases f args`: one goal per leaf of `f`, numbered as the leaves stand in Model/C05/Queue.lean, with the branch
  -- conditions as hypotheses and the leaf's result in place of the call
  fun_cases startNext tid t
  case case1 => exact ⟨nofun, h⟩   -- program exhausted
  case case2 op rest hp =>   -- `hp : t.prog = op :: rest`: at `begin tid op`, `rest` to run
    rw [hp] at h
    exact ⟨fun pc hpc => Option.some.inj hpc ▸ begin_ok (h op List.mem_cons_self), fun o ho => h o (List.mem_cons_of_mem _ ho)⟩

theorem startNext_acct (tid : Nat) (t : Thread) (y : Nat) :
    (startNext tid t).held.count y + (startNext tid t).returned.count y = (t.results.flatMap Res.items).count y := by
  have hh : (startNext tid t).held = [] := by
    unfold Thread.held; split
    · exact (entry_flags (startNext_pc ‹_›)).2.2.2.2
    · rfl
  rw [hh]
  fun_cases startNext tid t <;> simp [Thread.returned]

theorem applyNext_ok {n tid : Nat} {t : Thread} {nx : Next} (h : TOk n tid t) (hnx : nx.ok n tid) :
    TOk n tid (applyNext tid t nx) := by
  fun_cases applyNext tid t nx
  case case1 pc => exact ⟨fun p hp => Option.some.inj hp ▸ hnx, h.prog⟩   -- goto
  -- ret (outside / inside `worker.run`), retTake outside: the next operation of the same program starts
  case case2 | case3 | case4 => exact startNext_ok h.prog
  -- retTake inside `worker.run`: on to `tkLoadLocal w`
  case case5 => exact ⟨fun p hp => Option.some.inj hp ▸ ⟨hnx.1, hnx.2.1⟩, h.prog⟩
  case case6 => exact h   -- blocked

/-- on return the item the thread held moves to `results` / `run`, and the next operation starts holding nothing -/
theorem applyNext_acct {n : Nat} (tid : Nat) (t : Thread) (pc : PC) (hpc : t.pc = some pc) (nx : Next)
    (hnx : nx.ok n tid) (y : Nat) :
    (applyNext tid t nx).held.count y + (applyNext tid t nx).returned.count y
      = (nx.held pc).count y + t.returned.count y := by
  fun_cases applyNext tid t nx
  case case1 pc' => simp [Thread.held, Thread.returned, Next.held]   -- goto
  case case2 r hrun =>   -- ret outside `worker.run`: `r` (no item in it) joins `results`
    have hr : r.items = [] := by
      cases r with
      | ok | closed => rfl
      | item _ | ran _ => exact hnx.elim
    rw [finishOp, startNext_acct]
    simp [Thread.returned, hrun, Next.held, hr]
  case case3 r acc hrun =>   -- ret inside `worker.run`: the items run so far are returned as `.ran`
    rw [finishOp, startNext_acct]
    simp [Thread.returned, hrun, Next.held, Res.items]
    omega
  case case4 w x hrun =>   -- retTake outside `worker.run`: `.item x` joins `results`
    rw [finishOp, startNext_acct]
    simp [Thread.returned, hrun, Next.held, Res.items, List.count_cons]
    omega
  case case5 w x acc hrun =>   -- retTake inside `worker.run`: `x` joins `run`, on to `tkLoadLocal w`
    simp [Thread.held, PC.held, Thread.returned, hrun, Next.held, List.count_cons]
    omega
  case case6 => simp [Thread.held, Next.held, hpc]   -- blocked

structure CInv (n : Nat) (c : Cfg) : Prop where
  sinv : SInv c.sh
  len : c.sh.locals.length = n
  tok : ∀ tid t, c.threads[tid]? = some t → TOk n tid t
  /-- every item removed from a ring is held by exactly one thread or was returned exactly once -/
  acct : ∀ y, c.sh.taken.count y = (c.threads.map fun t => t.held.count y + t.returned.count y).sum

theorem step_cinv {n : Nat} {c : Cfg} (h : CInv n c) (tid : Nat) : CInv n (step c tid).2 := by
  refine step_cases c tid h fun t pc c' ht hpc _ hsh hth _ _ => ?_
  have htok := h.tok tid t ht
  have hlt := (List.getElem?_eq_some_iff.mp ht).1
  obtain ⟨e1, e2, a, ea, eh⟩ := exec_ok h.sinv h.len (htok.pc pc hpc)
  refine ⟨hsh ▸ e1, hsh ▸ (exec_length ..).trans h.len, ?_, ?_⟩ <;> rw [hth]
  · exact Pool.forall_set (applyNext_ok htok e2) fun j tj _ hj => h.tok j tj hj
  · intro y
    have hs := sum_map_set (fun t : Thread => t.held.count y + t.returned.count y) c.threads tid
      (applyNext tid t (exec c.sh tid pc).2) t ht
    have ha := applyNext_acct tid t pc hpc (exec c.sh tid pc).2 e2 y
    have hacct := h.acct y
    have hh : t.held = pc.held := by simp [Thread.held, hpc]
    simp only [hh] at hs
    simp only [hsh, ea, eh, List.count_append] at ha ⊢
    omega

theorem reachable_cinv {n : Nat} {c0 c : Cfg} (h0 : CInv n c0) (hr : Reachable c0 c) : CInv n c :=
  hr.inv h0 fun _ tid h => step_cinv h tid

/-- thread `tid` runs program `progs[tid]`; only workers (`tid < n`) may take / push locally -/
def ProgsOk (n : Nat) (progs : List (List Op)) : Prop :=
  ∀ (tid : Nat) (p : List Op), progs[tid]? = some p → ∀ op ∈ p, Op.ok n tid op

theorem mkThreads_acct (progs : List (List Op)) (y : Nat) : ∀ k,
    ((mkThreads k progs).map fun t => t.held.count y + t.returned.count y).sum = 0 := by
  induction progs with
  | nil => intro k; simp [mkThreads]
  | cons p ps ih =>
    intro k
    simp only [mkThreads, List.map_cons, List.sum_cons, ih]
    have := startNext_acct k { pc := none, prog := p, results := [], run := none } y
    simpa [mkThread] using this

theorem initShared_sinv (n : Nat) : SInv (initShared n) := by
  have emp : ∀ r ∈ (initShared n).allRings, ∃ c, 0 < c ∧ r = Ring.empty c := fun r hr => by
    rcases List.mem_cons.mp hr with e | e
    · exact ⟨globalQueueInitialCap, by decide, e⟩
    · simp [Shared.rings, initShared] at e; exact ⟨localQueueCap, by decide, e.2⟩
  refine ⟨fun r hr => ?_, fun x => by simp [Shared.cnt, Shared.allRings, Shared.rings, initShared], fun r hr => ?_⟩
  · obtain ⟨c, hc, rfl⟩ := emp r hr; exact Ring.empty_wf hc
  · obtain ⟨c, _, rfl⟩ := emp r hr; simp

theorem init_cinv {n : Nat} {progs : List (List Op)} (hp : ProgsOk n progs) : CInv n (init n progs) := by
  refine ⟨initShared_sinv n, by simp [init, initShared], ?_, ?_⟩
  · intro tid t ht
    obtain ⟨p, hp', e⟩ := mkThreads_get progs 0 tid t ht
    rw [e, Nat.zero_add]
    exact startNext_ok (hp tid p hp')
  · intro y
    simp only [init, mkThreads_acct progs y 0]
    simp [initShared]

end GoaktVerif.Model.C05
