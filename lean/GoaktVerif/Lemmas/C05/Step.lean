/-
C05 — what all invariant proofs share: a site either belongs to the parking protocol and leaves the local
queues alone, or works on local queues and leaves the parking state alone; where a thread stands after a step;
`step`, reachability and the initial configuration.  The step lemmas have the shape `P (exec s tid pc)` with `pc` a
constructor, so that `iteInduction` unfolds `exec` at that site only.
-/
import GoaktVerif.Lemmas.ListFacts
import GoaktVerif.Model.C05.Queue

namespace GoaktVerif.Model.C05

theorem ite_both {α : Type} {P : α → Prop} {c : Prop} [Decidable c] {a b : α} (ha : P a) (hb : P b) :
    P (if c then a else b) := iteInduction (fun _ => ha) fun _ => hb

@[simp] theorem setL_locals_length (s : Shared) (w : Nat) (q : LocalQ) :
    (s.setL w q).locals.length = s.locals.length := by simp [Shared.setL]

/-- no bound on `k`: out of range nothing is written -/
theorem getL_setL' (s : Shared) (k j : Nat) (q : LocalQ) :
    (s.setL k q).getL j = if j = k ∧ k < s.locals.length then q else s.getL j := getD_set ..

theorem getL_setL_same (s : Shared) (w : Nat) (q : LocalQ) (h : w < s.locals.length) :
    (s.setL w q).getL w = q := (getL_setL' s w w q).trans (if_pos ⟨rfl, h⟩)

theorem getL_setL_ne (s : Shared) (w v : Nat) (q : LocalQ) (h : w ≠ v) :
    (s.setL w q).getL v = s.getL v := (getL_setL' s w v q).trans (if_neg fun e => h e.1.symm)

theorem getL_setL (s : Shared) (w j : Nat) (q : LocalQ) (hw : w < s.locals.length) :
    (s.setL w q).getL j = if w = j then q else s.getL j := by
  rw [getL_setL']
  by_cases e : w = j
  · rw [if_pos e, if_pos ⟨e.symm, hw⟩]
  · rw [if_neg e, if_neg fun h => e h.1.symm]

theorem getL_setL_mu (s : Shared) (k j : Nat) (m : Option Nat) :
    ((s.setL k { s.getL k with mu := m }).getL j).ring = (s.getL j).ring ∧
    ((s.setL k { s.getL k with mu := m }).getL j).sizeAtomic = (s.getL j).sizeAtomic := by
  rw [getL_setL']; split
  · rename_i e; rw [e.1]; exact ⟨rfl, rfl⟩
  · exact ⟨rfl, rfl⟩

@[simp] theorem getL_with_pushed (s : Shared) (p : List Nat) (j : Nat) : ({ s with pushed := p } : Shared).getL j = s.getL j := rfl
@[simp] theorem getL_with_taken (s : Shared) (p : List Nat) (j : Nat) : ({ s with taken := p } : Shared).getL j = s.getL j := rfl

/-- sites at which the thread holds `parkMu` -/
def PC.holdsPark : PC → Bool
  | .pushStore => true | .pushSignal => true | .tkStoreGlobal _ _ => true
  | .pkStore _ _ => true | .pkWait _ => true | .clBroadcast => true
  | _ => false

/-- sites of the parking protocol: the thread holds `parkMu` or is about to take it (`Lock:parkMu`, and
`Wake:cond`, where `cond.Wait` takes it again) -/
def PC.parkSite : PC → Bool
  | .pushLock _ | .tkLockGlobal _ | .pkLock _ | .pkWake _ | .clLock => true
  | pc => pc.holdsPark

/-- inside `cond.Wait` (site `Wake:cond`): waiting, or woken and not yet running -/
def PC.isWake : PC → Bool
  | .pkWake _ => true
  | _ => false

/-- the owner is inside a critical section that has grown its ring but not yet published `sizeAtomic` -/
def PC.adding : PC → Bool
  | .plStore _ => true | .stStore1 _ _ _ => true | .stStore2 _ _ _ => true
  | _ => false

/-- the owner has found its own ring empty in this `take` and has not returned yet -/
def PC.idle : PC → Bool
  | .tkLoadGlobal _ => true | .tkLockGlobal _ => true | .tkStoreGlobal _ _ => true
  | .stLoad _ _ => true | .stLock1 _ _ => true | .stLock2 _ _ => true
  | .pkLock _ => true | .pkStore _ _ => true | .pkWait _ => true | .pkWake _ => true
  | _ => false

/-- first site of an operation, or of the next `take` inside `worker.run` -/
def PC.isEntry : PC → Bool
  | .pushLock _ | .plLock _ _ | .tkLoadLocal _ | .clCAS => true
  | _ => false

/-- the site at which the thread stands after the step, if it is still inside the operation
(`blocked`: it stays where it was) -/
def Next.pc (pc : PC) : Next → Option PC
  | .goto p => some p
  | .blocked => some pc
  | _ => none

/-- the fields the parking protocol talks about -/
def Shared.parkView (s : Shared) : Option Nat × Nat × List Nat × List Nat × Nat × Bool :=
  (s.parkMu, s.parked, s.waiters, s.signalled, s.global.size, s.closed)

@[simp] theorem setL_parkView (s : Shared) (w : Nat) (q : LocalQ) : (s.setL w q).parkView = s.parkView := rfl

theorem parkView_eq {s s' : Shared} (e : s'.parkView = s.parkView) :
    s'.parkMu = s.parkMu ∧ s'.parked = s.parked ∧ s'.waiters = s.waiters ∧ s'.signalled = s.signalled ∧
      s'.global.size = s.global.size ∧ s'.closed = s.closed := by
  simpa only [Shared.parkView, Prod.mk.injEq] using e

def Next.Quiet (pc : PC) (nx : Next) : Prop :=
  (nx.pc pc).any PC.holdsPark = false ∧ (nx.pc pc).any PC.isWake = false

structure LocalStep (s : Shared) (pc : PC) (r : Shared × Next) : Prop where
  len : r.1.locals.length = s.locals.length
  view : r.1.parkView = s.parkView
  quiet : r.2.Quiet pc

/-- serves `stealStart` too: `stealStart n w` is `stealNext n w 0` -/
theorem stealNext_quiet (n w i : Nat) (pc : PC) : (stealNext n w i).Quiet pc :=
  iteInduction (fun _ => ⟨rfl, rfl⟩) fun _ => ⟨rfl, rfl⟩

theorem retTake_quiet {w x : Nat} {nx : Next} {pc : PC} (h : nx.Quiet pc) :
    (if x ≠ 0 then Next.retTake w x else nx).Quiet pc := ite_both ⟨rfl, rfl⟩ h

theorem exec_local {pc : PC} (hl : pc.parkSite = false) (s : Shared) (tid : Nat) :
    LocalStep s pc (exec s tid pc) := by
  have set := setL_locals_length s
  cases pc with
  | plLock w x => exact iteInduction (fun _ => ⟨rfl, rfl, rfl, rfl⟩) fun _ => (ite_both ⟨rfl, rfl, rfl, rfl⟩ ⟨set _ _, rfl, rfl, rfl⟩)
  | plStore w => exact ⟨set _ _, rfl, rfl, rfl⟩
  | tkLoadLocal w => exact iteInduction (fun _ => ⟨rfl, rfl, rfl, rfl⟩) fun _ => ⟨rfl, rfl, rfl, rfl⟩
  | tkLockLocal w => exact iteInduction (fun _ => ⟨rfl, rfl, rfl, rfl⟩) fun _ => (ite_both ⟨rfl, rfl, rfl, rfl⟩ ⟨set _ _, rfl, rfl, rfl⟩)
  | tkStoreLocal w x => exact ⟨set _ _, rfl, retTake_quiet ⟨rfl, rfl⟩⟩
  | tkLoadGlobal w => exact iteInduction (fun _ => ⟨rfl, rfl, stealNext_quiet _ w 0 _⟩) fun _ => ⟨rfl, rfl, rfl, rfl⟩
  | stLoad w i => exact iteInduction (fun _ => ⟨rfl, rfl, stealNext_quiet ..⟩) fun _ => ⟨rfl, rfl, rfl, rfl⟩
  | stLock1 w i => exact iteInduction (fun _ => ⟨rfl, rfl, rfl, rfl⟩) fun _ => ⟨set _ _, rfl, rfl, rfl⟩
  | stLock2 w i =>
    exact iteInduction (fun _ => ⟨rfl, rfl, rfl, rfl⟩) fun _ => (ite_both ⟨set _ _, rfl, stealNext_quiet ..⟩
      ⟨by simp only [setL_locals_length], rfl, rfl, rfl⟩)
  | stStore1 w i x => exact ⟨set _ _, rfl, rfl, rfl⟩
  | stStore2 w i x => exact ⟨(setL_locals_length ..).trans (set _ _), rfl, retTake_quiet (stealNext_quiet ..)⟩
  | clCAS => exact iteInduction (fun _ => ⟨rfl, rfl, rfl, rfl⟩) fun _ => ⟨rfl, rfl, rfl, rfl⟩
  | _ => cases hl

/-- a park site does not take the owner past `popFront`: it is there afterwards only if it was before -/
def Next.Calm (pc : PC) (nx : Next) : Prop := (!(nx.pc pc).any PC.idle || pc.idle) = true

theorem Next.Calm.was_idle {pc : PC} {nx : Next} (h : nx.Calm pc) (hi : (nx.pc pc).any PC.idle = true) : pc.idle = true := by
  unfold Next.Calm at h; rw [hi] at h; exact h

structure ParkStep (s : Shared) (pc : PC) (r : Shared × Next) : Prop where
  locals : r.1.locals = s.locals
  closed : s.closed = true → r.1.closed = true
  calm : r.2.Calm pc

theorem parkLoop_park {s s1 : Shared} {pc : PC} (w : Nat) (hl : s1.locals = s.locals)
    (hc : s.closed = true → s1.closed = true) (hi : pc.idle = true) : ParkStep s pc (parkLoop s1 w) :=
  have calm : ∀ nx, Next.Calm pc nx := fun _ => by rw [Next.Calm, hi]; exact Bool.or_true _
  iteInduction (fun _ => ⟨hl, hc, rfl⟩) fun _ => (ite_both ⟨hl, hc, calm _⟩ ⟨hl, hc, calm _⟩)

theorem exec_park {pc : PC} (hp : pc.parkSite = true) (s : Shared) (tid : Nat) :
    ParkStep s pc (exec s tid pc) := by
  cases pc with
  | pushLock x => exact iteInduction (fun _ => ⟨rfl, id, rfl⟩) fun _ => ⟨rfl, id, rfl⟩
  | pushStore => exact iteInduction (fun _ => ⟨rfl, id, rfl⟩) fun _ => ⟨rfl, id, rfl⟩
  | pushSignal => dsimp only [exec]; split <;> exact ⟨rfl, id, rfl⟩
  | tkLockGlobal w =>
    have steal : (stealStart s.locals.length w).Calm (.tkLockGlobal w) := iteInduction (fun _ => rfl) fun _ => rfl
    exact iteInduction (fun _ => ⟨rfl, id, rfl⟩) fun _ => (ite_both ⟨rfl, id, steal⟩ (ite_both ⟨rfl, id, rfl⟩ ⟨rfl, id, steal⟩))
  | tkStoreGlobal w x => exact ⟨rfl, id, rfl⟩
  | pkLock w => exact iteInduction (fun _ => ⟨rfl, id, rfl⟩) fun _ => (parkLoop_park w rfl id rfl)
  | pkStore w x => exact ⟨rfl, id, iteInduction (fun _ => rfl) fun _ => rfl⟩
  | pkWait w => exact ⟨rfl, id, rfl⟩
  | pkWake w => exact iteInduction (fun _ => (parkLoop_park w rfl id rfl)) fun _ => ⟨rfl, id, rfl⟩
  | clLock => exact iteInduction (fun _ => ⟨rfl, id, rfl⟩) fun _ => ⟨rfl, fun _ => rfl, rfl⟩
  | clBroadcast => exact ⟨rfl, id, rfl⟩
  | _ => cases hp

theorem exec_length (s : Shared) (tid : Nat) (pc : PC) : (exec s tid pc).1.locals.length = s.locals.length := by
  cases hp : pc.parkSite with
  | true => exact congrArg _ (exec_park hp s tid).locals
  | false => exact (exec_local hp s tid).len

theorem exec_closed_mono {s : Shared} {tid : Nat} {pc : PC} (h : s.closed = true) : (exec s tid pc).1.closed = true := by
  cases hp : pc.parkSite with
  | true => exact (exec_park hp s tid).closed h
  | false => rw [(parkView_eq (exec_local hp s tid).view).2.2.2.2.2]; exact h

/-- item removed from a ring that the thread has not returned yet -/
def PC.held : PC → List Nat
  | .tkStoreLocal _ x => [x]
  | .tkStoreGlobal _ x => [x]
  | .stStore1 _ _ x => [x]
  | .stStore2 _ _ x => [x]
  | .pkStore _ x => [x]
  | _ => []

theorem entry_flags {p : PC} (h : p.isEntry = true) :
    p.holdsPark = false ∧ p.isWake = false ∧ p.idle = false ∧ p.adding = false ∧ p.held = [] := by
  cases p <;> cases h <;> exact ⟨rfl, rfl, rfl, rfl, rfl⟩

theorem startNext_pc {tid : Nat} {t : Thread} {p : PC} (h : (startNext tid t).pc = some p) : p.isEntry = true := by
  -- `fun_cases f args` yields one goal per leaf of `f`, numbered as the leaves stand in Model/C05/Queue.lean, with the
  -- branch conditions as hypotheses and the leaf's result in place of the call
  revert h
  fun_cases startNext tid t
  case case1 => exact nofun   -- program exhausted: `pc := none`
  case case2 op _ _ => intro h; cases h; cases op <;> rfl   -- `op :: rest`: at `begin tid op`

/-- an operation starts at an entry site, or the thread is done: a flag that is off at entry sites is off -/
theorem startNext_flag (tid : Nat) (t : Thread) {f : PC → Bool} (hf : ∀ p, p.isEntry = true → f p = false) :
    (startNext tid t).pc.any f = false := by
  cases hp : (startNext tid t).pc with
  | none => rfl
  | some p => exact hf p (startNext_pc hp)

/-- where a thread stands after a step, as a flag that is off at entry sites sees it: at `nx.pc pc` -/
theorem applyNext_flag {tid : Nat} {t : Thread} {pc : PC} (hpc : t.pc = some pc) (nx : Next) {f : PC → Bool}
    (hf : ∀ p, p.isEntry = true → f p = false) :
    (applyNext tid t nx).pc.any f = (nx.pc pc).any f ∧
    ((nx.pc pc).any f = true → (applyNext tid t nx).pc = nx.pc pc) := by
  fun_cases applyNext tid t nx
  case case1 p' => exact ⟨rfl, fun _ => rfl⟩   -- goto
  -- ret (outside / inside `worker.run`), retTake outside: the operation is finished, the next one starts
  case case2 | case3 | case4 => exact ⟨startNext_flag _ _ hf, fun e => absurd e Bool.false_ne_true⟩
  -- retTake inside `worker.run`: on to `tkLoadLocal`, an entry site
  case case5 => exact ⟨hf _ rfl, fun e => absurd e Bool.false_ne_true⟩
  case case6 => exact ⟨congrArg (Option.any f) hpc, fun _ => hpc⟩   -- blocked

def Cfg.pcOf (c : Cfg) (t : Nat) : Option PC := (c.threads[t]?).bind (·.pc)
def Cfg.holderPC (c : Cfg) : Option PC := c.sh.parkMu.bind c.pcOf

theorem step_cases {P : Cfg → Prop} (c : Cfg) (tid : Nat) (h0 : P c)
    (h1 : ∀ t pc c', c.threads[tid]? = some t → t.pc = some pc → c.pcOf tid = some pc →
      c'.sh = (exec c.sh tid pc).1 → c'.threads = c.threads.set tid (applyNext tid t (exec c.sh tid pc).2) →
      c'.pcOf tid = (applyNext tid t (exec c.sh tid pc).2).pc → (∀ u, tid ≠ u → c'.pcOf u = c.pcOf u) → P c') :
    P (step c tid).2 := by
  fun_cases step c tid
  case case1 | case2 => exact h0   -- no such thread; thread done
  case case3 t ht pc hpc s nx he =>   -- `t` at `pc`, `he : exec c.sh tid pc = (s, nx)`
    have hlt := (List.getElem?_eq_some_iff.mp ht).1
    obtain ⟨rfl, rfl⟩ : (exec c.sh tid pc).1 = s ∧ (exec c.sh tid pc).2 = nx := he ▸ ⟨rfl, rfl⟩
    exact h1 t pc _ ht hpc (by simp [Cfg.pcOf, ht, hpc]) rfl rfl (by simp [Cfg.pcOf, hlt])
      fun u hu => by simp [Cfg.pcOf, List.getElem?_set_ne hu]

/-- reachability by ANY schedule: the scheduler may pick any thread id at every step -/
inductive Reachable (c0 : Cfg) : Cfg → Prop where
  | init : Reachable c0 c0
  | step (c : Cfg) (tid : Nat) : Reachable c0 c → Reachable c0 (step c tid).2

theorem mkThreads_get (progs : List (List Op)) : ∀ (k tid : Nat) (t : Thread),
    (mkThreads k progs)[tid]? = some t → ∃ p, progs[tid]? = some p ∧ t = mkThread (k + tid) p := by
  induction progs with
  | nil => intro k tid t h; simp [mkThreads] at h
  | cons p ps ih =>
    intro k tid t h
    cases tid with
    | zero => simp [mkThreads] at h; exact ⟨p, by simp, by simp [h]⟩
    | succ j =>
      simp [mkThreads] at h
      obtain ⟨q, hq, e⟩ := ih (k + 1) j t h
      exact ⟨q, by simpa using hq, by rw [e]; congr 1; omega⟩

theorem init_flag (n : Nat) (progs : List (List Op)) (t : Nat) {f : PC → Bool}
    (hf : ∀ p, p.isEntry = true → f p = false) : ((init n progs).pcOf t).any f = false := by
  show (((mkThreads 0 progs)[t]?).bind (·.pc)).any f = false
  cases hth : (mkThreads 0 progs)[t]? with
  | none => rfl
  | some th =>
    obtain ⟨q, _, e⟩ := mkThreads_get progs 0 t th hth
    rw [e]; exact startNext_flag _ _ hf

theorem Reachable.inv {P : Cfg → Prop} {c0 c : Cfg} (hr : Reachable c0 c) (h0 : P c0)
    (hs : ∀ c tid, P c → P (Model.C05.step c tid).2) : P c := by
  induction hr with
  | init => exact h0
  | step c tid _ ih => exact hs c tid ih

end GoaktVerif.Model.C05
