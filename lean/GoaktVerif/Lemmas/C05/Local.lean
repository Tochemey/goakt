/-
C05 — local rings: `sizeAtomic` never under-reports a ring to its owner, and a worker that has left
`popFront` empty-handed (and is stealing, taking from the global queue or parked) has an empty ring:
work in a local ring implies its owner is awake.  Only the owner (pushing, or stealing into its own
ring) ever grows a ring; every other thread shrinks it or publishes its exact size.
-/
import GoaktVerif.Lemmas.C05.Machine

namespace GoaktVerif.Model.C05

/-- a local queue as its owner's site `o` wants it (`none`: between operations); the site matters through two flags
only: `sizeAtomic` covers the ring unless the owner is inside an adding critical section; past `popFront` the ring is empty -/
def QOk (q : LocalQ) (o : Option PC) : Prop :=
  (o.any PC.adding = false → q.ring.size ≤ q.sizeAtomic) ∧ (o.any PC.idle = true → q.ring.size = 0)

theorem QOk.empty {q : LocalQ} (h0 : q.ring.size = 0) (o : Option PC) : QOk q o :=
  ⟨fun _ => Nat.le_trans (Nat.le_of_eq h0) (Nat.zero_le _), fun _ => h0⟩

theorem QOk.of_le {q : LocalQ} {o : Option PC} (h : q.ring.size ≤ q.sizeAtomic) (hi : o.any PC.idle = false) : QOk q o :=
  ⟨fun _ => h, fun e => absurd (hi.symm.trans e) Bool.false_ne_true⟩

theorem QOk.busy {q : LocalQ} {o : Option PC} (ha : o.any PC.adding = true) (hi : o.any PC.idle = false) : QOk q o :=
  ⟨fun e => absurd (e.symm.trans ha) Bool.false_ne_true, fun e => absurd (hi.symm.trans e) Bool.false_ne_true⟩

def Shrinks (q q' : LocalQ) : Prop :=
  q'.ring.size ≤ q.ring.size ∧ (q'.sizeAtomic = q.sizeAtomic ∨ q'.sizeAtomic = q'.ring.size)

theorem Shrinks.of_eq {q q' : LocalQ} (hr : q'.ring = q.ring) (ha : q'.sizeAtomic = q.sizeAtomic) : Shrinks q q' :=
  ⟨hr ▸ Nat.le_refl _, .inl ha⟩

theorem Shrinks.of_eq_left {a b c : LocalQ} (hr : b.ring = a.ring) (ha : b.sizeAtomic = a.sizeAtomic)
    (h : Shrinks b c) : Shrinks a c := ⟨hr ▸ h.1, ha ▸ h.2⟩

theorem Shrinks.setL {s : Shared} {k : Nat} {q : LocalQ} (h : Shrinks (s.getL k) q) (j : Nat) :
    Shrinks (s.getL j) ((s.setL k q).getL j) := by
  rw [getL_setL']; split
  · rename_i e; rw [e.1]; exact h
  · exact .of_eq rfl rfl

theorem QOk.shrinks {q q' : LocalQ} {o : Option PC} (h : QOk q o) (hs : Shrinks q q') : QOk q' o := by
  obtain ⟨h1, h2⟩ := hs
  exact ⟨fun ha => by have := h.1 ha; rcases h2 with e | e <;> omega, fun hi => Nat.le_zero.mp (h.2 hi ▸ h1)⟩

structure RingStep (s : Shared) (tid : Nat) (pc : PC) (r : Shared × Next) : Prop where
  own : QOk (s.getL tid) (some pc) → QOk (r.1.getL tid) (r.2.pc pc)
  other : ∀ j, tid ≠ j → Shrinks (s.getL j) (r.1.getL j)

theorem parkSite_adding {pc : PC} (h : pc.parkSite = true) : pc.adding = false := by
  cases pc <;> first | rfl | cases h

theorem exec_rings {s : Shared} {n tid : Nat} {pc : PC} (hn : s.locals.length = n) (hok : pc.ok n tid) :
    RingStep s tid pc (exec s tid pc) := by
  cases hl : pc.parkSite with
  | true =>
    -- a park site leaves `locals` alone, and the owner stays on the same side of `popFront`
    obtain ⟨hloc, -, hcalm⟩ := exec_park hl s tid
    have hg : ∀ j, (exec s tid pc).1.getL j = s.getL j := fun j => by unfold Shared.getL; rw [hloc]
    refine ⟨fun h => ?_, fun j _ => .of_eq (by rw [hg]) (by rw [hg])⟩
    rw [hg]
    exact ⟨fun _ => h.1 (parkSite_adding hl), fun hi => h.2 (hcalm.was_idle hi)⟩
  | false =>
  have same : ∀ {nx : Next}, (QOk (s.getL tid) (some pc) → QOk (s.getL tid) (nx.pc pc)) →
      RingStep s tid pc (s, nx) := fun ho => ⟨ho, fun _ _ => .of_eq rfl rfl⟩
  have mu : ∀ {nx : Next} (k : Nat) (m : Option Nat), (QOk (s.getL tid) (some pc) → QOk (s.getL tid) (nx.pc pc)) →
      RingStep s tid pc (s.setL k { s.getL k with mu := m }, nx) := fun k m ho =>
    have g := (getL_setL_mu s k · m)
    ⟨fun h => (ho h).shrinks (.of_eq (g tid).1 (g tid).2), fun j _ => .of_eq (g j).1 (g j).2⟩
  have write : ∀ {s' : Shared} {nx : Next} {q : LocalQ}, tid < n → s'.locals = (s.setL tid q).locals →
      (QOk (s.getL tid) (some pc) → QOk q (nx.pc pc)) → RingStep s tid pc (s', nx) := fun {s' _ q} hw e ho =>
    have g : ∀ j, s'.getL j = (s.setL tid q).getL j := fun j => by unfold Shared.getL; rw [e]
    ⟨fun h => by rw [g, getL_setL_same s tid _ (hn ▸ hw)]; exact ho h,
      fun j hj => by rw [g, getL_setL_ne s tid j _ hj]; exact .of_eq rfl rfl⟩
  cases pc with
  | plLock w x =>
    obtain ⟨rfl, hwn, -⟩ := hok
    exact iteInduction (fun _ => (same id)) fun _ => (ite_both (same fun h => .of_le (h.1 rfl) rfl) (write hwn rfl fun _ => .busy rfl rfl))
  | plStore w =>
    obtain ⟨rfl, hwn⟩ := hok
    exact write hwn rfl fun _ => .of_le (Nat.le_refl _) rfl
  | tkLoadLocal w =>
    obtain ⟨rfl, -⟩ := hok
    exact iteInduction (fun h0 => same fun h => .empty (Nat.le_zero.mp (h0 ▸ h.1 rfl)) _) fun _ =>
      same fun h => .of_le (h.1 rfl) rfl
  | tkLockLocal w =>
    obtain ⟨rfl, hwn⟩ := hok
    exact iteInduction (fun _ => same id) fun _ => iteInduction (fun h0 => same fun _ => .empty h0 _) fun _ =>
      write hwn rfl fun h => .of_le (Nat.le_trans (Nat.sub_le _ 1) (h.1 rfl)) rfl
  | tkStoreLocal w x =>
    obtain ⟨rfl, hwn, hx⟩ := hok
    exact write hwn rfl fun _ => by rw [if_pos hx]; exact .of_le (Nat.le_refl _) rfl
  | tkLoadGlobal w =>
    obtain ⟨rfl, -⟩ := hok
    exact iteInduction (fun _ => (same fun h => .empty (h.2 rfl) _)) fun _ => (same fun h => .empty (h.2 rfl) _)
  | stLoad w i =>
    obtain ⟨rfl, -⟩ := hok
    exact iteInduction (fun _ => (same fun h => .empty (h.2 rfl) _)) fun _ => (same fun h => .empty (h.2 rfl) _)
  | stLock1 w i =>
    obtain ⟨rfl, -⟩ := hok
    exact iteInduction (fun _ => (same id)) fun _ => (mu _ _ fun h => .empty (h.2 rfl) _)
  | stLock2 w i =>
    obtain ⟨rfl, hwn, hi0, hi⟩ := hok
    refine iteInduction (fun _ => (same id)) fun _ => (ite_both (mu _ _ fun h => .empty (h.2 rfl) _) ⟨fun _ => .busy rfl rfl, fun j hj => ?_⟩)
    -- the victim's ring shrinks, its `sizeAtomic` is not yet written
    generalize (w + i) % s.locals.length = v at *
    have g := (getL_setL_mu s (max v w) · (some w))
    generalize s.setL (max v w) { s.getL (max v w) with mu := some w } = s1 at g ⊢
    show Shrinks _ (Shared.getL (Shared.setL (Shared.setL s1 v _) w _) j)
    rw [getL_setL_ne _ w j _ hj]
    refine .of_eq_left (g j).1 (g j).2 (Shrinks.setL ?_ j)
    exact ⟨Ring.stealHalf_size, .inl rfl⟩
  | stStore1 w i x =>
    obtain ⟨rfl, -⟩ := hok
    refine ⟨fun _ => .busy rfl rfl, fun j _ => ?_⟩
    show Shrinks _ (Shared.getL (s.setL _ _) j)
    refine Shrinks.setL ?_ j
    exact ⟨Nat.le_refl _, .inr rfl⟩
  | stStore2 w i x =>
    obtain ⟨rfl, hwn, hx⟩ := hok
    have st (nx : Next) := write (nx := if x ≠ 0 then .retTake w x else nx)
      (q := { s.getL w with sizeAtomic := (s.getL w).ring.size, mu := none }) hwn rfl
      fun _ => by rw [if_pos hx]; exact .of_le (Nat.le_refl _) rfl
    have g := (getL_setL_mu (s.setL w { s.getL w with sizeAtomic := (s.getL w).ring.size, mu := none })
      ((w + i) % s.locals.length) · none)
    exact ⟨fun h => ((st _).own h).shrinks (.of_eq (g w).1 (g w).2),
      fun j hj => .of_eq ((g j).1.trans (congrArg _ (getL_setL_ne s w j _ hj)))
        ((g j).2.trans (congrArg _ (getL_setL_ne s w j _ hj)))⟩
  | clCAS => exact iteInduction (fun _ => (same fun h => .of_le (h.1 rfl) rfl)) fun _ => ⟨fun h => .of_le (h.1 rfl) rfl, fun _ _ => .of_eq rfl rfl⟩
  | _ => cases hl

def LInv (n : Nat) (c : Cfg) : Prop := ∀ i, i < n → QOk (c.sh.getL i) (c.pcOf i)

theorem step_linv {n : Nat} {c : Cfg} (hc : CInv n c) (h : LInv n c) (tid : Nat) : LInv n (step c tid).2 := by
  refine step_cases c tid h fun t pc c' ht hpc hpcOf hsh _ hself hother i hi => ?_
  have st := exec_rings hc.len ((hc.tok tid t ht).pc pc hpc)
  rw [hsh]
  by_cases e : tid = i
  · subst e
    rw [hself, QOk, (applyNext_flag hpc _ fun p hin => (entry_flags hin).2.2.2.1).1,
      (applyNext_flag hpc _ fun p hin => (entry_flags hin).2.2.1).1]
    exact st.own (hpcOf ▸ h tid hi)
  · rw [hother i e]; exact (h i hi).shrinks (st.other i e)

theorem init_linv (n : Nat) (progs : List (List Op)) : LInv n (init n progs) := by
  intro i _
  refine .empty ?_ _
  simp only [init, initShared, Shared.getL, List.getD_eq_getElem?_getD]
  cases hq : (List.replicate n ({ ring := Ring.empty localQueueCap, sizeAtomic := 0, mu := none } : LocalQ))[i]? with
  | none => rfl
  | some q => rw [(List.mem_replicate.mp (List.mem_of_getElem? hq)).2]; rfl

theorem reachable_linv {n : Nat} {progs : List (List Op)} (hp : ProgsOk n progs) {c : Cfg}
    (hr : Reachable (init n progs) c) : LInv n c :=
  (hr.inv (P := fun c => CInv n c ∧ LInv n c) ⟨init_cinv hp, init_linv n progs⟩
    fun _ tid h => ⟨step_cinv h.1 tid, step_linv h.1 h.2 tid⟩).2

end GoaktVerif.Model.C05
