/-
C05 — parking protocol: `parkMu`, the `parked` counter, the condition variable's waiters and the
pending wake-ups, as a function of the shared state and of the program counter of the thread
that holds `parkMu` (`hp`); then for whole configurations, where `hp` is the program counter of the
thread recorded in `parkMu`.
-/
import GoaktVerif.Lemmas.C05.Ring
import GoaktVerif.Lemmas.C05.Step

namespace GoaktVerif.Model.C05

/-- the holder is about to wait: at `Wait:cond`, `parked` already incremented, `cond.Wait` not yet entered -/
def isWait : Option PC → Bool
  | some (.pkWait _) => true
  | _ => false

def inPush : Option PC → Bool
  | some .pushStore => true
  | some .pushSignal => true
  | _ => false

theorem eq_of_inPush {o : Option PC} (h : inPush o = true) : o = some .pushStore ∨ o = some .pushSignal := by
  unfold inPush at h
  split at h
  · exact .inl rfl
  · exact .inr rfl
  · cases h

def b2n (b : Bool) : Nat := if b then 1 else 0

/-- for a clause whose hypothesis is a flag that computes to `false` (`isWait hp` in `VInv`, `isWake` of the next site in
`CondStep`); `nofun` there is much slower to check -/
theorem of_false_eq_true {p : Prop} (e : false = true) : p := absurd e Bool.false_ne_true

/-- invariant of the parking protocol; `hp` = program counter of the holder of `parkMu` -/
structure VInv (s : Shared) (hp : Option PC) : Prop where
  /-- `parked` counts exactly: the thread about to wait + the waiters + the woken-but-not-yet-running -/
  parked_eq : s.parked = b2n (isWait hp) + s.waiters.length + s.signalled.length
  /-- a thread only goes to wait having seen, under the lock, an empty global queue that is not closed -/
  wait_empty : isWait hp = true → s.global.size = 0 ∧ s.closed = false
  /-- NO LOST SIGNAL: while some worker waits un-signalled, every queued item is covered by a pending
      wake-up or by the pusher that still holds `parkMu` and is about to signal -/
  covered : s.waiters ≠ [] → s.global.size ≤ s.signalled.length + b2n (inPush hp)
  /-- after close nobody waits un-signalled (except during the closing critical section itself) -/
  closed_woken : s.closed = true → s.waiters ≠ [] → hp = some .clBroadcast

theorem VInv.congr {s s' : Shared} {hp : Option PC} (h : VInv s hp) (e : s'.parkView = s.parkView) : VInv s' hp := by
  obtain ⟨e1, e2, e3, e4, e5, e6⟩ := parkView_eq e
  obtain ⟨c, d, f, g⟩ := h
  exact ⟨by rw [e2, e3, e4]; exact c, by rw [e5, e6]; exact d, by rw [e3, e4, e5]; exact f, by rw [e3, e6]; exact g⟩

theorem VInv.closed_waiters {s : Shared} {hp : Option PC} (h : VInv s hp) (hc : s.closed = true)
    (hb : hp ≠ some .clBroadcast) : s.waiters = [] := Decidable.byContradiction fun hw => hb (h.closed_woken hc hw)

/-- `b2n (isWait hp)` written out, for `omega` -/
theorem VInv.parked_of_not_wait {s : Shared} {hp : Option PC} (h : VInv s hp) (hw : isWait hp = false) :
    s.parked = s.waiters.length + s.signalled.length := by
  have := h.parked_eq; rw [hw] at this; exact this.trans (by rw [b2n, if_neg Bool.false_ne_true, Nat.zero_add])

theorem hp_none_of_free {s : Shared} {hp : Option PC} (h : s.parkMu = none → hp = none) (hf : ¬ s.parkMu.isSome = true) :
    hp = none ∧ s.parkMu = none := by
  cases hm : s.parkMu with
  | some _ => exact absurd (hm ▸ rfl) hf
  | none => exact ⟨h (by rw [hm]), rfl⟩

/-- a transition of `tid` at `pc`, by where it stands relative to the `parkMu` critical sections before and
after (`hp`: the holder's site before) -/
inductive VStep (s : Shared) (hp : Option PC) (tid : Nat) (pc : PC) : Shared × Next → Prop
  | keep {s' nx} : pc.holdsPark = false → (nx.pc pc).any PC.holdsPark = false →
      VInv s' hp → s'.parkMu = s.parkMu → VStep s hp tid pc (s', nx)
  | release {s' nx} : pc.holdsPark = true → (nx.pc pc).any PC.holdsPark = false →
      VInv s' none → s'.parkMu = none → VStep s hp tid pc (s', nx)
  /-- is inside afterwards, at `p`; `parkMu` is only ever acquired when free -/
  | enter {s' nx p} : nx.pc pc = some p → p.holdsPark = true → VInv s' (some p) → s'.parkMu = some tid →
      (pc.holdsPark = true ∨ s.parkMu = none) → VStep s hp tid pc (s', nx)

theorem parkSite_holds {pc : PC} (h : pc.parkSite = false) : pc.holdsPark = false := by
  cases pc <;> first | rfl | cases h

theorem VInv.local {s : Shared} {hp : Option PC} {pc : PC} {r : Shared × Next} (h : VInv s hp) (tid : Nat)
    (hl : pc.parkSite = false) (st : LocalStep s pc r) : VStep s hp tid pc r :=
  .keep (parkSite_holds hl) st.quiet.1 (h.congr st.view) (parkView_eq st.view).1

/-- the loop of parkAndTake entered with `parkMu` just taken by `tid` (nobody else can be the holder) -/
theorem parkLoop_vinv {s s1 : Shared} {tid w : Nat} {pc : PC} (hpc : pc.holdsPark = false)
    (hm : s.parkMu = none) (hmu : s1.parkMu = some tid)
    (hparked : s1.parked = s1.waiters.length + s1.signalled.length)
    (hcov : s1.waiters ≠ [] → s1.global.size ≤ s1.signalled.length + 1)
    (hclosed : s1.closed = true → s1.waiters = []) :
    VStep s none tid pc (parkLoop s1 w) :=
  iteInduction
    (fun hc => .keep hpc rfl ⟨by show s1.parked = 0 + s1.waiters.length + s1.signalled.length; omega, of_false_eq_true,
      fun hw => absurd (hclosed hc) hw, fun _ hw => absurd (hclosed hc) hw⟩ hm.symm)
    fun hc => iteInduction
      (fun hpos =>
        have hsz := Ring.gpop_size hpos
        .enter rfl rfl ⟨by show s1.parked = 0 + s1.waiters.length + s1.signalled.length; omega, of_false_eq_true,
          fun hw => by have := hcov hw; show s1.global.gpop.2.size ≤ s1.signalled.length + 0; omega,
          fun h => absurd h hc⟩ hmu (.inr hm))
      fun hz => .enter rfl rfl ⟨by show s1.parked + 1 = 1 + s1.waiters.length + s1.signalled.length; omega,
          fun _ => ⟨by show s1.global.size = 0; omega, by simpa using hc⟩,
          fun _ => by show s1.global.size ≤ _; omega, fun h => absurd h hc⟩ hmu (.inr hm)

theorem exec_vinv {s : Shared} {hp : Option PC} {tid : Nat} {pc : PC} (h : VInv s hp)
    (hi : s.parkMu = none → hp = none) (hh : pc.holdsPark = true → hp = some pc ∧ s.parkMu = some tid) :
    VStep s hp tid pc (exec s tid pc) := by
  cases hl : pc.parkSite with
  | false => exact h.local tid hl (exec_local hl s tid)
  | true =>
  cases pc with
  | pushLock x =>
    refine iteInduction (fun _ => .keep rfl rfl h rfl) fun hf => ?_
    obtain ⟨rfl, hm⟩ := hp_none_of_free hi hf
    refine .enter rfl rfl ⟨h.parked_eq, of_false_eq_true, fun hw => ?_, fun hc hw => nomatch h.closed_woken hc hw⟩ rfl (.inr hm)
    have : s.global.size ≤ s.signalled.length + 0 := h.covered hw
    show (s.global.gpush x).size ≤ s.signalled.length + 1
    rw [Ring.gpush_size]; omega
  | pushStore =>
    obtain ⟨rfl, hm⟩ := hh rfl
    refine iteInduction (fun _ => .enter rfl rfl ⟨h.parked_eq, of_false_eq_true, h.covered, fun hc hw => nomatch h.closed_woken hc hw⟩ hm (.inl rfl))
      fun hz => ?_
    have hw : s.waiters = [] := by
      have hparked := h.parked_of_not_wait rfl
      have hz : ¬ s.parked > 0 := hz
      exact List.eq_nil_of_length_eq_zero (by omega)
    exact .release rfl rfl ⟨h.parked_eq, of_false_eq_true, fun hw' => absurd hw hw', fun _ hw' => absurd hw hw'⟩ rfl
  | pushSignal =>
    obtain ⟨rfl, hm⟩ := hh rfl
    dsimp only [exec]; split
    · rename_i hw
      exact .release rfl rfl ⟨h.parked_eq, of_false_eq_true, fun hw' => absurd hw hw', fun _ hw' => absurd hw hw'⟩ rfl
    · rename_i t ws hw
      have hne : s.waiters ≠ [] := by rw [hw]; exact List.cons_ne_nil _ _
      have hparked := h.parked_of_not_wait rfl
      have hcov : s.global.size ≤ s.signalled.length + 1 := h.covered hne
      rw [hw] at hparked
      refine .release rfl rfl ⟨?_, of_false_eq_true, fun _ => ?_, fun hc _ => nomatch h.closed_woken hc hne⟩ rfl
      · show s.parked = 0 + ws.length + (s.signalled ++ [t]).length
        rw [List.length_append]; exact hparked.trans (by simp only [List.length_cons, List.length_nil]; omega)
      · show s.global.size ≤ (s.signalled ++ [t]).length + 0
        rw [List.length_append]; exact hcov
  | tkLockGlobal w =>
    have steal := (stealNext_quiet s.locals.length w 0 (.tkLockGlobal w)).1
    refine iteInduction (fun _ => .keep rfl rfl h rfl) fun hf => iteInduction (fun _ => .keep rfl steal h rfl) fun hne => ?_
    obtain ⟨rfl, hm⟩ := hp_none_of_free hi hf
    have hsz := Ring.gpop_size (Nat.pos_of_ne_zero hne)
    have hcov : s.waiters ≠ [] → s.global.gpop.2.size ≤ s.signalled.length + 0 := fun hw => by
      have : s.global.size ≤ s.signalled.length + 0 := h.covered hw
      omega
    exact iteInduction
      (fun _ => .enter rfl rfl ⟨h.parked_eq, of_false_eq_true, hcov, fun hc hw => nomatch h.closed_woken hc hw⟩ rfl (.inr hm))
      fun _ => .keep rfl steal ⟨h.parked_eq, of_false_eq_true, hcov, h.closed_woken⟩ rfl
  | tkStoreGlobal w x =>
    obtain ⟨rfl, hm⟩ := hh rfl
    exact .release rfl rfl ⟨h.parked_eq, of_false_eq_true, h.covered, fun hc hw => nomatch h.closed_woken hc hw⟩ rfl
  | pkLock w =>
    refine iteInduction (fun _ => .keep rfl rfl h rfl) fun hf => ?_
    obtain ⟨rfl, hm⟩ := hp_none_of_free hi hf
    have hparked := h.parked_of_not_wait rfl
    exact parkLoop_vinv rfl hm rfl (by show s.parked = s.waiters.length + s.signalled.length; omega)
      (fun hw => by have : s.global.size ≤ s.signalled.length + 0 := h.covered hw; show s.global.size ≤ s.signalled.length + 1; omega)
      fun hc => h.closed_waiters hc nofun
  | pkStore w x =>
    obtain ⟨rfl, hm⟩ := hh rfl
    exact .release rfl (retTake_quiet ⟨rfl, rfl⟩).1 ⟨h.parked_eq, of_false_eq_true, h.covered, fun hc hw => nomatch h.closed_woken hc hw⟩ rfl
  | pkWait w =>
    obtain ⟨rfl, hm⟩ := hh rfl
    obtain ⟨hz, hc⟩ := h.wait_empty rfl
    have hparked : s.parked = 1 + s.waiters.length + s.signalled.length := h.parked_eq
    refine .release rfl rfl ⟨?_, of_false_eq_true, fun _ => ?_, fun hc' => ?_⟩ rfl
    · show s.parked = 0 + (s.waiters ++ [tid]).length + s.signalled.length
      rw [List.length_append]; exact hparked.trans (by simp only [List.length_cons, List.length_nil]; omega)
    · show s.global.size ≤ _; rw [hz]; exact Nat.zero_le _
    · rw [show s.closed = true from hc'] at hc; cases hc
  | pkWake w =>
    refine iteInduction (fun hcond => ?_) fun _ => .keep rfl rfl h rfl
    simp only [Bool.and_eq_true, Option.isNone_iff_eq_none, List.contains_iff_mem] at hcond
    obtain ⟨hmem, hm⟩ := hcond
    obtain rfl := hi hm
    have hlen := List.length_erase_of_mem hmem
    have hpos := List.length_pos_of_mem hmem
    have hparked := h.parked_of_not_wait rfl
    exact parkLoop_vinv rfl hm rfl (by show s.parked - 1 = s.waiters.length + (s.signalled.erase tid).length; omega)
      (fun hw => by
        have : s.global.size ≤ s.signalled.length + 0 := h.covered hw
        show s.global.size ≤ (s.signalled.erase tid).length + 1; omega)
      fun hc => h.closed_waiters hc nofun
  | clLock =>
    refine iteInduction (fun _ => .keep rfl rfl h rfl) fun hf => ?_
    obtain ⟨rfl, hm⟩ := hp_none_of_free hi hf
    exact .enter rfl rfl ⟨h.parked_eq, of_false_eq_true, h.covered, fun _ _ => rfl⟩ rfl (.inr hm)
  | clBroadcast =>
    obtain ⟨rfl, hm⟩ := hh rfl
    have hparked := h.parked_of_not_wait rfl
    refine .release rfl rfl ⟨?_, of_false_eq_true, fun hw => absurd rfl hw, fun _ hw => absurd rfl hw⟩ rfl
    show s.parked = 0 + 0 + (s.signalled ++ s.waiters).length
    rw [List.length_append]; omega
  | _ => cases hl

def Shared.inCond (s : Shared) : List Nat := s.waiters ++ s.signalled

/-- after a step of `tid`, the condition variable still records every other thread it recorded, and records
`tid` if `tid` now stands inside `cond.Wait` -/
structure CondStep (s : Shared) (tid : Nat) (pc : PC) (r : Shared × Next) : Prop where
  own : (r.2.pc pc).any PC.isWake = true → tid ∈ r.1.inCond
  other : ∀ u, u ≠ tid → u ∈ s.inCond → u ∈ r.1.inCond

theorem inCond_of_view {s s' : Shared} (e : s'.parkView = s.parkView) : s'.inCond = s.inCond := by
  obtain ⟨_, _, e3, e4, _⟩ := parkView_eq e
  unfold Shared.inCond; rw [e3, e4]

theorem parkLoop_cond {s s1 : Shared} {tid : Nat} {pc : PC} (w : Nat)
    (e : ∀ u, u ≠ tid → u ∈ s.inCond → u ∈ s1.inCond) : CondStep s tid pc (parkLoop s1 w) :=
  iteInduction (fun _ => ⟨of_false_eq_true, e⟩) fun _ => (ite_both ⟨of_false_eq_true, e⟩ ⟨of_false_eq_true, e⟩)

theorem exec_cond {s : Shared} {tid : Nat} {pc : PC} (hmem : pc.isWake = true → tid ∈ s.inCond) :
    CondStep s tid pc (exec s tid pc) := by
  have other : ∀ {s' : Shared} {nx : Next}, (nx.pc pc).any PC.isWake = false → s.inCond ⊆ s'.inCond →
      CondStep s tid pc (s', nx) := fun hq hin => ⟨fun h => absurd (hq.symm.trans h) Bool.false_ne_true, fun _ _ hu => hin hu⟩
  cases hl : pc.parkSite with
  | false =>
    have st := exec_local hl s tid
    exact other st.quiet.2 (inCond_of_view st.view ▸ List.Subset.refl _)
  | true =>
  cases pc with
  | pushLock x => exact iteInduction (fun _ => (other rfl (List.Subset.refl _))) fun _ => (other rfl (List.Subset.refl _))
  | pushStore => exact iteInduction (fun _ => (other rfl (List.Subset.refl _))) fun _ => (other rfl (List.Subset.refl _))
  | pushSignal =>
    dsimp only [exec]; split
    · exact other rfl (List.Subset.refl _)
    · rename_i t ws hws
      refine other rfl (List.Perm.subset ?_)
      show (s.waiters ++ s.signalled).Perm (ws ++ (s.signalled ++ [t]))
      rw [hws, ← List.append_assoc]
      exact List.perm_append_comm (l₁ := [t]) (l₂ := ws ++ s.signalled)
  | tkLockGlobal w =>
    have steal := (stealNext_quiet s.locals.length w 0 (.tkLockGlobal w)).2
    exact iteInduction (fun _ => (other rfl (List.Subset.refl _))) fun _ => (ite_both (other steal (List.Subset.refl _))
      (ite_both (other rfl (List.Subset.refl _)) (other steal (List.Subset.refl _))))
  | tkStoreGlobal w x => exact other rfl (List.Subset.refl _)
  | pkLock w => exact iteInduction (fun _ => (other rfl (List.Subset.refl _))) fun _ => (parkLoop_cond w fun _ _ h => h)
  | pkStore w x => exact other (retTake_quiet ⟨rfl, rfl⟩).2 (List.Subset.refl _)
  | pkWait w =>
    exact ⟨fun _ => List.mem_append_left _ (List.mem_append_right _ List.mem_cons_self),
      fun _ _ hu => (List.mem_append.mp hu).elim (fun h => List.mem_append_left _ (List.mem_append_left _ h)) (List.mem_append_right _)⟩
  | pkWake w =>
    -- woken: only `tid` itself leaves the lists
    exact iteInduction (fun _ => parkLoop_cond w fun _ hne hu => (List.mem_append.mp hu).elim (List.mem_append_left _)
      fun h => List.mem_append_right _ ((List.mem_erase_of_ne hne).mpr h)) fun _ => ⟨fun _ => hmem rfl, fun _ _ h => h⟩
  | clLock => exact iteInduction (fun _ => (other rfl (List.Subset.refl _))) fun _ => (other rfl (List.Subset.refl _))
  | clBroadcast => exact other rfl (List.perm_append_comm : (s.waiters ++ s.signalled).Perm (s.signalled ++ s.waiters)).subset
  | _ => cases hl

structure PInv (c : Cfg) : Prop where
  vinv : VInv c.sh c.holderPC
  /-- mutual exclusion: `parkMu` records a thread exactly if that thread stands inside a critical section -/
  mutex : ∀ t, (c.pcOf t).any PC.holdsPark = true ↔ c.sh.parkMu = some t

theorem step_pinv {c : Cfg} (h : PInv c) (tid : Nat) : PInv (step c tid).2 := by
  refine step_cases c tid h fun t pc c' ht hpc hpcOf hsh _ hself hother => ?_
  have hh : pc.holdsPark = true → c.holderPC = some pc ∧ c.sh.parkMu = some tid := fun hin =>
    have hm := (h.mutex tid).mp (by rw [hpcOf]; exact hin)
    ⟨by rw [Cfg.holderPC, hm]; exact hpcOf, hm⟩
  have hnot : pc.holdsPark = false → c.sh.parkMu ≠ some tid := fun hin hm => by
    have := (h.mutex tid).mpr hm
    rw [hpcOf] at this; exact absurd (hin.symm.trans this) Bool.false_ne_true
  have hv := exec_vinv h.vinv (fun hm => by rw [Cfg.holderPC, hm]; rfl) hh
  obtain ⟨hany, hgo⟩ := applyNext_flag (tid := tid) hpc (exec c.sh tid pc).2 (f := PC.holdsPark) fun p hin => (entry_flags hin).1
  generalize exec c.sh tid pc = r at hv hany hgo hsh hself
  have hbind : ∀ mu : Option Nat, mu ≠ some tid → mu.bind c'.pcOf = mu.bind c.pcOf := fun mu hne => by
    cases mu with
    | none => rfl
    | some u => exact hother u fun e => hne (e ▸ rfl)
  have out : ∀ {nx : Next}, (applyNext tid t nx).pc.any PC.holdsPark = (nx.pc pc).any PC.holdsPark →
      (nx.pc pc).any PC.holdsPark = false → c'.pcOf tid = (applyNext tid t nx).pc →
      ¬ (c'.pcOf tid).any PC.holdsPark = true := fun e hq hs hu => by rw [hs, e, hq] at hu; cases hu
  -- another thread inside a critical section: then `tid` is not the holder
  have excl : ∀ u, tid ≠ u → (c.pcOf u).any PC.holdsPark = true → pc.holdsPark = true ∨ c.sh.parkMu = none → False :=
    fun u e hu hacq => by
      have hm := (h.mutex u).mp hu
      rcases hacq with hin | hf
      · exact e (Option.some.inj ((hh hin).2.symm.trans hm))
      · rw [hm] at hf; cases hf
  cases hv with
  | keep hin hq hv hmu =>
    refine ⟨by rw [Cfg.holderPC, hsh, hmu, hbind _ (hnot hin)]; exact hv, fun u => ?_⟩
    rw [hsh, hmu]
    by_cases e : tid = u
    · subst e; exact ⟨fun hu => absurd hu (out hany hq hself), fun hm => absurd hm (hnot hin)⟩
    · rw [hother u e]; exact h.mutex u
  | release hin hq hv hmu =>
    refine ⟨by rw [Cfg.holderPC, hsh, hmu]; exact hv, fun u => ?_⟩
    rw [hsh, hmu]
    by_cases e : tid = u
    · subst e; exact ⟨fun hu => absurd hu (out hany hq hself), nofun⟩
    · rw [hother u e]; exact ⟨fun hu => (excl u e hu (.inl hin)).elim, nofun⟩
  | @enter _ _ p htgt hin hv hmu hacq =>
    have hp : c'.pcOf tid = some p := by rw [hself, hgo (by rw [htgt]; exact hin), htgt]
    refine ⟨by rw [Cfg.holderPC, hsh, hmu]; show VInv _ (c'.pcOf tid); rw [hp]; exact hv, fun u => ?_⟩
    rw [hsh, hmu]
    by_cases e : tid = u
    · subst e; rw [hp]; exact ⟨fun _ => rfl, fun _ => hin⟩
    · rw [hother u e]; exact ⟨fun hu => (excl u e hu hacq).elim, fun hm => absurd (Option.some.inj hm) e⟩

theorem init_pinv (n : Nat) (progs : List (List Op)) : PInv (init n progs) := by
  refine ⟨⟨rfl, of_false_eq_true, (absurd rfl ·), fun _ => (absurd rfl ·)⟩, fun t => ⟨fun ht => ?_, nofun⟩⟩
  rw [init_flag n progs t fun p hin => (entry_flags hin).1] at ht; cases ht

theorem reachable_pinv {n : Nat} {progs : List (List Op)} {c : Cfg} (hr : Reachable (init n progs) c) : PInv c :=
  hr.inv (init_pinv n progs) fun _ tid h => step_pinv h tid

/-- whoever stands inside `cond.Wait` is recorded by the condition variable, as a waiter or as woken -/
def WInv (c : Cfg) : Prop := ∀ t, (c.pcOf t).any PC.isWake = true → t ∈ c.sh.inCond

theorem step_winv {c : Cfg} (h : WInv c) (tid : Nat) : WInv (step c tid).2 := by
  refine step_cases c tid h fun t pc c' ht hpc hpcOf hsh _ hself hother u hu => ?_
  have hc := exec_cond (s := c.sh) (tid := tid) (pc := pc) fun hw => h tid (by rw [hpcOf]; exact hw)
  rw [hsh]
  by_cases e : u = tid
  · subst e
    rw [hself, (applyNext_flag hpc _ fun p hin => (entry_flags hin).2.1).1] at hu
    exact hc.own hu
  · rw [hother u (Ne.symm e)] at hu
    exact hc.other u e (h u hu)

theorem init_winv (n : Nat) (progs : List (List Op)) : WInv (init n progs) := fun t ht => by
  rw [init_flag n progs t fun p hin => (entry_flags hin).2.1] at ht; cases ht

theorem reachable_winv {n : Nat} {progs : List (List Op)} {c : Cfg} (hr : Reachable (init n progs) c) : WInv c :=
  hr.inv (init_winv n progs) fun _ tid h => step_winv h tid

end GoaktVerif.Model.C05
