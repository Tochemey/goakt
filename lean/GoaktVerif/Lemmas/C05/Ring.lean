/-
C05 — ring arithmetic: every ring operation of actor/ready_queue.go acts on the live window
(`Ring.toList`) like the corresponding List operation (append at the back, remove at the front,
`grow` = identity, `stealHalf` = move a prefix), and preserves the ring's shape invariant.
-/
import GoaktVerif.Lemmas.ListFacts
import GoaktVerif.Lemmas.NatMod
import GoaktVerif.Model.C05.Ring

namespace GoaktVerif.Model.C05
namespace Ring

structure WF (r : Ring) : Prop where
  head_lt : r.head < r.cap
  size_le : r.size ≤ r.cap
  tail_eq : r.tail = (r.head + r.size) % r.cap

theorem empty_wf {c : Nat} (hc : 0 < c) : (empty c).WF :=
  ⟨by rw [cap, empty, List.length_replicate]; exact hc, Nat.zero_le _, (Nat.zero_mod _).symm⟩

@[simp] theorem empty_toList (c : Nat) : (empty c).toList = [] := rfl

theorem length_toList (r : Ring) : r.toList.length = r.size := by
  rw [toList, List.length_map, List.length_range]

theorem pushRaw_cap (r : Ring) (x : Nat) : (r.pushRaw x).cap = r.cap := List.length_set
theorem popRaw_cap (r : Ring) : r.popRaw.2.cap = r.cap := List.length_set
theorem pushRaw_size (r : Ring) (x : Nat) : (r.pushRaw x).size = r.size + 1 := rfl
theorem popRaw_size (r : Ring) : r.popRaw.2.size = r.size - 1 := rfl

theorem pushRaw_wf {r : Ring} (x : Nat) (h : r.WF) (hs : r.size < r.cap) : (r.pushRaw x).WF := by
  refine ⟨(pushRaw_cap r x).symm ▸ h.head_lt, (pushRaw_cap r x).symm ▸ hs, ?_⟩
  show (r.tail + 1) % r.cap = (r.head + (r.size + 1)) % (r.pushRaw x).cap
  rw [pushRaw_cap, h.tail_eq, Nat.mod_add_mod, Nat.add_assoc]

theorem pushRaw_toList {r : Ring} (x : Nat) (h : r.WF) (hs : r.size < r.cap) :
    (r.pushRaw x).toList = r.toList ++ [x] := by
  unfold toList
  rw [pushRaw_size, List.range_succ, List.map_append, pushRaw_cap]
  congr 1
  · refine List.map_congr_left fun i hi => (getD_set ..).trans (if_neg fun e => ?_)
    -- the slot written is not in the live window
    have hi := List.mem_range.mp hi
    exact NatMod.add_mod_ne (by omega) hs (by omega) (e.1.trans h.tail_eq)
  · show [(r.buf.set r.tail x).getD ((r.head + r.size) % r.cap) 0] = [x]
    rw [← h.tail_eq, getD_set, if_pos ⟨rfl, h.tail_eq ▸ Nat.mod_lt _ (Nat.zero_lt_of_lt hs)⟩]

theorem popRaw_wf {r : Ring} (h : r.WF) (hs : 0 < r.size) : r.popRaw.2.WF := by
  have hc : 0 < r.cap := Nat.lt_of_lt_of_le hs h.size_le
  refine ⟨(popRaw_cap r).symm ▸ Nat.mod_lt _ hc, (popRaw_cap r).symm ▸ Nat.le_trans (Nat.sub_le _ _) h.size_le, ?_⟩
  show r.tail = ((r.head + 1) % r.cap + (r.size - 1)) % r.popRaw.2.cap
  rw [popRaw_cap, Nat.mod_add_mod, h.tail_eq, Nat.add_assoc, Nat.add_sub_cancel' hs]

theorem popRaw_toList {r : Ring} (h : r.WF) (hs : 0 < r.size) :
    r.toList = r.popRaw.1 :: r.popRaw.2.toList := by
  have hc : r.size ≤ r.cap := h.size_le
  unfold toList
  rw [popRaw_size, popRaw_cap]
  obtain ⟨k, hk⟩ : ∃ k, r.size = k + 1 := ⟨r.size - 1, by omega⟩
  rw [hk, List.range_succ_eq_map, List.map_cons, List.map_map, Nat.add_sub_cancel]
  congr 1
  · show r.get ((r.head + 0) % r.cap) = r.get r.head
    rw [Nat.add_zero, Nat.mod_eq_of_lt h.head_lt]
  · refine List.map_congr_left fun i hi => ?_
    have hi := List.mem_range.mp hi
    show r.buf.getD ((r.head + (i + 1)) % r.cap) 0 = (r.buf.set r.head 0).getD (((r.head + 1) % r.cap + i) % r.cap) 0
    -- the slot cleared is the head, the window now starts one further
    rw [Nat.mod_add_mod, Nat.add_assoc, Nat.add_comm 1 i, getD_set, if_neg]
    have := NatMod.add_mod_ne (h := r.head) (c := r.cap) (i := 0) (j := i + 1) (by omega) (by omega) (by omega)
    rw [Nat.add_zero, Nat.mod_eq_of_lt h.head_lt] at this
    exact fun e => this e.1.symm

theorem map_getD_range (l z : List Nat) :
    (List.range l.length).map (fun i => (l ++ z).getD i 0) = l := by
  refine List.ext_getElem (by rw [List.length_map, List.length_range]) fun i h1 h2 => ?_
  rw [List.getElem_map, List.getElem_range, List.getD_eq_getElem?_getD, List.getElem?_append_left h2,
    List.getElem?_eq_getElem h2]; rfl

theorem newCap_gt (c : Nat) : c < (if c * 2 = 0 then globalQueueInitialCap else c * 2) := by
  unfold globalQueueInitialCap; split <;> omega

theorem grow_cap (r : Ring) (h : r.size ≤ r.cap) :
    r.grow.cap = if r.cap * 2 = 0 then globalQueueInitialCap else r.cap * 2 := by
  have := newCap_gt r.cap
  show (r.toList ++ List.replicate _ 0).length = _
  rw [List.length_append, length_toList, List.length_replicate]; omega

theorem grow_size (r : Ring) : r.grow.size = r.size := rfl

theorem grow_wf {r : Ring} (h : r.size ≤ r.cap) : r.grow.WF := by
  have hlt : r.size < r.grow.cap := by rw [grow_cap r h]; exact Nat.lt_of_le_of_lt h (newCap_gt r.cap)
  exact ⟨Nat.zero_lt_of_lt hlt, Nat.le_of_lt hlt, by
    show r.size = (0 + r.size) % r.grow.cap
    rw [Nat.zero_add, Nat.mod_eq_of_lt hlt]⟩

theorem grow_toList {r : Ring} (h : r.size ≤ r.cap) : r.grow.toList = r.toList := by
  have hlt : r.size < r.grow.cap := by rw [grow_cap r h]; exact Nat.lt_of_le_of_lt h (newCap_gt r.cap)
  refine Eq.trans ?_ (map_getD_range r.toList
    (List.replicate ((if r.cap * 2 = 0 then globalQueueInitialCap else r.cap * 2) - r.size) 0))
  rw [length_toList]
  refine List.map_congr_left fun i hi => ?_
  show r.grow.buf.getD ((0 + i) % r.grow.cap) 0 = _
  rw [Nat.zero_add, Nat.mod_eq_of_lt (Nat.lt_trans (List.mem_range.mp hi) hlt)]; rfl

theorem gpush_eq (r : Ring) (x : Nat) (h : r.WF) :
    ∃ r' : Ring, r.gpush x = r'.pushRaw x ∧ r'.WF ∧ r'.size < r'.cap ∧ r'.toList = r.toList := by
  unfold gpush; split
  · rename_i he
    have hle := Nat.le_of_eq he
    exact ⟨_, rfl, grow_wf hle, by rw [grow_size, grow_cap r hle, he]; exact newCap_gt r.cap, grow_toList hle⟩
  · exact ⟨_, rfl, h, Nat.lt_of_le_of_ne h.size_le ‹_›, rfl⟩

theorem gpush_wf {r : Ring} (x : Nat) (h : r.WF) : (r.gpush x).WF := by
  obtain ⟨r', e, hw, hs, -⟩ := gpush_eq r x h
  rw [e]; exact pushRaw_wf x hw hs

theorem gpush_toList {r : Ring} (x : Nat) (h : r.WF) : (r.gpush x).toList = r.toList ++ [x] := by
  obtain ⟨r', e, hw, hs, hl⟩ := gpush_eq r x h
  rw [e, pushRaw_toList x hw hs, hl]

theorem gpush_size (r : Ring) (x : Nat) : (r.gpush x).size = r.size + 1 := by
  unfold gpush; split <;> rfl

theorem gpop_of_pos {r : Ring} (hs : 0 < r.size) : r.gpop = r.popRaw := if_neg (Nat.ne_of_gt hs)

theorem gpop_size {r : Ring} (hs : 0 < r.size) : r.gpop.2.size = r.size - 1 := by rw [gpop_of_pos hs]; rfl

theorem gpop_wf {r : Ring} (h : r.WF) (hs : 0 < r.size) : r.gpop.2.WF := by rw [gpop_of_pos hs]; exact popRaw_wf h hs

theorem gpop_toList {r : Ring} (h : r.WF) (hs : 0 < r.size) : r.toList = r.gpop.1 :: r.gpop.2.toList := by
  rw [gpop_of_pos hs]; exact popRaw_toList h hs

/-- a prefix `mv` of the victim's window has moved to the back of the destination -/
structure Moved (k : Nat) (q d : Ring) (r : Ring × Ring) : Prop where
  wf1 : r.1.WF
  wf2 : r.2.WF
  list : ∃ mv, q.toList = mv ++ r.1.toList ∧ r.2.toList = d.toList ++ mv ∧ mv.length = min k (d.cap - d.size)

theorem stealLoop_spec (k : Nat) : ∀ (q d : Ring), q.WF → d.WF → k ≤ q.size → Moved k q d (stealLoop k q d) := by
  intro q d hq hd hk
  -- `fun_induction stealLoop` follows the recursion of `stealLoop` in Model/C05/Ring.lean: one goal per leaf, in that order,
  -- with the branch condition as hypothesis and, at the recursive call, the statement for its arguments
  fun_induction stealLoop k q d
  case case1 q d => exact ⟨hq, hd, [], rfl, (List.append_nil _).symm, (Nat.zero_min _).symm⟩   -- no iteration left
  -- destination full
  case case2 k q d e => exact ⟨hq, hd, [], rfl, (List.append_nil _).symm, by rw [e, Nat.sub_self, Nat.min_zero]; rfl⟩
  case case3 k q d hnf x q' hp ih =>   -- `hp : q.popRaw = (x, q')`: `x` moves over, then the loop for `k`
    obtain ⟨rfl, rfl⟩ : q.popRaw.1 = x ∧ q.popRaw.2 = q' := hp ▸ ⟨rfl, rfl⟩
    have hds : d.size < d.cap := Nat.lt_of_le_of_ne hd.size_le hnf
    have hqs : 0 < q.size := Nat.lt_of_lt_of_le (Nat.succ_pos k) hk
    obtain ⟨w1, w2, mv, e1, e2, e3⟩ := ih (popRaw_wf hq hqs) (pushRaw_wf _ hd hds) (Nat.le_sub_one_of_lt hk)
    refine ⟨w1, w2, q.popRaw.1 :: mv, ?_, ?_, ?_⟩
    · rw [popRaw_toList hq hqs, e1]; rfl
    · rw [e2, pushRaw_toList _ hd hds, List.append_assoc]; rfl
    · rw [List.length_cons, e3, pushRaw_cap, pushRaw_size, Nat.sub_succ]
      exact (Nat.succ_min_succ _ _).symm.trans (congrArg _ (Nat.succ_pred_eq_of_pos (Nat.sub_pos_of_lt hds)))

theorem stealHalf_spec {q d : Ring} (hq : q.WF) (hd : d.WF) (hs : 0 < q.size) :
    (stealHalf q d).2.1.WF ∧ (stealHalf q d).2.2.WF ∧
    ∃ mv, q.toList = (stealHalf q d).1 :: mv ++ (stealHalf q d).2.1.toList ∧
      (stealHalf q d).2.2.toList = d.toList ++ mv ∧
      mv.length = min ((q.size + 1) / 2 - 1) (d.cap - d.size) := by
  obtain ⟨w1, w2, mv, e1, e2, e3⟩ :=
    stealLoop_spec ((q.size + 1) / 2 - 1) q.popRaw.2 d (popRaw_wf hq hs) hd (by rw [popRaw_size]; omega)
  exact ⟨w1, w2, mv, by rw [popRaw_toList hq hs, e1]; rfl, e2, e3⟩

theorem stealLoop_size (k : Nat) : ∀ {q d : Ring}, (stealLoop k q d).1.size ≤ q.size := by
  intro q d
  fun_induction stealLoop k q d
  case case1 | case2 => exact Nat.le_refl _   -- no iteration left; destination full
  -- one item moves, then the loop for `k`
  case case3 k q d _ x q' hp ih => obtain rfl : q.popRaw.2 = q' := hp ▸ rfl; exact Nat.le_trans ih (Nat.sub_le _ _)

theorem stealHalf_size {q d : Ring} : (stealHalf q d).2.1.size ≤ q.size :=
  Nat.le_trans (stealLoop_size _) (Nat.sub_le _ _)

end Ring
end GoaktVerif.Model.C05
