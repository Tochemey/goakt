/-
C05 — conservation at the level of the shared state: every transition of `exec` keeps
  count x pushed = count x taken + (number of x in all rings)
and the shape invariants of all rings, and hands the thread a well-formed continuation.
-/
import GoaktVerif.Lemmas.ListFacts
import GoaktVerif.Lemmas.C05.Ring
import GoaktVerif.Lemmas.C05.Step

namespace GoaktVerif.Model.C05

def Shared.rings (s : Shared) : List Ring := s.locals.map (·.ring)

def Shared.allRings (s : Shared) : List Ring := s.global :: s.rings

def Shared.cnt (s : Shared) (x : Nat) : Nat := (s.allRings.map fun r => r.toList.count x).sum

theorem rings_length (s : Shared) : s.rings.length = s.locals.length := by simp [Shared.rings]

theorem rings_setL (s : Shared) (w : Nat) (q : LocalQ) :
    (s.setL w q).rings = s.rings.set w q.ring := by simp [Shared.setL, Shared.rings, List.map_set]

theorem getL_ring (s : Shared) (w : Nat) (h : w < s.locals.length) :
    (s.getL w).ring = s.rings[w]'(by rw [rings_length]; exact h) := by
  simp [Shared.getL, Shared.rings, List.getD_eq_getElem?_getD, List.getElem?_eq_getElem h]

theorem rings_setL_same (s : Shared) (w : Nat) (q : LocalQ) (h : q.ring = (s.getL w).ring) :
    (s.setL w q).rings = s.rings := by
  rw [rings_setL, h]
  by_cases hl : w < s.locals.length
  · rw [getL_ring s w hl]; exact List.set_getElem_self _
  · exact List.set_eq_of_length_le (by rw [rings_length]; omega)

structure SInv (s : Shared) : Prop where
  wf : ∀ r ∈ s.allRings, r.WF
  cons : ∀ x, s.pushed.count x = s.taken.count x + s.cnt x
  nz : ∀ r ∈ s.allRings, 0 ∉ r.toList

theorem getL_ring_mem (s : Shared) (w : Nat) (h : w < s.locals.length) : (s.getL w).ring ∈ s.allRings := by
  rw [getL_ring s w h]; exact List.mem_cons_of_mem _ (List.getElem_mem _)

theorem SInv.gwf {s : Shared} (h : SInv s) : s.global.WF := h.wf _ List.mem_cons_self

theorem SInv.lwf {s : Shared} (h : SInv s) {w : Nat} (hw : w < s.locals.length) : (s.getL w).ring.WF :=
  h.wf _ (getL_ring_mem s w hw)

def Shared.consView (s : Shared) : List Ring × Ring × List Nat × List Nat := (s.rings, s.global, s.pushed, s.taken)

theorem SInv.congr {s s' : Shared} (h : SInv s) (e : s'.consView = s.consView) : SInv s' := by
  simp only [Shared.consView, Prod.mk.injEq] at e
  obtain ⟨hr, hg, hp, ht⟩ := e
  have ha : s'.allRings = s.allRings := by unfold Shared.allRings; rw [hr, hg]
  refine ⟨ha ▸ h.wf, fun x => ?_, ha ▸ h.nz⟩
  unfold Shared.cnt; rw [hp, ht, ha]; exact h.cons x

theorem consView_setL {s : Shared} {w : Nat} {q : LocalQ} (h : q.ring = (s.getL w).ring) :
    (s.setL w q).consView = s.consView := by
  rw [Shared.consView, rings_setL_same s w q h]; rfl

/-- `s'` has the rings of `s` with one of them, `r` (a local ring or the global one), replaced by `r'` -/
structure Repl (s s' : Shared) (r r' : Ring) : Prop where
  mem : r ∈ s.allRings
  sub : ∀ q ∈ s'.allRings, q = r' ∨ q ∈ s.allRings
  cnt : ∀ x, s'.cnt x + r.toList.count x = s.cnt x + r'.toList.count x

theorem Repl.set {s s' : Shared} {r r' : Ring} (i : Nat) (h : s.allRings[i]? = some r)
    (e : s'.allRings = s.allRings.set i r') : Repl s s' r r' where
  mem := List.mem_of_getElem? h
  sub := fun q hq => (List.mem_or_eq_of_mem_set (e ▸ hq)).symm
  cnt := fun x => by
    unfold Shared.cnt; rw [e]
    exact sum_map_set (fun r : Ring => r.toList.count x) s.allRings i r' r h

theorem Repl.local {s s' : Shared} {w : Nat} {r' : Ring} (hw : w < s.locals.length)
    (hr : s'.rings = s.rings.set w r') (hg : s'.global = s.global) : Repl s s' (s.getL w).ring r' :=
  .set (w + 1) (by rw [getL_ring s w hw]; exact List.getElem?_eq_getElem (l := s.rings) _) (by unfold Shared.allRings; rw [hr, hg]; rfl)

theorem Repl.global {s s' : Shared} {r' : Ring} (hr : s'.rings = s.rings) (hg : s'.global = r') :
    Repl s s' s.global r' :=
  .set 0 rfl (by unfold Shared.allRings; rw [hr, hg]; rfl)

theorem SInv.replace {s s' : Shared} {r r' : Ring} (h : SInv s) (rp : Repl s s' r r') (hwf : r'.WF)
    (hnz : 0 ∉ r'.toList)
    (hc : ∀ x, s'.pushed.count x + r.toList.count x + s.taken.count x
      = s.pushed.count x + r'.toList.count x + s'.taken.count x) : SInv s' := by
  refine ⟨fun q hq => ?_, fun x => ?_, fun q hq => ?_⟩
  · rcases rp.sub q hq with rfl | e
    · exact hwf
    · exact h.wf q e
  · have := rp.cnt x
    have := h.cons x
    have := hc x
    omega
  · rcases rp.sub q hq with rfl | e
    · exact hnz
    · exact h.nz q e

theorem SInv.push {s s' : Shared} {r r' : Ring} {x : Nat} (h : SInv s) (rp : Repl s s' r r') (hwf : r'.WF)
    (hl : r'.toList = r.toList ++ [x]) (hx : x ≠ 0) (hp : s'.pushed = x :: s.pushed) (ht : s'.taken = s.taken) :
    SInv s' := by
  refine h.replace rp hwf ?_ fun y => ?_
  · rw [hl]
    exact fun h0 => (List.mem_append.mp h0).elim (h.nz _ rp.mem) fun e => hx (List.mem_singleton.mp e).symm
  · rw [hp, ht, hl, List.count_cons, List.count_append, List.count_singleton]; omega

theorem SInv.pop {s s' : Shared} {r r' : Ring} {x : Nat} (h : SInv s) (rp : Repl s s' r r') (hwf : r'.WF)
    (hl : r.toList = x :: r'.toList) (hp : s'.pushed = s.pushed) (ht : s'.taken = x :: s.taken) :
    SInv s' ∧ x ≠ 0 := by
  have hnz := h.nz _ rp.mem
  rw [hl] at hnz
  refine ⟨h.replace rp hwf (fun h0 => hnz (List.mem_cons_of_mem _ h0)) fun y => ?_, fun h0 => hnz (h0 ▸ List.mem_cons_self)⟩
  rw [hp, ht, hl, List.count_cons, List.count_cons]; omega

theorem SInv.move {s s' : Shared} {v w hd : Nat} {mv : List Nat} {qr dr : Ring} (h : SInv s)
    (hv : v < s.locals.length) (hw : w < s.locals.length) (hvw : v ≠ w) (w1 : qr.WF) (w2 : dr.WF)
    (e1 : (s.getL v).ring.toList = hd :: mv ++ qr.toList) (e2 : dr.toList = (s.getL w).ring.toList ++ mv)
    (hr : s'.rings = (s.rings.set v qr).set w dr) (hg : s'.global = s.global) (hp : s'.pushed = s.pushed)
    (ht : s'.taken = hd :: s.taken) : SInv s' ∧ hd ≠ 0 := by
  have hnzv := h.nz _ (getL_ring_mem s v hv)
  have hnzw := h.nz _ (getL_ring_mem s w hw)
  rw [e1] at hnzv
  -- in between, with the victim's ring already cut, the items on the move count as taken
  have h1 : SInv { s.setL v { s.getL v with ring := qr } with taken := hd :: mv ++ s.taken } :=
    h.replace (.local hv (rings_setL s v _) rfl) w1 (fun h0 => hnzv (by simp [h0])) fun y => by
      show s.pushed.count y + (s.getL v).ring.toList.count y + s.taken.count y
        = s.pushed.count y + qr.toList.count y + (hd :: mv ++ s.taken).count y
      rw [e1]; simp only [List.count_append, List.count_cons]; omega
  have hw1 : w < (s.setL v { s.getL v with ring := qr }).locals.length := by rw [setL_locals_length]; exact hw
  refine ⟨h1.replace (.local (w := w) hw1 (hr.trans (congrArg (List.set · w dr) (rings_setL s v { s.getL v with ring := qr }).symm)) hg) w2 ?_ fun y => ?_,
    fun h0 => hnzv (by simp [h0])⟩
  · rw [e2]
    exact fun h0 => (List.mem_append.mp h0).elim hnzw fun e => hnzv (by simp [e])
  · show s'.pushed.count y + (Shared.getL (s.setL v _) w).ring.toList.count y + (hd :: mv ++ s.taken).count y = s.pushed.count y + _ + _
    rw [getL_setL_ne s v w _ hvw, e2, hp, ht]
    simp only [List.count_append, List.count_cons]; omega

/-- well-formed program counter of thread `tid` in a pool of `n` workers: ring indices are the
thread's own id (worker discipline) and in range, steal offsets are in `1 … n-1`, carried items are not nil -/
def PC.ok (n tid : Nat) : PC → Prop
  | .pushLock x => x ≠ 0
  | .pushStore | .pushSignal | .clCAS | .clLock | .clBroadcast => True
  | .plStore w | .tkLoadLocal w | .tkLockLocal w | .tkLoadGlobal w | .tkLockGlobal w
  | .pkLock w | .pkWait w | .pkWake w => w = tid ∧ w < n
  | .plLock w x | .tkStoreLocal w x | .tkStoreGlobal w x | .pkStore w x
  | .stStore1 w _ x | .stStore2 w _ x => w = tid ∧ w < n ∧ x ≠ 0
  | .stLoad w i | .stLock1 w i | .stLock2 w i => w = tid ∧ w < n ∧ 0 < i ∧ i < n

def Next.ok (n tid : Nat) : Next → Prop
  | .goto pc => pc.ok n tid
  | .ret r => match r with | .ok => True | .closed => True | _ => False   -- items are returned through `retTake` only
  | .retTake w x => w = tid ∧ w < n ∧ x ≠ 0
  | .blocked => True

def Next.held (pc : PC) : Next → List Nat
  | .goto pc' => pc'.held
  | .ret _ => []
  | .retTake _ x => [x]
  | .blocked => pc.held

theorem victim_ne {n w i : Nat} (hw : w < n) (hi0 : 0 < i) (hi : i < n) : (w + i) % n ≠ w := by
  have := NatMod.add_mod_ne (h := w) hi (Nat.lt_trans hi0 hi) (Nat.ne_of_gt hi0)
  rwa [Nat.add_zero, Nat.mod_eq_of_lt hw] at this

structure OkStep (n tid : Nat) (s : Shared) (pc : PC) (r : Shared × Next) : Prop where
  sinv : SInv r.1
  ok : r.2.ok n tid
  /-- the ghost log `taken` grows exactly by what the thread newly holds -/
  held : ∃ a, r.1.taken = a ++ s.taken ∧ r.2.held pc = a ++ pc.held

theorem parkLoop_ok {s s1 : Shared} {n w tid : Nat} {pc : PC} (h : SInv s1)
    (ht : s1.taken = s.taken) (hpc : pc.held = []) (hw : w = tid ∧ w < n) :
    OkStep n tid s pc (parkLoop s1 w) :=
  iteInduction (fun _ => ⟨h.congr rfl, trivial, [], ht, hpc.symm⟩) fun _ =>
    iteInduction (fun hpos =>
      have := h.pop (s' := { s1 with global := s1.global.gpop.2, taken := s1.global.gpop.1 :: s1.taken })
        (.global rfl rfl) (Ring.gpop_wf h.gwf hpos) (Ring.gpop_toList h.gwf hpos) rfl rfl
      ⟨this.1, ⟨hw.1, hw.2, this.2⟩, [_], congrArg _ ht, by rw [hpc]; rfl⟩)
    fun _ => ⟨h.congr rfl, hw, [], ht, hpc.symm⟩

theorem exec_ok {s : Shared} {n tid : Nat} {pc : PC} (h : SInv s) (hn : s.locals.length = n) (hok : pc.ok n tid) :
    OkStep n tid s pc (exec s tid pc) := by
  have keep : ∀ {s' : Shared} {nx : Next}, s'.consView = s.consView → nx.ok n tid →
      nx.held pc = pc.held → OkStep n tid s pc (s', nx) :=
    fun e ho hh => ⟨h.congr e, ho, [], congrArg (·.2.2.2) e, hh⟩
  have stealNext_ok : ∀ {m w i : Nat}, m = n → w = tid ∧ w < n → (stealNext m w i).ok n tid :=
    fun hm hw => iteInduction (fun hi => ⟨hw.1, hw.2, Nat.succ_pos _, hm ▸ hi⟩) fun _ => hw
  have stealNext_held : ∀ {m w i : Nat} {pc}, (stealNext m w i).held pc = [] :=
    ite_both (P := fun nx : Next => nx.held _ = []) rfl rfl
  have take : ∀ {w x : Nat} {nx : Next}, w = tid ∧ w < n ∧ x ≠ 0 →
      (if x ≠ 0 then .retTake w x else nx).ok n tid ∧ (if x ≠ 0 then .retTake w x else nx).held pc = [x] :=
    fun h => by rw [if_pos h.2.2]; exact ⟨h, rfl⟩
  have pop : ∀ {s' : Shared} {x : Nat} {p : PC}, SInv s' ∧ x ≠ 0 → s'.taken = x :: s.taken →
      (x ≠ 0 → p.ok n tid) → p.held = x :: pc.held → OkStep n tid s pc (s', .goto p) :=
    fun hs ht ho hh => ⟨hs.1, ho hs.2, [_], ht, hh⟩
  have stay : OkStep n tid s pc (s, .blocked) := keep rfl trivial rfl
  cases pc with
  | pushLock x =>
    exact ite_both stay ⟨h.push (.global rfl rfl) (Ring.gpush_wf x h.gwf) (Ring.gpush_toList x h.gwf) hok rfl rfl, trivial, [], rfl, rfl⟩
  | pushStore => exact ite_both (keep rfl trivial rfl) (keep rfl trivial rfl)
  | pushSignal => dsimp only [exec]; split <;> exact keep rfl trivial rfl
  | plLock w x =>
    have hw : w < s.locals.length := hn ▸ hok.2.1
    exact ite_both stay <| iteInduction (fun _ => keep rfl hok.2.2 rfl) fun hfull =>
      have hroom := Nat.lt_of_le_of_ne (h.lwf hw).size_le hfull
      ⟨h.push (.local hw (rings_setL s w _) rfl) (Ring.pushRaw_wf x (h.lwf hw) hroom) (Ring.pushRaw_toList x (h.lwf hw) hroom)
        hok.2.2 rfl rfl, ⟨hok.1, hok.2.1⟩, [], rfl, rfl⟩
  | plStore w => exact keep (consView_setL rfl) trivial rfl
  | tkLoadLocal w => exact ite_both (keep rfl hok rfl) (keep rfl hok rfl)
  | tkLockLocal w =>
    have hw : w < s.locals.length := hn ▸ hok.2
    exact ite_both stay <| iteInduction (fun _ => keep rfl hok rfl) fun hne =>
      have hpos := Nat.pos_of_ne_zero hne
      pop (h.pop (.local hw (rings_setL s w _) rfl) (Ring.popRaw_wf (h.lwf hw) hpos) (Ring.popRaw_toList (h.lwf hw) hpos) rfl rfl)
        rfl (⟨hok.1, hok.2, ·⟩) rfl
  | tkStoreLocal w x => exact keep (consView_setL rfl) (take hok).1 (take hok).2
  | tkLoadGlobal w => exact ite_both (keep rfl (stealNext_ok (i := 0) hn hok) (stealNext_held (i := 0))) (keep rfl hok rfl)
  | tkLockGlobal w =>
    refine ite_both stay <| iteInduction (fun _ => keep rfl (stealNext_ok (i := 0) hn hok) (stealNext_held (i := 0))) fun hne => ?_
    have hpos := Nat.pos_of_ne_zero hne
    have := h.pop (s' := { s with global := s.global.gpop.2, taken := s.global.gpop.1 :: s.taken })
      (.global rfl rfl) (Ring.gpop_wf h.gwf hpos) (Ring.gpop_toList h.gwf hpos) rfl rfl
    -- the nil check on the popped item never fails
    exact iteInduction (fun _ => pop ⟨this.1.congr rfl, this.2⟩ rfl (⟨hok.1, hok.2, ·⟩) rfl) fun h0 => absurd this.2 h0
  | tkStoreGlobal w x => exact keep rfl hok rfl
  | stLoad w i => exact ite_both (keep rfl (stealNext_ok hn ⟨hok.1, hok.2.1⟩) stealNext_held) (keep rfl hok rfl)
  | stLock1 w i =>
    exact ite_both stay (keep (consView_setL rfl) hok rfl)
  | stLock2 w i =>
    obtain ⟨hw, hwn, hi0, hi⟩ := hok
    refine ite_both stay <| iteInduction (fun _ => ?_) fun hne => ?_
    · exact keep (consView_setL rfl) (stealNext_ok ((setL_locals_length ..).trans hn) ⟨hw, hwn⟩) stealNext_held
    · have hvn : (w + i) % s.locals.length < s.locals.length := Nat.mod_lt _ (by omega)
      have hvw : (w + i) % s.locals.length ≠ w := by rw [hn]; exact victim_ne hwn hi0 hi
      generalize (w + i) % s.locals.length = v at *
      -- taking the second lock touches no ring
      have g := fun j => (getL_setL_mu s (max v w) j (some tid)).1
      generalize hs1 : s.setL (max v w) { s.getL (max v w) with mu := some tid } = s1 at g ⊢
      have l1 : s1.locals.length = s.locals.length := by rw [← hs1]; exact setL_locals_length ..
      have h1 : SInv s1 := by subst hs1; exact h.congr (consView_setL rfl)
      obtain ⟨w1, w2, mv, e1, e2, -⟩ := Ring.stealHalf_spec (q := (s1.getL v).ring) (d := (s1.getL w).ring)
        (h1.lwf (l1 ▸ hvn)) (h1.lwf (by omega)) (Nat.pos_of_ne_zero (by rw [g]; exact hne))
      exact pop (h1.move (l1 ▸ hvn) (by omega) hvw w1 w2 e1 e2
          ((rings_setL _ _ _).trans (by rw [rings_setL]; rfl)) rfl rfl rfl)
        (by subst hs1; rfl) (⟨hw, hwn, ·⟩) rfl
  | stStore1 w i x => exact keep (consView_setL rfl) hok rfl
  | stStore2 w i x =>
    exact keep (by refine (consView_setL ?_).trans (consView_setL ?_) <;> rfl)
      (take hok).1 (take hok).2
  | pkLock w => exact ite_both stay (parkLoop_ok (h.congr rfl) rfl rfl hok)
  | pkStore w x => exact keep rfl (take hok).1 (take hok).2
  | pkWait w => exact keep rfl hok rfl
  | pkWake w => exact ite_both (parkLoop_ok (h.congr rfl) rfl rfl hok) stay
  | clCAS => exact ite_both (keep rfl trivial rfl) (keep rfl trivial rfl)
  | clLock => exact ite_both stay (keep rfl trivial rfl)
  | clBroadcast => exact keep rfl trivial rfl

end GoaktVerif.Model.C05
