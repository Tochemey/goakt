import GoaktVerif.Model.C15
import GoaktVerif.Lemmas.C15C20List
import GoaktVerif.Lemmas.Pool

/-
C15 — the invariant `FInv` of the repaired Ask protocol (`Mode.fixed`), the rule for re-establishing it after one thread
moved, and `step_cases`: the ways a step can go, each with the configuration it leads to.

Ownership is linear: a receive context is in exactly one of: the context pool, a caller that has not built it
yet, the mailbox, the sentinel position (being or having been handled).  A response channel in the pool is empty
and referenced by no pending request.  `own ch` (ghost) is the request the channel was last handed out for.
-/
namespace GoaktVerif.C15
open GoaktVerif.Model.C15

theorem ctxOf_modCtx_ne (c : Cfg) (i j : CtxId) (f : Ctx → Ctx) (h : j ≠ i) : ctxOf (modCtx c i f) j = ctxOf c j := by
  simp [ctxOf, modCtx, List.getD_eq_getElem?_getD, Ne.symm h]

theorem ctxOf_modCtx_self (c : Cfg) (i : CtxId) (f : Ctx → Ctx) (h : i < c.ctxs.length) :
    ctxOf (modCtx c i f) i = f (ctxOf c i) := by
  simp [ctxOf, modCtx, List.getD_eq_getElem?_getD, h]

theorem chanOf_setChan_ne (c : Cfg) (i j : ChanId) (v : Option ReqId) (h : j ≠ i) : chanOf (setChan c i v) j = chanOf c j := by
  rw [chanOf, setChan, getD_set, if_neg fun e => h e.1]; rfl

theorem chanOf_setChan (c : Cfg) (i j : ChanId) (v : Option ReqId) (h : i < c.chans.length) :
    chanOf (setChan c i v) j = if j = i then v else chanOf c j := by
  rw [chanOf, setChan, getD_set]; simp only [h, and_true]; rfl

theorem chanOf_setChan_self (c : Cfg) (i : ChanId) (v : Option ReqId) (h : i < c.chans.length) :
    chanOf (setChan c i v) i = v :=
  (chanOf_setChan c i i v h).trans (if_pos rfl)

theorem length_modCtx (c : Cfg) (i : CtxId) (f : Ctx → Ctx) : (modCtx c i f).ctxs.length = c.ctxs.length :=
  List.length_modify ..

theorem length_setChan (c : Cfg) (i : ChanId) (v : Option ReqId) : (setChan c i v).chans.length = c.chans.length :=
  List.length_set

theorem chanOf_some_lt (c : Cfg) (i : ChanId) (v : ReqId) (h : chanOf c i = some v) : i < c.chans.length := by
  unfold chanOf at h
  rw [List.getD_eq_getElem?_getD] at h
  cases hi : c.chans[i]? with
  | none => simp [hi] at h
  | some x => exact (List.getElem?_eq_some_iff.mp hi).1

/-- allocating a fresh context changes no read (the default context IS the fresh one) -/
theorem ctxOf_allocCtx (c : Cfg) (j : CtxId) :
    ctxOf { c with ctxs := c.ctxs ++ [{ closed := false, response := none, msg := none }] } j = ctxOf c j :=
  getD_snoc_self ..

theorem chanOf_allocChan (c : Cfg) (j : ChanId) : chanOf { c with chans := c.chans ++ [none] } j = chanOf c j :=
  getD_snoc_self ..

theorem nodup_enqueue {α} {a b : List α} {s i : α} (h : (a ++ b ++ [s]).Nodup) (hi : i ∉ a ++ b ++ [s]) :
    (a ++ (b ++ [i]) ++ [s]).Nodup := by
  have e : a ++ (b ++ [i]) ++ [s] = (a ++ b) ++ i :: [s] := by simp
  rw [e]
  exact List.perm_middle.nodup_iff.mpr (List.nodup_cons.mpr ⟨hi, h⟩)

theorem nodup_dequeue {α} {a b : List α} {s i : α} (h : (a ++ i :: b ++ [s]).Nodup) :
    i ∉ a ++ (b ++ [s]) ∧ (a ++ [s] ++ b ++ [i]).Nodup := by
  have e : a ++ i :: b ++ [s] = a ++ i :: (b ++ [s]) := by simp
  refine ⟨(List.nodup_cons.mp (List.perm_middle.nodup_iff.mp (e ▸ h))).1, List.Perm.nodup ?_ h⟩
  have p : List.Perm (i :: b ++ [s]) (s :: b ++ [i]) :=
    ((List.perm_append_singleton s b).cons i).trans
      ((List.Perm.swap s i b).trans ((List.perm_append_singleton i b).symm.cons s))
  have e' : a ++ [s] ++ b ++ [i] = a ++ (s :: b ++ [i]) := by simp
  rw [e', List.append_assoc]
  exact p.append_left a

def buildCtx (t : Thread) : Option CtxId :=
  match t.pc with
  | some (.askBuild i _) => some i
  | _ => none

def selChan (t : Thread) : Option ChanId :=
  match t.pc with
  | some (.askSelect _ ch _) => some ch
  | _ => none

/-- threads that (still) play the target's worker -/
def responderish (t : Thread) : Prop := t.cur = some .handle ∨ Op.handle ∈ t.prog

/-- a context waiting in the mailbox or being handled: built for request `k` with channel `ch`, nothing sent yet -/
def Pending (c : Cfg) (own : ChanId → ReqId) (i : CtxId) (closed : Bool) (ch : ChanId) (k : ReqId) : Prop :=
  ctxOf c i = { closed := closed, response := some ch, msg := some k } ∧ own ch = k ∧ chanOf c ch = none ∧
    ch ∉ c.chanPool

def ThreadOk (c : Cfg) (own : ChanId → ReqId) (t : Thread) : Prop :=
  match t.pc with
  | some (.askBuild i k) => t.cur = some (.ask k) ∧ i < c.ctxs.length ∧ i ∉ c.ctxPool ∧ i ∉ c.mbox ∧ i ≠ c.sentinel
  | some (.askSelect _ ch k) => t.cur = some (.ask k) ∧ own ch = k ∧ ch < c.chans.length ∧ ch ∉ c.chanPool
  | some (.askClose ..) => False
  | some .hDeq => t.cur = some .handle
  | some (.hCas i k) => t.cur = some .handle ∧ i = c.sentinel ∧
      ∃ ch, Pending c own i false ch k ∧ ∀ j ∈ c.mbox, (ctxOf c j).response ≠ some ch
  | some (.hSend i k) => t.cur = some .handle ∧ i = c.sentinel ∧
      ∃ ch, Pending c own i true ch k ∧ ∀ j ∈ c.mbox, (ctxOf c j).response ≠ some ch
  | none => True

def histOk (t : Thread) : Prop := ∀ k v, (Op.ask k, Res.reply v) ∈ t.hist → v = k

/-- the part of the invariant that does not read the thread list -/
structure GInv (c : Cfg) (own : ChanId → ReqId) : Prop where
  mode : c.mode = .fixed
  b_sent : c.sentinel < c.ctxs.length
  b_mbox : ∀ i ∈ c.mbox, i < c.ctxs.length
  b_cpool : ∀ i ∈ c.ctxPool, i < c.ctxs.length
  b_hpool : ∀ ch ∈ c.chanPool, ch < c.chans.length
  b_resp : ∀ i ch, (ctxOf c i).response = some ch → ch < c.chans.length
  lin : (c.ctxPool ++ c.mbox ++ [c.sentinel]).Nodup
  val : ∀ ch v, chanOf c ch = some v → own ch = v
  pool_empty : ∀ ch ∈ c.chanPool, chanOf c ch = none
  pool_nodup : c.chanPool.Nodup
  mbox_ok : ∀ i ∈ c.mbox, ∃ ch k, Pending c own i false ch k
  mbox_dist : ∀ i j, i ∈ c.mbox → j ∈ c.mbox → i ≠ j → (ctxOf c i).response ≠ (ctxOf c j).response

structure FInv (c : Cfg) (own : ChanId → ReqId) : Prop where
  g : GInv c own
  thr : ∀ (tid : Nat) t, c.threads[tid]? = some t → ThreadOk c own t ∧ histOk t
  build_dist : ∀ (t1 t2 : Nat) th1 th2 i, t1 ≠ t2 → c.threads[t1]? = some th1 → c.threads[t2]? = some th2 →
    buildCtx th1 = some i → buildCtx th2 ≠ some i
  sel_dist : ∀ (t1 t2 : Nat) th1 th2 ch, t1 ≠ t2 → c.threads[t1]? = some th1 → c.threads[t2]? = some th2 →
    selChan th1 = some ch → selChan th2 ≠ some ch
  single : ∀ (t1 t2 : Nat) th1 th2, c.threads[t1]? = some th1 → c.threads[t2]? = some th2 →
    responderish th1 → responderish th2 → t1 = t2

def upd (c : Cfg) (tid : Nat) (t : Thread) : Cfg := { c with threads := c.threads.set tid t }

theorem ctxOf_upd (c : Cfg) (tid t i) : ctxOf (upd c tid t) i = ctxOf c i := rfl
theorem chanOf_upd (c : Cfg) (tid t i) : chanOf (upd c tid t) i = chanOf c i := rfl

theorem GInv.frame {c own} (h : GInv c own) (ths : List Thread) (log : List Ev) : GInv { c with threads := ths, log := log } own :=
  ⟨h.mode, h.b_sent, h.b_mbox, h.b_cpool, h.b_hpool, h.b_resp, h.lin, h.val, h.pool_empty, h.pool_nodup, h.mbox_ok, h.mbox_dist⟩

theorem ThreadOk.upd {c own} {t : Thread} (h : ThreadOk c own t) (tid : Nat) (t' : Thread) : ThreadOk (upd c tid t') own t := h

/-- the generic step lemma: the heap went from `c` to `c1` (same thread list), the ghost map from `own` to `own1`,
thread `tid` from `t` to `t'` -/
theorem finv_update {c c1 : Cfg} {own own1 : ChanId → ReqId} {tid : Nat} {t t' : Thread}
    (h : FInv c own) (hth : c1.threads = c.threads) (ht : c.threads[tid]? = some t)
    (hg : GInv c1 own1)
    (hothers : ∀ (j : Nat) tj, j ≠ tid → c.threads[j]? = some tj → ThreadOk c1 own1 tj)
    (hnew : ThreadOk c1 own1 t' ∧ histOk t')
    (hb : ∀ i, buildCtx t' = some i → buildCtx t = some i ∨
      ∀ (j : Nat) tj, j ≠ tid → c.threads[j]? = some tj → buildCtx tj ≠ some i)
    (hs : ∀ ch, selChan t' = some ch → selChan t = some ch ∨
      ∀ (j : Nat) tj, j ≠ tid → c.threads[j]? = some tj → selChan tj ≠ some ch)
    (hr : responderish t' → responderish t) :
    FInv (upd c1 tid t') own1 := by
  have e : (upd c1 tid t').threads = c.threads.set tid t' := hth ▸ rfl
  refine ⟨hg.frame _ _, ?_, ?_, ?_, ?_⟩ <;> rw [e]
  · exact Pool.forall_set hnew fun j tj hne hj => ⟨hothers j tj hne hj, (h.thr j tj hj).2⟩
  · exact C15C20.Inj.set h.build_dist ht hb
  · exact C15C20.Inj.set h.sel_dist ht hs
  · exact Pool.pair_set (K := fun i (a : Thread) j (b : Thread) => responderish a → responderish b → i = j) (fun _ _ => rfl) h.single
      fun j tj _ hj => ⟨fun r1 r2 => h.single _ _ _ _ ht hj (hr r1) r2, fun r1 r2 => h.single _ _ _ _ hj ht r1 (hr r2)⟩

theorem Pending.transfer {c c1 : Cfg} {own own1 : ChanId → ReqId} {i cl ch k}
    (h : Pending c own i cl ch k) (h1 : ctxOf c1 i = ctxOf c i) (h2 : own1 ch = own ch)
    (h3 : chanOf c1 ch = chanOf c ch) (h4 : ch ∉ c1.chanPool) : Pending c1 own1 i cl ch k :=
  ⟨h1 ▸ h.1, h2 ▸ h.2.1, h3 ▸ h.2.2.1, h4⟩

/-- how the knowledge of a thread that does not move survives a step of another thread -/
theorem ThreadOk.transfer {c c1 : Cfg} {own own1 : ChanId → ReqId} {t : Thread} (h : ThreadOk c own t)
    (hb : ∀ i, i < c.ctxs.length → i ∉ c.ctxPool → i ∉ c.mbox → i ≠ c.sentinel → buildCtx t = some i →
      i < c1.ctxs.length ∧ i ∉ c1.ctxPool ∧ i ∉ c1.mbox ∧ i ≠ c1.sentinel)
    (hs : ∀ ch, ch < c.chans.length → ch ∉ c.chanPool → selChan t = some ch →
      own1 ch = own ch ∧ ch < c1.chans.length ∧ ch ∉ c1.chanPool)
    (hh : ∀ i k cl ch, (t.pc = some (.hCas i k) ∨ t.pc = some (.hSend i k)) → i = c.sentinel → Pending c own i cl ch k →
      (∀ j ∈ c.mbox, (ctxOf c j).response ≠ some ch) →
      i = c1.sentinel ∧ Pending c1 own1 i cl ch k ∧ ∀ j ∈ c1.mbox, (ctxOf c1 j).response ≠ some ch) :
    ThreadOk c1 own1 t := by
  obtain ⟨pc, _, _, _, _⟩ := t
  cases pc with
  | none => trivial
  | some pc =>
    cases pc with
    | askBuild i k => exact ⟨h.1, hb i h.2.1 h.2.2.1 h.2.2.2.1 h.2.2.2.2 rfl⟩
    | askSelect i ch k =>
      obtain ⟨g1, g2, g3⟩ := hs ch h.2.2.1 h.2.2.2 rfl
      exact ⟨h.1, g1 ▸ h.2.1, g2, g3⟩
    | askClose _ _ _ => exact h
    | hDeq => exact h
    | hCas i k =>
      obtain ⟨h1, h2, ch, h3, h4⟩ := h
      obtain ⟨g1, g2, g3⟩ := hh i k false ch (Or.inl rfl) h2 h3 h4
      exact ⟨h1, g1, ch, g2, g3⟩
    | hSend i k =>
      obtain ⟨h1, h2, ch, h3, h4⟩ := h
      obtain ⟨g1, g2, g3⟩ := hh i k true ch (Or.inr rfl) h2 h3 h4
      exact ⟨h1, g1, ch, g2, g3⟩

theorem ThreadOk.of_build {c own} {t : Thread} {i : CtxId} (h : ThreadOk c own t) (hb : buildCtx t = some i) :
    i < c.ctxs.length ∧ i ∉ c.ctxPool ∧ i ∉ c.mbox ∧ i ≠ c.sentinel := by
  obtain ⟨pc, _, _, _, _⟩ := t
  cases pc with
  | none => cases hb
  | some pc => cases pc <;> cases hb; exact h.2

theorem ThreadOk.of_sel {c own} {t : Thread} {ch : ChanId} (h : ThreadOk c own t) (hs : selChan t = some ch) :
    ch < c.chans.length ∧ ch ∉ c.chanPool := by
  obtain ⟨pc, _, _, _, _⟩ := t
  cases pc with
  | none => cases hs
  | some pc => cases pc <;> cases hs; exact h.2.2

theorem finv_same {c : Cfg} {own : ChanId → ReqId} {tid : Nat} {t t' : Thread}
    (h : FInv c own) (ht : c.threads[tid]? = some t)
    (hnew : ThreadOk c own t' ∧ histOk t')
    (hb : buildCtx t' = buildCtx t ∨ buildCtx t' = none) (hs : selChan t' = selChan t ∨ selChan t' = none)
    (hr : responderish t' → responderish t) : FInv (upd c tid t') own :=
  finv_update h rfl ht h.g (fun j tj _ hj => (h.thr j tj hj).1) hnew
    (fun _ hi => Or.inl (C15C20.held_of hb hi)) (fun _ hi => Or.inl (C15C20.held_of hs hi)) hr

theorem getContext_fixed_cons (c : Cfg) (i : CtxId) (rest : List CtxId) (hm : c.mode = .fixed) (hp : c.ctxPool = i :: rest) :
    getContext c = (i, { c with ctxPool := rest }) := by
  simp only [getContext, hm, hp]

theorem getContext_fixed_nil (c : Cfg) (hm : c.mode = .fixed) (hp : c.ctxPool = []) :
    getContext c = (c.ctxs.length, { c with ctxs := c.ctxs ++ [{ closed := false, response := none, msg := none }] }) := by
  simp only [getContext, hm, hp]

theorem getChan_fixed_cons (c : Cfg) (i : ChanId) (rest : List ChanId) (hm : c.mode = .fixed) (hp : c.chanPool = i :: rest) :
    getChan c = (i, { c with chanPool := rest }) := by
  simp only [getChan, hm, hp]

theorem getChan_fixed_nil (c : Cfg) (hm : c.mode = .fixed) (hp : c.chanPool = []) :
    getChan c = (c.chans.length, { c with chans := c.chans ++ [none] }) := by
  simp only [getChan, hm, hp]

/-- what `getContext()`, hence `startNext`, leaves alone in every mode: all but the context pool, which may lose its head
(`hpool` is the channel pool, as in `GInv.b_hpool`; `b_cpool` there is the context pool) -/
structure CtxFrame (c c1 : Cfg) : Prop where
  mode : c1.mode = c.mode
  thr : c1.threads = c.threads
  chans : c1.chans = c.chans
  hpool : c1.chanPool = c.chanPool
  sent : c1.sentinel = c.sentinel
  mbox : c1.mbox = c.mbox
  log : c1.log = c.log
  len : c.ctxs.length ≤ c1.ctxs.length
  ctx : ∀ j, ctxOf c1 j = ctxOf c j
  sub : c1.ctxPool.Sublist c.ctxPool

theorem CtxFrame.refl (c : Cfg) : CtxFrame c c :=
  ⟨rfl, rfl, rfl, rfl, rfl, rfl, rfl, Nat.le_refl _, fun _ => rfl, List.Sublist.refl _⟩

theorem CtxFrame.chan {c c1} (o : CtxFrame c c1) (x : ChanId) : chanOf c1 x = chanOf c x := by
  simp only [chanOf, o.chans]

theorem getContext_frame (c : Cfg) : CtxFrame c (getContext c).2 := by
  have alloc : CtxFrame c { c with ctxs := c.ctxs ++ [{ closed := false, response := none, msg := none }] } :=
    ⟨rfl, rfl, rfl, rfl, rfl, rfl, rfl, by simp, ctxOf_allocCtx c, List.Sublist.refl _⟩
  unfold getContext
  split
  · exact alloc
  · next h _ => exact ⟨rfl, rfl, rfl, rfl, rfl, rfl, rfl, Nat.le_refl _, fun _ => rfl, h ▸ List.sublist_cons_self ..⟩
  · exact alloc

theorem startNext_frame (c : Cfg) (t : Thread) : CtxFrame c (startNext c t).1 := by
  unfold startNext
  cases t.prog with
  | nil => exact CtxFrame.refl c
  | cons op rest =>
    cases op with
    | handle => exact CtxFrame.refl c
    | ask k => exact getContext_frame c

/-- in `Mode.fixed` the context `i` that `getContext()` yields is one nothing refers to -/
structure CtxOut (c : Cfg) (i : CtxId) (c1 : Cfg) : Prop extends CtxFrame c c1 where
  lt : i < c1.ctxs.length
  npool : i ∉ c1.ctxPool
  nmbox : i ∉ c.mbox
  nsent : i ≠ c.sentinel
  new : i ∈ c.ctxPool ∨ c.ctxs.length ≤ i

theorem getContext_spec {c : Cfg} {own} (g : GInv c own) : ∃ i c1, getContext c = (i, c1) ∧ CtxOut c i c1 := by
  cases hp : c.ctxPool with
  | nil =>
    have e := getContext_fixed_nil c g.mode hp
    have fr := getContext_frame c
    rw [e] at fr
    exact ⟨_, _, e, fr, by simp, fun hx => (nomatch (hp ▸ hx : _ ∈ [])),
      fun hx => Nat.lt_irrefl _ (g.b_mbox _ hx), fun e => Nat.lt_irrefl _ (e ▸ g.b_sent), Or.inr (Nat.le_refl _)⟩
  | cons i rest =>
    have e := getContext_fixed_cons c i rest g.mode hp
    have fr := getContext_frame c
    rw [e] at fr
    have hnd := hp ▸ g.lin
    simp only [List.cons_append, List.nodup_cons, List.mem_append, List.mem_singleton, not_or] at hnd
    have hmem : i ∈ c.ctxPool := hp ▸ List.mem_cons_self ..
    exact ⟨_, _, e, fr, g.b_cpool i hmem, hnd.1.1.1, hnd.1.1.2, hnd.1.2, Or.inl hmem⟩

theorem getContext_set_threads (c : Cfg) (ths : List Thread) :
    getContext { c with threads := ths } = ((getContext c).1, { (getContext c).2 with threads := ths }) := by
  cases hm : c.mode <;> cases hp : c.ctxPool <;> simp [getContext, hm, hp]

theorem startNext_set_threads (c : Cfg) (ths : List Thread) (t0 : Thread) :
    startNext { c with threads := ths } t0 = ({ (startNext c t0).1 with threads := ths }, (startNext c t0).2) := by
  unfold startNext
  cases t0.prog with
  | nil => rfl
  | cons op rest =>
    cases op with
    | ask k => rw [getContext_set_threads]
    | handle => rfl

theorem startNext_upd (c : Cfg) (tid : Nat) (x t0 : Thread) :
    startNext (upd c tid x) t0 = (upd (startNext c t0).1 tid x, (startNext c t0).2) := by
  rw [upd, startNext_set_threads, upd, (startNext_frame c t0).thr]

theorem responderish_startNext (c : Cfg) (t0 : Thread) : responderish (startNext c t0).2 → Op.handle ∈ t0.prog := by
  unfold startNext
  cases t0.prog with
  | nil => exact fun hr => hr.elim (nomatch ·) (nomatch ·)
  | cons op rest =>
    cases op with
    | handle => exact fun _ => List.mem_cons_self ..
    | ask k => exact fun hr => hr.elim (fun e => by cases e) (List.mem_cons_of_mem _)

theorem upd_upd (c : Cfg) (tid : Nat) (x y : Thread) : upd (upd c tid x) tid y = upd c tid y := by
  simp [upd]

theorem upd_self (c : Cfg) (tid : Nat) (t : Thread) (ht : c.threads[tid]? = some t) : upd c tid t = c := by
  obtain ⟨hlt, he⟩ := List.getElem?_eq_some_iff.mp ht
  rw [upd, ← he, List.set_getElem_self]

/-- the record of a thread that has just completed operation `op` with result `r` -/
def done (t : Thread) (op : Op) (r : Res) : Thread := { t with pc := none, hist := (op, r) :: t.hist }

theorem finish_eq {ca : Cfg} {tid : Nat} {t : Thread} {op : Op} {r : Res} (hc : t.cur = some op) :
    upd (finishOp ca t r).1 tid (finishOp ca t r).2 =
      upd (startNext (upd ca tid (done t op r)) (done t op r)).1 tid (startNext (upd ca tid (done t op r)) (done t op r)).2 := by
  unfold finishOp
  rw [hc]
  simp only [startNext_upd, upd_upd]
  rfl

theorem step_eq (c : Cfg) (tid : Nat) (t : Thread) (pc : PC) (ht : c.threads[tid]? = some t) (hpc : t.pc = some pc) :
    step c tid = upd (exec c t pc).1 tid (exec c t pc).2 := by
  simp only [step, ht, hpc, upd]

theorem step_none {c : Cfg} {tid : Nat} (ht : c.threads[tid]? = none) : step c tid = c := by
  simp only [step, ht]

theorem step_done {c : Cfg} {tid : Nat} {t : Thread} (ht : c.threads[tid]? = some t) (hpc : t.pc = none) : step c tid = c := by
  simp only [step, ht, hpc]

theorem modCtx_mode (c i f) : (modCtx c i f).mode = c.mode := rfl
theorem modCtx_chanPool (c i f) : (modCtx c i f).chanPool = c.chanPool := rfl

/-- The reply is there.  `afterSelect` has taken it out of the channel already and `close` drains the channel once more
before pooling it: the two `setChan` are one. -/
theorem exec_select_reply {c : Cfg} (hm : c.mode = .fixed) {t : Thread} {i : CtxId} {ch : ChanId} {k : ReqId} {v : ReqId}
    (hv : chanOf c ch = some v) :
    exec c t (.askSelect i ch k) = finishOp { setChan c ch none with chanPool := c.chanPool ++ [ch] } t (.reply v) := by
  simp only [exec, hv, afterSelect, close, show (setChan c ch none).mode = Mode.fixed from hm]
  simp only [setChan, List.set_set, hm]

theorem exec_select_timeout {c : Cfg} (hm : c.mode = .fixed) {t : Thread} {i : CtxId} {ch : ChanId} {k : ReqId}
    (hv : chanOf c ch = none) (hd : t.deadline = true) :
    exec c t (.askSelect i ch k) = finishOp { c with log := .timedOut k :: c.log } t .timeout := by
  simp only [exec, hv, hd, if_true, afterSelect, close, hm]

theorem exec_select_blocked {c : Cfg} {t : Thread} {i : CtxId} {ch : ChanId} {k : ReqId}
    (hv : chanOf c ch = none) (hd : t.deadline = false) : exec c t (.askSelect i ch k) = (c, t) := by
  simp only [exec, hv, hd, Bool.false_eq_true, if_false]

theorem exec_deq_cons {c : Cfg} {t : Thread} {i : CtxId} {rest : List CtxId} {k : ReqId}
    (hmb : c.mbox = i :: rest) (hmsg : (ctxOf c i).msg = some k) :
    exec c t .hDeq =
      ({ modCtx c c.sentinel (fun x => { x with response := none, msg := none }) with
          ctxPool := c.ctxPool ++ [c.sentinel], sentinel := i, mbox := rest }, { t with pc := some (.hCas i k) }) := by
  simp only [exec, hmb, hmsg]
  rfl

theorem exec_cas_open {c : Cfg} {t : Thread} {i : CtxId} {k : ReqId} (hcl : (ctxOf c i).closed = false) :
    exec c t (.hCas i k) = (modCtx c i (fun x => { x with closed := true }), { t with pc := some (.hSend i k) }) := by
  simp only [exec, hcl, Bool.false_eq_true, if_false]

theorem exec_send {c : Cfg} {t : Thread} {i : CtxId} {k : ReqId} {ch : ChanId}
    (hresp : (ctxOf c i).response = some ch) (he : chanOf c ch = none) :
    exec c t (.hSend i k) = finishOp { setChan c ch (some k) with log := .respDone k :: c.log } t (.handled k) := by
  simp only [exec, hresp, he, Option.isNone_none, if_true]
  rfl

/-- What `build`, `getResponseChannel` and the enqueue do to the heap: context `i` is rebuilt for request `k` on
channel `ch` (taken from the pool or freshly allocated) and appended to the mailbox. -/
structure BuildOut (c : Cfg) (i : CtxId) (k : ReqId) (ch : ChanId) (c4 : Cfg) : Prop where
  mode : c4.mode = c.mode
  thr : c4.threads = c.threads
  len : c4.ctxs.length = c.ctxs.length
  cpool : c4.ctxPool = c.ctxPool
  sent : c4.sentinel = c.sentinel
  mbox : c4.mbox = c.mbox ++ [i]
  log : c4.log = c.log
  ctx_i : ctxOf c4 i = { closed := false, response := some ch, msg := some k }
  ctx : ∀ j, j ≠ i → ctxOf c4 j = ctxOf c j
  chan : ∀ x, chanOf c4 x = chanOf c x
  clen : c.chans.length ≤ c4.chans.length
  chlt : ch < c4.chans.length
  cnew : ∀ y, y < c4.chans.length → y < c.chans.length ∨ y = ch
  empty : chanOf c ch = none
  pool : ∀ x ∈ c4.chanPool, x ∈ c.chanPool ∧ x ≠ ch
  pnd : c4.chanPool.Nodup
  new : ch ∈ c.chanPool ∨ c.chans.length ≤ ch

theorem exec_build {c : Cfg} {own} (g : GInv c own) (t : Thread) {i : CtxId} (k : ReqId) (hi : i < c.ctxs.length) :
    ∃ ch c4, exec c t (.askBuild i k) = (c4, { t with pc := some (.askSelect i ch k) }) ∧ BuildOut c i k ch c4 := by
  -- the two writes to context `i`, whatever `getChan` did in between (it does not touch the contexts)
  have two : ∀ (ch : ChanId) (c2 : Cfg), c2.ctxs = (modCtx c i (fun x => { x with closed := false })).ctxs →
      ctxOf (modCtx c2 i (fun x => { x with response := some ch, msg := some k })) i =
        { closed := false, response := some ch, msg := some k } ∧
      ∀ j, j ≠ i → ctxOf (modCtx c2 i (fun x => { x with response := some ch, msg := some k })) j = ctxOf c j := by
    intro ch c2 h2
    have e : ∀ j, ctxOf c2 j = ctxOf (modCtx c i (fun x => { x with closed := false })) j := fun j => by
      simp only [ctxOf, h2]
    refine ⟨?_, fun j hj => ?_⟩
    · rw [ctxOf_modCtx_self _ _ _ (by rw [h2, length_modCtx]; exact hi), e, ctxOf_modCtx_self _ _ _ hi]
    · rw [ctxOf_modCtx_ne _ _ _ _ hj, e, ctxOf_modCtx_ne _ _ _ _ hj]
  cases hpool : c.chanPool with
  | nil =>
    refine ⟨c.chans.length, _, by simp only [exec, getChan_fixed_nil (modCtx c i _) g.mode hpool]; rfl, ?_⟩
    obtain ⟨t1, t2⟩ := two c.chans.length { modCtx c i (fun x => { x with closed := false }) with chans := c.chans ++ [none] } rfl
    exact ⟨rfl, rfl, (length_modCtx ..).trans (length_modCtx ..), rfl, rfl, rfl, rfl, t1, t2, chanOf_allocChan c,
      Nat.le_of_lt (List.length_append ▸ Nat.lt_succ_self _), List.length_append ▸ Nat.lt_succ_self _,
      fun y hy => by
        have h : y < (c.chans ++ [none]).length := hy
        rw [List.length_append] at h
        exact Nat.lt_succ_iff_lt_or_eq.mp h,
      by simp [chanOf], fun x hx => (nomatch (hpool ▸ hx : x ∈ [])), g.pool_nodup, Or.inr (Nat.le_refl _)⟩
  | cons ch rest =>
    have hnd := hpool ▸ g.pool_nodup
    have hmem : ch ∈ c.chanPool := hpool ▸ List.mem_cons_self ..
    refine ⟨ch, _, by simp only [exec, getChan_fixed_cons (modCtx c i _) ch rest g.mode hpool]; rfl, ?_⟩
    obtain ⟨t1, t2⟩ := two ch { modCtx c i (fun x => { x with closed := false }) with chanPool := rest } rfl
    exact ⟨rfl, rfl, (length_modCtx ..).trans (length_modCtx ..), rfl, rfl, rfl, rfl, t1, t2, fun _ => rfl, Nat.le_refl _, g.b_hpool ch hmem,
      fun _ hy => Or.inl hy, g.pool_empty ch hmem,
      fun x hx => ⟨hpool ▸ List.mem_cons_of_mem _ hx, fun e => (List.nodup_cons.mp hnd).1 (e ▸ hx)⟩,
      (List.nodup_cons.mp hnd).2, Or.inl hmem⟩

def ownSet (own : ChanId → ReqId) (ch : ChanId) (k : ReqId) : ChanId → ReqId := fun x => if x = ch then k else own x

theorem ownSet_self (own ch k) : ownSet own ch k ch = k := if_pos rfl
theorem ownSet_ne (own ch k x) (h : x ≠ ch) : ownSet own ch k x = own x := if_neg h

/-- The ways a step of thread `tid` can go in `Mode.fixed` from a configuration satisfying `FInv`, with the configuration each
leads to.  A step that completes an operation leaves the thread `done` and then starts its next operation (`start`). -/
theorem step_cases {c : Cfg} {own : ChanId → ReqId} (hf : FInv c own) (tid : Nat) {P : Cfg → (ChanId → ReqId) → Prop}
    (idle : P c own)
    (start : ∀ {ca own1} {d : Thread}, P ca own1 → ca.threads[tid]? = some d → d.pc = none →
      P (upd (startNext ca d).1 tid (startNext ca d).2) own1)
    (build : ∀ {t i k ch c4}, c.threads[tid]? = some t → t.pc = some (.askBuild i k) → BuildOut c i k ch c4 →
      P (upd c4 tid { t with pc := some (.askSelect i ch k) }) (ownSet own ch k))
    (reply : ∀ {t i ch k v}, c.threads[tid]? = some t → t.pc = some (.askSelect i ch k) → chanOf c ch = some v →
      P (upd { setChan c ch none with chanPool := c.chanPool ++ [ch] } tid (done t (.ask k) (.reply v))) own)
    (timedOut : ∀ {t i ch k}, c.threads[tid]? = some t → t.pc = some (.askSelect i ch k) → chanOf c ch = none →
      P (upd { c with log := .timedOut k :: c.log } tid (done t (.ask k) .timeout)) own)
    (deqNil : ∀ {t}, c.threads[tid]? = some t → t.pc = some .hDeq → c.mbox = [] → P (upd c tid (done t .handle .empty)) own)
    (deqCons : ∀ {t i rest ch k}, c.threads[tid]? = some t → t.pc = some .hDeq → c.mbox = i :: rest →
      Pending c own i false ch k →
      P (upd { modCtx c c.sentinel (fun x => { x with response := none, msg := none }) with
               ctxPool := c.ctxPool ++ [c.sentinel], sentinel := i, mbox := rest } tid { t with pc := some (.hCas i k) }) own)
    (cas : ∀ {t i k ch}, c.threads[tid]? = some t → t.pc = some (.hCas i k) → Pending c own i false ch k →
      P (upd (modCtx c i (fun x => { x with closed := true })) tid { t with pc := some (.hSend i k) }) own)
    (send : ∀ {t i k ch}, c.threads[tid]? = some t → t.pc = some (.hSend i k) → Pending c own i true ch k →
      P (upd { setChan c ch (some k) with log := .respDone k :: c.log } tid (done t .handle (.handled k))) own) :
    ∃ own1, P (step c tid) own1 := by
  cases ht : c.threads[tid]? with
  | none => exact ⟨own, (step_none ht).symm ▸ idle⟩
  | some t =>
    cases hpc : t.pc with
    | none => exact ⟨own, (step_done ht hpc).symm ▸ idle⟩
    | some pc =>
      have hlt : tid < c.threads.length := (List.getElem?_eq_some_iff.mp ht).1
      have fin : ∀ {ca : Cfg} {op r}, t.cur = some op → ca.threads = c.threads → P (upd ca tid (done t op r)) own →
          P (upd (finishOp ca t r).1 tid (finishOp ca t r).2) own := fun hc hth h => by
        rw [finish_eq hc]
        exact start h (by simp [upd, hth, hlt]) rfl
      have hm := hf.g.mode
      have hT := (hf.thr tid t ht).1
      rw [ThreadOk, hpc] at hT
      rw [step_eq c tid t pc ht hpc]
      cases pc with
      | askClose i ch r => exact hT.elim
      | askBuild i k =>
        obtain ⟨ch, c4, e, b⟩ := exec_build hf.g t k hT.2.1
        rw [e]
        exact ⟨_, build ht hpc b⟩
      | askSelect i ch k =>
        refine ⟨own, ?_⟩
        cases hv : chanOf c ch with
        | some v => rw [exec_select_reply hm hv]; exact fin hT.1 rfl (reply ht hpc hv)
        | none =>
          cases hd : t.deadline with
          | true => rw [exec_select_timeout hm hv hd]; exact fin hT.1 rfl (timedOut ht hpc hv)
          | false => rw [exec_select_blocked hv hd, upd_self c tid t ht]; exact idle
      | hDeq =>
        refine ⟨own, ?_⟩
        cases hmb : c.mbox with
        | nil => simp only [exec, hmb]; exact fin hT rfl (deqNil ht hpc hmb)
        | cons i rest =>
          obtain ⟨ch, k, hp⟩ := hf.g.mbox_ok i (hmb ▸ List.mem_cons_self ..)
          rw [exec_deq_cons hmb (by rw [hp.1])]
          exact deqCons ht hpc hmb hp
      | hCas i k =>
        obtain ⟨_, _, ch, hp, _⟩ := hT
        rw [exec_cas_open (by rw [hp.1])]
        exact ⟨own, cas ht hpc hp⟩
      | hSend i k =>
        obtain ⟨hcur, _, ch, hp, _⟩ := hT
        rw [exec_send (by rw [hp.1]) hp.2.2.1]
        exact ⟨own, fin hcur rfl (send ht hpc hp)⟩

end GoaktVerif.C15
