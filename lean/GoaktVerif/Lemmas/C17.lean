/-
C17 helper lemmas: interleavings, the reached set and the running actors of a forest.
-/
import GoaktVerif.Model.C17

namespace GoaktVerif.C17
open GoaktVerif.Model.C17

theorem interleave_perm {α : Type} {a b out : List α} (h : Interleave a b out) : out.Perm (a ++ b) := by
  induction h with
  | nil => exact List.Perm.refl _
  | left _ ih => exact List.Perm.cons _ ih
  | right _ ih => exact (ih.cons _).trans List.perm_middle.symm

theorem interleave_sub_left {α : Type} {a b out : List α} (h : Interleave a b out) : a.Sublist out := by
  induction h with
  | nil => exact List.Sublist.refl _
  | left _ ih => exact List.Sublist.cons_cons _ ih
  | right _ ih => exact List.Sublist.cons _ ih

theorem interleave_sub_right {α : Type} {a b out : List α} (h : Interleave a b out) : b.Sublist out := by
  induction h with
  | nil => exact List.Sublist.refl _
  | left _ ih => exact List.Sublist.cons _ ih
  | right _ ih => exact List.Sublist.cons_cons _ ih

theorem visited_running {f : F} (h : closed f = true) : (visited f).Perm (runningIds f) := by
  induction f with
  | nil => exact List.Perm.refl _
  | cons id r kids sibs ihk ihs =>
    cases r with
    | false =>
      simp only [closed, Bool.and_eq_true, List.isEmpty_iff] at h
      simp only [visited, runningIds, h.1.1]
      simpa using ihs h.2
    | true =>
      simp only [closed, Bool.and_eq_true] at h
      simp only [visited, runningIds, if_true]
      exact (List.perm_append_comm.trans ((List.Perm.refl [id]).append (ihk h.1))).append (ihs h.2)

theorem runningIds_sublist (f : F) : (runningIds f).Sublist (ids f) := by
  induction f with
  | nil => exact .refl _
  | cons id r kids sibs ihk ihs =>
    have h : (if r then [id] else []).Sublist [id] := by cases r <;> simp
    simpa only [runningIds, ids, List.append_assoc, List.singleton_append] using h.append (ihk.append ihs)

theorem interleave_append {α : Type} (a b : List α) : Interleave a b (a ++ b) := by
  induction a with
  | nil =>
    induction b with
    | nil => exact Interleave.nil
    | cons x b ih => exact Interleave.right ih
  | cons x a ih => exact Interleave.left ih

end GoaktVerif.C17
