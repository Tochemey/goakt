/-
C15, C20 — "no two threads hold the same thing" on a thread list with one record appended (spawning) or replaced (a step).
-/
import GoaktVerif.Lemmas.ListFacts

namespace GoaktVerif.C15C20

/-- the common form of `FInv.build_dist`, `FInv.sel_dist` (C15) and `Distinct` (C20) -/
def Inj {α β} (f : α → Option β) (l : List α) : Prop :=
  ∀ (i j : Nat) a b x, i ≠ j → l[i]? = some a → l[j]? = some b → f a = some x → f b ≠ some x

/-- the new record holds what the old one held, or nothing: how `finv_same` (C15) and `inv_pc` (C20) meet the ownership
hypotheses of their update rules -/
theorem held_of {β} {o o' : Option β} (h : o' = o ∨ o' = none) {x : β} (e : o' = some x) : o = some x :=
  h.elim (· ▸ e) fun e' => nomatch e'.symm.trans e

theorem Inj.set {α β} {f : α → Option β} {l : List α} {i : Nat} {a a' : α} (h : Inj f l) (hi : l[i]? = some a)
    (hn : ∀ x, f a' = some x → f a = some x ∨ ∀ (j : Nat) b, j ≠ i → l[j]? = some b → f b ≠ some x) :
    Inj f (l.set i a') := by
  intro i1 i2 a1 a2 x hne h1 h2 e1 e2
  rcases getElem?_set_cases h1 with ⟨rfl, rfl⟩ | ⟨n1, g1⟩ <;> rcases getElem?_set_cases h2 with ⟨rfl, rfl⟩ | ⟨n2, g2⟩
  · exact hne rfl
  · exact (hn x e1).elim (fun e => h _ _ _ _ x hne hi g2 e e2) fun e => e i2 a2 n2 g2 e2
  · exact (hn x e2).elim (fun e => h _ _ _ _ x hne g1 hi e1 e) fun e => e i1 a1 n1 g1 e1
  · exact h _ _ _ _ x hne g1 g2 e1 e2

theorem Inj.snoc {α β} {f : α → Option β} {l : List α} {d : α} (h : Inj f l) (hd : f d = none) : Inj f (l ++ [d]) := by
  intro i1 i2 a1 a2 x hne h1 h2 e1 e2
  rcases getElem?_snoc h1 with g1 | ⟨_, rfl⟩
  · rcases getElem?_snoc h2 with g2 | ⟨_, rfl⟩
    · exact h _ _ _ _ x hne g1 g2 e1 e2
    · exact nomatch hd.symm.trans e2
  · exact nomatch hd.symm.trans e1

end GoaktVerif.C15C20
