/-
`mapM` round trips through a lawful serializer and maps over AMap values, for the codec round trips of C40.
-/
import GoaktVerif.Model.C40
import GoaktVerif.Lemmas.Crdt.AMap

namespace GoaktVerif.C40
open GoaktVerif.Model.Crdt GoaktVerif.Model.C40

variable {V W B : Type}

def mapVals (f : V → W) (m : AMap V) : AMap W := m.map fun p => (p.1, f p.2)

theorem get?_mapVals (f : V → W) (m : AMap V) (x : Nat) :
    AMap.get? (mapVals f m) x = (AMap.get? m x).map f := by
  rw [AMap.get?_eq_lookup, AMap.get?_eq_lookup]; exact Assoc.lookup_map_val f m x

theorem sorted_mapVals (f : V → W) (m : AMap V) (h : AMap.Sorted m) : AMap.Sorted (mapVals f m) :=
  AMap.sorted_map_val h fun p => f p.2

theorem mapVals_set (f : V → W) (m : AMap V) (k : Nat) (v : V) :
    mapVals f (AMap.set m k v) = AMap.set (mapVals f m) k (f v) := by
  induction m with
  | nil => rfl
  | cons p t ih =>
    show mapVals f (AMap.set ((p.1, p.2) :: t) k v) = AMap.set ((p.1, f p.2) :: mapVals f t) k (f v)
    unfold AMap.set
    split
    · rfl
    · split
      · rfl
      · exact congrArg _ ih

theorem mapVals_setOpt (f : V → W) (m : AMap V) (k : Nat) (o : Option V) :
    mapVals f (AMap.setOpt m k o) = AMap.setOpt (mapVals f m) k (o.map f) := by
  cases o with
  | none => rfl
  | some v => exact mapVals_set f m k v

/-- the law of a lawful serializer: whatever Serialize accepts, Deserialize gives back -/
def SerLaw (S : Ser B) : Prop := ∀ x b, S.ser x = some b → S.des b = some x

theorem mapM_roundtrip {α β γ : Type} {f : α → Option β} {g : β → Option γ} {h : α → γ}
    (hfg : ∀ x y, f x = some y → g y = some (h x)) (l : List α) (l' : List β) (hl : l.mapM f = some l') :
    l'.mapM g = some (l.map h) := by
  induction l generalizing l' with
  | nil => cases hl; rfl
  | cons x t ih =>
    rw [List.mapM_cons] at hl
    cases hx : f x with
    | none => rw [hx] at hl; cases hl
    | some y =>
      cases ht : t.mapM f with
      | none => rw [hx, ht] at hl; cases hl
      | some t' =>
        rw [hx, ht] at hl
        cases hl
        rw [List.mapM_cons, hfg x y hx, ih t' ht]
        rfl

theorem mapM_inverse {α β : Type} {f : α → Option β} {g : β → Option α} (hfg : ∀ x y, f x = some y → g y = some x)
    (l : List α) (l' : List β) (hl : l.mapM f = some l') : l'.mapM g = some l :=
  (mapM_roundtrip (h := id) hfg l l' hl).trans (congrArg some (List.map_id l))

theorem mapM_ser_des {α : Type} (S : Ser B) (hS : SerLaw S) (l : List (Nat × α)) (l' : List (B × α))
    (h : l.mapM (fun p => (S.ser p.1).map fun b => (b, p.2)) = some l') :
    l'.mapM (fun p => (S.des p.1).map fun e => (e, p.2)) = some l :=
  mapM_inverse (fun p q hq => by
    obtain ⟨b, hb, rfl⟩ := Option.map_eq_some_iff.mp hq
    exact congrArg (Option.map _) (hS p.1 b hb)) l l' h

end GoaktVerif.C40
