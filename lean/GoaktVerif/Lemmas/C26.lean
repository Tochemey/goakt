/-
Helper lemmas for Props/C26: the string primitives of Model/C26 on concatenations, decimal
digits round-trip, and what the name pattern excludes.
-/
import GoaktVerif.Model.C26

namespace GoaktVerif.C26
open GoaktVerif.Model.C26

theorem not_mem_join {c d : Char} {A B : Str} (hd : c ≠ d) (hA : c ∉ A) (hB : c ∉ B) : c ∉ A ++ d :: B := by
  intro h
  rcases List.mem_append.mp h with h | h
  · exact hA h
  · rcases List.mem_cons.mp h with h | h
    · exact hd h
    · exact hB h

theorem hasPrefix_single (c x : Char) (xs : Str) : hasPrefix (x :: xs) [c] = (x == c) := by
  simp [hasPrefix]

theorem cut_single (c : Char) (pre post : Str) (h : c ∉ pre) :
    cut? [c] (pre ++ c :: post) = some (pre, post) := by
  induction pre with
  | nil => simp [cut?, hasPrefix]
  | cons x xs ih =>
    have hx : x ≠ c := fun e => h (by simp [e])
    have hxs : c ∉ xs := fun e => h (by simp [e])
    simp [cut?, hasPrefix, hx, ih hxs]

theorem hasPrefix_not_mem {c : Char} {s sep : Str} (hc : c ∈ sep) (h : c ∉ s) : hasPrefix s sep = false := by
  induction s generalizing sep with
  | nil =>
    cases sep with
    | nil => cases hc
    | cons => rfl
  | cons x xs ih =>
    cases sep with
    | nil => cases hc
    | cons p ps =>
      rw [hasPrefix]
      rcases List.mem_cons.mp hc with e | hc
      · rw [beq_false_of_ne fun ex => h (List.mem_cons.mpr (.inl (e.trans ex.symm)))]; rfl
      · rw [ih hc fun e => h (List.mem_cons_of_mem _ e), Bool.and_false]

theorem cut_not_mem {c : Char} {sep : Str} (hc : c ∈ sep) (s : Str) (h : c ∉ s) : cut? sep s = none := by
  induction s with
  | nil =>
    cases sep with
    | nil => cases hc
    | cons => rfl
  | cons x xs ih => rw [cut?, hasPrefix_not_mem hc h, ih fun e => h (List.mem_cons_of_mem _ e)]; rfl

theorem contains_not_mem {c : Char} {sep s : Str} (hc : c ∈ sep) (h : c ∉ s) : contains s sep = false := by
  rw [contains, cut_not_mem hc s h]; rfl

/-! ### "://" needs a slash that follows a colon and is followed by a slash -/

theorem hasPrefix_head_ne {x c : Char} (xs ps : Str) (h : x ≠ c) : hasPrefix (x :: xs) (c :: ps) = false := by
  simp [hasPrefix, h]

theorem cut_scheme_join (A B : Str) (hA : '/' ∉ A) (hB0 : hasPrefix B ['/'] = false)
    (hB : cut? sepScheme B = none) : cut? sepScheme (A ++ '/' :: B) = none := by
  unfold sepScheme at hB ⊢
  induction A with
  | nil => simp [cut?, hasPrefix, hB]
  | cons x xs ih =>
    have hxs : '/' ∉ xs := fun e => hA (List.mem_cons_of_mem _ e)
    have : hasPrefix (xs ++ '/' :: B) ['/', '/'] = false := by
      cases xs with
      | nil => simpa [hasPrefix] using hB0
      | cons y ys => exact hasPrefix_head_ne _ _ fun (e : y = '/') => hxs (e ▸ List.mem_cons_self)
    simp [cut?, hasPrefix, this, ih hxs]

theorem lastIndex_none (c : Char) (s : Str) (h : c ∉ s) : lastIndex c s = none := by
  induction s with
  | nil => rfl
  | cons x xs ih =>
    have hx : x ≠ c := fun e => h (by simp [e])
    have hxs : c ∉ xs := fun e => h (by simp [e])
    simp [lastIndex, ih hxs, hx]

theorem lastIndex_join (c : Char) (pre post : Str) (h : c ∉ post) :
    lastIndex c (pre ++ c :: post) = some pre.length := by
  induction pre with
  | nil => simp [lastIndex, lastIndex_none c post h]
  | cons x xs ih => simp [lastIndex, ih]

/-- LastIndex returns an index inside the string: both slice expressions of Parse are in range -/
theorem lastIndex_lt (c : Char) (s : Str) (i : Nat) (h : lastIndex c s = some i) : i < s.length := by
  induction s generalizing i with
  | nil => simp [lastIndex] at h
  | cons x xs ih =>
    simp only [lastIndex] at h
    cases hl : lastIndex c xs with
    | some j =>
      simp [hl] at h
      have := ih j hl
      simp; omega
    | none =>
      simp [hl] at h
      simp; omega

theorem sliceTo_join (pre post : Str) : sliceTo (pre ++ post) pre.length = some pre := by
  simp [sliceTo]

theorem sliceFrom_join (c : Char) (pre post : Str) : sliceFrom (pre ++ c :: post) (pre.length + 1) = some post := by
  simp [sliceFrom]

theorem digitChar_toNat (d : Nat) (h : d < 10) : (digitChar d).toNat = 48 + d := by
  unfold digitChar
  have : (48 + d).isValidChar := by
    left; omega
  simp [Char.ofNat, this, Char.toNat, Char.ofNatAux]
  omega

theorem isDigit_digitChar (d : Nat) (h : d < 10) : isDigit (digitChar d) = true := by
  simp [isDigit, digitChar_toNat d h]
  omega

theorem digitVal_digitChar (d : Nat) (h : d < 10) : digitVal (digitChar d) = d := by
  simp [digitVal, digitChar_toNat d h]

theorem natDigits_all (n : Nat) : ∀ c ∈ natDigits n, isDigit c = true := by
  induction n using natDigits.induct with
  | case1 n h =>
    intro c hc
    rw [natDigits, if_pos h] at hc
    simp at hc; subst hc; exact isDigit_digitChar n h
  | case2 n h ih =>
    intro c hc
    rw [natDigits, if_neg h] at hc
    simp at hc
    rcases hc with hc | hc
    · exact ih c hc
    · subst hc; exact isDigit_digitChar _ (Nat.mod_lt _ (by omega))

theorem natDigits_ne_nil (n : Nat) : natDigits n ≠ [] := by
  rw [natDigits]; split <;> simp

theorem ite_ok {c : Prop} [Decidable c] {e : NumErr} {x : Except NumErr Nat} {v : Nat}
    (h : (if c then .error e else x) = .ok v) : ¬c ∧ x = .ok v := by
  split at h
  · cases h
  · exact ⟨‹_›, h⟩

theorem parseUint_append {acc v : Nat} {xs : Str} (h : parseUint acc xs = .ok v) (ys : Str) :
    parseUint acc (xs ++ ys) = parseUint v ys := by
  induction xs generalizing acc with
  | nil => cases h; rfl
  | cons x t ih =>
    rw [parseUint] at h
    obtain ⟨h1, h⟩ := ite_ok h
    obtain ⟨h2, h⟩ := ite_ok h
    rw [List.cons_append, parseUint, if_neg h1]
    exact (if_neg h2).trans (ih h)

theorem parseUint_natDigits (n : Nat) (h : n < 2^64) : parseUint 0 (natDigits n) = .ok n := by
  have digit (v d : Nat) (hd : d < 10) (hv : v * 10 + d < 2^64) : parseUint v [digitChar d] = .ok (v * 10 + d) := by
    rw [parseUint, isDigit_digitChar d hd, digitVal_digitChar d hd]
    exact (if_neg (by decide)).trans ((if_neg (by omega)).trans rfl)
  induction n using natDigits.induct with
  | case1 n hn =>
    rw [natDigits, if_pos hn]
    exact (digit 0 n hn (by omega)).trans (by rw [Nat.zero_mul, Nat.zero_add])
  | case2 n hn ih =>
    rw [natDigits, if_neg hn, parseUint_append (ih (by omega)), digit _ _ (Nat.mod_lt _ (by decide)) (by omega),
      Nat.div_add_mod']

theorem isDigit_ne_sign (c : Char) (h : isDigit c = true) : c ≠ '+' ∧ c ≠ '-' := by
  refine ⟨?_, ?_⟩ <;> (intro e; subst e; revert h; decide)

/-- ParseInt32 reads back what AppendInt wrote, for every port Validate can accept (and more) -/
theorem parseInt32_intDigits (p : Int) (h0 : 0 ≤ p) (h1 : p < 2^31) : parseInt32 (intDigits p) = .ok p := by
  obtain ⟨n, rfl⟩ := Int.eq_ofNat_of_zero_le h0
  have hn : n < 2^31 := by omega
  unfold intDigits
  rw [if_neg (by omega)]
  simp only [Int.natAbs_natCast]
  have hne := natDigits_ne_nil n
  have hall := natDigits_all n
  have hpu := parseUint_natDigits n (by omega)
  cases hd : natDigits n with
  | nil => exact absurd hd hne
  | cons c cs =>
    have hc := isDigit_ne_sign c (hall c (by simp [hd]))
    rw [hd] at hpu
    simp [parseInt32, hc.1, hc.2, hpu]
    rw [if_neg (by omega), if_neg (by omega)]

theorem not_mem_of_all (p : Char → Bool) {s : Str} {d : Char} (hd : p d = false) (h : ∀ c ∈ s, p c = true) : d ∉ s :=
  fun hm => Bool.false_ne_true (hd ▸ h d hm)

/-- the piece contains neither of the two characters at which Parse cuts before it looks at the piece -/
structure NoDelim (s : Str) : Prop where
  slash : '/' ∉ s
  atSign : '@' ∉ s

theorem NoDelim.nil : NoDelim [] := ⟨nofun, nofun⟩

theorem NoDelim.of_all (p : Char → Bool) {s : Str} (hp : (p '/' || p '@') = false)
    (h : ∀ c ∈ s, p c = true) : NoDelim s :=
  have hp := Bool.or_eq_false_iff.mp hp
  ⟨not_mem_of_all p hp.1 h, not_mem_of_all p hp.2 h⟩

theorem intDigits_all (p : Int) (h0 : 0 ≤ p) : ∀ c ∈ intDigits p, isDigit c = true := by
  unfold intDigits; rw [if_neg (by omega)]; exact natDigits_all _

theorem intDigits_clean (p : Int) (h0 : 0 ≤ p) : NoDelim (intDigits p) :=
  .of_all isDigit (by decide) (intDigits_all p h0)

theorem isAlnum_nameChar (c : Char) (h : isAlnum c = true) : isNameChar c = true := by
  simp [isNameChar, h]

theorem matchesPattern_all (s : Str) (h : matchesPattern s = true) : ∀ c ∈ s, isNameChar c = true := by
  cases s with
  | nil => simp [matchesPattern] at h
  | cons x xs =>
    simp only [matchesPattern, Bool.and_eq_true, List.all_eq_true] at h
    intro c hc
    simp at hc
    rcases hc with hc | hc
    · subst hc; exact isAlnum_nameChar _ h.1
    · exact h.2 c hc

theorem matchesPattern_ne_nil (s : Str) (h : matchesPattern s = true) : s ≠ [] := by
  cases s with
  | nil => simp [matchesPattern] at h
  | cons x xs => simp

theorem mem_dropWhile_or (p : Char → Bool) (s : Str) (c : Char) (h : c ∈ s) : p c = true ∨ c ∈ s.dropWhile p := by
  induction s with
  | nil => simp at h
  | cons x xs ih =>
    simp only [List.dropWhile]
    cases hp : p x with
    | true =>
      simp at h
      rcases h with h | h
      · subst h; exact Or.inl hp
      · exact ih h
    | false => exact Or.inr h

theorem mem_trimSpace_or (s : Str) (c : Char) (h : c ∈ s) : isSpace c = true ∨ c ∈ trimSpace s := by
  unfold trimSpace trimLeft
  rcases mem_dropWhile_or isSpace s c h with h1 | h1
  · exact Or.inl h1
  · have h2 : c ∈ (s.dropWhile isSpace).reverse := by simpa using h1
    rcases mem_dropWhile_or isSpace _ c h2 with h3 | h3
    · exact Or.inl h3
    · exact Or.inr (by simpa using h3)

theorem name_clean (s : Str) (h : matchesPattern (trimSpace s) = true) : NoDelim s :=
  .of_all (fun c => isSpace c || isNameChar c) (by decide) fun c hc =>
    Bool.or_eq_true_iff.mpr ((mem_trimSpace_or s c hc).imp_right (matchesPattern_all _ h c))

theorem system_clean (s : Str) (h : matchesPattern s = true) : NoDelim s :=
  .of_all isNameChar (by decide) (matchesPattern_all s h)

end GoaktVerif.C26
