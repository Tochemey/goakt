import GoaktVerif.Model.C23
/-
The big-endian encodings and the checked reads and slices of the model: what a read returns on encoded bytes, and that a read in range succeeds;
int64 wrap-around (`wrap64`) is `Int.bmod`.
-/
namespace GoaktVerif.C23
open GoaktVerif.Model.C23

theorem be16_length (n : Nat) : (be16 n).length = 2 := rfl
theorem be32_length (n : Nat) : (be32 n).length = 4 := rfl
theorem be64_length (n : Nat) : (be64 n).length = 8 := rfl

theorem digit_mod (m k : Nat) : m / 256 % k * 256 + m % 256 = m % (256 * k) := by
  rw [Nat.mod_mul]; omega

theorem u16At_be16 (n : Nat) (r : Bytes) : u16At (be16 n ++ r) 0 = .ok (n % 2 ^ 16) := by
  simp only [u16At, be16, List.cons_append, List.nil_append, List.drop_zero, UInt8.toNat_ofNat',
    show (2 : Nat) ^ 8 = 256 from rfl, digit_mod]

theorem u32At_be32 (n : Nat) (r : Bytes) : u32At (be32 n ++ r) 0 = .ok (n % 2 ^ 32) := by
  simp only [u32At, be32, List.cons_append, List.nil_append, List.drop_zero, UInt8.toNat_ofNat',
    show (2 : Nat) ^ 24 = 256 * 256 * 256 from rfl, show (2 : Nat) ^ 16 = 256 * 256 from rfl,
    show (2 : Nat) ^ 8 = 256 from rfl, ← Nat.div_div_eq_div_mul, digit_mod]

theorem u16At_of_drop {d : Bytes} {pos n : Nat} {rest : Bytes} (h : d.drop pos = be16 n ++ rest) (hn : n < 2 ^ 16) :
    u16At d pos = .ok n := by
  have := u16At_be16 n rest
  rw [Nat.mod_eq_of_lt hn] at this
  rwa [u16At, h]

theorem u32At_of_drop {d : Bytes} {pos n : Nat} {rest : Bytes} (h : d.drop pos = be32 n ++ rest) (hn : n < 2 ^ 32) :
    u32At d pos = .ok n := by
  have := u32At_be32 n rest
  rw [Nat.mod_eq_of_lt hn] at this
  rwa [u32At, h]

theorem u32At_hdr0 {T : Nat} (hT : T < 2 ^ 32) (r : Bytes) : u32At (be32 T ++ r) 0 = .ok T :=
  u32At_of_drop rfl hT

theorem u64At_of_drop {d : Bytes} {pos n : Nat} {rest : Bytes} (h : d.drop pos = be64 n ++ rest) (hn : n < 2 ^ 64) :
    u64At d pos = .ok n := by
  have h1 : u32At d pos = .ok (n / 2 ^ 32) :=
    u32At_of_drop (rest := be32 n ++ rest) (by rw [h, be64, List.append_assoc]) (by omega)
  have h2 : u32At d (pos + 4) = .ok (n % 2 ^ 32) := by
    rw [u32At, ← List.drop_drop, h]
    exact u32At_be32 n rest
  simp only [u64At, h1, h2]
  congr 1; omega

theorem ofNat_snoc (q : Nat) (x : UInt8) : UInt8.ofNat (q * 256 + x.toNat) = x := by
  apply UInt8.toNat_inj.mp; rw [UInt8.toNat_ofNat']; have := x.toNat_lt; omega

theorem div_snoc (q : Nat) (x : UInt8) : (q * 256 + x.toNat) / 256 = q := by
  have := x.toNat_lt; omega

theorem exists_be32 {d : Bytes} (h : 4 ≤ d.length) : ∃ n r, n < 2 ^ 32 ∧ d = be32 n ++ r :=
  match d, h with
  | a :: b :: c :: e :: r, _ => by
    refine ⟨((a.toNat * 256 + b.toNat) * 256 + c.toNat) * 256 + e.toNat, r, ?_, ?_⟩
    · have := a.toNat_lt; have := b.toNat_lt; have := c.toNat_lt; have := e.toNat_lt; omega
    · simp only [be32, show (2 : Nat) ^ 24 = 256 * 256 * 256 from rfl, show (2 : Nat) ^ 16 = 256 * 256 from rfl,
        show (2 : Nat) ^ 8 = 256 from rfl, ← Nat.div_div_eq_div_mul, div_snoc, ofNat_snoc, UInt8.ofNat_toNat]
      rfl

theorem slice_of_le {d : Bytes} {lo hi : Nat} (h1 : lo ≤ hi) (h2 : hi ≤ d.length) :
    slice d lo hi = .ok ((d.drop lo).take (hi - lo)) := by
  simp [slice, h1, h2]

theorem drop_add_of_drop {d a r : Bytes} {pos : Nat} (h : d.drop pos = a ++ r) : d.drop (pos + a.length) = r := by
  rw [← List.drop_drop, h, List.drop_left]

theorem slice_of_drop {d b c : Bytes} {lo : Nat} (h : d.drop lo = b ++ c) (hle : lo + b.length ≤ d.length) :
    slice d lo (lo + b.length) = .ok b := by
  rw [slice_of_le (by omega) hle, h, Nat.add_sub_cancel_left, List.take_left]

theorem u16At_of_le {d : Bytes} {pos : Nat} (h : pos + 2 ≤ d.length) : ∃ n, u16At d pos = .ok n := by
  have hl : 2 ≤ (d.drop pos).length := by rw [List.length_drop]; omega
  unfold u16At
  match d.drop pos, hl with
  | _ :: _ :: _, _ => exact ⟨_, rfl⟩

theorem u32At_of_le {d : Bytes} {pos : Nat} (h : pos + 4 ≤ d.length) : ∃ n, u32At d pos = .ok n := by
  obtain ⟨n, r, hn, hd⟩ := exists_be32 (d := d.drop pos) (by rw [List.length_drop]; omega)
  exact ⟨n, u32At_of_drop hd hn⟩

theorem u64At_of_le {d : Bytes} {pos : Nat} (h : pos + 8 ≤ d.length) : ∃ n, u64At d pos = .ok n := by
  obtain ⟨a, ha⟩ := u32At_of_le (d := d) (pos := pos) (by omega)
  obtain ⟨b, hb⟩ := u32At_of_le (d := d) (pos := pos + 4) (by omega)
  exact ⟨a * 2 ^ 32 + b, by simp only [u64At, ha, hb]⟩

theorem wrap64_bmod (i : Int) : wrap64 i = Int.bmod i (2 ^ 64) := by
  have h0 : 0 ≤ i % 2 ^ 64 := Int.emod_nonneg _ (by decide)
  unfold wrap64 toInt64 ofInt64 Int.bmod
  rw [Int.toNat_of_nonneg h0, show ((2 ^ 64 : Nat) : Int) = 2 ^ 64 from rfl]
  generalize i % 2 ^ 64 = r at *
  dsimp only
  split <;> split <;> omega

theorem wrap64_id {i : Int} (h1 : -2 ^ 63 ≤ i) (h2 : i < 2 ^ 63) : wrap64 i = i := by
  rw [wrap64_bmod]; exact Int.bmod_eq_of_le (by omega) (by omega)

theorem wrap64_range (i : Int) : -2 ^ 63 ≤ wrap64 i ∧ wrap64 i < 2 ^ 63 := by
  rw [wrap64_bmod]
  have := Int.le_bmod (x := i) (m := 2 ^ 64) (by decide)
  have := Int.bmod_lt (x := i) (m := 2 ^ 64) (by decide)
  omega

theorem ofInt64_lt (i : Int) : ofInt64 i < 2 ^ 64 := by
  unfold ofInt64; omega

end GoaktVerif.C23
