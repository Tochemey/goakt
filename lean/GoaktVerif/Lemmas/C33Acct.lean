/-
C33 part B — every stage of the worker's run produces exactly one record per item it is given
(re-uses the C32 plan theorems).
-/
import GoaktVerif.Model.C33
import GoaktVerif.Lemmas.C32Redis

namespace GoaktVerif.C33
open GoaktVerif.Model.C32 GoaktVerif.Model.C33 GoaktVerif.C32

def recItems (l : List Rec) : List Item := l.map Rec.item

@[simp] theorem recItems_nil : recItems [] = [] := rfl
@[simp] theorem recItems_append (a b : List Rec) : recItems (a ++ b) = recItems a ++ recItems b := by
  simp [recItems]

@[simp] theorem itemsA_append (a b : List Actor) : itemsA (a ++ b) = itemsA a ++ itemsA b := by simp [itemsA]
@[simp] theorem itemsG_append (a b : List Grain) : itemsG (a ++ b) = itemsG a ++ itemsG b := by simp [itemsG]
@[simp] theorem itemsA_nil : itemsA [] = [] := rfl
@[simp] theorem itemsG_nil : itemsG [] = [] := rfl

theorem localRec_item (env : Env) (it : Item) : (localRec env it).item = it := by
  unfold localRec; split <;> rfl

theorem remoteRec_item (env : Env) (p : Nat) (it : Item) : (remoteRec env p it).item = it := by
  unfold remoteRec; split <;> rfl

theorem unsentRec_item (env : Env) (it : Item) : (unsentRec env it).item = it := by
  -- `fun_cases f args` gives one goal per leaf of `f` in Model/C33.lean, numbered in the order of the leaves there,
  -- with the pattern equations and guard outcomes on the way as hypotheses and a `let` of `f` as a local definition
  fun_cases unsentRec env it
  case case1 | case2 | case3 | case4 => rfl -- an actor; an eager grain; a lazy grain released; its release failed

theorem recItems_map_of (f : Item → Rec) (hf : ∀ it, (f it).item = it) (l : List Item) :
    recItems (l.map f) = l := by
  rw [recItems, List.map_map]
  exact (List.map_congr_left fun it _ => hf it).trans (List.map_id l)

theorem recItems_failed (l : List Item) : recItems (l.map Rec.failed) = l :=
  recItems_map_of Rec.failed (fun _ => rfl) l

theorem perm_shuffle {α : Type} {x y u v : List α} : ((x ++ y) ++ (u ++ v)).Perm ((x ++ u) ++ (y ++ v)) := by
  rw [List.append_assoc, List.append_assoc]
  refine List.Perm.append_left x ?_
  rw [← List.append_assoc, ← List.append_assoc]
  exact List.Perm.append_right v List.perm_append_comm

/-- `items` are the actors `as` and the grains `gs`, each once and nothing else, in some order: what every stage of the
    run says of the items of the records it emits (`recItems`) and the share it was given -/
def Acct (items : List Item) (as : List Actor) (gs : List Grain) : Prop :=
  items.Perm (itemsA as ++ itemsG gs)

section
variable {items i₁ i₂ : List Item} {as as' a₁ a₂ : List Actor} {gs gs' g₁ g₂ : List Grain}

theorem Acct.of_eq (h : items = itemsA as ++ itemsG gs) : Acct items as gs := List.Perm.of_eq h

/-- stages run one after the other; the two kinds are regrouped here and nowhere else -/
theorem Acct.append (h₁ : Acct i₁ a₁ g₁) (h₂ : Acct i₂ a₂ g₂) : Acct (i₁ ++ i₂) (a₁ ++ a₂) (g₁ ++ g₂) := by
  rw [Acct, itemsA_append, itemsG_append]
  exact (List.Perm.append h₁ h₂).trans perm_shuffle

theorem Acct.congr (h : Acct items as gs) (ha : as.Perm as') (hg : gs.Perm gs') : Acct items as' gs' :=
  List.Perm.trans h ((ha.map _).append (hg.map _))

end

theorem failed_acct (l : List Actor) : Acct (recItems ((itemsA l).map Rec.failed)) l [] :=
  .of_eq ((recItems_failed _).trans (List.append_nil _).symm)

theorem enqueueLocal_acct (env : Env) (actors : List Actor) (grains : List Grain) :
    Acct (recItems (enqueueLocal env actors grains)) actors grains := by
  rw [Acct, enqueueLocal, recItems_append, recItems_map_of _ (localRec_item env), recItems_map_of _ (localRec_item env)]

@[simp] theorem batchesItems_nil : batchesItems [] = [] := rfl
@[simp] theorem batchesItems_cons (b : Batch) (bs : List Batch) :
    batchesItems (b :: bs) = batchItems b ++ batchesItems bs := by simp [batchesItems]
theorem batchesItems_append (x y : List Batch) : batchesItems (x ++ y) = batchesItems x ++ batchesItems y := by
  simp [batchesItems]

/-- delivered records ++ unsent remainder account for exactly the batches handed to `sendBatches` -/
theorem sendBatches_items (env : Env) (p : Nat) (bs : List Batch) :
    recItems (sendBatches env p bs).1 ++ batchesItems (sendBatches env p bs).2 = batchesItems bs := by
  fun_induction sendBatches env p bs with
  | case1 => rfl -- no batch left
  | case2 b bs _ r ih => -- `b` reaches the peer: delivered, on with the rest
    simp only [recItems_append, batchesItems_cons, List.append_assoc]
    rw [recItems_map_of _ (remoteRec_item env p), ih]
  | case3 => simp -- the peer is out of reach: everything left is unsent

theorem unsent_items (env : Env) (bs : List Batch) : recItems (unsent env bs) = batchesItems bs :=
  recItems_map_of _ (unsentRec_item env) _

theorem batchesItems_map_actors (cs : List (List Actor)) : batchesItems (cs.map Batch.actors) = itemsA cs.flatten := by
  rw [batchesItems, List.map_map, itemsA, List.map_flatten]; rfl

theorem batchesItems_map_grains (cs : List (List Grain)) : batchesItems (cs.map Batch.grains) = itemsG cs.flatten := by
  rw [batchesItems, List.map_map, itemsG, List.map_flatten]; rfl

theorem buildBatches_items (bs : Nat) (hbs : 0 < bs) (actors : List Actor) (grains : List Grain) :
    batchesItems (buildBatches bs actors grains) = itemsA actors ++ itemsG grains := by
  simp only [buildBatches, batchesItems_append, batchesItems_map_actors, batchesItems_map_grains,
    chunkify_flatten _ _ hbs]

/-- a whole share sent to one target: delivered ++ (recorded or released) unsent = the share -/
theorem send_share_acct (env : Env) (bs : Nat) (hbs : 0 < bs) (p : Nat) (a : List Actor) (g : List Grain) :
    Acct (recItems ((sendBatches env p (buildBatches bs a g)).1 ++ unsent env (sendBatches env p (buildBatches bs a g)).2))
      a g := by
  rw [Acct, recItems_append, unsent_items, sendBatches_items, buildBatches_items bs hbs]

theorem sendShares_acct (env : Env) (bs : Nat) (hbs : 0 < bs) (target : Nat) (i : Nat)
    (as : List (List Actor)) (gs : List (List Grain)) (hl : as.length = gs.length) :
    Acct (recItems (sendShares env bs target i as gs)) as.flatten gs.flatten := by
  induction as generalizing gs i with
  | nil =>
    cases gs with
    | nil => exact .of_eq rfl
    | cons g gs => cases hl
  | cons a as ih =>
    cases gs with
    | nil => cases hl
    | cons g gs =>
      rw [sendShares, recItems_append, List.flatten_cons, List.flatten_cons]
      refine Acct.append ?_ (ih (i + 1) gs (Nat.succ.inj hl))
      split
      · rename_i he
        simp only [Bool.and_eq_true, List.isEmpty_iff] at he
        rw [he.1, he.2]; exact .of_eq rfl
      · exact send_share_acct env bs hbs _ a g

theorem requests_acct (rs : List Batch) :
    Acct (batchesItems rs) (requestActors (rs.map toRequest)) (requestGrains (rs.map toRequest)) := by
  induction rs with
  | nil => exact .of_eq rfl
  | cons b rs ih =>
    have hb : Acct (batchItems b) (toRequest b).actors (toRequest b).grains := by
      cases b with
      | actors l => exact .of_eq (List.append_nil _).symm
      | grains l => exact .of_eq rfl
    exact hb.append ih

/-- `relocateShare` accounts for every item of the share exactly once -/
theorem relocateShare_items (env : Env) (bs : Nat) (hbs : 0 < bs) (leaderRoles : List Role)
    (peers : List (List Role)) (target : Nat) (requests : List Batch) :
    (recItems (relocateShare env bs leaderRoles peers target requests)).Perm (batchesItems requests) := by
  simp only [relocateShare]
  have hsend := sendBatches_items env target requests
  split
  · rename_i hemp
    rw [List.isEmpty_iff.mp hemp, batchesItems_nil, List.append_nil] at hsend
    rw [hsend]
  · obtain ⟨hlenA, hpermA, hpermG, hne, hnil⟩ :=
      redistribute_accounting ((sendBatches env target requests).2.map toRequest) (peers.eraseIdx target) leaderRoles
    generalize redistribute ((sendBatches env target requests).2.map toRequest) (peers.eraseIdx target) leaderRoles = d at *
    have hlen : d.actorShares.length = d.grainShares.length := by
      by_cases hs : peers.eraseIdx target = []
      · rw [(hnil hs).1, hlenA, hs]; rfl
      · rw [(hne hs).1, hlenA]
    -- the unsent remainder: failure records, the leader's part, the survivors' shares
    have hrest := ((failed_acct d.failedActors).append ((enqueueLocal_acct env d.leaderActors d.leaderGrains).append
      (sendShares_acct env bs hbs target 0 d.actorShares d.grainShares hlen))).congr
      ((List.perm_append_comm.trans (List.perm_append_comm.append_right _)).trans hpermA.symm)
      (List.perm_append_comm.trans hpermG : (d.leaderGrains ++ d.grainShares.flatten).Perm _)
    rw [← hsend]
    simp only [recItems_append, List.append_assoc]
    exact (hrest.trans (requests_acct _).symm).append_left _

theorem fanOut_acct (f : Nat → List Actor → List Grain → List Rec) (hf : ∀ p a g, Acct (recItems (f p a g)) a g)
    (n p : Nat) (as : List (List Actor)) (gs : List (List Grain)) (ha : as.length ≤ n) (hg : gs.length ≤ n) :
    Acct (recItems (fanOut f n p as gs)) as.flatten gs.flatten := by
  induction n generalizing p as gs with
  | zero =>
    rw [List.eq_nil_of_length_eq_zero (Nat.le_zero.mp ha), List.eq_nil_of_length_eq_zero (Nat.le_zero.mp hg)]
    exact .of_eq rfl
  | succ n ih =>
    rw [fanOut, recItems_append, ← headD_append_flatten_tail as, ← headD_append_flatten_tail gs, List.drop_one, List.drop_one]
    exact (hf p _ _).append (ih (p + 1) as.tail gs.tail (List.length_tail ▸ Nat.sub_le_of_le_add ha)
      (List.length_tail ▸ Nat.sub_le_of_le_add hg))

/-- the whole run: one record per actor of the snapshot and per relocatable grain -/
theorem relocate_items (env : Env) (bs : Nat) (hbs : 0 < bs) (leaderRoles : List Role) (peers : List (List Role))
    (base : List Nat) (actorOrder : List Actor) (grainOrder : List Grain) :
    (recItems (relocate env bs leaderRoles peers base actorOrder grainOrder)).Perm
      (itemsA actorOrder ++ itemsG (relocatableGrains grainOrder)) := by
  obtain ⟨hwalk, hlenA⟩ := allocateActors_walk leaderRoles peers base actorOrder
  obtain ⟨hgeq, hlenG, _⟩ := allocateGrains_spec (peers.length + 1) (relocatableGrains grainOrder) (Nat.succ_pos _)
  simp only [relocate, recItems_append]
  generalize allocateActors leaderRoles peers base actorOrder = plan at *
  generalize allocateGrains (peers.length + 1) (relocatableGrains grainOrder) = gplan at *
  have hfan := fanOut_acct (fun p a g => relocateShare env bs leaderRoles peers p (buildBatches bs a g))
    (fun p a g => (relocateShare_items env bs hbs leaderRoles peers p _).trans (.of_eq (buildBatches_items bs hbs a g)))
    peers.length 0 (plan.2.1.drop 1) (gplan.2.drop 1)
    (by rw [List.length_drop, hlenA]; exact Nat.le_refl _)
    (by rw [List.length_drop]; exact Nat.sub_le_of_le_add hlenG)
  -- failure records, the leader's part, the peers' shares: the plan in the order `allocateActors_walk` gives it
  exact (((failed_acct plan.2.2).append (enqueueLocal_acct env plan.1 gplan.1)).append hfan).congr hwalk (.of_eq hgeq)

theorem abortRecs_items (env : Env) (actors : List Actor) (grainOrder : List Grain) :
    recItems (abortRecs env actors grainOrder) = itemsA actors ++ itemsG (relocatableGrains grainOrder) := by
  simp only [abortRecs, recItems_append, recItems_failed]
  rw [recItems_map_of _ (unsentRec_item env)]

end GoaktVerif.C33
