/-
Helper lemmas about Lean's fixed-width integers, used to tie go2lean output (Int64/UInt32 …)
to Nat/Int-level models.
-/
namespace GoaktVerif.FixedWidth

/-- Go `uint32(len)` for an `int` that fits: low 32 bits = the value -/
theorem int64_toInt32_toUInt32_toNat (len : Int64) (h0 : 0 ≤ len.toInt) (h1 : len.toInt < 2^32) :
    (len.toInt32.toUInt32).toNat = len.toInt.toNat := by
  simp [← UInt32.toNat_toBitVec, BitVec.signExtend, - Int64.toNat_toInt]
  omega

/-- Go `int(i)` for `i : uint32` is the value -/
theorem uint32_toUInt64_toInt64_toInt (i : UInt32) : (i.toUInt64.toInt64).toInt = (i.toNat : Int) := by
  have := i.toNat_lt
  simp only [Int64.toInt, UInt64.toBitVec_toInt64, BitVec.toInt, UInt64.toNat_toBitVec, UInt32.toNat_toUInt64]
  split <;> omega

/-- Go's `a + b` on int64 is the sum when the sum fits -/
theorem toInt_add_of_fits (a b : Int64) (h1 : -2 ^ 63 ≤ a.toInt + b.toInt) (h2 : a.toInt + b.toInt < 2 ^ 63) :
    (a + b).toInt = a.toInt + b.toInt := by
  rw [Int64.toInt_add]; exact Int.bmod_eq_of_le (by omega) (by omega)

theorem toInt_sub_of_fits (a b : Int64) (h1 : -2 ^ 63 ≤ a.toInt - b.toInt) (h2 : a.toInt - b.toInt < 2 ^ 63) :
    (a - b).toInt = a.toInt - b.toInt := by
  rw [Int64.toInt_sub]; exact Int.bmod_eq_of_le (by omega) (by omega)

end GoaktVerif.FixedWidth
