/-
C08 helper lemmas: Go's `>>` / `<<` on int64 (GoSem.shrInt64 / shlInt64, as emitted by go2lean)
expressed as floor division / multiplication by 2^k over Int, for every shift count in [0,64); and the three int64
additions and subtractions of the regenerated code that do not wrap.
-/
import GoaktVerif.GoSem
import GoaktVerif.Lemmas.FixedWidth
namespace GoaktVerif.C08L
open GoaktVerif

theorem smod64 (x : BitVec 64) (h : x.toNat < 64) : x.smod 64#64 = x := by
  have hm : x.msb = false := by
    rw [BitVec.msb_eq_decide]; simp; omega
  have h64 : (64#64 : BitVec 64).msb = false := by decide
  unfold BitVec.smod
  rw [hm, h64]
  apply BitVec.eq_of_toNat_eq
  simp [BitVec.toNat_umod]
  omega

theorem toNat_of_nonneg (s : Int64) (h : 0 ≤ s.toInt) : s.toBitVec.toNat = s.toInt.toNat := by
  have := s.toBitVec.isLt
  simp only [Int64.toInt, BitVec.toInt] at h ⊢
  split at h <;> split <;> omega

theorem not_ge64 (s : Int64) (h0 : 0 ≤ s.toInt) (h1 : s.toInt < 64) : ¬ (s.toUInt64 ≥ 64) := by
  have hn := toNat_of_nonneg s h0
  rw [ge_iff_le, UInt64.le_iff_toNat_le]
  simp only [← UInt64.toNat_toBitVec, Int64.toBitVec_toUInt64]
  show ¬ (64 ≤ _)
  omega

/-- Go `m >> uint(s)` for 0 ≤ s < 64 is floor division by 2^s (arithmetic shift) -/
theorem shrInt64_toInt (m s : Int64) (h0 : 0 ≤ s.toInt) (h1 : s.toInt < 64) :
    (GoSem.shrInt64 m s.toUInt64).toInt = m.toInt / 2 ^ s.toInt.toNat := by
  have hn := toNat_of_nonneg s h0
  have hlt : s.toBitVec.toNat < 64 := by omega
  unfold GoSem.shrInt64
  rw [if_neg (not_ge64 s h0 h1), Int64.toInt64_toUInt64]
  simp only [Int64.toInt, Int64.toBitVec_shiftRight, BitVec.toInt_sshiftRight',
    Int.shiftRight_eq_div_pow]
  simp only [Int64.toInt] at hn
  have e : s.toBitVec.smod 64 = s.toBitVec := smod64 _ hlt
  rw [e, hn]
  simp

/-- Go `i << uint(s)` for 0 ≤ s < 64, i ≥ 0, is multiplication by 2^s as long as the product fits -/
theorem shlInt64_toInt (i s : Int64) (h0 : 0 ≤ s.toInt) (h1 : s.toInt < 64)
    (hi : 0 ≤ i.toInt) (hfit : i.toInt * 2 ^ s.toInt.toNat < 2 ^ 63) :
    (GoSem.shlInt64 i s.toUInt64).toInt = i.toInt * 2 ^ s.toInt.toNat := by
  have hn := toNat_of_nonneg s h0
  have hin := toNat_of_nonneg i hi
  have hlt : s.toBitVec.toNat < 64 := by omega
  unfold GoSem.shlInt64
  rw [if_neg (not_ge64 s h0 h1), Int64.toInt64_toUInt64]
  have e : s.toBitVec.smod 64 = s.toBitVec := smod64 _ hlt
  simp only [Int64.toInt, Int64.toBitVec_shiftLeft, e, BitVec.shiftLeft_eq', BitVec.toInt_shiftLeft,
    Nat.shiftLeft_eq]
  simp only [Int64.toInt] at hn hin hfit hi
  rw [hn, hin]
  generalize s.toBitVec.toInt.toNat = k at *
  have hp : (0:Int) < 2 ^ k := Int.pow_pos (by decide)
  have hnn : 0 ≤ i.toBitVec.toInt * 2 ^ k := Int.mul_nonneg hi (Int.le_of_lt hp)
  have cast : ((i.toBitVec.toInt.toNat * 2 ^ k : Nat) : Int) = i.toBitVec.toInt * 2 ^ k := by
    rw [Int.natCast_mul, Int.toNat_of_nonneg hi]; simp
  rw [cast]
  apply Int.bmod_eq_of_le <;> omega

theorem sub_one_toInt (n : Int64) (h : 1 ≤ n.toInt) : (n - 1).toInt = n.toInt - 1 := by
  have hb := n.toInt_lt
  exact FixedWidth.toInt_sub_of_fits n 1 (by show _ ≤ _ - 1; omega) (by show _ - 1 < _; omega)

theorem add_one_toInt (a : Int64) (h : a.toInt < 2 ^ 63 - 1) : (a + 1).toInt = a.toInt + 1 := by
  have hb := a.le_toInt
  exact FixedWidth.toInt_add_of_fits a 1 (by show _ ≤ _ + 1; omega) (by show _ + 1 < _; omega)

theorem sub_toInt (a b : Int64) (ha : 0 ≤ a.toInt) (hb : 0 < b.toInt) : (a - b).toInt = a.toInt - b.toInt := by
  have h1 := a.toInt_lt
  have h2 := b.toInt_lt
  exact FixedWidth.toInt_sub_of_fits a b (by omega) (by omega)

end GoaktVerif.C08L
