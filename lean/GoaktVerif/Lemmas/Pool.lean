/-
A clause of a pool of records (threads, segments, actors) after one member moved: it holds of the member that moved
for a reason of its own, and of every other member because it held before (the frame).  Both representations the
models use: a function `Nat → α` updated at one point (the lemmas speak of `if j = i then a else f j`, which every
`upd`/`setT` of the models unfolds to), and a list with `List.set`, read by position, or a list that gained a record
at its end; for lists also a clause about every two members.  For the function form also a ghost owner: the one
member whose record is in a given class.
-/
import GoaktVerif.Lemmas.ListFacts

namespace GoaktVerif.Pool

section function
variable {α : Type} {f : Nat → α} {i : Nat} {a : α}

theorem forall_upd {P : Nat → α → Prop} (hi : P i a) (hj : ∀ j, j ≠ i → P j (f j)) (j : Nat) :
    P j (if j = i then a else f j) := by
  split
  next e => exact e ▸ hi
  next ne => exact hj j ne

/-- a reflexive relation between the old and the new record at every index -/
theorem refl_upd {R : α → α → Prop} (hr : ∀ x, R x x) (hi : R (f i) a) (j : Nat) : R (f j) (if j = i then a else f j) :=
  forall_upd (P := fun j y => R (f j) y) hi (fun j _ => hr (f j)) j

end function

/-! A ghost field `o` names the one member of the pool whose record is in the class `flag`
(C06: `win` and `inWin`; C31: `dea` and `direct`). -/
section owner
variable {α : Type} {f : Nat → α} {i : Nat} {a : α}

variable {flag : α → Bool} {o : Option Nat} (h : ∀ j, flag (f j) = true ↔ o = some j)
include h

theorem owner_upd {o' : Option Nat} (hi : flag a = true ↔ o' = some i) (ho : ∀ j, j ≠ i → (o = some j ↔ o' = some j)) :
    ∀ j, flag (if j = i then a else f j) = true ↔ o' = some j :=
  forall_upd (P := fun j t => flag t = true ↔ o' = some j) hi fun j ne => (h j).trans (ho j ne)

theorem owner_move (ha : flag a = flag (f i)) : ∀ j, flag (if j = i then a else f j) = true ↔ o = some j :=
  owner_upd h (ha ▸ h i) fun _ _ => .rfl

theorem owner_enter (ho : o = none) (ha : flag a = true) : ∀ j, flag (if j = i then a else f j) = true ↔ some i = some j :=
  owner_upd h ⟨fun _ => rfl, fun _ => ha⟩ fun _ ne => ho ▸ ⟨nofun, fun e => absurd (Option.some.inj e).symm ne⟩

theorem owner_leave (ho : o = some i) (ha : flag a = false) : ∀ j, flag (if j = i then a else f j) = true ↔ none = some j :=
  owner_upd h ⟨fun e => (nomatch ha.symm.trans e), nofun⟩ fun _ ne => ho ▸ ⟨fun e => absurd (Option.some.inj e).symm ne, nofun⟩

end owner

section list
variable {α : Type _} {l : List α} {i : Nat} {a' : α}

theorem forall_set {J : Nat → α → Prop} (hi : J i a') (ho : ∀ (j : Nat) b, j ≠ i → l[j]? = some b → J j b) :
    ∀ (j : Nat) b, (l.set i a')[j]? = some b → J j b := fun j b hj => by
  rcases getElem?_set_cases hj with ⟨rfl, rfl⟩ | ⟨e, hj⟩
  · exact hi
  · exact ho j b e hj

theorem forall_snoc {J : Nat → α → Prop} {d : α} (hd : J l.length d) (ho : ∀ (j : Nat) b, l[j]? = some b → J j b) :
    ∀ (j : Nat) b, (l ++ [d])[j]? = some b → J j b := fun j b hj =>
  (getElem?_snoc hj).elim (ho j b) fun e => e.1 ▸ e.2 ▸ hd

/-- two positions: both old, or one of them the new record (`hn`, in both orders), or both the new record -/
theorem pair_set {K : Nat → α → Nat → α → Prop} (hii : K i a' i a')
    (hK : ∀ (j k : Nat) b c, l[j]? = some b → l[k]? = some c → K j b k c)
    (hn : ∀ (j : Nat) b, j ≠ i → l[j]? = some b → K i a' j b ∧ K j b i a') :
    ∀ (j k : Nat) b c, (l.set i a')[j]? = some b → (l.set i a')[k]? = some c → K j b k c := fun j k b c hj hk => by
  rcases getElem?_set_cases hj with ⟨rfl, rfl⟩ | ⟨ej, hj'⟩ <;> rcases getElem?_set_cases hk with ⟨rfl, rfl⟩ | ⟨ek, hk'⟩
  · exact hii
  · exact (hn k c ek hk').1
  · exact (hn j b ej hj').2
  · exact hK j k b c hj' hk'

/-- `pair_set` for two distinct positions -/
theorem ne_set {K : Nat → α → Nat → α → Prop}
    (hK : ∀ (j k : Nat) b c, j ≠ k → l[j]? = some b → l[k]? = some c → K j b k c)
    (hn : ∀ (j : Nat) b, j ≠ i → l[j]? = some b → K i a' j b ∧ K j b i a') :
    ∀ (j k : Nat) b c, j ≠ k → (l.set i a')[j]? = some b → (l.set i a')[k]? = some c → K j b k c :=
  fun j k b c g hj hk => pair_set (K := fun j b k c => j ≠ k → K j b k c) (fun g => absurd rfl g)
    (fun j k b c hj hk g => hK j k b c g hj hk) (fun j b e hj => ⟨fun _ => (hn j b e hj).1, fun _ => (hn j b e hj).2⟩)
    j k b c hj hk g

end list

end GoaktVerif.Pool
