import GoaktVerif.Model.C20.Queue
import GoaktVerif.Spec.C20

/-
C20 — basic facts used by the queue theorems: the FIFO replay, the equations of `stepP` and `spawn`, heap reads after
heap writes, and linked chains.
-/

namespace GoaktVerif.C20
open GoaktVerif.Model.C20 GoaktVerif.Model.C20.Queue
open GoaktVerif.Spec.C20 (replay enqVals deqVals)

theorem replay_append (es fs : List Queue.Ev) (q : List Nat) :
    replay (es ++ fs) q = (replay es q).bind (replay fs) := by
  induction es generalizing q with
  | nil => simp [replay]
  | cons e es ih =>
    cases e with
    | enq v => simp [replay, ih]
    | deq r =>
      cases r with
      | none =>
        simp only [List.cons_append, replay]
        split
        · exact ih q
        · simp
      | some v =>
        cases q with
        | nil => simp [replay]
        | cons x q' =>
          simp only [List.cons_append, replay]
          split
          · exact ih q'
          · simp

/-- In a FIFO history nothing is lost, duplicated or reordered: what was there plus what was enqueued is what
was dequeued followed by what is left. -/
theorem replay_conservation (es : List Queue.Ev) (q0 q : List Nat) (h : replay es q0 = some q) :
    q0 ++ enqVals es = deqVals es ++ q := by
  induction es generalizing q0 with
  | nil => simp [replay] at h; simp [enqVals, deqVals, h]
  | cons e es ih =>
    cases e with
    | enq v =>
      simp only [replay] at h
      have := ih _ h
      simp [enqVals, deqVals] at this ⊢
      exact this
    | deq r =>
      cases r with
      | none =>
        simp only [replay] at h
        split at h
        · simpa [enqVals, deqVals] using ih _ h
        · cases h
      | some v =>
        cases q0 with
        | nil => simp [replay] at h
        | cons x q' =>
          simp only [replay] at h
          split at h
          · rename_i hx
            subst hx
            have := ih _ h
            simp [enqVals, deqVals, this]
          · cases h

def idle (p : List Op) : Thread := { pc := none, cur := none, prog := p, hist := [] }

theorem spawn_cons (c : Cfg) (p : List Op) (ps : List (List Op)) :
    spawn c (p :: ps) =
      spawn { (startNext c (idle p) none).1 with
              threads := (startNext c (idle p) none).1.threads ++ [(startNext c (idle p) none).2] } ps := rfl

theorem getItem_set_threads (c : Cfg) (ths : List Thread) (pick : Option Nat) (v : Val) :
    getItem { c with threads := ths } pick v =
      ((getItem c pick v).1, { (getItem c pick v).2 with threads := ths }) := by
  obtain ⟨mode, nodes, head, tail, len, pool, active, threads, lin⟩ := c
  cases mode <;> cases pick <;> try rfl
  rename_i i
  simp only [getItem]
  cases pool[i]? <;> rfl

theorem getItem_frame (c : Cfg) (pick v) : (getItem c pick v).2.threads = c.threads ∧ (getItem c pick v).2.lin = c.lin := by
  unfold getItem
  split
  · split <;> exact ⟨rfl, rfl⟩
  · exact ⟨rfl, rfl⟩

theorem startNext_set_threads (c : Cfg) (ths : List Thread) (t0 : Thread) (pick : Option Nat) :
    startNext { c with threads := ths } t0 pick =
      ({ (startNext c t0 pick).1 with threads := ths }, (startNext c t0 pick).2) := by
  unfold startNext
  cases t0.prog with
  | nil => rfl
  | cons op rest =>
    cases op with
    | enq v => simp only [getItem_set_threads]
    | _ => rfl

theorem startNext_frame (c : Cfg) (t0 : Thread) (pick : Option Nat) :
    (startNext c t0 pick).1.threads = c.threads ∧ (startNext c t0 pick).1.lin = c.lin := by
  unfold startNext
  cases t0.prog with
  | nil => exact ⟨rfl, rfl⟩
  | cons op rest =>
    cases op with
    | enq v => exact getItem_frame c pick v
    | _ => exact ⟨rfl, rfl⟩

def upd (c : Cfg) (tid : Nat) (t : Thread) : Cfg := { c with threads := c.threads.set tid t }

theorem stepP_none {pick : Option Nat} {c : Cfg} {tid : Nat} (ht : c.threads[tid]? = none) : stepP pick c tid = c := by
  simp only [stepP, ht]

theorem stepP_done {pick : Option Nat} {c : Cfg} {tid : Nat} {t : Thread} (ht : c.threads[tid]? = some t) (hpc : t.pc = none) :
    stepP pick c tid = c := by
  simp only [stepP, ht, hpc]

theorem stepP_eq (pick : Option Nat) (c : Cfg) (tid : Nat) (t : Thread) (pc : PC)
    (ht : c.threads[tid]? = some t) (hpc : t.pc = some pc) :
    stepP pick c tid = upd (exec c tid t pick pc).1 tid (exec c tid t pick pc).2 := by
  simp only [stepP, ht, hpc, upd]

theorem nextOf_setNext_self (c : Cfg) (i : NodeId) (x : Option NodeId) (h : i < c.nodes.length) :
    nextOf (setNext c i x) i = x := by
  simp [nextOf, setNext, h]

theorem nextOf_setNext_ne (c : Cfg) (i j : NodeId) (x : Option NodeId) (h : j ≠ i) :
    nextOf (setNext c i x) j = nextOf c j := by
  simp only [nextOf, setNext, List.getElem?_modify]
  have : ¬ i = j := fun e => h e.symm
  simp [this]

theorem valOf_setNext (c : Cfg) (i j : NodeId) (x : Option NodeId) : valOf (setNext c i x) j = valOf c j := by
  simp only [valOf, setNext, List.getElem?_modify]
  by_cases h : i = j
  · subst h; cases c.nodes[i]? <;> simp
  · simp [h]

theorem nextOf_setVal (c : Cfg) (i j : NodeId) (x : Option Val) : nextOf (setVal c i x) j = nextOf c j := by
  simp only [nextOf, setVal, List.getElem?_modify]
  by_cases h : i = j
  · subst h; cases c.nodes[i]? <;> simp
  · simp [h]

theorem valOf_setVal_self (c : Cfg) (i : NodeId) (x : Option Val) (h : i < c.nodes.length) :
    valOf (setVal c i x) i = x := by
  simp [valOf, setVal, h]

theorem valOf_setVal_ne (c : Cfg) (i j : NodeId) (x : Option Val) (h : j ≠ i) :
    valOf (setVal c i x) j = valOf c j := by
  simp only [valOf, setVal, List.getElem?_modify]
  have : ¬ i = j := fun e => h e.symm
  simp [this]

theorem length_setNext (c : Cfg) (i x) : (setNext c i x).nodes.length = c.nodes.length := by simp [setNext]
theorem length_setVal (c : Cfg) (i x) : (setVal c i x).nodes.length = c.nodes.length := by simp [setVal]

def alloc (c : Cfg) (nd : Node) : Cfg := { c with nodes := c.nodes ++ [nd] }

theorem length_alloc (c : Cfg) (nd : Node) : (alloc c nd).nodes.length = c.nodes.length + 1 := by simp [alloc]

theorem nextOf_alloc_old (c : Cfg) (nd : Node) (j : NodeId) (h : j < c.nodes.length) :
    nextOf (alloc c nd) j = nextOf c j := by
  simp [nextOf, alloc, List.getElem?_append_left h]

theorem valOf_alloc_old (c : Cfg) (nd : Node) (j : NodeId) (h : j < c.nodes.length) :
    valOf (alloc c nd) j = valOf c j := by
  simp [valOf, alloc, List.getElem?_append_left h]

theorem nextOf_alloc_new (c : Cfg) (nd : Node) : nextOf (alloc c nd) c.nodes.length = nd.next := by
  simp [nextOf, alloc]

theorem valOf_alloc_new (c : Cfg) (nd : Node) : valOf (alloc c nd) c.nodes.length = nd.val := by
  simp [valOf, alloc]

theorem nextOf_some_lt (c : Cfg) (i x : NodeId) (h : nextOf c i = some x) : i < c.nodes.length := by
  unfold nextOf at h
  cases hi : c.nodes[i]? with
  | none => simp [hi] at h
  | some nd => exact (List.getElem?_eq_some_iff.mp hi).1

/-- consecutive nodes are linked by `next`, and the last one has `next = nil` -/
def Linked (c : Cfg) : List NodeId → Prop
  | [] => True
  | [i] => nextOf c i = none
  | i :: j :: rest => nextOf c i = some j ∧ Linked c (j :: rest)

theorem linked_cons {c : Cfg} {a : NodeId} {l : List NodeId} : Linked c (a :: l) ↔ nextOf c a = l.head? ∧ Linked c l := by
  cases l with
  | nil => exact ⟨fun h => ⟨h, trivial⟩, fun h => h.1⟩
  | cons b r => exact Iff.rfl

/-- a chain read at any of its nodes: `next` of the node is the node after it, nil at the end -/
theorem linked_iff {c : Cfg} {l : List NodeId} :
    Linked c l ↔ ∀ l1 i rest, l = l1 ++ i :: rest → nextOf c i = rest.head? := by
  induction l with
  | nil => exact ⟨fun _ l1 i rest e => absurd e (by simp), fun _ => trivial⟩
  | cons a l ih =>
    rw [linked_cons, ih]
    constructor
    · intro h l1 i rest e
      cases l1 with
      | nil => cases e; exact h.1
      | cons x l1 => cases e; exact h.2 l1 i rest rfl
    · exact fun h => ⟨h [] a l rfl, fun l1 i rest e => h (a :: l1) i rest (e ▸ rfl)⟩

theorem Linked.tail {c : Cfg} {i : NodeId} {l : List NodeId} (h : Linked c (i :: l)) : Linked c l :=
  (linked_cons.mp h).2

theorem Linked.next_of_split {c : Cfg} (l1 : List NodeId) {i x : NodeId} {l2 : List NodeId}
    (h : Linked c (l1 ++ i :: x :: l2)) : nextOf c i = some x :=
  linked_iff.mp h l1 i (x :: l2) rfl

theorem Linked.none_of_last {c : Cfg} {l : List NodeId} {t : NodeId} (hl : Linked c l) (h : l.getLast? = some t) :
    nextOf c t = none := by
  obtain ⟨ys, rfl⟩ := List.getLast?_eq_some_iff.mp h
  exact linked_iff.mp hl ys t [] rfl

theorem Linked.post_of_next {c : Cfg} {pre post : List NodeId} {i y : NodeId} (hl : Linked c (pre ++ i :: post))
    (hn : nextOf c i = some y) : ∃ l2, post = y :: l2 := by
  have := linked_iff.mp hl pre i post rfl
  rw [hn] at this
  cases post with
  | nil => cases this
  | cons z l2 => cases this; exact ⟨l2, rfl⟩

theorem Linked.mem_of_some {c : Cfg} {l : List NodeId} {i x : NodeId} (hl : Linked c l) (hm : i ∈ l)
    (hn : nextOf c i = some x) : x ∈ l := by
  obtain ⟨l1, rest, rfl⟩ := List.append_of_mem hm
  obtain ⟨l2, rfl⟩ := hl.post_of_next hn
  simp

theorem Linked.last_of_none {c : Cfg} {l : List NodeId} {i : NodeId} (hl : Linked c l) (hm : i ∈ l)
    (hn : nextOf c i = none) : l.getLast? = some i := by
  obtain ⟨l1, rest, rfl⟩ := List.append_of_mem hm
  have := linked_iff.mp hl l1 i rest rfl
  rw [hn] at this
  cases rest with
  | nil => simp
  | cons _ _ => cases this

theorem Linked.frame {c c' : Cfg} {l : List NodeId} (hl : Linked c l) (hf : ∀ i ∈ l, nextOf c' i = nextOf c i) :
    Linked c' l :=
  linked_iff.mpr fun l1 i rest e =>
    (hf i (e ▸ List.mem_append_right _ (List.mem_cons_self ..))).trans (linked_iff.mp hl l1 i rest e)

theorem Linked.append {c c' : Cfg} : ∀ {l : List NodeId} {t n : NodeId}, Linked c l → l.getLast? = some t →
    (∀ i ∈ l, i ≠ t → nextOf c' i = nextOf c i) → nextOf c' t = some n → nextOf c' n = none → Linked c' (l ++ [n])
  | [], _, _, _, hlast, _, _, _ => by simp at hlast
  | [a], t, n, _, hlast, _, ht, hn => by
    simp at hlast; subst hlast
    exact ⟨ht, hn⟩
  | a :: b :: rest, t, n, hl, hlast, hf, ht, hn => by
    have hlast' : (b :: rest).getLast? = some t := by simpa [List.getLast?_cons_cons] using hlast
    -- `a` has a successor in the old heap, the last node `t` has none
    have hat : a ≠ t := fun e => by
      have := hl.none_of_last hlast
      rw [← e, hl.1] at this
      cases this
    exact ⟨by rw [hf a (by simp) hat]; exact hl.1,
      Linked.append hl.2 hlast' (fun i hi => hf i (List.mem_cons_of_mem _ hi)) ht hn⟩

end GoaktVerif.C20
