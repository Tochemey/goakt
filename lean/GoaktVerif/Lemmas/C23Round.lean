import GoaktVerif.Lemmas.C23Total
import GoaktVerif.Spec.C23
import GoaktVerif.Lemmas.Assoc
/-
Round trips: the metadata codec, and the frames the encoders produce (they are in header form) under the
framing functions and the client's format detection.
-/
namespace GoaktVerif.C23
open GoaktVerif.Model.C23

theorem mapSet_fresh : ∀ (m : Headers) (k v : Bytes), (∀ kv ∈ m, kv.1 ≠ k) → mapSet m k v = m ++ [(k, v)] := by
  intro m
  induction m with
  | nil => intro k v _; rfl
  | cons x xs ih =>
    intro k v h
    obtain ⟨k', v'⟩ := x
    have hne : k' ≠ k := h (k', v') (by simp)
    simp only [mapSet, hne, if_false, List.cons_append]
    rw [ih k v (fun kv hkv => h kv (by simp [hkv]))]

theorem nodup_of_distinctKeys : ∀ hs : Headers, Spec.C23.distinctKeys hs = true → (hs.map (·.1)).Nodup
  | [], _ => List.nodup_nil
  | kv :: rest, h => by
    simp only [Spec.C23.distinctKeys, Bool.and_eq_true, Bool.not_eq_true', List.any_eq_false, beq_iff_eq] at h
    rw [List.map_cons, List.nodup_cons]
    exact ⟨fun hm => by obtain ⟨e, he, heq⟩ := List.mem_map.mp hm; exact h.1 e he heq, nodup_of_distinctKeys rest h.2⟩

theorem foldl_mapSet (hs : Headers) (hd : Spec.C23.distinctKeys hs = true) :
    hs.foldl (fun m kv => mapSet m kv.1 kv.2) [] = hs :=
  (Assoc.foldl_set_fresh mapSet mapSet_fresh id hs [] (nodup_of_distinctKeys hs hd) nofun).trans
    (List.map_id'' (fun _ => rfl) hs)

theorem mdLoop_enc (data : Bytes) : ∀ (hs : Headers) (pos : Nat) (suf : Bytes) (m : Headers),
    data.drop pos = hs.flatMap encHeader ++ suf →
    (∀ kv ∈ hs, kv.1.length < 65536 ∧ kv.2.length < 65536) →
    mdLoop data hs.length pos m =
      .ok (pos + (hs.flatMap encHeader).length, hs.foldl (fun m kv => mapSet m kv.1 kv.2) m) := by
  intro hs
  induction hs with
  | nil => intro pos suf m _ _; rfl
  | cons x xs ih =>
    intro pos suf m hd hlim
    obtain ⟨k, v⟩ := x
    obtain ⟨hk, hv⟩ := hlim (k, v) (by simp)
    have d0 : data.drop pos = be16 k.length ++ (k ++ (be16 v.length ++ (v ++ (xs.flatMap encHeader ++ suf)))) := by
      rw [hd]; simp only [List.flatMap_cons, encHeader, List.append_assoc]
    have d1 := drop_add_of_drop d0
    have d2 := drop_add_of_drop d1
    have d3 := drop_add_of_drop d2
    have d4 := drop_add_of_drop d3
    have hlen : pos + 2 + k.length + 2 + v.length ≤ data.length := by
      have := congrArg List.length d0
      simp only [List.length_drop, List.length_append, be16_length] at this
      omega
    have ⟨b1, b2, b3, b4⟩ : ¬MdNeeds pos 2 data.length ∧ ¬MdNeeds (pos + 2) k.length data.length ∧
        ¬MdNeeds (pos + 2 + k.length) 2 data.length ∧ ¬MdNeeds (pos + 2 + k.length + 2) v.length data.length := by
      omega
    simp only [be16_length] at d1 d2 d3 d4
    simp only [List.length_cons, mdLoop]
    rw [if_neg b1, u16At_of_drop d0 hk]; dsimp only
    rw [if_neg b2, slice_of_drop d1 (Nat.le_of_not_lt b2)]; dsimp only
    rw [if_neg b3, u16At_of_drop d2 hv]; dsimp only
    rw [if_neg b4, slice_of_drop d3 (Nat.le_of_not_lt b4)]; dsimp only
    rw [ih _ suf _ d4 fun kv hkv => hlim kv (by simp [hkv])]
    simp only [List.foldl_cons, List.flatMap_cons, List.length_append, encHeader, be16_length]
    congr 2
    omega

/-- `Metadata.UnmarshalBinary ∘ Metadata.MarshalBinary` = identity on header map and remaining time -/
theorem metadata_roundtrip (hs : Headers) (r : Int) (hl : Spec.C23.inLimits hs = true)
    (hd : Spec.C23.distinctKeys hs = true) (h1 : -2 ^ 63 ≤ r) (h2 : r < 2 ^ 63) :
    mdUnmarshal (mdMarshal hs r) = .ok ⟨hs, r⟩ := by
  obtain ⟨hcount, hlim⟩ : hs.length < 65536 ∧ ∀ kv ∈ hs, kv.1.length < 65536 ∧ kv.2.length < 65536 := by
    simpa [Spec.C23.inLimits] using hl
  have hlen : (mdMarshal hs r).length = 2 + (hs.flatMap encHeader).length + 8 := by
    simp only [mdMarshal, List.length_append, be16_length, be64_length]; omega
  have d2 : (mdMarshal hs r).drop 2 = hs.flatMap encHeader ++ be64 (ofInt64 r) := rfl
  unfold mdUnmarshal
  rw [if_neg (by omega), u16At_of_drop (d := mdMarshal hs r) (pos := 0) rfl hcount]; dsimp only
  rw [mdLoop_enc _ hs 2 _ [] d2 hlim, foldl_mapSet hs hd]; dsimp only
  rw [if_neg (by omega), u64At_of_drop (rest := []) (by rw [drop_add_of_drop d2, List.append_nil]) (ofInt64_lt r)]
  exact congrArg (fun r => Except.ok (MD.mk hs r)) (wrap64_id h1 h2)

theorem mdMarshal_length_pos (hs : Headers) (rem : Int) : (mdMarshal hs rem).length > 0 := by
  simp only [mdMarshal, List.length_append, be16_length, be64_length]; omega

/-- the bytes `MarshalBinary` produces -/
def legacyFrame (name payload : Bytes) : Bytes :=
  be32 (4 + 4 + name.length + payload.length) ++ (be32 name.length ++ (name ++ payload))

/-- the bytes `MarshalBinaryWithMetadata` produces -/
def metaFrame (name payload mb : Bytes) : Bytes :=
  be32 (4 + 4 + name.length + 4 + mb.length + payload.length) ++
    (be32 name.length ++ (be32 mb.length ++ (name ++ (mb ++ payload))))

theorem marshal_eq {name : Bytes} (payload : Bytes) (h : 0 < name.length) :
    marshal name payload = .ok (legacyFrame name payload) :=
  if_neg (by omega)

theorem marshalWithMeta_eq {name : Bytes} (payload mb : Bytes) (h : 0 < name.length) :
    marshalWithMeta name payload mb = .ok (metaFrame name payload mb) :=
  if_neg (by omega)

theorem legacyFrame_length (name payload : Bytes) : (legacyFrame name payload).length = 8 + name.length + payload.length := by
  rw [legacyFrame, hdr8_length, List.length_append]; omega

theorem metaFrame_length (name payload mb : Bytes) :
    (metaFrame name payload mb).length = 12 + name.length + mb.length + payload.length := by
  rw [metaFrame, hdr12_length]; simp only [List.length_append]; omega

theorem frameLegacy_legacyFrame (name payload : Bytes) (htot : 8 + name.length + payload.length < 2 ^ 32) :
    frameLegacy (legacyFrame name payload) = .ok ⟨name, [], payload⟩ := by
  rw [legacyFrame, frameLegacy_hdr (by omega) (by omega), if_neg (by rw [List.length_append]; omega),
    List.take_left, List.drop_left, List.take_of_length_le (by omega)]

theorem frameMeta_metaFrame (name payload mb : Bytes)
    (htot : 12 + name.length + mb.length + payload.length < 2 ^ 32) :
    frameMeta (metaFrame name payload mb) = .ok ⟨name, mb, payload⟩ := by
  rw [metaFrame, frameMeta_hdr (by omega) (by omega) (by omega),
    if_neg (by simp only [List.length_append]; omega),
    List.take_left, List.drop_left, List.take_left, List.drop_left, List.take_of_length_le (by omega)]

theorem clientTriesMeta_metaFrame (name payload mb : Bytes)
    (htot : 12 + name.length + mb.length + payload.length < 2 ^ 32) :
    clientTriesMeta (metaFrame name payload mb) = decide (0 < name.length) := by
  rw [metaFrame, clientTriesMeta_hdr (by omega) (by omega) (by omega)]
  exact decide_eq_decide.mpr ⟨fun h => h.1, fun h => ⟨h, by omega⟩⟩

/-- a legacy frame of 12 bytes or more in the shape the metadata parser sees: bytes 8:12, read as the metadata
    length, are at least `first name byte · 2^24` -/
theorem legacyFrame_hdr12 {name payload : Bytes} {a : UInt8} {name' : Bytes} (hn : name = a :: name')
    (h12 : 12 ≤ (legacyFrame name payload).length) :
    ∃ K body, K < 2 ^ 32 ∧ a.toNat * 2 ^ 24 ≤ K ∧ name ++ payload = be32 K ++ body := by
  rw [legacyFrame_length] at h12
  obtain ⟨K, body, hK, heq⟩ := exists_be32 (d := name ++ payload) (by rw [List.length_append]; omega)
  refine ⟨K, body, hK, ?_, heq⟩
  rw [hn] at heq
  have ha : a = UInt8.ofNat (K / 2 ^ 24) := (List.cons.inj heq).1
  rw [ha, UInt8.toNat_ofNat']
  omega

/-- the guard `total length < 12 + nameLen + firstNameByte · 2^24` keeps a legacy frame out of the metadata-format framing
    and away from the client's heuristic -/
theorem legacyFrame_not_meta {name payload : Bytes} {a : UInt8} {name' : Bytes} (hn : name = a :: name')
    (htot : 8 + name.length + payload.length < 12 + name.length + a.toNat * 2 ^ 24)
    (h32 : 8 + name.length + payload.length < 2 ^ 32) :
    frameMeta (legacyFrame name payload) = .error .invalidLength ∧ clientTriesMeta (legacyFrame name payload) = false := by
  by_cases h12 : (legacyFrame name payload).length < 12
  · exact ⟨if_pos h12, if_pos h12⟩
  · obtain ⟨K, body, hK, hge, heq⟩ := legacyFrame_hdr12 hn (payload := payload) (by omega)
    rw [legacyFrame, heq, frameMeta_hdr (by omega) (by omega) hK, clientTriesMeta_hdr (by omega) (by omega) hK,
      if_pos (by omega)]
    exact ⟨rfl, decide_eq_false fun h => by have := h.2; omega⟩

end GoaktVerif.C23
