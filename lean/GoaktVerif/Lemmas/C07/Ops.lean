/-
C07, the remaining ops (ping, reinstate, age): each replaces one child.  What no op touches: the clock (but for the tick of
`step`) and the number of children.
-/
import GoaktVerif.Lemmas.C07.Step

namespace GoaktVerif.C07
open GoaktVerif.Model.C07 GoaktVerif.Spec.C07

theorem setChild_self {f : Family} {i : Nat} {c : Child} (hc : f.cs[i]? = some c) : setChild f i c = f := by
  obtain ⟨hlt, heq⟩ := List.getElem?_eq_some_iff.mp hc
  simp only [setChild]
  rw [← heq, List.set_getElem_self]

/-- `c'` may be `c` itself; `ψ` as in `inv_mapIdx` -/
theorem replace_refines {opts : List Opt} {f f' : Family} {h : Hists} {i : Nat} {c : Child} (c' : Child)
    (ψ : Nat → List Int → List Int) (P : Nat → CObs → CObs → Bool) (hinv : Inv opts f h) (hc : f.cs[i]? = some c)
    (hnow : 0 < f'.now) (hw : ChildWF (window f.sup) c') (hh : c'.hist = ψ i c.hist) (hψ : ∀ j l, j ≠ i → ψ j l = l)
    (hi : P i c.obs c'.obs = true) (ho : ∀ j (b : Child), j ≠ i → P j b.obs b.obs = true)
    (hcs : f'.cs = f.cs.set i c' := by rfl) (hsup : f'.sup = f.sup := by rfl) (hp : f'.pSig = f.pSig := by rfl)
    (hg : f'.gSig = f.gSig := by rfl) :
    (f'.obs.pSig == f.obs.pSig && f'.obs.gSig == f.obs.gSig && allIdx f.obs.cs f'.obs.cs P) = true
    ∧ Inv opts f' (h.mapIdx ψ) := by
  have hcs := hcs.trans (setChild_cs f i c')
  constructor
  · rw [show f'.obs.pSig = f.obs.pSig from hp, show f'.obs.gSig = f.obs.gSig from hg, beq_self_eq_true, beq_self_eq_true]
    apply allIdx_mapIdx f _ _ P hcs
    intro j b hb
    by_cases hji : j = i
    · subst hji; rw [hb] at hc; cases hc; rw [if_pos rfl]; exact hi
    · rw [if_neg hji]; exact ho j b hji
  · refine inv_mapIdx ψ hinv hsup hnow hcs ?_ ?_
    · intro j b _ hb
      split
      · exact hw
      · exact hb
    · intro j b hb
      by_cases hji : j = i
      · subst hji; rw [hb] at hc; cases hc; rw [if_pos rfl]; exact hh
      · rw [if_neg hji, hψ j _ hji]

theorem ping_refines {opts : List Opt} {f : Family} {h : Hists} {i : Nat} {c : Child} (hinv : Inv opts f h)
    (hc : f.cs[i]? = some c) :
    checkPing i f.obs (step f (.ping i)).1.obs (step f (.ping i)).2.1 = true ∧ Inv opts (step f (.ping i)).1 h := by
  have hstep : step f (.ping i) = (setChild (tickF f) i (if c.alive then { c with handled := c.handled + 1 } else c),
      if c.alive then .ok else .dead, []) := by
    simp only [step, getD_fresh hc]
    cases c.alive
    · exact congrArg (·, Res.dead, []) (setChild_self (f := tickF f) hc).symm
    · rfl
  rw [hstep, mapIdx_self h]
  refine replace_refines _ _ _ hinv hc (inv_tick hinv).now_pos ?_ ?_ (fun _ _ _ => rfl) ?_ ?_
  · split
    · exact (hinv.wf i c hc).of_fields (hinv.wf i c hc).run_of_susp
    · exact hinv.wf i c hc
  · split <;> rfl
  · cases ha : c.alive
    · simp [show c.obs.alive = false from ha]
    · simp [show c.obs.alive = true from ha, visible_ping]
  · intro j b hji; simp [hji]

theorem reinstate_refines {opts : List Opt} {f : Family} {h : Hists} {i : Nat} {c : Child} (hinv : Inv opts f h)
    (hc : f.cs[i]? = some c) :
    checkReinstate i f.obs (step f (.reinstate i)).1.obs (step f (.reinstate i)).2.1 = true
    ∧ Inv opts (step f (.reinstate i)).1 h := by
  have hw := hinv.wf i c hc
  have hself := (setChild_self (f := tickF f) hc).symm
  have hstep : (step f (.reinstate i)).1 = setChild (tickF f) i (if c.reg && c.susp then (doReinstate c).1 else c)
      ∧ (step f (.reinstate i)).2.1 = if c.reg then .ok else .err := by
    simp only [step, getD_fresh hc, Child.alive]
    cases c.reg <;> cases c.susp <;> cases c.running <;> exact ⟨by first | rfl | exact hself, rfl⟩
  rw [hstep.1, hstep.2, mapIdx_self h]
  refine replace_refines _ _ _ hinv hc (inv_tick hinv).now_pos ?_ ?_ (fun _ _ _ => rfl) ?_ ?_
  · split
    · exact wf_doReinstate hw
    · exact hw
  · unfold doReinstate; split <;> (try split) <;> rfl
  · cases hr : c.reg <;> cases hs : c.susp
    all_goals simp [show c.obs.reg = _ from hr, show c.obs.susp = _ from hs]
    exact visible_reinstate c hs hw.run_of_susp
  · intro j b hji; simp [hji]

/-- age is a harness intervention: both sides move the current run of consecutive faults into the distant past -/
theorem age_refines {opts : List Opt} {f : Family} {h : Hists} {i : Nat} {c : Child} (hinv : Inv opts f h)
    (hc : f.cs[i]? = some c) :
    checkAge f.obs (step f (.age i)).1.obs = true ∧ (step f (.age i)).2.1 = .ok
    ∧ Inv opts (step f (.age i)).1 (ageHists (window (newSupervisor opts)) i h) := by
  have hw := hinv.wf i c hc
  have hstep : step f (.age i) =
      (setChild (tickF f) i (if c.last = 0 then c else { c with last := 1, hist := List.replicate c.cf 1 }), .ok, []) := by
    simp only [step, getD_fresh hc]
    split
    · exact congrArg (·, Res.ok, []) (setChild_self (f := tickF f) hc).symm
    · rfl
  rw [hstep]
  obtain ⟨h1, h2⟩ := replace_refines (opts := opts) (f := f) (f' := setChild (tickF f) i _) (h := h) (i := i) (c := c)
    (if c.last = 0 then c else { c with last := 1, hist := List.replicate c.cf 1 })
    (fun j l => if j == i then List.replicate (specCount (window (newSupervisor opts)) l) 1 else l)
    (fun _ bj aj => visible aj == visible bj) hinv hc (inv_tick hinv).now_pos
    (by split
        · exact hw
        · next hl => exact wf_age hw hl)
    (by rw [beq_self_eq_true, if_pos rfl, ← hinv.sup, ← hw.cf_eq]
        split
        · next hl => rw [(last_zero_iff hw).mp hl, hw.cf_eq, (last_zero_iff hw).mp hl]; rfl
        · rfl)
    (fun j _ hji => by simp [hji])
    (by split <;> simp [visible_age])
    (fun j b _ => by simp)
  exact ⟨h1, rfl, h2⟩

/- Every branch below ends in `{ f with cs := mapGroup .. | f.cs.set .., pSig := _ }`, so the two projections are pushed
   through the `if`s and both arms agree. -/

theorem handleRestartDirective_frame (f : Family) (i : Nat) (all : Bool) :
    (handleRestartDirective f i all).1.now = f.now ∧ (handleRestartDirective f i all).1.cs.length = f.cs.length := by
  simp only [handleRestartDirective, mapGroup, apply_ite Prod.fst, apply_ite Family.now, apply_ite Family.cs,
    apply_ite List.length, List.length_mapIdx, ite_self, and_self]

theorem handlePanicking_frame (g : Family) (i : Nat) (d : Directive) :
    (handlePanicking g i d).1.now = g.now ∧ (handlePanicking g i d).1.cs.length = g.cs.length := by
  simp only [handlePanicking, handleStopDirective, handleRestartDirective_frame, mapGroup, apply_ite Prod.fst,
    apply_ite Family.now, apply_ite Family.cs, apply_ite List.length, List.length_mapIdx, List.length_set, ite_self, setChild,
    and_self]

theorem notifyParent_frame (g : Family) (i : Nat) (ty : Option ErrType) :
    (notifyParent g i ty).1.now = g.now ∧ (notifyParent g i ty).1.cs.length = g.cs.length := by
  -- `fun_cases f args` yields one goal per leaf of the definition of `f`: the guards passed on the way as hypotheses, the leaf's
  -- result in the goal; `case1`, `case2`, … follow the order of the leaves in Model/C07.lean.
  fun_cases notifyParent g i ty
  -- ErrDead; Resume for a child that is not suspended: nothing happens
  case case1 | case4 => exact ⟨rfl, rfl⟩
  -- no directive: the child is suspended; Resume for a suspended child: it is reinstated
  case case2 | case3 => exact ⟨rfl, List.length_set⟩
  -- any other directive: `handlePanicking` on the family with the child suspended
  case case5 d _ _ f2 ev hx =>
    have hf := handlePanicking_frame (setChild g i (suspend (g.cs.getD i Child.fresh))) i d
    rw [show handlePanicking _ i d = (f2, ev) from hx] at hf
    exact ⟨hf.1, hf.2.trans List.length_set⟩

theorem step_frame (f : Family) (op : Op) : (step f op).1.now = f.now + tick ∧ (step f op).1.cs.length = f.cs.length := by
  cases op <;> simp only [step, notifyParent_frame, apply_ite Prod.fst, apply_ite Family.now, apply_ite Family.cs,
    apply_ite List.length, List.length_set, ite_self, setChild, and_self]

end GoaktVerif.C07
