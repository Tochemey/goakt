/-
C07, per-child facts: the invariant of one child, and the oracle's per-child check of what each primitive does.
-/
import GoaktVerif.Model.C07
import GoaktVerif.Spec.C07

namespace GoaktVerif.C07
open GoaktVerif.Model.C07 GoaktVerif.Spec.C07

/-- per-child invariant: a suspended actor still has its running flag; the fault counter is the
    count of the recorded history; the last stamp is the newest entry; stamps are positive; no PreStart
    failure is scripted -/
structure ChildWF (w : Int) (c : Child) : Prop where
  run_of_susp : c.susp = true → c.running = true
  cf_eq : c.cf = specCount w c.hist
  last_eq : c.last = c.hist.head?.getD 0
  pos : ∀ t ∈ c.hist, 0 < t
  nofail : c.failNext = 0

theorem ChildWF.of_fields {w c c'} (h : ChildWF w c) (hs : c'.susp = true → c'.running = true)
    (hcf : c'.cf = c.cf := by rfl) (hh : c'.hist = c.hist := by rfl) (hl : c'.last = c.last := by rfl)
    (hf : c'.failNext = c.failNext := by rfl) : ChildWF w c' :=
  ⟨hs, (by rw [hcf, hh]; exact h.cf_eq), (by rw [hl, hh]; exact h.last_eq), (by rw [hh]; exact h.pos),
    (by rw [hf]; exact h.nofail)⟩

theorem wf_fresh (w : Int) : ChildWF w Child.fresh :=
  ⟨fun h => Bool.noConfusion h, rfl, rfl, fun _ h => (List.not_mem_nil h).elim, rfl⟩

theorem wf_suspend {w c} (h : ChildWF w c) (hr : c.running = true) : ChildWF w (suspend c) :=
  h.of_fields (fun _ => hr)

theorem wf_doReinstate {w c} (h : ChildWF w c) : ChildWF w (doReinstate c).1 := by
  -- `fun_cases f args` yields one goal per leaf of the definition of `f`: the guards passed on the way as hypotheses, the leaf's
  -- result in the goal; `case1`, `case2`, … follow the order of the leaves in Model/C07.lean.
  fun_cases doReinstate c
  -- alive: untouched
  case case1 => exact h
  -- else the suspension is lifted
  case case2 => exact h.of_fields (fun h => nomatch h)

theorem wf_stopOne {w c} (h : ChildWF w c) : ChildWF w (stopOne c) := by
  unfold stopOne
  fun_cases shutdown c
  -- not running: only deregistered
  case case1 => exact h.of_fields h.run_of_susp
  -- running: stopped
  case case2 => exact h.of_fields (fun h => nomatch h)

/-- `restartOne` without the embedded shutdown: PostStop ran iff the child was running -/
theorem restartOne_fst (c : Child) :
    (restartOne c).1 =
      { c with pre := c.pre + 1, post := c.post + (if c.alive then 1 else 0), handled := 0, running := true,
               reg := true, susp := false, rc := c.rc + 1 } := by
  unfold restartOne shutdown Child.alive
  cases c.running <;> cases c.susp <;> rfl

theorem restartOne_snd (c : Child) : (restartOne c).2 = c.alive := by
  unfold restartOne shutdown Child.alive
  cases c.running <;> cases c.susp <;> simp

theorem wf_restartOne {w c} (h : ChildWF w c) : ChildWF w (restartOne c).1 := by
  rw [restartOne_fst]
  exact h.of_fields (fun h => nomatch h)

/-- `recordFault` computes the spec's consecutive-fault count of the extended history -/
theorem recordFault_cf {w c} (now : Int) (h : ChildWF w c) :
    (recordFault w now c).cf = specCount w (now :: c.hist) := by
  have h2 := h.cf_eq
  have h3 := h.last_eq
  -- the model's reset test reads `c.last`, which `last_eq` makes the head of the history: the two `if`s have one condition
  show (if w > 0 ∧ c.last > 0 ∧ now - c.last > w then 0 else c.cf) + 1 = _
  cases hh : c.hist with
  | nil =>
    rw [hh] at h2 h3
    rw [if_neg (fun hc => by rw [h3] at hc; exact Int.lt_irrefl 0 hc.2.1), h2]; rfl
  | cons t rest =>
    rw [hh] at h2 h3
    rw [show c.last = t from h3, h2, specCount]; split <;> rfl

theorem wf_recordFault {w c} (now : Int) (hn : 0 < now) (h : ChildWF w c) : ChildWF w (recordFault w now c) := by
  refine ⟨h.run_of_susp, recordFault_cf now h, rfl, ?_, h.nofail⟩
  intro t ht
  rcases List.mem_cons.mp ht with rfl | ht
  · exact hn
  · exact h.pos t ht

theorem specCount_replicate_one (w : Int) (n : Nat) : specCount w (List.replicate n 1) = n := by
  induction n with
  | zero => simp [specCount]
  | succ n ih =>
    cases n with
    | zero => simp [specCount]
    | succ m =>
      simp only [List.replicate_succ] at ih ⊢
      simp only [specCount]
      rw [if_neg (by omega)]
      omega

theorem specCount_pos (w : Int) (t : Int) (l : List Int) : 0 < specCount w (t :: l) := by
  cases l with
  | nil => simp [specCount]
  | cons t' r => simp only [specCount]; split <;> omega

theorem wf_age {w c} (h : ChildWF w c) (hl : c.last ≠ 0) :
    ChildWF w { c with last := 1, hist := List.replicate c.cf 1 } := by
  obtain ⟨h1, h2, h3, h4, h5⟩ := h
  have hne : c.hist ≠ [] := by
    intro he; rw [he] at h3; simp at h3; exact hl h3
  obtain ⟨t, r, htr⟩ := List.exists_cons_of_ne_nil hne
  have hpos : 0 < c.cf := by rw [h2, htr]; exact specCount_pos w t r
  constructor
  · exact h1
  · simp [specCount_replicate_one]
  · obtain ⟨k, hk⟩ := Nat.exists_eq_succ_of_ne_zero (Nat.pos_iff_ne_zero.mp hpos)
    simp [hk, List.replicate_succ]
  · intro t ht
    simp only [List.mem_replicate] at ht
    omega
  · exact h5

theorem last_zero_iff {w c} (h : ChildWF w c) : c.last = 0 ↔ c.hist = [] := by
  obtain ⟨_, _, h3, h4⟩ := h
  constructor
  · intro hl
    cases hh : c.hist with
    | nil => rfl
    | cons t r =>
      rw [hh] at h3 h4
      simp at h3
      have := h4 t (by simp)
      omega
  · intro he; rw [he] at h3; simpa using h3

theorem recordFault_reg (w now : Int) (c : Child) : (recordFault w now c).reg = c.reg := rfl
theorem recordFault_hist (w now : Int) (c : Child) : (recordFault w now c).hist = now :: c.hist := rfl
theorem recordFault_alive (w now : Int) (c : Child) : (recordFault w now c).alive = c.alive := rfl

/-- the child as `handlePanicking` finds it: the faulty one has been suspended by `notifyParent` -/
def seen (i j : Nat) (c : Child) : Child := if j = i then suspend c else c

theorem seen_self (i : Nat) (c : Child) : seen i i c = suspend c := if_pos rfl
theorem seen_ne {i j : Nat} (h : j ≠ i) (c : Child) : seen i j c = c := if_neg h

theorem seen_hist (i j : Nat) (c : Child) : (seen i j c).hist = c.hist := by
  unfold seen suspend; split <;> rfl

theorem seen_reg (i j : Nat) (c : Child) : (seen i j c).reg = c.reg := by
  unfold seen suspend; split <;> rfl

theorem check_same (v : Variant) (e : Expect) (fa : Bool) (c : Child) :
    checkChild v e fa false c.obs c.obs = true := by
  simp [checkChild]

theorem check_unchanged (v : Variant) (e : Expect) (fa g : Bool) (c : Child)
    (he : e = .dead ∨ e = .ignored ∨ e = .resume) : checkChild v e fa g c.obs c.obs = true := by
  rcases he with rfl | rfl | rfl <;> cases g <;> simp [checkChild]

theorem check_suspended (v : Variant) (e : Expect) (c : Child)
    (he : e = .suspendOnly ∨ e = .escalate ∨ e = .invalid) :
    checkChild v e true true c.obs (suspend c).obs = true := by
  have hv : visible (suspend c).obs = { visible c.obs with alive := false, susp := true } := by
    simp [visible, Child.obs, suspend, Child.alive]
  rcases he with rfl | rfl | rfl <;> simp [checkChild, hv]

theorem alive_iff (c : Child) : c.alive = true ↔ c.running = true ∧ c.susp = false := by
  simp [Child.alive]

theorem wf_seen {w i j c} (h : ChildWF w c) (hr : j = i → c.alive = true) : ChildWF w (seen i j c) := by
  unfold seen
  split
  · next hji => exact wf_suspend h ((alive_iff c).mp (hr hji)).1
  · exact h

theorem stopOne_hist (c : Child) : (stopOne c).hist = c.hist := by
  unfold stopOne shutdown; split <;> rfl

theorem suspendSibling_hist (i j : Nat) (c : Child) : (suspendSibling i j c).hist = c.hist := by
  unfold suspendSibling suspend; split <;> rfl

theorem wf_suspendSibling {w : Int} (i j : Nat) {c : Child} (h : ChildWF w c) : ChildWF w (suspendSibling i j c) := by
  fun_cases suspendSibling i j c
  -- a live sibling is suspended
  case case1 hc => exact wf_suspend h ((alive_iff c).mp (Bool.and_eq_true _ _ ▸ hc).2).1
  -- the faulty child itself, or a dead one: untouched
  case case2 => exact h

theorem check_stop (v : Variant) (i j : Nat) (c : Child) (hw : c.susp = true → c.running = true)
    (ha : j = i → c.alive = true) :
    checkChild v .stop (j == i) true c.obs (stopOne (seen i j c)).obs = true := by
  by_cases hji : j = i
  · obtain ⟨hr, hs⟩ := (alive_iff c).mp (ha hji)
    rw [hji, seen_self]
    simp [checkChild, stopOne, shutdown, suspend, Child.obs, Child.alive, hr, hs]
  · rw [seen_ne hji]
    cases hr : c.running <;> cases hs : c.susp <;>
      simp [checkChild, stopOne, shutdown, Child.obs, Child.alive, hr, hs]
    simp [hr] at hw; simp [hw] at hs

theorem check_restart (v : Variant) {w now : Int} (i j : Nat) (c : Child) :
    checkChild v .restart (j == i) true c.obs (restartOne (recordFault w now (seen i j c))).1.obs = true := by
  rw [restartOne_fst]
  by_cases hji : j = i
  · rw [hji, seen_self]; simp [checkChild, recordFault, suspend, Child.obs, Child.alive]
  · rw [seen_ne hji]; simp [hji, checkChild, recordFault, Child.obs, Child.alive]

theorem check_exhausted (v : Variant) {w now : Int} (i j : Nat) (c : Child) (ha : j = i → c.alive = true) :
    checkChild v .exhausted (j == i) true c.obs (suspendSibling i j (recordFault w now (seen i j c))).obs = true := by
  by_cases hji : j = i
  · obtain ⟨hr, hs⟩ := (alive_iff c).mp (ha hji)
    rw [hji, seen_self]
    simp [checkChild, suspendSibling, recordFault, suspend, Child.obs, Child.alive, hr, hs]
  · rw [seen_ne hji]
    cases hr : c.running <;> cases hs : c.susp <;>
      simp [hji, checkChild, suspendSibling, recordFault, suspend, Child.obs, Child.alive, hr, hs]

theorem visible_ping (c : Child) :
    visible ({ c with handled := c.handled + 1 } : Child).obs = { visible c.obs with handled := c.obs.handled + 1 } :=
  rfl

theorem visible_reinstate (c : Child) (hs : c.susp = true) (hw : c.susp = true → c.running = true) :
    visible (doReinstate c).1.obs = { visible c.obs with susp := false, alive := true } := by
  simp [doReinstate, visible, Child.obs, Child.alive, hs, hw hs]

theorem visible_age (c : Child) (l : Int) (h : List Int) :
    visible ({ c with last := l, hist := h } : Child).obs = visible c.obs :=
  rfl

end GoaktVerif.C07
