/-
C07, the family: every op changes the children pointwise (`f'.cs = f.cs.mapIdx φ`); the oracle's index-wise checks
and the invariant are established child by child from such an equation.  An op that replaces one child (`setChild`) is
read as such a pass too (`setChild_cs`), so that it shares `inv_mapIdx` with the passes over a group.
-/
import GoaktVerif.Lemmas.C07.Child

namespace GoaktVerif.C07
open GoaktVerif.Model.C07 GoaktVerif.Spec.C07

/-- invariant tying the model state to the oracle's own state -/
structure Inv (opts : List Opt) (f : Family) (h : Hists) : Prop where
  sup : f.sup = newSupervisor opts
  hists : h = f.cs.map (·.hist)
  wf : ∀ (j : Nat) (c : Child), f.cs[j]? = some c → ChildWF (window f.sup) c
  now_pos : 0 < f.now

theorem getD_fresh {l : List Child} {i : Nat} {c : Child} (h : l[i]? = some c) : l.getD i Child.fresh = c := by
  simp [List.getD_eq_getElem?_getD, h]

theorem obs_cs (f : Family) : f.obs.cs = f.cs.map Child.obs := rfl

theorem allIdx_of (b a : Family) (P : Nat → CObs → CObs → Bool) (hlen : a.cs.length = b.cs.length)
    (H : ∀ (j : Nat) (bj : Child), b.cs[j]? = some bj → ∃ aj, a.cs[j]? = some aj ∧ P j bj.obs aj.obs = true) :
    allIdx b.obs.cs a.obs.cs P = true := by
  unfold allIdx
  simp only [obs_cs, List.length_map, hlen, beq_self_eq_true, Bool.true_and, List.all_eq_true, List.mem_range]
  intro j hj
  have hb : b.cs[j]? = some b.cs[j] := by simp [hj]
  obtain ⟨aj, ha, hc⟩ := H j _ hb
  simp only [List.getElem?_map, hb, ha, Option.map_some]
  exact hc

theorem allIdx_mapIdx (b a : Family) (φ : Nat → Child → Child) (P : Nat → CObs → CObs → Bool)
    (hcs : a.cs = b.cs.mapIdx φ) (H : ∀ (j : Nat) (c : Child), b.cs[j]? = some c → P j c.obs (φ j c).obs = true) :
    allIdx b.obs.cs a.obs.cs P = true :=
  allIdx_of b a P (by rw [hcs, List.length_mapIdx]) fun j c hc =>
    ⟨φ j c, by rw [hcs, List.getElem?_mapIdx, hc]; rfl, H j c hc⟩

/-- `ψ` is what the oracle does to its own fault histories -/
theorem inv_mapIdx {opts : List Opt} {f f' : Family} {h : Hists} {φ : Nat → Child → Child}
    (ψ : Nat → List Int → List Int) (hinv : Inv opts f h) (hsup : f'.sup = f.sup) (hnow : 0 < f'.now)
    (hcs : f'.cs = f.cs.mapIdx φ)
    (hwf : ∀ (j : Nat) (c : Child), f.cs[j]? = some c → ChildWF (window f.sup) c → ChildWF (window f.sup) (φ j c))
    (hh : ∀ (j : Nat) (c : Child), f.cs[j]? = some c → (φ j c).hist = ψ j c.hist) :
    Inv opts f' (h.mapIdx ψ) := by
  obtain ⟨h1, h2, h3, h4⟩ := hinv
  refine ⟨hsup ▸ h1, ?_, ?_, hnow⟩
  · apply List.ext_getElem?
    intro j
    rw [h2, hcs, List.getElem?_mapIdx, List.getElem?_map, List.getElem?_map, List.getElem?_mapIdx]
    cases hc : f.cs[j]? with
    | none => rfl
    | some c => exact congrArg some (hh j c hc).symm
  · intro j c' hj
    rw [hcs, List.getElem?_mapIdx] at hj
    cases hc : f.cs[j]? with
    | none => rw [hc] at hj; cases hj
    | some c =>
      rw [hc] at hj
      cases hj
      exact hsup ▸ hwf j c hc (h3 j c hc)

theorem mapIdx_self (h : Hists) : h = h.mapIdx (fun _ l => l) :=
  List.ext_getElem? fun j => by simp

theorem setChild_cs (f : Family) (i : Nat) (c' : Child) :
    (setChild f i c').cs = f.cs.mapIdx (fun j c => if j = i then c' else c) := by
  apply List.ext_getElem?
  intro j
  rw [List.getElem?_mapIdx, setChild, List.getElem?_set]
  by_cases h : i = j
  · subst h
    by_cases hlt : i < f.cs.length <;> simp [hlt]
  · rw [if_neg h]
    cases f.cs[j]? <;> simp [Ne.symm h]

/-- the family after `notifyParent` suspended child `i` -/
def suspended (f : Family) (i : Nat) : Family := setChild f i (suspend (f.cs.getD i Child.fresh))

theorem sup_suspended (g : Family) (i : Nat) : (suspended g i).sup = g.sup := rfl
theorem now_suspended (g : Family) (i : Nat) : (suspended g i).now = g.now := rfl
theorem pSig_suspended (g : Family) (i : Nat) : (suspended g i).pSig = g.pSig := rfl
theorem gSig_suspended (g : Family) (i : Nat) : (suspended g i).gSig = g.gSig := rfl

theorem inGroup_self (f : Family) (all : Bool) (i : Nat) : inGroup f all i i = true := by
  simp [inGroup]

theorem inGroup_false (f : Family) (i j : Nat) : inGroup f false i j = (j == i) := by
  simp [inGroup]

theorem inGroup_mapIdx (f f' : Family) (φ : Nat → Child → Child) (hcs : f'.cs = f.cs.mapIdx φ)
    (hreg : ∀ j c, (φ j c).reg = c.reg) (all : Bool) (i j : Nat) : inGroup f' all i j = inGroup f all i j := by
  have key : ∀ k : Nat, (f'.cs.getD k Child.fresh).reg = (f.cs.getD k Child.fresh).reg := by
    intro k
    rw [hcs, List.getD_eq_getElem?_getD, List.getD_eq_getElem?_getD, List.getElem?_mapIdx]
    cases f.cs[k]? with
    | none => rfl
    | some c => exact hreg k c
  simp only [inGroup, key]

theorem group_eq_inGroup (f : Family) (i j : Nat) (ci cj : Child) (hi : f.cs[i]? = some ci) (hj : f.cs[j]? = some cj) :
    group f.sup.strategy f.obs i j = inGroup f (f.sup.strategy == .oneForAll) i j := by
  simp [group, inGroup, Family.obs, List.getElem?_map, hi, hj, Child.obs]

/-- a family that differs from `f` by `γ` on the members of the group of `i` as `handlePanicking` sees them -/
def GroupPass (f : Family) (all : Bool) (i : Nat) (γ : Nat → Child → Child) (f' : Family) : Prop :=
  f'.cs = f.cs.mapIdx (fun j c => if inGroup f all i j then γ j (seen i j c) else c)

theorem groupPass_suspended (f : Family) (all : Bool) (i : Nat) : GroupPass f all i (fun _ c => c) (suspended f i) := by
  unfold GroupPass suspended
  rw [setChild_cs, List.mapIdx_eq_mapIdx_iff]
  intro j hj
  by_cases hji : j = i
  · subst hji; simp [inGroup_self, seen_self, List.getD_eq_getElem?_getD, hj]
  · simp [seen_ne hji, hji]

theorem GroupPass.next {f f' : Family} {all : Bool} {i : Nat} {γ : Nat → Child → Child} (h : GroupPass f all i γ f')
    (hreg : ∀ j c, (γ j c).reg = c.reg) {g : Nat → Child → Child} {f'' : Family}
    (hcs : f''.cs = mapGroup f' all i g) : GroupPass f all i (fun j c => g j (γ j c)) f'' := by
  have hin : ∀ j, inGroup f' all i j = inGroup f all i j :=
    inGroup_mapIdx f f' _ h (fun j c => by split <;> simp [hreg, seen_reg]) all i
  unfold GroupPass at h ⊢
  rw [hcs, mapGroup, h, List.mapIdx_mapIdx, List.mapIdx_eq_mapIdx_iff]
  intro j _
  simp only [Function.comp, hin]
  split <;> rfl

end GoaktVerif.C07
