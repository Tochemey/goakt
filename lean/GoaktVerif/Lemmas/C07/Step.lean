/-
C07, the failure path: `notifyParent` on a running child does what the text's `expect` prescribes (code variant)
and keeps the invariant.  Every branch is a pass over a group (`GroupPass`); `good_pass` reduces it to its members.
-/
import GoaktVerif.Lemmas.C07.Family
import GoaktVerif.Lemmas.C07.Lookup

namespace GoaktVerif.C07
open GoaktVerif.Model.C07 GoaktVerif.Spec.C07

/-- the family with the clock advanced (first thing `step` does) -/
def tickF (f : Family) : Family := { f with now := f.now + tick }

theorem inv_tick {opts f h} (hinv : Inv opts f h) : Inv opts (tickF f) h := by
  obtain ⟨h1, h2, h3, h4⟩ := hinv
  refine ⟨h1, h2, h3, ?_⟩
  simp only [tickF, tick]; omega

theorem tick_obs (f : Family) : (tickF f).obs = f.obs := rfl

theorem sig_same {v : Variant} {e : Expect} {i : Nat} {b a : Obs} (hp : a.pSig = b.pSig) (hg : a.gSig = b.gSig)
    (he : e ≠ .escalate) : checkSignals v e i b a = true := by
  -- `fun_cases f args` yields one goal per leaf of the definition of `f`: the guards passed on the way as hypotheses, the leaf's
  -- result in the goal; `case1`, `case2`, … follow the order of the leaves in Spec/C07.lean.
  fun_cases checkSignals v e i b a
  -- escalate, by the text and by the code: excluded
  case case1 | case2 => exact absurd rfl he
  -- any other expectation: both signal lists as they were
  case case3 => simp [hp, hg]

theorem branch_unchanged (v : Variant) (st : Strategy) (e : Expect) (i : Nat) (f : Family)
    (he : e = .dead ∨ e = .ignored ∨ e = .resume) :
    check v st e i f.obs f.obs = true := by
  unfold check
  rw [Bool.and_eq_true]
  constructor
  · exact allIdx_of f f _ rfl fun j bj hb => ⟨bj, hb, check_unchanged v e _ _ bj he⟩
  · exact sig_same rfl rfl (by rcases he with rfl | rfl | rfl <;> simp)

/-- what the oracle has to accept for one failure of a running child -/
def Good (opts : List Opt) (g g' : Family) (i : Nat) (e : Expect × Hists) : Prop :=
  check .code (newSupervisor opts).strategy e.1 i g.obs g'.obs = true ∧ e.1 ≠ .dead ∧ Inv opts g' e.2

/-- a pass over the group of a running child `i` is good when it is for each member; `ψ` as in `inv_mapIdx` -/
theorem good_pass {opts : List Opt} {g g' : Family} {h h' : Hists} {i : Nat} {c : Child} (e : Expect) (all : Bool)
    (γ : Nat → Child → Child) (ψ : Nat → List Int → List Int)
    (hinv : Inv opts g h) (hc : g.cs[i]? = some c) (ha : c.alive = true)
    (hp : GroupPass g all i γ g') (hsig : checkSignals .code e i g.obs g'.obs = true) (hne : e ≠ .dead)
    (hgrp : ∀ j cj, g.cs[j]? = some cj → groupFor e g.sup.strategy g.obs i j = inGroup g all i j)
    (hmem : ∀ j cj, g.cs[j]? = some cj → inGroup g all i j = true → ChildWF (window g.sup) cj →
      (j = i → cj.alive = true) →
      checkChild .code e (j == i) true cj.obs (γ j (seen i j cj)).obs = true
      ∧ ChildWF (window g.sup) (γ j (seen i j cj)) ∧ (γ j (seen i j cj)).hist = ψ j cj.hist)
    (hout : ∀ j cj, g.cs[j]? = some cj → inGroup g all i j = false → ψ j cj.hist = cj.hist) (hh' : h' = h.mapIdx ψ)
    (hsup : g'.sup = g.sup := by rfl) (hnow : g'.now = g.now := by rfl) : Good opts g g' i (e, h') := by
  have hfaulty : ∀ j cj, g.cs[j]? = some cj → j = i → cj.alive = true := by
    intro j cj hj hji; subst hji; rw [hj] at hc; cases hc; exact ha
  subst hh'
  refine ⟨?_, hne, ?_⟩
  · rw [← hinv.sup, check, hsig, Bool.and_true]
    apply allIdx_mapIdx g g' _ _ hp
    intro j cj hj
    rw [hgrp j cj hj]
    cases hg : inGroup g all i j with
    | true => exact (hmem j cj hj hg (hinv.wf j cj hj) (hfaulty j cj hj)).1
    | false => exact check_same .code e _ cj
  · apply inv_mapIdx ψ hinv hsup (hnow ▸ hinv.now_pos) hp
    · intro j cj hj hw
      cases hg : inGroup g all i j with
      | true => exact (hmem j cj hj hg hw (hfaulty j cj hj)).2.1
      | false => exact hw
    · intro j cj hj
      cases hg : inGroup g all i j with
      | true => exact (hmem j cj hj hg (hinv.wf j cj hj) (hfaulty j cj hj)).2.2
      | false => exact (hout j cj hj hg).symm

theorem inv_suspended {opts g h i c} (hinv : Inv opts g h) (hc : g.cs[i]? = some c) (hr : c.running = true) :
    Inv opts (suspended g i) h := by
  rw [mapIdx_self h]
  refine inv_mapIdx _ hinv rfl hinv.now_pos (setChild_cs g i _) ?_ ?_ <;> intro j b hb
  · intro hw
    split
    · next hji => subst hji; rw [getD_fresh hb]; rw [hb] at hc; cases hc; exact wf_suspend hw hr
    · exact hw
  · split
    · next hji => subst hji; rw [getD_fresh hb]; rfl
    · rfl

theorem good_suspended {opts g g' h i c} (e : Expect) (hinv : Inv opts g h) (hc : g.cs[i]? = some c)
    (ha : c.alive = true) (he : e = .suspendOnly ∨ e = .escalate ∨ e = .invalid)
    (hcs : g'.cs = (suspended g i).cs) (hsig : checkSignals .code e i g.obs g'.obs = true)
    (hsup : g'.sup = g.sup := by rfl) (hnow : g'.now = g.now := by rfl) : Good opts g g' i (e, h) := by
  refine good_pass (hsup := hsup) (hnow := hnow) e false (fun _ c => c) (fun _ l => l) hinv hc ha
    (hcs.trans (groupPass_suspended g false i)) hsig (by rcases he with rfl | rfl | rfl <;> simp) ?_ ?_ ?_ ?_
  · intro j cj _
    rw [inGroup_false]
    rcases he with rfl | rfl | rfl <;> rfl
  · intro j cj _ hg hw hal
    rw [inGroup_false, beq_iff_eq] at hg
    subst hg
    exact ⟨by rw [beq_self_eq_true, seen_self]; exact check_suspended .code e cj he, wf_seen hw hal, seen_hist _ _ _⟩
  · intro _ _ _ _; rfl
  · exact mapIdx_self h

theorem suspended_idem (g : Family) (i : Nat) : (suspended (suspended g i) i).cs = (suspended g i).cs := by
  simp only [suspended, setChild, List.getD_eq_getElem?_getD, List.getElem?_set, List.set_set]
  by_cases hlt : i < g.cs.length <;> simp [hlt, suspend]

theorem notify_some (g : Family) (i : Nat) (ty : ErrType) (d : Directive)
    (hl : lookup g.sup ty = some d) (hd : d ≠ dResume) :
    (notifyParent g i (some ty)).1 = (handlePanicking (suspended g i) i d).1 := by
  simp only [notifyParent, hl, hd, if_false]
  rfl

theorem notify_none (g : Family) (i : Nat) (ty : ErrType) (hl : lookup g.sup ty = none) :
    (notifyParent g i (some ty)).1 = suspended g i := by
  simp only [notifyParent, hl]
  rfl

theorem notify_resume (g : Family) (i : Nat) (ty : ErrType) (c : Child) (hc : g.cs[i]? = some c) (ha : c.alive = true)
    (hl : lookup g.sup ty = some dResume) :
    (notifyParent g i (some ty)).1 = g := by
  simp only [notifyParent, hl, if_true, getD_fresh hc, ((alive_iff c).mp ha).2]
  rfl

theorem handle_stop (g : Family) (i : Nat) :
    (handlePanicking g i dStop).1 =
      { g with cs := mapGroup g (g.sup.strategy == .oneForAll) i (fun _ c => stopOne c) } := by
  simp [handlePanicking, handleStopDirective]

theorem handle_escalate (g : Family) (i : Nat) :
    (handlePanicking g i dEscalate).1 = { g with pSig := g.pSig ++ [i] } := by
  simp [handlePanicking, dEscalate, dStop, dRestart, dResume]

theorem handle_invalid (g : Family) (i : Nat) (d : Directive)
    (h0 : d ≠ dStop) (h1 : d ≠ dResume) (h2 : d ≠ dRestart) (h3 : d ≠ dEscalate) :
    (handlePanicking g i d).1 = suspended g i := by
  simp [handlePanicking, h0, h1, h2, h3, suspended]

/-- `handleRestartDirective` when no PreStart is scripted to fail (`ChildWF.nofail`) -/
theorem handle_restart (g : Family) (i : Nat) (hnf : g.cs.all (fun c => c.failNext == 0) = true) :
    (handlePanicking g i dRestart).1 =
      let f1 : Family := { g with cs := mapGroup g (g.sup.strategy == .oneForAll) i
                                        (fun _ c => recordFault (window g.sup) g.now c) };
      { f1 with cs := mapGroup f1 (g.sup.strategy == .oneForAll) i
                        (if budgetExhausted g.sup (f1.cs.getD i Child.fresh).cf then suspendSibling i
                         else fun _ c => (restartOne c).1) } := by
  simp only [handlePanicking, handleRestartDirective, dRestart, dStop, hnf,
    show (2 : Nat) = 0 ↔ False from by decide, if_false, if_true]
  split <;> rfl

theorem good_stop {opts g h i c} (hinv : Inv opts g h) (hc : g.cs[i]? = some c) (ha : c.alive = true) :
    Good opts g (handlePanicking (suspended g i) i dStop).1 i (.stop, h) := by
  rw [handle_stop]
  refine good_pass .stop (g.sup.strategy == .oneForAll) (fun _ c => stopOne c) (fun _ l => l) hinv hc ha
    ((groupPass_suspended g _ i).next (fun _ _ => rfl) rfl) (sig_same rfl rfl (by simp)) (by simp)
    ?_ ?_ ?_ ?_
  · exact fun j cj hj => group_eq_inGroup g i j c cj hc hj
  · intro j cj _ _ hw hal
    exact ⟨check_stop .code i j cj hw.run_of_susp hal, wf_stopOne (wf_seen hw hal), by rw [stopOne_hist, seen_hist]⟩
  · intro _ _ _ _; rfl
  · exact mapIdx_self h

theorem all_nofail {opts : List Opt} {f : Family} {h : Hists} (hinv : Inv opts f h) :
    f.cs.all (fun c => c.failNext == 0) = true := by
  rw [List.all_eq_true]
  intro c hc
  obtain ⟨j, hj, rfl⟩ := List.getElem_of_mem hc
  simp [(hinv.wf j _ (List.getElem?_eq_getElem hj)).nofail]

/-- the expectation of the text for a Restart directive: what `expect` reduces to (by `rfl`) in that branch, which is how
    `notify_refines` uses `good_restart` -/
def restartExpect (opts : List Opt) (g : Family) (h : Hists) (i : Nat) : Expect × Hists :=
  if exhausted (newSupervisor opts) ((recordHists (newSupervisor opts).strategy g.obs i g.now h).getD i []) then
    (.exhausted, recordHists (newSupervisor opts).strategy g.obs i g.now h)
  else (.restart, recordHists (newSupervisor opts).strategy g.obs i g.now h)

theorem good_restart {opts g h i c} (hinv : Inv opts g h) (hc : g.cs[i]? = some c) (ha : c.alive = true) :
    Good opts g (handlePanicking (suspended g i) i dRestart).1 i (restartExpect opts g h i) := by
  have hsup := hinv.sup
  -- the ascription names the family after the first pass; `hp1` is read below as an equation on its `cs` (`GroupPass` unfolds to it)
  have hp1 := (groupPass_suspended g (g.sup.strategy == .oneForAll) i).next (fun _ _ => rfl)
    (g := fun _ c => recordFault (window g.sup) g.now c) (rfl : ({ suspended g i with cs := _ } : Family).cs = _)
  -- the model's budget test reads the counter of the faulty child, the oracle its own history
  have hdec : budgetExhausted g.sup ((mapGroup (suspended g i) (g.sup.strategy == .oneForAll) i
        (fun _ c => recordFault (window g.sup) g.now c)).getD i Child.fresh).cf
      = exhausted (newSupervisor opts) ((recordHists (newSupervisor opts).strategy g.obs i g.now h).getD i []) := by
    have h1 : (mapGroup (suspended g i) (g.sup.strategy == .oneForAll) i
        (fun _ c => recordFault (window g.sup) g.now c))[i]? = some (recordFault (window g.sup) g.now (suspend c)) := by
      rw [show mapGroup (suspended g i) _ i _ = _ from hp1, List.getElem?_mapIdx, hc]
      simp [inGroup_self, seen_self]
    have h2 : (recordHists (newSupervisor opts).strategy g.obs i g.now h).getD i [] = g.now :: c.hist := by
      rw [hinv.hists]
      simp [recordHists, List.getD_eq_getElem?_getD, List.getElem?_mapIdx, List.getElem?_map, hc, group]
    rw [getD_fresh h1, h2, recordFault_cf g.now (wf_suspend (hinv.wf i c hc) ((alive_iff c).mp ha).1), ← hsup]
    rfl
  rw [handle_restart (suspended g i) i (all_nofail (inv_suspended hinv hc ((alive_iff c).mp ha).1))]
  simp only [sup_suspended, now_suspended, hdec, restartExpect]
  have hrec : ∀ j cj, g.cs[j]? = some cj →
      group (newSupervisor opts).strategy g.obs i j = inGroup g (g.sup.strategy == .oneForAll) i j :=
    fun j cj hj => hsup ▸ group_eq_inGroup g i j c cj hc hj
  have hout : ∀ j cj, g.cs[j]? = some cj → inGroup g (g.sup.strategy == .oneForAll) i j = false →
      (if group (newSupervisor opts).strategy g.obs i j then g.now :: cj.hist else cj.hist) = cj.hist :=
    fun j cj hj hg => by rw [hrec j cj hj, hg]; rfl
  have hhist : ∀ j cj, g.cs[j]? = some cj → inGroup g (g.sup.strategy == .oneForAll) i j = true →
      g.now :: (seen i j cj).hist = if group (newSupervisor opts).strategy g.obs i j then g.now :: cj.hist else cj.hist :=
    fun j cj hj hg => by rw [hrec j cj hj, hg, seen_hist]; rfl
  -- by `hdec` the model's budget `if` and `restartExpect`'s have one condition: one `split` decides both
  split
  · refine good_pass .exhausted _ _ (fun j l => if group (newSupervisor opts).strategy g.obs i j then g.now :: l else l) hinv hc ha (hp1.next (fun _ _ => rfl) rfl)
      (sig_same rfl rfl (by simp)) (by simp) (fun j cj hj => group_eq_inGroup g i j c cj hc hj)
      (fun j cj hj hg hw hal => ⟨check_exhausted .code i j cj hal,
        wf_suspendSibling i j (wf_recordFault g.now hinv.now_pos (wf_seen hw hal)),
        (suspendSibling_hist i j _).trans (hhist j cj hj hg :)⟩) hout rfl
  · refine good_pass .restart _ _ (fun j l => if group (newSupervisor opts).strategy g.obs i j then g.now :: l else l) hinv hc ha (hp1.next (fun _ _ => rfl) rfl)
      (sig_same rfl rfl (by simp)) (by simp) (fun j cj hj => group_eq_inGroup g i j c cj hc hj)
      (fun j cj hj hg hw hal => ⟨check_restart .code i j cj,
        wf_restartOne (wf_recordFault g.now hinv.now_pos (wf_seen hw hal)),
        (by rw [restartOne_fst]; exact hhist j cj hj hg)⟩) hout rfl

theorem obs_alive (f : Family) (i : Nat) (c : Child) (hc : f.cs[i]? = some c) :
    ((f.obs.cs[i]?).map (·.alive)).getD false = c.alive := by
  simp [Family.obs, List.getElem?_map, hc, Child.obs]

theorem notify_refines {opts g h i c} (k : Kind) (hinv : Inv opts g h) (hc : g.cs[i]? = some c) (ha : c.alive = true) :
    Good opts g (notifyParent g i k.ty).1 i (expect opts h g.now g.obs i k) := by
  have hsame : ∀ e, e = .ignored ∨ e = .resume → Good opts g g i (e, h) := fun e he =>
    ⟨branch_unchanged _ _ e i g (.inr he), by rcases he with rfl | rfl <;> simp, hinv⟩
  unfold expect
  simp only [obs_alive g i c hc, ha, Bool.not_true, Bool.false_eq_true, if_false]
  cases hk : k.ty with
  | none => exact hsame _ (.inl rfl)
  | some ty =>
    have hl : lookup g.sup ty = specDirective opts ty := by rw [hinv.sup]; exact lookup_eq_spec opts ty
    simp only
    cases hd : specDirective opts ty with
    | none =>
      rw [hd] at hl
      rw [notify_none g i ty hl]
      exact good_suspended _ hinv hc ha (.inl rfl) rfl (sig_same rfl rfl (by simp))
    | some d =>
      rw [hd] at hl
      simp only
      by_cases h1 : d = dResume
      · subst h1
        rw [notify_resume g i ty c hc ha hl]
        exact hsame _ (.inr rfl)
      · rw [notify_some g i ty d hl h1]
        by_cases h0 : d = dStop
        · subst h0
          exact good_stop hinv hc ha
        · by_cases h3 : d = dEscalate
          · subst h3
            rw [handle_escalate]
            exact good_suspended .escalate hinv hc ha (.inr (.inl rfl)) rfl
              (by simp [checkSignals, Family.obs, pSig_suspended, gSig_suspended])
          · by_cases h2 : d = dRestart
            · subst h2
              exact good_restart hinv hc ha
            · rw [handle_invalid _ i d h0 h1 h2 h3, if_neg h0, if_neg h1, if_neg h3, if_neg h2]
              exact good_suspended _ hinv hc ha (.inr (.inr rfl)) (suspended_idem g i)
                (sig_same rfl rfl (by simp))

end GoaktVerif.C07
