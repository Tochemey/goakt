/-
C07: the constructor's directive map and the lookup of notifyParent.
-/
import GoaktVerif.Model.C07
import GoaktVerif.Spec.C07
import GoaktVerif.Lemmas.Assoc

namespace GoaktVerif.C07
open GoaktVerif.Model.C07 GoaktVerif.Spec.C07

theorem mapGet_eq_lookup (m : List (ErrType × Directive)) (k : ErrType) : mapGet m k = m.lookup k :=
  Assoc.lookup_of_eqns mapGet (fun _ => rfl) (fun _ _ _ _ => rfl) m k

theorem mapSet_eq_upsert (m : List (ErrType × Directive)) (k : ErrType) (v : Directive) : mapSet m k v = Assoc.upsert m k v :=
  Assoc.upsert_of_eqns mapSet (fun _ _ => rfl) (fun _ _ _ _ _ => rfl) m k v

theorem mapGet_mapSet (m : List (ErrType × Directive)) (k k' : ErrType) (v : Directive) :
    mapGet (mapSet m k v) k' = if k = k' then some v else mapGet m k' := by
  rw [mapGet_eq_lookup, mapGet_eq_lookup, mapSet_eq_upsert, Assoc.lookup_upsert]; simp only [eq_comm]

/-- the step function of `lastTyped` -/
def lastStep (ty : ErrType) (acc : Option Directive) (o : Opt) : Option Directive :=
  match o with
  | .directive ty' d => if ty' = ty then some d else acc
  | _ => acc

theorem lastTyped_eq (opts : List Opt) (ty : ErrType) : lastTyped opts ty = opts.foldl (lastStep ty) none := rfl

theorem foldl_lastStep (opts : List Opt) (ty : ErrType) (acc : Option Directive) :
    opts.foldl (lastStep ty) acc =
      match opts.foldl (lastStep ty) none with
      | some d => some d
      | none => acc := by
  induction opts generalizing acc with
  | nil => simp
  | cons o rest ih =>
    simp only [List.foldl_cons]
    rw [ih (lastStep ty acc o), ih (lastStep ty none o)]
    cases hr : rest.foldl (lastStep ty) none with
    | some d => simp
    | none =>
      cases o <;> simp [lastStep]
      split <;> simp

theorem applyOpt_directives (s : Supervisor) (o : Opt) (ty : ErrType) :
    mapGet (applyOpt s o).directives ty =
      match lastStep ty none o with
      | some d => some d
      | none => mapGet s.directives ty := by
  cases o with
  | strategy st => simp [applyOpt, lastStep]
  | directive ty' d =>
    simp only [applyOpt, lastStep, mapGet_mapSet]
    split <;> simp
  | retry m t => simp [applyOpt, lastStep]
  | backoff i m r =>
    simp only [applyOpt, lastStep]
    split <;> simp

theorem foldl_applyOpt_directives (opts : List Opt) (s : Supervisor) (ty : ErrType) :
    mapGet (opts.foldl applyOpt s).directives ty =
      match lastTyped opts ty with
      | some d => some d
      | none => mapGet s.directives ty := by
  rw [lastTyped_eq]
  induction opts generalizing s with
  | nil => simp
  | cons o rest ih =>
    simp only [List.foldl_cons]
    rw [ih (applyOpt s o), applyOpt_directives, foldl_lastStep rest ty (lastStep ty none o)]
    cases rest.foldl (lastStep ty) none <;> simp

theorem mapGet_default (ty : ErrType) : mapGet defaultSupervisor.directives ty = defaultDirective ty := by
  simp only [defaultSupervisor, mapGet, defaultDirective, @eq_comm _ ty]

/-- the lookup of notifyParent on the constructed supervisor is the configured directive of the text:
    the any-error directive when one was given (sole rule), else the last rule for the type, else the
    constructor default, else none -/
theorem lookup_eq_spec (opts : List Opt) (ty : ErrType) :
    lookup (newSupervisor opts) ty = specDirective opts ty := by
  have hany := foldl_applyOpt_directives opts defaultSupervisor tyAny
  have hty := foldl_applyOpt_directives opts defaultSupervisor ty
  have hdef : mapGet defaultSupervisor.directives tyAny = none := by decide
  unfold newSupervisor specDirective lookup
  simp only
  cases hl : lastTyped opts tyAny with
  | some d =>
    rw [hl] at hany
    simp only [hany, mapGet]
    by_cases h : tyAny = ty <;> simp [h]
  | none =>
    rw [hl, hdef] at hany
    simp only [hany]
    rw [hty, mapGet_default]
    cases lastTyped opts ty <;> simp
    cases defaultDirective ty <;> simp

end GoaktVerif.C07
