/-
C11 — every spawn operation (full call, begin, end, follower steps, concurrent group) preserves the invariant and
hands out running actors only; hence so does every spawn-only operation sequence.
-/
import GoaktVerif.Lemmas.C11

namespace GoaktVerif.C11
open GoaktVerif.Model.C11

/-- the (process, running-flag) pairs a caller received in an output -/
def outPids : Out → List (ProcId × Bool)
  | .pid p r => [(p, r)]
  | .group rs => rs.filterMap fun o => match o with | .pid p r => some (p, r) | _ => none
  | _ => []

def OutOK (s : St) (o : Out) : Prop := ∀ q b, (q, b) ∈ outPids o → b = true ∧ phaseOf s q = .running

def Keeps (s s' : St) : Prop := ∀ q, phaseOf s q = .running → phaseOf s' q = .running

theorem keeps_refl (s : St) : Keeps s s := fun _ h => h
theorem keeps_trans {a b c : St} (h1 : Keeps a b) (h2 : Keeps b c) : Keeps a c := fun q h => h2 q (h1 q h)

theorem keeps_addProc (s : St) (path : Path) (kind : Kind) : Keeps s (addProc s path kind) := by
  intro q hq
  rw [phaseOf_addProc, if_neg (Nat.ne_of_lt (lt_of_phase hq (by decide)))]
  exact hq

theorem ok_keeps {s s' : St} {o : Out} (h : OutOK s o) (k : Keeps s s') : OutOK s' o :=
  fun q b hm => ⟨(h q b hm).1, k q (h q b hm).2⟩

theorem ok_trivial {s : St} {o : Out} (h : outPids o = []) : OutOK s o := by
  intro q b hm; rw [h] at hm; cases hm

theorem ok_pid {s : St} {p : ProcId} (hp : phaseOf s p = .running) : OutOK s (.pid p true) := by
  intro q b hm
  cases List.mem_singleton.mp hm
  exact ⟨rfl, hp⟩

theorem ok_group {s : St} {outs : List Out} (h : ∀ o, o ∈ outs → OutOK s o) : OutOK s (.group outs) := by
  intro q b hm
  obtain ⟨o, ho, e⟩ := List.mem_filterMap.mp hm
  cases o with
  | pid p r =>
    cases e
    exact h _ ho _ _ List.mem_cons_self
  | _ => cases e

/-- the invariant does not read the followers' bookkeeping -/
theorem Inv.book {s : St} (h : Inv s) (fol : List Path) (last : List (Path × Out)) :
    Inv { s with fol := fol, last := last } :=
  ⟨h.treeRun, h.runTree, h.namesRun, h.treeNames, h.flights, h.keys, h.count, h.noStops⟩

theorem begin_cases {s : St} (h : Inv s) (r : Req) (hopen : flightOpen s r.path = false) :
    (∃ o, spawnBegin s r = (s, .done o) ∧ OutOK s o) ∨
    (spawnBegin s r = (addProc s r.path r.kind, .held s.procs.length) ∧ Inv (addProc s r.path r.kind)) := by
  -- `fun_cases f args` gives one goal per leaf of `f` in Model/C11.lean, numbered in the order of the leaves there,
  -- with the pattern equations and guard outcomes on the way as hypotheses
  fun_cases spawnBegin s r
  -- child: no parent node, parent not running, id held by a stopping child; other: name held by a stopping actor
  case case1 | case2 | case4 | case8 => exact Or.inl ⟨_, rfl, ok_trivial rfl⟩
  case case6 | case10 => exact Or.inl ⟨_, rfl, ok_trivial rfl⟩ -- badOp: the path has the wrong shape for the kind
  -- child, the node of the path runs: it is handed out
  case case3 q hq hrun => exact Or.inl ⟨_, rfl, ok_pid (h.treeRun _ _ (lookup_mem hq)).1⟩
  -- child, no node of that path: the new process is held in PreStart
  case case5 _ parent x hpath pp hpp _ hnone =>
    exact Or.inr ⟨rfl, inv_addProc h r.path r.kind hopen hnone fun _ => ⟨parent, x, hpath, by rw [hpp]; rfl⟩⟩
  -- other kinds, the actor of that name runs: it is handed out
  case case7 q hq hrun _ => exact Or.inl ⟨_, rfl, ok_pid (h.namesRun _ _ hq)⟩
  -- other kinds, the name is free: the new process is held in PreStart
  case case9 name hpath hnone hk =>
    -- a node of that path would have an entry under its name
    have hfree : lookup s.tree r.path = none := by
      cases hl : lookup s.tree r.path with
      | none => rfl
      | some q =>
        obtain ⟨q', hq'⟩ := h.treeNames _ _ hl
        rw [hpath] at hq'
        rw [show lastName [name] = name from rfl, hnone] at hq'
        cases hq'
    exact Or.inr ⟨rfl, inv_addProc h r.path r.kind hopen hfree fun e => (hk e).elim⟩

theorem full_ok {s : St} (h : Inv s) (r : Req) :
    Inv (fullSpawn s r).1 ∧ OutOK (fullSpawn s r).1 (fullSpawn s r).2 ∧ Keeps s (fullSpawn s r).1 := by
  unfold fullSpawn
  cases hopen : flightOpen s r.path with
  | true => exact ⟨h, ok_trivial rfl, keeps_refl s⟩
  | false =>
    rw [if_neg Bool.false_ne_true]
    rcases begin_cases h r hopen with ⟨o, e, ok⟩ | ⟨e, hinv⟩
    · rw [e]; exact ⟨h, ok, keeps_refl s⟩
    · rw [e]
      obtain ⟨a, b, c, d⟩ := inv_end hinv r.path s.procs.length r.kind List.mem_cons_self
      refine ⟨a, ?_, keeps_trans (keeps_addProc s r.path r.kind) d⟩
      show OutOK _ (spawnEnd _ _ _ _).2
      rw [b]; exact ok_pid c

/-- operations that belong to a spawn (any phase); the stop operations are the complement -/
def spawnOnly : Op → Bool
  | .kill _ | .kBegin _ | .kEnd _ => false
  | _ => true

def parStep (acc : St × List Out) (r : Req) : St × List Out :=
  let (s1, o) := fullSpawn acc.1 r
  (s1, o :: acc.2)

theorem par_ok : ∀ (rs : List Req) (s0 : St) (acc : St × List Out), Inv acc.1 → Keeps s0 acc.1 →
    (∀ o, o ∈ acc.2 → OutOK acc.1 o) →
    Inv (rs.foldl parStep acc).1 ∧ Keeps s0 (rs.foldl parStep acc).1 ∧
    (∀ o, o ∈ (rs.foldl parStep acc).2 → OutOK (rs.foldl parStep acc).1 o)
  | [], _, _, h, k, ok => ⟨h, k, ok⟩
  | r :: rs, s0, acc, h, k, ok => by
    rw [List.foldl_cons]
    obtain ⟨a, b, c⟩ := full_ok h r
    apply par_ok rs s0 (parStep acc r) a (keeps_trans k c)
    intro o ho
    rcases List.mem_cons.mp ho with e | e
    · rw [e]; exact b
    · exact ok_keeps (ok o e) c

/-- the pre-flight checks answer with an error or with `.shared [..]`, and `outPids` of both is empty -/
theorem preFlight_outPids {s : St} {r : Req} {o : Out} (ho : preFlight s r = some o) : outPids o = [] := by
  revert ho
  fun_cases preFlight s r
  case case1 | case2 | case3 => rintro ⟨⟩; rfl -- child: err "noparent", err "actor is not alive", shared [running child]
  case case4 | case5 | case6 => exact nofun -- none: the call goes on to the flight

theorem book_ok {s : St} (h : Inv s) {o : Out} (ho : outPids o = []) (fol : List Path) (last : List (Path × Out)) :
    Inv { s with fol := fol, last := last } ∧ OutOK { s with fol := fol, last := last } o ∧
      Keeps s { s with fol := fol, last := last } :=
  ⟨h.book fol last, ok_trivial ho, fun _ hq => hq⟩

theorem step_ok {s : St} (h : Inv s) (op : Op) (hop : spawnOnly op = true) :
    Inv (step s op).1 ∧ OutOK (step s op).1 (step s op).2 ∧ Keeps s (step s op).1 := by
  have same : ∀ o, outPids o = [] → Inv s ∧ OutOK s o ∧ Keeps s s := fun o ho => ⟨h, ok_trivial ho, keeps_refl s⟩
  fun_cases step s op
  case case1 r => exact full_ok h r -- full
  -- the state stays and the answer names no process. sBegin: flight open (2); sEnd: no such flight (6); follow: no flight to
  -- join (7); cancel: nobody waits (12); join: flight still open (13), nobody waits (15); par: a stop is held (16), two
  -- requests share a name (17), a flight is open (18); bad (26)
  case case2 | case6 | case7 | case12 | case13 | case15 | case16 | case17 | case18 | case26 => exact same _ rfl
  -- sBegin, flight closed: `begin_cases` gives both leaves, `e` says which one this is
  case case3 r hopen s' o e => -- answered at once
    rcases begin_cases h r (Bool.eq_false_iff.mpr hopen) with ⟨o', e', ok⟩ | ⟨e', hinv⟩ <;> cases e'.symm.trans e
    exact ⟨h, ok, keeps_refl s⟩
  case case4 r hopen s' p e => -- the new process is held in PreStart
    rcases begin_cases h r (Bool.eq_false_iff.mpr hopen) with ⟨o', e', ok⟩ | ⟨e', hinv⟩ <;> cases e'.symm.trans e
    exact ⟨hinv, ok_trivial rfl, keeps_addProc s r.path r.kind⟩
  -- sEnd of an open flight
  case case5 key k p kind hf r =>
    obtain rfl : k = key := by simpa using List.find?_some hf
    obtain ⟨a, b, c, d⟩ := inv_end h k p kind (List.mem_of_find?_eq_some hf)
    dsimp only [r]
    generalize spawnEnd s k p kind = r' at a b c d ⊢
    rw [b]
    exact ⟨a.book _ _, ok_pid c, keeps_trans d fun _ hq => hq⟩
  case case8 r _ o ho => exact same o (preFlight_outPids ho) -- follow: refused or served before reaching the flight
  -- only the followers' bookkeeping moves. follow: waits (9); cancel: while the flight is open (10), already served (11);
  -- join: the followers are collected (14)
  case case9 | case10 | case11 | case14 => exact book_ok h rfl _ _
  case case19 rs _ _ _ s' outs e => -- par, no guard fires: the fold of fullSpawn
    obtain ⟨a, b, c⟩ := par_ok rs s (s, []) h (keeps_refl s) (fun o ho => nomatch ho)
    rw [show rs.foldl parStep (s, []) = (s', outs) from e] at a b c
    exact ⟨a, ok_group fun o ho => c o (List.mem_reverse.mp ho), b⟩
  case case20 | case21 | case22 | case23 | case24 | case25 => cases hop -- kill, kBegin, kEnd (two leaves each): no spawn

theorem run_ok : ∀ (ops : List Op) (s : St), Inv s → ops.all spawnOnly = true →
    Inv (run s ops).1 ∧ Keeps s (run s ops).1 ∧ (∀ o, o ∈ (run s ops).2 → OutOK (run s ops).1 o)
  | [], s, h, _ => ⟨h, keeps_refl s, fun o ho => by cases ho⟩
  | op :: ops, s, h, hall => by
    simp only [List.all_cons, Bool.and_eq_true] at hall
    obtain ⟨a, b, c⟩ := step_ok h op hall.1
    obtain ⟨a2, b2, c2⟩ := run_ok ops (step s op).1 a hall.2
    simp only [run]
    refine ⟨a2, keeps_trans c b2, ?_⟩
    intro o ho
    rcases List.mem_cons.mp ho with e | e
    · rw [e]; exact ok_keeps b b2
    · exact c2 o e

/-- two running actors of one path are the same process: each is THE node of that path -/
theorem same_pid {s : St} (h : Inv s) (p q : ProcId) (hp : phaseOf s p = .running) (hq : phaseOf s q = .running)
    (e : pathOf s p = pathOf s q) : p = q := by
  have ha := h.runTree p hp
  rw [e, h.runTree q hq] at ha
  cases ha; rfl

theorem live_le_one {s : St} (h : Inv s) (k : Path) : liveCount s k ≤ 1 := by
  unfold liveCount
  apply filter_le_one _ _ List.nodup_range
  intro a b _ _ pa pb
  simp only [Bool.and_eq_true, decide_eq_true_eq, isRunning] at pa pb
  exact same_pid h a b pa.2 pb.2 (pa.1.trans pb.1.symm)

end GoaktVerif.C11
