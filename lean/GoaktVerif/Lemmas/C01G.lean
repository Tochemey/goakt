/-
Measures of the grain dispatch machine (Model/C01G.lean) on program counters, and `exec_kind`: every step is one
kind of `DStep` (Lemmas/C01/Dispatch.lean, shared with the actor machine) and one kind of step of the message
flow, `GStep`.
-/
import GoaktVerif.Model.C01G
import GoaktVerif.Lemmas.C01.Dispatch

namespace GoaktVerif.Lemmas.C01G
open GoaktVerif.Model.C01G GoaktVerif.Lemmas.Dispatch

/-! ### measures on program counters — GENERATED by tools/extra/gen_c01g_measures.py (exhaustive matches) -/
-- BEGIN GENERATED
/-- threads that hold the (unique) scheduled token: they made, or popped, the ready-queue entry -/
def tokP : PC → Nat
  | .sE0 _ => 0
  | .sE1 _ => 0
  | .sE2 _ => 0
  | .sE3 _ => 0
  | .sT1 => 0
  | .sT2 => 0
  | .sPush => 1
  | .wTake => 0
  | .wTfp => 1
  | .dq1 _ _ => 0
  | .dq2 _ _ => 0
  | .dq3 _ _ => 0
  | .dq4 _ _ => 0
  | .dq5 _ _ _ => 0
  | .dq6 _ _ _ => 0
  | .dq7 _ _ _ => 0
  | .wP1 _ => 0
  | .wP2 _ => 0
  | .wRecv _ _ => 0
  | .wPP1 _ _ => 0
  | .wPP2 _ _ => 0
  | .wReset _ => 0
  | .wRE _ => 0
  | .wHP1 _ => 0
  | .wHP2 _ => 0
  | .wME _ => 0
  | .wTs1 _ => 0
  | .wTs2 _ => 0
  | .wRetake _ => 1
  | .wYield => 0
  | .wResched => 1
theorem tokP_sE0 (x : Msg) : tokP (.sE0 x) = 0 := rfl
theorem tokP_sE1 (x : Msg) : tokP (.sE1 x) = 0 := rfl
theorem tokP_sE2 (x : Msg) : tokP (.sE2 x) = 0 := rfl
theorem tokP_sE3 (x : Msg) : tokP (.sE3 x) = 0 := rfl
theorem tokP_sT1 : tokP (.sT1) = 0 := rfl
theorem tokP_sT2 : tokP (.sT2) = 0 := rfl
theorem tokP_sPush : tokP (.sPush) = 1 := rfl
theorem tokP_wTake : tokP (.wTake) = 0 := rfl
theorem tokP_wTfp : tokP (.wTfp) = 1 := rfl
theorem tokP_dq1 (q : Q) (b : Nat) : tokP (.dq1 q b) = 0 := rfl
theorem tokP_dq2 (q : Q) (b : Nat) : tokP (.dq2 q b) = 0 := rfl
theorem tokP_dq3 (q : Q) (b : Nat) : tokP (.dq3 q b) = 0 := rfl
theorem tokP_dq4 (q : Q) (b : Nat) : tokP (.dq4 q b) = 0 := rfl
theorem tokP_dq5 (q : Q) (b : Nat) (x : Msg) : tokP (.dq5 q b x) = 0 := rfl
theorem tokP_dq6 (q : Q) (b : Nat) (x : Msg) : tokP (.dq6 q b x) = 0 := rfl
theorem tokP_dq7 (q : Q) (b : Nat) (x : Msg) : tokP (.dq7 q b x) = 0 := rfl
theorem tokP_wP1 (b : Nat) : tokP (.wP1 b) = 0 := rfl
theorem tokP_wP2 (b : Nat) : tokP (.wP2 b) = 0 := rfl
theorem tokP_wRecv (b : Nat) (x : Msg) : tokP (.wRecv b x) = 0 := rfl
theorem tokP_wPP1 (b : Nat) (x : Msg) : tokP (.wPP1 b x) = 0 := rfl
theorem tokP_wPP2 (b : Nat) (x : Msg) : tokP (.wPP2 b x) = 0 := rfl
theorem tokP_wReset (b : Nat) : tokP (.wReset b) = 0 := rfl
theorem tokP_wRE (b : Nat) : tokP (.wRE b) = 0 := rfl
theorem tokP_wHP1 (b : Nat) : tokP (.wHP1 b) = 0 := rfl
theorem tokP_wHP2 (b : Nat) : tokP (.wHP2 b) = 0 := rfl
theorem tokP_wME (b : Nat) : tokP (.wME b) = 0 := rfl
theorem tokP_wTs1 (b : Nat) : tokP (.wTs1 b) = 0 := rfl
theorem tokP_wTs2 (b : Nat) : tokP (.wTs2 b) = 0 := rfl
theorem tokP_wRetake (b : Nat) : tokP (.wRetake b) = 1 := rfl
theorem tokP_wYield : tokP (.wYield) = 0 := rfl
theorem tokP_wResched : tokP (.wResched) = 1 := rfl

/-- threads that own the turn (between a successful TakeForProcessing and the releasing store) -/
def ownP : PC → Nat
  | .sE0 _ => 0
  | .sE1 _ => 0
  | .sE2 _ => 0
  | .sE3 _ => 0
  | .sT1 => 0
  | .sT2 => 0
  | .sPush => 0
  | .wTake => 0
  | .wTfp => 0
  | .dq1 _ _ => 1
  | .dq2 _ _ => 1
  | .dq3 _ _ => 1
  | .dq4 _ _ => 1
  | .dq5 _ _ _ => 1
  | .dq6 _ _ _ => 1
  | .dq7 _ _ _ => 1
  | .wP1 _ => 1
  | .wP2 _ => 1
  | .wRecv _ _ => 1
  | .wPP1 _ _ => 1
  | .wPP2 _ _ => 1
  | .wReset _ => 1
  | .wRE _ => 0
  | .wHP1 _ => 0
  | .wHP2 _ => 0
  | .wME _ => 0
  | .wTs1 _ => 0
  | .wTs2 _ => 0
  | .wRetake _ => 0
  | .wYield => 1
  | .wResched => 0
theorem ownP_sE0 (x : Msg) : ownP (.sE0 x) = 0 := rfl
theorem ownP_sE1 (x : Msg) : ownP (.sE1 x) = 0 := rfl
theorem ownP_sE2 (x : Msg) : ownP (.sE2 x) = 0 := rfl
theorem ownP_sE3 (x : Msg) : ownP (.sE3 x) = 0 := rfl
theorem ownP_sT1 : ownP (.sT1) = 0 := rfl
theorem ownP_sT2 : ownP (.sT2) = 0 := rfl
theorem ownP_sPush : ownP (.sPush) = 0 := rfl
theorem ownP_wTake : ownP (.wTake) = 0 := rfl
theorem ownP_wTfp : ownP (.wTfp) = 0 := rfl
theorem ownP_dq1 (q : Q) (b : Nat) : ownP (.dq1 q b) = 1 := rfl
theorem ownP_dq2 (q : Q) (b : Nat) : ownP (.dq2 q b) = 1 := rfl
theorem ownP_dq3 (q : Q) (b : Nat) : ownP (.dq3 q b) = 1 := rfl
theorem ownP_dq4 (q : Q) (b : Nat) : ownP (.dq4 q b) = 1 := rfl
theorem ownP_dq5 (q : Q) (b : Nat) (x : Msg) : ownP (.dq5 q b x) = 1 := rfl
theorem ownP_dq6 (q : Q) (b : Nat) (x : Msg) : ownP (.dq6 q b x) = 1 := rfl
theorem ownP_dq7 (q : Q) (b : Nat) (x : Msg) : ownP (.dq7 q b x) = 1 := rfl
theorem ownP_wP1 (b : Nat) : ownP (.wP1 b) = 1 := rfl
theorem ownP_wP2 (b : Nat) : ownP (.wP2 b) = 1 := rfl
theorem ownP_wRecv (b : Nat) (x : Msg) : ownP (.wRecv b x) = 1 := rfl
theorem ownP_wPP1 (b : Nat) (x : Msg) : ownP (.wPP1 b x) = 1 := rfl
theorem ownP_wPP2 (b : Nat) (x : Msg) : ownP (.wPP2 b x) = 1 := rfl
theorem ownP_wReset (b : Nat) : ownP (.wReset b) = 1 := rfl
theorem ownP_wRE (b : Nat) : ownP (.wRE b) = 0 := rfl
theorem ownP_wHP1 (b : Nat) : ownP (.wHP1 b) = 0 := rfl
theorem ownP_wHP2 (b : Nat) : ownP (.wHP2 b) = 0 := rfl
theorem ownP_wME (b : Nat) : ownP (.wME b) = 0 := rfl
theorem ownP_wTs1 (b : Nat) : ownP (.wTs1 b) = 0 := rfl
theorem ownP_wTs2 (b : Nat) : ownP (.wTs2 b) = 0 := rfl
theorem ownP_wRetake (b : Nat) : ownP (.wRetake b) = 0 := rfl
theorem ownP_wYield : ownP (.wYield) = 1 := rfl
theorem ownP_wResched : ownP (.wResched) = 0 := rfl

/-- inside a handler -/
def inRecvP : PC → Nat
  | .sE0 _ => 0
  | .sE1 _ => 0
  | .sE2 _ => 0
  | .sE3 _ => 0
  | .sT1 => 0
  | .sT2 => 0
  | .sPush => 0
  | .wTake => 0
  | .wTfp => 0
  | .dq1 _ _ => 0
  | .dq2 _ _ => 0
  | .dq3 _ _ => 0
  | .dq4 _ _ => 0
  | .dq5 _ _ _ => 0
  | .dq6 _ _ _ => 0
  | .dq7 _ _ _ => 0
  | .wP1 _ => 0
  | .wP2 _ => 0
  | .wRecv _ _ => 1
  | .wPP1 _ _ => 0
  | .wPP2 _ _ => 0
  | .wReset _ => 0
  | .wRE _ => 0
  | .wHP1 _ => 0
  | .wHP2 _ => 0
  | .wME _ => 0
  | .wTs1 _ => 0
  | .wTs2 _ => 0
  | .wRetake _ => 0
  | .wYield => 0
  | .wResched => 0
theorem inRecvP_sE0 (x : Msg) : inRecvP (.sE0 x) = 0 := rfl
theorem inRecvP_sE1 (x : Msg) : inRecvP (.sE1 x) = 0 := rfl
theorem inRecvP_sE2 (x : Msg) : inRecvP (.sE2 x) = 0 := rfl
theorem inRecvP_sE3 (x : Msg) : inRecvP (.sE3 x) = 0 := rfl
theorem inRecvP_sT1 : inRecvP (.sT1) = 0 := rfl
theorem inRecvP_sT2 : inRecvP (.sT2) = 0 := rfl
theorem inRecvP_sPush : inRecvP (.sPush) = 0 := rfl
theorem inRecvP_wTake : inRecvP (.wTake) = 0 := rfl
theorem inRecvP_wTfp : inRecvP (.wTfp) = 0 := rfl
theorem inRecvP_dq1 (q : Q) (b : Nat) : inRecvP (.dq1 q b) = 0 := rfl
theorem inRecvP_dq2 (q : Q) (b : Nat) : inRecvP (.dq2 q b) = 0 := rfl
theorem inRecvP_dq3 (q : Q) (b : Nat) : inRecvP (.dq3 q b) = 0 := rfl
theorem inRecvP_dq4 (q : Q) (b : Nat) : inRecvP (.dq4 q b) = 0 := rfl
theorem inRecvP_dq5 (q : Q) (b : Nat) (x : Msg) : inRecvP (.dq5 q b x) = 0 := rfl
theorem inRecvP_dq6 (q : Q) (b : Nat) (x : Msg) : inRecvP (.dq6 q b x) = 0 := rfl
theorem inRecvP_dq7 (q : Q) (b : Nat) (x : Msg) : inRecvP (.dq7 q b x) = 0 := rfl
theorem inRecvP_wP1 (b : Nat) : inRecvP (.wP1 b) = 0 := rfl
theorem inRecvP_wP2 (b : Nat) : inRecvP (.wP2 b) = 0 := rfl
theorem inRecvP_wRecv (b : Nat) (x : Msg) : inRecvP (.wRecv b x) = 1 := rfl
theorem inRecvP_wPP1 (b : Nat) (x : Msg) : inRecvP (.wPP1 b x) = 0 := rfl
theorem inRecvP_wPP2 (b : Nat) (x : Msg) : inRecvP (.wPP2 b x) = 0 := rfl
theorem inRecvP_wReset (b : Nat) : inRecvP (.wReset b) = 0 := rfl
theorem inRecvP_wRE (b : Nat) : inRecvP (.wRE b) = 0 := rfl
theorem inRecvP_wHP1 (b : Nat) : inRecvP (.wHP1 b) = 0 := rfl
theorem inRecvP_wHP2 (b : Nat) : inRecvP (.wHP2 b) = 0 := rfl
theorem inRecvP_wME (b : Nat) : inRecvP (.wME b) = 0 := rfl
theorem inRecvP_wTs1 (b : Nat) : inRecvP (.wTs1 b) = 0 := rfl
theorem inRecvP_wTs2 (b : Nat) : inRecvP (.wTs2 b) = 0 := rfl
theorem inRecvP_wRetake (b : Nat) : inRecvP (.wRetake b) = 0 := rfl
theorem inRecvP_wYield : inRecvP (.wYield) = 0 := rfl
theorem inRecvP_wResched : inRecvP (.wResched) = 0 := rfl

/-- the message a worker has dequeued and not yet finished with -/
def heldP : PC → List Msg
  | .sE0 _ => []
  | .sE1 _ => []
  | .sE2 _ => []
  | .sE3 _ => []
  | .sT1 => []
  | .sT2 => []
  | .sPush => []
  | .wTake => []
  | .wTfp => []
  | .dq1 _ _ => []
  | .dq2 _ _ => []
  | .dq3 _ _ => []
  | .dq4 _ _ => []
  | .dq5 _ _ x => [x]
  | .dq6 _ _ x => [x]
  | .dq7 _ _ x => [x]
  | .wP1 _ => []
  | .wP2 _ => []
  | .wRecv _ x => [x]
  | .wPP1 _ x => [x]
  | .wPP2 _ x => [x]
  | .wReset _ => []
  | .wRE _ => []
  | .wHP1 _ => []
  | .wHP2 _ => []
  | .wME _ => []
  | .wTs1 _ => []
  | .wTs2 _ => []
  | .wRetake _ => []
  | .wYield => []
  | .wResched => []
theorem heldP_sE0 (x : Msg) : heldP (.sE0 x) = [] := rfl
theorem heldP_sE1 (x : Msg) : heldP (.sE1 x) = [] := rfl
theorem heldP_sE2 (x : Msg) : heldP (.sE2 x) = [] := rfl
theorem heldP_sE3 (x : Msg) : heldP (.sE3 x) = [] := rfl
theorem heldP_sT1 : heldP (.sT1) = [] := rfl
theorem heldP_sT2 : heldP (.sT2) = [] := rfl
theorem heldP_sPush : heldP (.sPush) = [] := rfl
theorem heldP_wTake : heldP (.wTake) = [] := rfl
theorem heldP_wTfp : heldP (.wTfp) = [] := rfl
theorem heldP_dq1 (q : Q) (b : Nat) : heldP (.dq1 q b) = [] := rfl
theorem heldP_dq2 (q : Q) (b : Nat) : heldP (.dq2 q b) = [] := rfl
theorem heldP_dq3 (q : Q) (b : Nat) : heldP (.dq3 q b) = [] := rfl
theorem heldP_dq4 (q : Q) (b : Nat) : heldP (.dq4 q b) = [] := rfl
theorem heldP_dq5 (q : Q) (b : Nat) (x : Msg) : heldP (.dq5 q b x) = [x] := rfl
theorem heldP_dq6 (q : Q) (b : Nat) (x : Msg) : heldP (.dq6 q b x) = [x] := rfl
theorem heldP_dq7 (q : Q) (b : Nat) (x : Msg) : heldP (.dq7 q b x) = [x] := rfl
theorem heldP_wP1 (b : Nat) : heldP (.wP1 b) = [] := rfl
theorem heldP_wP2 (b : Nat) : heldP (.wP2 b) = [] := rfl
theorem heldP_wRecv (b : Nat) (x : Msg) : heldP (.wRecv b x) = [x] := rfl
theorem heldP_wPP1 (b : Nat) (x : Msg) : heldP (.wPP1 b x) = [x] := rfl
theorem heldP_wPP2 (b : Nat) (x : Msg) : heldP (.wPP2 b x) = [x] := rfl
theorem heldP_wReset (b : Nat) : heldP (.wReset b) = [] := rfl
theorem heldP_wRE (b : Nat) : heldP (.wRE b) = [] := rfl
theorem heldP_wHP1 (b : Nat) : heldP (.wHP1 b) = [] := rfl
theorem heldP_wHP2 (b : Nat) : heldP (.wHP2 b) = [] := rfl
theorem heldP_wME (b : Nat) : heldP (.wME b) = [] := rfl
theorem heldP_wTs1 (b : Nat) : heldP (.wTs1 b) = [] := rfl
theorem heldP_wTs2 (b : Nat) : heldP (.wTs2 b) = [] := rfl
theorem heldP_wRetake (b : Nat) : heldP (.wRetake b) = [] := rfl
theorem heldP_wYield : heldP (.wYield) = [] := rfl
theorem heldP_wResched : heldP (.wResched) = [] := rfl

/-- senders between their reservation and the outcome of their TrySchedule -/
def inflightP : PC → Nat
  | .sE0 _ => 0
  | .sE1 _ => 0
  | .sE2 _ => 1
  | .sE3 _ => 1
  | .sT1 => 1
  | .sT2 => 1
  | .sPush => 0
  | .wTake => 0
  | .wTfp => 0
  | .dq1 _ _ => 0
  | .dq2 _ _ => 0
  | .dq3 _ _ => 0
  | .dq4 _ _ => 0
  | .dq5 _ _ _ => 0
  | .dq6 _ _ _ => 0
  | .dq7 _ _ _ => 0
  | .wP1 _ => 0
  | .wP2 _ => 0
  | .wRecv _ _ => 0
  | .wPP1 _ _ => 0
  | .wPP2 _ _ => 0
  | .wReset _ => 0
  | .wRE _ => 0
  | .wHP1 _ => 0
  | .wHP2 _ => 0
  | .wME _ => 0
  | .wTs1 _ => 0
  | .wTs2 _ => 0
  | .wRetake _ => 0
  | .wYield => 0
  | .wResched => 0
theorem inflightP_sE0 (x : Msg) : inflightP (.sE0 x) = 0 := rfl
theorem inflightP_sE1 (x : Msg) : inflightP (.sE1 x) = 0 := rfl
theorem inflightP_sE2 (x : Msg) : inflightP (.sE2 x) = 1 := rfl
theorem inflightP_sE3 (x : Msg) : inflightP (.sE3 x) = 1 := rfl
theorem inflightP_sT1 : inflightP (.sT1) = 1 := rfl
theorem inflightP_sT2 : inflightP (.sT2) = 1 := rfl
theorem inflightP_sPush : inflightP (.sPush) = 0 := rfl
theorem inflightP_wTake : inflightP (.wTake) = 0 := rfl
theorem inflightP_wTfp : inflightP (.wTfp) = 0 := rfl
theorem inflightP_dq1 (q : Q) (b : Nat) : inflightP (.dq1 q b) = 0 := rfl
theorem inflightP_dq2 (q : Q) (b : Nat) : inflightP (.dq2 q b) = 0 := rfl
theorem inflightP_dq3 (q : Q) (b : Nat) : inflightP (.dq3 q b) = 0 := rfl
theorem inflightP_dq4 (q : Q) (b : Nat) : inflightP (.dq4 q b) = 0 := rfl
theorem inflightP_dq5 (q : Q) (b : Nat) (x : Msg) : inflightP (.dq5 q b x) = 0 := rfl
theorem inflightP_dq6 (q : Q) (b : Nat) (x : Msg) : inflightP (.dq6 q b x) = 0 := rfl
theorem inflightP_dq7 (q : Q) (b : Nat) (x : Msg) : inflightP (.dq7 q b x) = 0 := rfl
theorem inflightP_wP1 (b : Nat) : inflightP (.wP1 b) = 0 := rfl
theorem inflightP_wP2 (b : Nat) : inflightP (.wP2 b) = 0 := rfl
theorem inflightP_wRecv (b : Nat) (x : Msg) : inflightP (.wRecv b x) = 0 := rfl
theorem inflightP_wPP1 (b : Nat) (x : Msg) : inflightP (.wPP1 b x) = 0 := rfl
theorem inflightP_wPP2 (b : Nat) (x : Msg) : inflightP (.wPP2 b x) = 0 := rfl
theorem inflightP_wReset (b : Nat) : inflightP (.wReset b) = 0 := rfl
theorem inflightP_wRE (b : Nat) : inflightP (.wRE b) = 0 := rfl
theorem inflightP_wHP1 (b : Nat) : inflightP (.wHP1 b) = 0 := rfl
theorem inflightP_wHP2 (b : Nat) : inflightP (.wHP2 b) = 0 := rfl
theorem inflightP_wME (b : Nat) : inflightP (.wME b) = 0 := rfl
theorem inflightP_wTs1 (b : Nat) : inflightP (.wTs1 b) = 0 := rfl
theorem inflightP_wTs2 (b : Nat) : inflightP (.wTs2 b) = 0 := rfl
theorem inflightP_wRetake (b : Nat) : inflightP (.wRetake b) = 0 := rfl
theorem inflightP_wYield : inflightP (.wYield) = 0 := rfl
theorem inflightP_wResched : inflightP (.wResched) = 0 := rfl

/-- producers of queue `q` that reserved a cell and have not yet incremented `len` -/
def midSP (q : Q) : PC → Nat
  | .sE0 _ => 0
  | .sE1 _ => 0
  | .sE2 x => if qOf x.kind = q then 1 else 0
  | .sE3 x => if qOf x.kind = q then 1 else 0
  | .sT1 => 0
  | .sT2 => 0
  | .sPush => 0
  | .wTake => 0
  | .wTfp => 0
  | .dq1 _ _ => 0
  | .dq2 _ _ => 0
  | .dq3 _ _ => 0
  | .dq4 _ _ => 0
  | .dq5 _ _ _ => 0
  | .dq6 _ _ _ => 0
  | .dq7 _ _ _ => 0
  | .wP1 _ => 0
  | .wP2 _ => 0
  | .wRecv _ _ => 0
  | .wPP1 _ _ => 0
  | .wPP2 _ _ => 0
  | .wReset _ => 0
  | .wRE _ => 0
  | .wHP1 _ => 0
  | .wHP2 _ => 0
  | .wME _ => 0
  | .wTs1 _ => 0
  | .wTs2 _ => 0
  | .wRetake _ => 0
  | .wYield => 0
  | .wResched => 0
theorem midSP_sE0 (q : Q) (x : Msg) : midSP q (.sE0 x) = 0 := rfl
theorem midSP_sE1 (q : Q) (x : Msg) : midSP q (.sE1 x) = 0 := rfl
theorem midSP_sE2 (q : Q) (x : Msg) : midSP q (.sE2 x) = if qOf x.kind = q then 1 else 0 := rfl
theorem midSP_sE3 (q : Q) (x : Msg) : midSP q (.sE3 x) = if qOf x.kind = q then 1 else 0 := rfl
theorem midSP_sT1 (q : Q) : midSP q (.sT1) = 0 := rfl
theorem midSP_sT2 (q : Q) : midSP q (.sT2) = 0 := rfl
theorem midSP_sPush (q : Q) : midSP q (.sPush) = 0 := rfl
theorem midSP_wTake (q : Q) : midSP q (.wTake) = 0 := rfl
theorem midSP_wTfp (q : Q) : midSP q (.wTfp) = 0 := rfl
theorem midSP_dq1 (q : Q) (q' : Q) (b : Nat) : midSP q (.dq1 q' b) = 0 := rfl
theorem midSP_dq2 (q : Q) (q' : Q) (b : Nat) : midSP q (.dq2 q' b) = 0 := rfl
theorem midSP_dq3 (q : Q) (q' : Q) (b : Nat) : midSP q (.dq3 q' b) = 0 := rfl
theorem midSP_dq4 (q : Q) (q' : Q) (b : Nat) : midSP q (.dq4 q' b) = 0 := rfl
theorem midSP_dq5 (q : Q) (q' : Q) (b : Nat) (x : Msg) : midSP q (.dq5 q' b x) = 0 := rfl
theorem midSP_dq6 (q : Q) (q' : Q) (b : Nat) (x : Msg) : midSP q (.dq6 q' b x) = 0 := rfl
theorem midSP_dq7 (q : Q) (q' : Q) (b : Nat) (x : Msg) : midSP q (.dq7 q' b x) = 0 := rfl
theorem midSP_wP1 (q : Q) (b : Nat) : midSP q (.wP1 b) = 0 := rfl
theorem midSP_wP2 (q : Q) (b : Nat) : midSP q (.wP2 b) = 0 := rfl
theorem midSP_wRecv (q : Q) (b : Nat) (x : Msg) : midSP q (.wRecv b x) = 0 := rfl
theorem midSP_wPP1 (q : Q) (b : Nat) (x : Msg) : midSP q (.wPP1 b x) = 0 := rfl
theorem midSP_wPP2 (q : Q) (b : Nat) (x : Msg) : midSP q (.wPP2 b x) = 0 := rfl
theorem midSP_wReset (q : Q) (b : Nat) : midSP q (.wReset b) = 0 := rfl
theorem midSP_wRE (q : Q) (b : Nat) : midSP q (.wRE b) = 0 := rfl
theorem midSP_wHP1 (q : Q) (b : Nat) : midSP q (.wHP1 b) = 0 := rfl
theorem midSP_wHP2 (q : Q) (b : Nat) : midSP q (.wHP2 b) = 0 := rfl
theorem midSP_wME (q : Q) (b : Nat) : midSP q (.wME b) = 0 := rfl
theorem midSP_wTs1 (q : Q) (b : Nat) : midSP q (.wTs1 b) = 0 := rfl
theorem midSP_wTs2 (q : Q) (b : Nat) : midSP q (.wTs2 b) = 0 := rfl
theorem midSP_wRetake (q : Q) (b : Nat) : midSP q (.wRetake b) = 0 := rfl
theorem midSP_wYield (q : Q) : midSP q (.wYield) = 0 := rfl
theorem midSP_wResched (q : Q) : midSP q (.wResched) = 0 := rfl

/-- consumers of queue `q` that removed a cell and have not yet decremented `len` -/
def midDP (q : Q) : PC → Nat
  | .sE0 _ => 0
  | .sE1 _ => 0
  | .sE2 _ => 0
  | .sE3 _ => 0
  | .sT1 => 0
  | .sT2 => 0
  | .sPush => 0
  | .wTake => 0
  | .wTfp => 0
  | .dq1 _ _ => 0
  | .dq2 _ _ => 0
  | .dq3 _ _ => 0
  | .dq4 _ _ => 0
  | .dq5 q' _ _ => if q' = q then 1 else 0
  | .dq6 q' _ _ => if q' = q then 1 else 0
  | .dq7 _ _ _ => 0
  | .wP1 _ => 0
  | .wP2 _ => 0
  | .wRecv _ _ => 0
  | .wPP1 _ _ => 0
  | .wPP2 _ _ => 0
  | .wReset _ => 0
  | .wRE _ => 0
  | .wHP1 _ => 0
  | .wHP2 _ => 0
  | .wME _ => 0
  | .wTs1 _ => 0
  | .wTs2 _ => 0
  | .wRetake _ => 0
  | .wYield => 0
  | .wResched => 0
theorem midDP_sE0 (q : Q) (x : Msg) : midDP q (.sE0 x) = 0 := rfl
theorem midDP_sE1 (q : Q) (x : Msg) : midDP q (.sE1 x) = 0 := rfl
theorem midDP_sE2 (q : Q) (x : Msg) : midDP q (.sE2 x) = 0 := rfl
theorem midDP_sE3 (q : Q) (x : Msg) : midDP q (.sE3 x) = 0 := rfl
theorem midDP_sT1 (q : Q) : midDP q (.sT1) = 0 := rfl
theorem midDP_sT2 (q : Q) : midDP q (.sT2) = 0 := rfl
theorem midDP_sPush (q : Q) : midDP q (.sPush) = 0 := rfl
theorem midDP_wTake (q : Q) : midDP q (.wTake) = 0 := rfl
theorem midDP_wTfp (q : Q) : midDP q (.wTfp) = 0 := rfl
theorem midDP_dq1 (q : Q) (q' : Q) (b : Nat) : midDP q (.dq1 q' b) = 0 := rfl
theorem midDP_dq2 (q : Q) (q' : Q) (b : Nat) : midDP q (.dq2 q' b) = 0 := rfl
theorem midDP_dq3 (q : Q) (q' : Q) (b : Nat) : midDP q (.dq3 q' b) = 0 := rfl
theorem midDP_dq4 (q : Q) (q' : Q) (b : Nat) : midDP q (.dq4 q' b) = 0 := rfl
theorem midDP_dq5 (q : Q) (q' : Q) (b : Nat) (x : Msg) : midDP q (.dq5 q' b x) = if q' = q then 1 else 0 := rfl
theorem midDP_dq6 (q : Q) (q' : Q) (b : Nat) (x : Msg) : midDP q (.dq6 q' b x) = if q' = q then 1 else 0 := rfl
theorem midDP_dq7 (q : Q) (q' : Q) (b : Nat) (x : Msg) : midDP q (.dq7 q' b x) = 0 := rfl
theorem midDP_wP1 (q : Q) (b : Nat) : midDP q (.wP1 b) = 0 := rfl
theorem midDP_wP2 (q : Q) (b : Nat) : midDP q (.wP2 b) = 0 := rfl
theorem midDP_wRecv (q : Q) (b : Nat) (x : Msg) : midDP q (.wRecv b x) = 0 := rfl
theorem midDP_wPP1 (q : Q) (b : Nat) (x : Msg) : midDP q (.wPP1 b x) = 0 := rfl
theorem midDP_wPP2 (q : Q) (b : Nat) (x : Msg) : midDP q (.wPP2 b x) = 0 := rfl
theorem midDP_wReset (q : Q) (b : Nat) : midDP q (.wReset b) = 0 := rfl
theorem midDP_wRE (q : Q) (b : Nat) : midDP q (.wRE b) = 0 := rfl
theorem midDP_wHP1 (q : Q) (b : Nat) : midDP q (.wHP1 b) = 0 := rfl
theorem midDP_wHP2 (q : Q) (b : Nat) : midDP q (.wHP2 b) = 0 := rfl
theorem midDP_wME (q : Q) (b : Nat) : midDP q (.wME b) = 0 := rfl
theorem midDP_wTs1 (q : Q) (b : Nat) : midDP q (.wTs1 b) = 0 := rfl
theorem midDP_wTs2 (q : Q) (b : Nat) : midDP q (.wTs2 b) = 0 := rfl
theorem midDP_wRetake (q : Q) (b : Nat) : midDP q (.wRetake b) = 0 := rfl
theorem midDP_wYield (q : Q) : midDP q (.wYield) = 0 := rfl
theorem midDP_wResched (q : Q) : midDP q (.wResched) = 0 := rfl

/-- workers in finishOrReclaim that still answer for the RESPONSES queue: before its emptiness check, or committed to TrySchedule -/
def recRP : PC → Nat
  | .sE0 _ => 0
  | .sE1 _ => 0
  | .sE2 _ => 0
  | .sE3 _ => 0
  | .sT1 => 0
  | .sT2 => 0
  | .sPush => 0
  | .wTake => 0
  | .wTfp => 0
  | .dq1 _ _ => 0
  | .dq2 _ _ => 0
  | .dq3 _ _ => 0
  | .dq4 _ _ => 0
  | .dq5 _ _ _ => 0
  | .dq6 _ _ _ => 0
  | .dq7 _ _ _ => 0
  | .wP1 _ => 0
  | .wP2 _ => 0
  | .wRecv _ _ => 0
  | .wPP1 _ _ => 0
  | .wPP2 _ _ => 0
  | .wReset _ => 0
  | .wRE _ => 1
  | .wHP1 _ => 0
  | .wHP2 _ => 0
  | .wME _ => 0
  | .wTs1 _ => 1
  | .wTs2 _ => 1
  | .wRetake _ => 0
  | .wYield => 0
  | .wResched => 0
theorem recRP_sE0 (x : Msg) : recRP (.sE0 x) = 0 := rfl
theorem recRP_sE1 (x : Msg) : recRP (.sE1 x) = 0 := rfl
theorem recRP_sE2 (x : Msg) : recRP (.sE2 x) = 0 := rfl
theorem recRP_sE3 (x : Msg) : recRP (.sE3 x) = 0 := rfl
theorem recRP_sT1 : recRP (.sT1) = 0 := rfl
theorem recRP_sT2 : recRP (.sT2) = 0 := rfl
theorem recRP_sPush : recRP (.sPush) = 0 := rfl
theorem recRP_wTake : recRP (.wTake) = 0 := rfl
theorem recRP_wTfp : recRP (.wTfp) = 0 := rfl
theorem recRP_dq1 (q : Q) (b : Nat) : recRP (.dq1 q b) = 0 := rfl
theorem recRP_dq2 (q : Q) (b : Nat) : recRP (.dq2 q b) = 0 := rfl
theorem recRP_dq3 (q : Q) (b : Nat) : recRP (.dq3 q b) = 0 := rfl
theorem recRP_dq4 (q : Q) (b : Nat) : recRP (.dq4 q b) = 0 := rfl
theorem recRP_dq5 (q : Q) (b : Nat) (x : Msg) : recRP (.dq5 q b x) = 0 := rfl
theorem recRP_dq6 (q : Q) (b : Nat) (x : Msg) : recRP (.dq6 q b x) = 0 := rfl
theorem recRP_dq7 (q : Q) (b : Nat) (x : Msg) : recRP (.dq7 q b x) = 0 := rfl
theorem recRP_wP1 (b : Nat) : recRP (.wP1 b) = 0 := rfl
theorem recRP_wP2 (b : Nat) : recRP (.wP2 b) = 0 := rfl
theorem recRP_wRecv (b : Nat) (x : Msg) : recRP (.wRecv b x) = 0 := rfl
theorem recRP_wPP1 (b : Nat) (x : Msg) : recRP (.wPP1 b x) = 0 := rfl
theorem recRP_wPP2 (b : Nat) (x : Msg) : recRP (.wPP2 b x) = 0 := rfl
theorem recRP_wReset (b : Nat) : recRP (.wReset b) = 0 := rfl
theorem recRP_wRE (b : Nat) : recRP (.wRE b) = 1 := rfl
theorem recRP_wHP1 (b : Nat) : recRP (.wHP1 b) = 0 := rfl
theorem recRP_wHP2 (b : Nat) : recRP (.wHP2 b) = 0 := rfl
theorem recRP_wME (b : Nat) : recRP (.wME b) = 0 := rfl
theorem recRP_wTs1 (b : Nat) : recRP (.wTs1 b) = 1 := rfl
theorem recRP_wTs2 (b : Nat) : recRP (.wTs2 b) = 1 := rfl
theorem recRP_wRetake (b : Nat) : recRP (.wRetake b) = 0 := rfl
theorem recRP_wYield : recRP (.wYield) = 0 := rfl
theorem recRP_wResched : recRP (.wResched) = 0 := rfl

/-- workers in finishOrReclaim that still answer for the user MAILBOX: anywhere between the reset and the outcome of hasPendingWork / TrySchedule -/
def recMP : PC → Nat
  | .sE0 _ => 0
  | .sE1 _ => 0
  | .sE2 _ => 0
  | .sE3 _ => 0
  | .sT1 => 0
  | .sT2 => 0
  | .sPush => 0
  | .wTake => 0
  | .wTfp => 0
  | .dq1 _ _ => 0
  | .dq2 _ _ => 0
  | .dq3 _ _ => 0
  | .dq4 _ _ => 0
  | .dq5 _ _ _ => 0
  | .dq6 _ _ _ => 0
  | .dq7 _ _ _ => 0
  | .wP1 _ => 0
  | .wP2 _ => 0
  | .wRecv _ _ => 0
  | .wPP1 _ _ => 0
  | .wPP2 _ _ => 0
  | .wReset _ => 0
  | .wRE _ => 1
  | .wHP1 _ => 1
  | .wHP2 _ => 1
  | .wME _ => 1
  | .wTs1 _ => 1
  | .wTs2 _ => 1
  | .wRetake _ => 0
  | .wYield => 0
  | .wResched => 0
theorem recMP_sE0 (x : Msg) : recMP (.sE0 x) = 0 := rfl
theorem recMP_sE1 (x : Msg) : recMP (.sE1 x) = 0 := rfl
theorem recMP_sE2 (x : Msg) : recMP (.sE2 x) = 0 := rfl
theorem recMP_sE3 (x : Msg) : recMP (.sE3 x) = 0 := rfl
theorem recMP_sT1 : recMP (.sT1) = 0 := rfl
theorem recMP_sT2 : recMP (.sT2) = 0 := rfl
theorem recMP_sPush : recMP (.sPush) = 0 := rfl
theorem recMP_wTake : recMP (.wTake) = 0 := rfl
theorem recMP_wTfp : recMP (.wTfp) = 0 := rfl
theorem recMP_dq1 (q : Q) (b : Nat) : recMP (.dq1 q b) = 0 := rfl
theorem recMP_dq2 (q : Q) (b : Nat) : recMP (.dq2 q b) = 0 := rfl
theorem recMP_dq3 (q : Q) (b : Nat) : recMP (.dq3 q b) = 0 := rfl
theorem recMP_dq4 (q : Q) (b : Nat) : recMP (.dq4 q b) = 0 := rfl
theorem recMP_dq5 (q : Q) (b : Nat) (x : Msg) : recMP (.dq5 q b x) = 0 := rfl
theorem recMP_dq6 (q : Q) (b : Nat) (x : Msg) : recMP (.dq6 q b x) = 0 := rfl
theorem recMP_dq7 (q : Q) (b : Nat) (x : Msg) : recMP (.dq7 q b x) = 0 := rfl
theorem recMP_wP1 (b : Nat) : recMP (.wP1 b) = 0 := rfl
theorem recMP_wP2 (b : Nat) : recMP (.wP2 b) = 0 := rfl
theorem recMP_wRecv (b : Nat) (x : Msg) : recMP (.wRecv b x) = 0 := rfl
theorem recMP_wPP1 (b : Nat) (x : Msg) : recMP (.wPP1 b x) = 0 := rfl
theorem recMP_wPP2 (b : Nat) (x : Msg) : recMP (.wPP2 b x) = 0 := rfl
theorem recMP_wReset (b : Nat) : recMP (.wReset b) = 0 := rfl
theorem recMP_wRE (b : Nat) : recMP (.wRE b) = 1 := rfl
theorem recMP_wHP1 (b : Nat) : recMP (.wHP1 b) = 1 := rfl
theorem recMP_wHP2 (b : Nat) : recMP (.wHP2 b) = 1 := rfl
theorem recMP_wME (b : Nat) : recMP (.wME b) = 1 := rfl
theorem recMP_wTs1 (b : Nat) : recMP (.wTs1 b) = 1 := rfl
theorem recMP_wTs2 (b : Nat) : recMP (.wTs2 b) = 1 := rfl
theorem recMP_wRetake (b : Nat) : recMP (.wRetake b) = 0 := rfl
theorem recMP_wYield : recMP (.wYield) = 0 := rfl
theorem recMP_wResched : recMP (.wResched) = 0 := rfl

-- END GENERATED

def lift (f : PC → Nat) : Option PC → Nat
  | none => 0
  | some p => f p

def liftL (f : PC → List Msg) : Option PC → List Msg
  | none => []
  | some p => f p

theorem lift_none (f : PC → Nat) : lift f none = 0 := rfl
theorem liftL_none (f : PC → List Msg) : liftL f none = [] := rfl
theorem liftL_some (f : PC → List Msg) (p : PC) : liftL f (some p) = f p := rfl

abbrev tok := lift tokP
abbrev own := lift ownP
abbrev inRecvPc := lift inRecvP

theorem inRecv_eq (t : Thread) : inRecv t = inRecvPc t.pc := by
  cases t with
  | mk pc _ _ =>
    cases pc with
    | none => rfl
    | some p => cases p <;> rfl

theorem inRecvPc_le_own (p : Option PC) : inRecvPc p ≤ own p := by
  cases p with
  | none => exact Nat.le_refl _
  | some p =>
    cases p with
    | wRecv => exact Nat.le_refl _
    | _ => exact Nat.zero_le _

theorem inRecv_le_own (t : Thread) : inRecv t ≤ own t.pc := by rw [inRecv_eq]; exact inRecvPc_le_own t.pc

theorem midS_le_inflight (q : Q) (p : Option PC) : lift (midSP q) p ≤ lift inflightP p := by
  cases p with
  | none => exact Nat.le_refl _
  | some p =>
    cases p with
    | sE2 | sE3 => show ite _ 1 0 ≤ 1; split <;> decide
    | _ => exact Nat.zero_le _

theorem held_own (p : Option PC) (h : liftL heldP p ≠ []) : own p = 1 := by
  cases p with
  | none => exact absurd rfl h
  | some p => cases p <;> first | rfl | exact absurd rfl h

/-- `recRP` (responses) / `recMP` (mailbox), by cases on the program counter so that it evaluates where the two
    agree whatever `q` is. -/
def recP (q : Q) : PC → Nat
  | .wRE _ | .wTs1 _ | .wTs2 _ => 1
  | .wHP1 _ | .wHP2 _ | .wME _ => match q with | .R => 0 | .M => 1
  | _ => 0

theorem recP_R : recP .R = recRP := by funext p; cases p <;> rfl

theorem recP_M : recP .M = recMP := by funext p; cases p <;> rfl

theorem recP_le (q : Q) (p : Option PC) : lift (recP q) p ≤ lift recMP p := by
  cases p with
  | none => exact Nat.le_refl _
  | some p =>
    cases p with
    | wHP1 | wHP2 | wME => cases q <;> first | exact Nat.le_refl _ | exact Nat.zero_le _
    | wRE | wTs1 | wTs2 => exact Nat.le_refl _
    | _ => exact Nat.zero_le _

theorem three : Three Sched.idle Sched.scheduled Sched.processing :=
  ⟨by decide, by decide, by decide, fun x => by cases x <;> simp⟩

theorem sumBy_isSum : IsSum sumBy := ⟨fun _ => rfl, fun _ _ _ => rfl⟩

theorem sumBy_append (f : Thread → Nat) (a b : List Thread) : sumBy f (a ++ b) = sumBy f a + sumBy f b := by
  simp only [sumBy_isSum.eq_sum_map, List.map_append, List.sum_append_nat]

theorem flatMap_eraseIdx {β} (f : Thread → List β) (l : List Thread) (i : Nat) (h : i < l.length) :
    (l.flatMap f).Perm ((l.eraseIdx i).flatMap f ++ f l[i]) :=
  ((perm_cons_eraseIdx l i h).flatMap_right f).trans List.perm_append_comm

theorem flatMap_set {β} (f : Thread → List β) (l : List Thread) (i : Nat) (t' : Thread) (h : i < l.length) :
    ((l.set i t').flatMap f).Perm ((l.eraseIdx i).flatMap f ++ f t') :=
  ((set_perm_cons_eraseIdx l i t' h).flatMap_right f).trans List.perm_append_comm

def Blind (P : Cfg → Prop) : Prop := ∀ s l l', l.Perm l' → P ⟨s, l⟩ → P ⟨s, l'⟩

/-- `sumBy inRecv R`: the handlers in progress among the OTHER threads, as `step` hands them to `exec` -/
def Kept (P : Cfg → Prop) : Prop := ∀ s t R pc, t.pc = some pc → P ⟨s, t :: R⟩ →
  P ⟨(exec s t (sumBy inRecv R) pc).1, (exec s t (sumBy inRecv R) pc).2 :: R⟩

theorem step_ind {P : Cfg → Prop} (hperm : Blind P) (hexec : Kept P) (c : Cfg) (tid : Nat) (h : P c) :
    P (step c tid).2 := by
  -- `fun_cases step c tid` yields one goal per leaf of `step` (in the order of Model/C01G.lean): the matches passed on the way as
  -- hypotheses, the leaf's result in the goal.
  fun_cases step c tid
  -- no such thread; the thread has finished: nothing happens
  case case1 | case2 => exact h
  -- thread `tid` executes the instruction at its `pc`
  case case3 t ht pc hpc _ s' t' hx =>
    obtain ⟨hlt, rfl⟩ := List.getElem?_eq_some_iff.mp ht
    have := hexec _ _ _ pc hpc (hperm _ _ _ (perm_cons_eraseIdx _ _ hlt) h)
    rw [← sumBy_isSum.sub_getElem inRecv _ _ hlt, show exec _ _ _ pc = (s', t') from hx] at this
    exact hperm _ _ _ (set_perm_cons_eraseIdx _ _ _ hlt).symm this

section proj
variable (s : Shared) (q : Q) (f : Queue → Queue)

theorem updQ_reent : (s.updQ q f).reent = s.reent := by cases q <;> rfl
theorem updQ_budget : (s.updQ q f).budget = s.budget := by cases q <;> rfl
theorem updQ_q_self : (s.updQ q f).q q = f (s.q q) := by cases q <;> rfl

theorem q_with_handled (a : List Msg) : ({ s with handled := a } : Shared).q q = s.q q := by cases q <;> rfl
theorem q_with_outstanding (a : List Nat) : ({ s with outstanding := a } : Shared).q q = s.q q := by cases q <;> rfl
theorem q_with_maxIn (a : Nat) : ({ s with maxIn := a } : Shared).q q = s.q q := by cases q <;> rfl

end proj

theorem goto_pc (t : Thread) (pc : PC) : (goto t pc).pc = some pc := rfl

theorem qR_eq (s : Shared) : s.qR = s.q .R := rfl
theorem qM_eq (s : Shared) : s.qM = s.q .M := rfl

theorem pausedNow_iff (s : Shared) : pausedNow s = true ↔ s.outstanding ≠ [] := by
  unfold pausedNow; cases s.outstanding <;> simp

theorem publish_ne_nil (x : Msg) (cells : List Cell) : publish x cells ≠ [] ↔ cells ≠ [] := by
  cases cells with
  | nil => simp [publish]
  | cons c cs => simp only [publish]; split <;> simp

theorem dispatch_reent (s : Shared) (t : Thread) (o b : Nat) (x : Msg) : (dispatch s t o b x).1.reent = s.reent := by
  unfold dispatch; split <;> (try split) <;> rfl
theorem handle_reent (s : Shared) (x : Msg) : (handle s x).reent = s.reent := by unfold handle; simp only; split <;> rfl

/-- `nextOp` leaves a thread finished, at `sE0` or at `wTake`; `z`: what `f` is there (a number, a list, a whole view) -/
theorem nextOp_zero {α} (f : Option PC → α) (z : α) (h0 : f none = z) (h1 : ∀ x, f (some (.sE0 x)) = z)
    (h2 : f (some .wTake) = z) (p : List Op) (r : List Res) : f (nextOp p r).pc = z := by
  induction p generalizing r with
  | nil => exact h0
  | cons op rest ih =>
    cases op with
    | send x => exact h1 x
    | work => exact h2
    | bad => exact ih _

theorem init_zero {α} (f : Option PC → α) (z : α) (h0 : f none = z) (h1 : ∀ x, f (some (.sE0 x)) = z)
    (h2 : f (some .wTake) = z) (progs : List (List Op)) : ∀ t ∈ progs.map (nextOp · []), f t.pc = z := by
  intro t ht
  obtain ⟨p, _, rfl⟩ := List.mem_map.mp ht
  exact nextOp_zero f z h0 h1 h2 p []

theorem finishOp_inRecv (t : Thread) (r : Res) : lift inRecvP (finishOp t r).pc = 0 :=
  nextOp_zero (lift inRecvP) 0 rfl (fun _ => rfl) rfl _ _

theorem nextIter_inRecv (b : Nat) : inRecvP (nextIter b) = 0 := by unfold nextIter; split <;> rfl

theorem afterNil_inRecv (q : Q) (b : Nat) : inRecvP (afterNil q b) = 0 := by cases q <;> rfl

/-- what `hasPendingWork` (it reads the `len` counters) showed a worker that gave up on queue `q` -/
def gaveUp (s : Shared) : Q → Prop
  | .R => s.qR.len = 0
  | .M => pausedNow s = true ∨ s.qM.len = 0

def dview (s : Shared) (p : Option PC) : DView Sched Q :=
  ⟨s.sched, s.rq, s.maxIn, tok p, own p, lift inflightP p, fun q => lift (recP q) p⟩

def absorbable (x : Msg) : Prop := x.kind = .pill ∨ x.kind = .resp

/-- a worker inside handlePassivationPill holds a pill -/
def ppOK : Option PC → Prop
  | some (.wPP1 _ x) | some (.wPP2 _ x) => x.kind = .pill
  | _ => True

def onQ (q q' : Q) (f : Queue → Queue) (u : Queue) : Queue := if q = q' then f u else u

def one (q : Q) : Q → Nat := fun q' => if q = q' then 1 else 0

/-- Of the stepping thread: the message it holds (`held`), whether it is a producer / consumer of a queue before
    its `Add:len` (`ms` / `md`), that it holds a pill if inside handlePassivationPill (`pp`). -/
structure GView where
  qR : Queue
  qM : Queue
  accepted : List Msg
  handled : List Msg
  absorbed : List Msg
  out : List Nat
  held : List Msg
  ms : Q → Nat
  md : Q → Nat
  pp : Prop

def GView.q (v : GView) : Q → Queue
  | .R => v.qR
  | .M => v.qM

def GView.upd (v : GView) (q : Q) (f : Queue → Queue) : GView :=
  { v with qR := onQ q .R f v.qR, qM := onQ q .M f v.qM }

section upd
variable (v : GView) (q : Q) (f : Queue → Queue)

theorem GView.upd_accepted : (v.upd q f).accepted = v.accepted := rfl
theorem GView.upd_handled : (v.upd q f).handled = v.handled := rfl
theorem GView.upd_absorbed : (v.upd q f).absorbed = v.absorbed := rfl
theorem GView.upd_held : (v.upd q f).held = v.held := rfl

end upd

def gview (s : Shared) (p : Option PC) : GView :=
  ⟨s.qR, s.qM, s.accepted, s.handled, s.absorbed, s.outstanding, liftL heldP p,
    fun q => lift (midSP q) p, fun q => lift (midDP q) p, ppOK p⟩

/-- `reserve`: Swap:tail; `link`: Store:next; `count` / `discount`: the producer's / consumer's Add:len; `pop`:
    Load:next on a linked head; `absorb`: consumed without a handler; `toPill`: a pill goes to
    handlePassivationPill; `answer`: a response completes its request; `handle`: the handler returns. -/
inductive GStep : GView → GView → Prop
  | skip {v} : GStep v v
  | reserve {v} (q : Q) (x : Msg) : v.ms = (fun _ => 0) →
      GStep v { (v.upd q fun u => { u with cells := u.cells ++ [⟨x, false⟩] }) with
        accepted := v.accepted ++ [x], ms := one q }
  | link {v} (q : Q) (x : Msg) : GStep v (v.upd q fun u => { u with cells := publish x u.cells })
  | count {v} (q : Q) : v.ms = one q →
      GStep v { (v.upd q fun u => { u with len := u.len + 1 }) with ms := fun _ => 0 }
  | pop {v} (q : Q) (x : Msg) : headReady (v.q q).cells = some x → v.held = [] → v.md = (fun _ => 0) →
      GStep v { (v.upd q fun u => { u with cells := u.cells.tail }) with held := [x], md := one q }
  | discount {v} (q : Q) : v.md = one q →
      GStep v { (v.upd q fun u => { u with len := u.len + -1 }) with md := fun _ => 0 }
  | absorb {v} (x : Msg) : (v.pp → absorbable x) → v.held = [x] →
      GStep v { v with absorbed := x :: v.absorbed, held := [], pp := True }
  | toPill {v} (x : Msg) : x.kind = .pill → GStep v { v with pp := x.kind = .pill }
  | answer {v} (l : List Nat) : v.held ≠ [] → GStep v { v with out := l }
  | handle {v} (x : Msg) (l : List Nat) : v.held = [x] → (l = [] → v.out = []) →
      GStep v { v with handled := x :: v.handled, out := l, held := [] }

theorem updQ_eq (s : Shared) (q : Q) (f : Queue → Queue) :
    s.updQ q f = { s with qR := onQ q .R f s.qR, qM := onQ q .M f s.qM } := by cases q <;> rfl

theorem handle_eq (s : Shared) (x : Msg) :
    handle s x = { s with handled := x :: s.handled, outstanding :=
      (if x.kind = .block ∧ s.reent = true then s.outstanding ++ [x.id] else s.outstanding) } := by
  unfold handle; split <;> rfl

variable {E : Q → Prop} {n : Nat} {v : DView Sched Q} {w : GView} {s : Shared}

theorem kind_done {p : List Op} {r : List Res}
    (hd : DStep .idle .scheduled .processing E n v ⟨s.sched, s.rq, s.maxIn, 0, 0, 0, fun _ => 0⟩)
    (hg : GStep w ⟨s.qR, s.qM, s.accepted, s.handled, s.absorbed, s.outstanding, [], fun _ => 0, fun _ => 0, True⟩) :
    DStep .idle .scheduled .processing E n v (dview s (nextOp p r).pc) ∧ GStep w (gview s (nextOp p r).pc) := by
  rw [nextOp_zero (dview s) ⟨s.sched, s.rq, s.maxIn, 0, 0, 0, fun _ => 0⟩ rfl (fun _ => rfl) rfl,
    nextOp_zero (gview s) _ rfl (fun _ => rfl) rfl]
  exact ⟨hd, hg⟩

theorem kind_iter {b : Nat}
    (hd : DStep .idle .scheduled .processing E n v ⟨s.sched, s.rq, s.maxIn, 0, 1, 0, fun _ => 0⟩)
    (hg : GStep w ⟨s.qR, s.qM, s.accepted, s.handled, s.absorbed, s.outstanding, [], fun _ => 0, fun _ => 0, True⟩) :
    DStep .idle .scheduled .processing E n v (dview s (some (nextIter b))) ∧ GStep w (gview s (some (nextIter b))) := by
  unfold nextIter; split <;> exact ⟨hd, hg⟩

/-- In hasPendingWork a worker gives up on the responses first (`wRE`), then on the mailbox (`wHP2`, `wME`). -/
theorem exec_kind (s : Shared) (t : Thread) (o : Nat) (pc : PC) (hpc : t.pc = some pc) :
    DStep .idle .scheduled .processing (gaveUp s) o (dview s t.pc) (dview (exec s t o pc).1 (exec s t o pc).2.pc)
    ∧ GStep (gview s t.pc) (gview (exec s t o pc).1 (exec s t o pc).2.pc) := by
  rw [hpc]
  cases pc <;> simp only [exec, finishOp, goto, reserve, link, addLen, popHead, absorb, enter, updQ_eq, handle_eq, dispatch]
  case sE1 x => exact ⟨.arrive, .reserve _ x rfl⟩
  case sE2 x => exact ⟨.skip, .link _ x⟩
  case sE3 x => exact ⟨.skip, .count _ rfl⟩
  case sT1 | wTs1 => split; exact ⟨.skip, .skip⟩; exact kind_done (.leave ‹_›) .skip
  case sT2 | wTs2 => split; exact ⟨.claim ‹_›, .skip⟩; exact kind_done (.leave ‹_›) .skip
  case sPush | wResched => exact kind_done (.push rfl) .skip
  case wTake => split; exact ⟨.pop ‹_› rfl, .skip⟩; exact kind_done .skip .skip
  case wTfp => split; exact ⟨.take ‹_› rfl, .skip⟩; exact kind_done (.lose ‹_› rfl) .skip
  case dq2 q' b => split; exact ⟨.skip, .pop q' _ ‹_› rfl rfl⟩; exact ⟨.skip, .skip⟩
  case dq3 q' b => split; (cases q' <;> exact ⟨.skip, .skip⟩); exact ⟨.skip, .skip⟩
  case dq4 q' b => split; exact ⟨.skip, .pop q' _ ‹_› rfl rfl⟩; simp only [hpc]; exact ⟨.skip, .skip⟩
  case dq6 q' b x => exact ⟨.skip, .discount q' rfl⟩
  case dq7 q' b x =>
    split
    · split; exact kind_iter .skip (.absorb x (fun _ => .inl ‹_›) rfl); exact ⟨.skip, .toPill x ‹_›⟩
    · split
      · exact ⟨.enter rfl, .answer _ (List.cons_ne_nil _ _)⟩
      · exact kind_iter .skip (.absorb x (fun _ => .inr ‹_›) rfl)
    · exact ⟨.enter rfl, .skip⟩
  case wP2 => split <;> exact ⟨.skip, .skip⟩
  case wRecv b x => exact kind_iter .skip (.handle x _ rfl fun h => by split at h; exact absurd h (by simp); exact h)
  case wPP2 b x => exact kind_iter .skip (.absorb x (fun h => .inl h) rfl)
  case wReset => exact ⟨.release rfl, .skip⟩
  case wRE => split; exact ⟨.giveUp fun q => by cases q; exact .inr ⟨rfl, ‹_›⟩; exact .inl rfl, .skip⟩; exact ⟨.skip, .skip⟩
  case wHP2 =>
    split; exact kind_done (.giveUp fun q => by cases q; exact .inl rfl; exact .inr ⟨rfl, .inl ‹_›⟩) .skip; exact ⟨.skip, .skip⟩
  case wME =>
    split; exact kind_done (.giveUp fun q => by cases q; exact .inl rfl; exact .inr ⟨rfl, .inr ‹_›⟩) .skip; exact ⟨.rejoin, .skip⟩
  case wRetake => split; exact kind_iter (.take ‹_› rfl) .skip; exact kind_done (.lose ‹_› rfl) .skip
  case wYield => exact ⟨.yield rfl, .skip⟩
  all_goals exact ⟨.skip, .skip⟩

theorem publish_length (x : Msg) (cells : List Cell) : (publish x cells).length = cells.length := by
  induction cells with
  | nil => rfl
  | cons c cs ih => simp only [publish]; split <;> simp [ih]

theorem headReady_length {cells : List Cell} {x : Msg} (h : headReady cells = some x) :
    cells.tail.length + 1 = cells.length := by
  cases cells with
  | nil => simp [headReady] at h
  | cons c cs => simp

/-- What a step of the message flow does to ONE queue `u` and to the stepping thread's being a producer (`a`) /
    consumer (`b`) of it between its queue operation and its `Add:len`: before, after. -/
inductive QStep : Queue → Nat → Nat → Queue → Nat → Nat → Prop
  | skip {u a b} : QStep u a b u a b
  | reserve {u b} (x : Msg) : QStep u 0 b { u with cells := u.cells ++ [⟨x, false⟩] } 1 b
  | link {u a b} (x : Msg) : QStep u a b { u with cells := publish x u.cells } a b
  | count {u b} : QStep u 1 b { u with len := u.len + 1 } 0 b
  | pop {u a} (x : Msg) : headReady u.cells = some x → QStep u a 0 { u with cells := u.cells.tail } a 1
  | discount {u a} : QStep u a 1 { u with len := u.len + -1 } a 0

/-- a step on queue `q'` is that step seen from `q'` and nothing seen from the other queue -/
theorem GStep.at {v v' : GView} (h : GStep v v') (q : Q) :
    QStep (v.q q) (v.ms q) (v.md q) (v'.q q) (v'.ms q) (v'.md q) := by
  cases h with
  | reserve q' x hm =>
    rw [hm]
    match q', q with
    | .R, .R | .M, .M => exact .reserve x
    | .R, .M | .M, .R => exact .skip
  | link q' x =>
    match q', q with
    | .R, .R | .M, .M => exact .link x
    | .R, .M | .M, .R => exact .skip
  | count q' hm =>
    rw [hm]
    match q', q with
    | .R, .R | .M, .M => exact .count
    | .R, .M | .M, .R => exact .skip
  | pop q' x hh _ hm =>
    rw [hm]
    match q', q with
    | .R, .R | .M, .M => exact .pop x hh
    | .R, .M | .M, .R => exact .skip
  | discount q' hm =>
    rw [hm]
    match q', q with
    | .R, .R | .M, .M => exact .discount
    | .R, .M | .M, .R => exact .skip
  | _ => exact .skip

/-- `A` / `B`: producers / consumers of the queue among the OTHER threads between their queue operation and their `Add:len` -/
theorem QStep.len {u u' : Queue} {a b a' b' : Nat} (h : QStep u a b u' a' b') {A B : Nat}
    (hl : u.len + ((a + A : Nat) : Int) = (u.cells.length : Int) + ((b + B : Nat) : Int)) :
    u'.len + ((a' + A : Nat) : Int) = (u'.cells.length : Int) + ((b' + B : Nat) : Int) := by
  cases h with
  | skip => exact hl
  | reserve x => simp only [List.length_append, List.length_cons, List.length_nil]; omega
  | link x => simp only [publish_length]; exact hl
  | count | discount => simp only; omega
  | pop x hh => have := headReady_length hh; simp only; omega

theorem QStep.cells_ne {u u' : Queue} {a b a' b' : Nat} (h : QStep u a b u' a' b') (hc : u'.cells ≠ []) :
    u.cells ≠ [] ∨ 0 < a' := by
  cases h with
  | reserve x => exact .inr Nat.one_pos
  | link x => exact .inl ((publish_ne_nil x _).mp hc)
  | pop x => exact .inl fun e => hc (congrArg List.tail e)
  | _ => exact .inl hc

end GoaktVerif.Lemmas.C01G
