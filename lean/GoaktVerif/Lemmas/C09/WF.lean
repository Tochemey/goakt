/-
C09 — the consistency invariant `WF` of the actor tree and its preservation by every writer of pid_tree.go (one lemma
per writer).  The watch relation is read through `look Node.watchers t.pids a x` ("x ∈ watchers(a)") and
`look Node.watchees t.pids x a`; a writer changes them at one pair (`WF.set_pair`), nowhere, or erases an id (`removeNode`).
-/
import GoaktVerif.Lemmas.C09.Assoc

namespace GoaktVerif.Model.C09

@[simp] theorem Node.setWatcher_ref (k : Nat) (p : Pid) (n : Node) : (n.setWatcher k p).ref = n.ref := rfl
@[simp] theorem Node.setWatcher_pid (k : Nat) (p : Pid) (n : Node) : (n.setWatcher k p).pid = n.pid := rfl
@[simp] theorem Node.setWatcher_parent (k : Nat) (p : Pid) (n : Node) : (n.setWatcher k p).parent = n.parent := rfl
@[simp] theorem Node.setWatcher_watchers (k : Nat) (p : Pid) (n : Node) : (n.setWatcher k p).watchers = aset k p n.watchers := rfl
@[simp] theorem Node.setWatcher_watchees (k : Nat) (p : Pid) (n : Node) : (n.setWatcher k p).watchees = n.watchees := rfl
@[simp] theorem Node.setWatcher_desc (k : Nat) (p : Pid) (n : Node) : (n.setWatcher k p).desc = n.desc := rfl
@[simp] theorem Node.delWatcher_ref (k : Nat) (n : Node) : (n.delWatcher k).ref = n.ref := rfl
@[simp] theorem Node.delWatcher_pid (k : Nat) (n : Node) : (n.delWatcher k).pid = n.pid := rfl
@[simp] theorem Node.delWatcher_parent (k : Nat) (n : Node) : (n.delWatcher k).parent = n.parent := rfl
@[simp] theorem Node.delWatcher_watchers (k : Nat) (n : Node) : (n.delWatcher k).watchers = adel k n.watchers := rfl
@[simp] theorem Node.delWatcher_watchees (k : Nat) (n : Node) : (n.delWatcher k).watchees = n.watchees := rfl
@[simp] theorem Node.delWatcher_desc (k : Nat) (n : Node) : (n.delWatcher k).desc = n.desc := rfl
@[simp] theorem Node.setWatchee_ref (k : Nat) (p : Pid) (n : Node) : (n.setWatchee k p).ref = n.ref := rfl
@[simp] theorem Node.setWatchee_pid (k : Nat) (p : Pid) (n : Node) : (n.setWatchee k p).pid = n.pid := rfl
@[simp] theorem Node.setWatchee_parent (k : Nat) (p : Pid) (n : Node) : (n.setWatchee k p).parent = n.parent := rfl
@[simp] theorem Node.setWatchee_watchers (k : Nat) (p : Pid) (n : Node) : (n.setWatchee k p).watchers = n.watchers := rfl
@[simp] theorem Node.setWatchee_watchees (k : Nat) (p : Pid) (n : Node) : (n.setWatchee k p).watchees = aset k p n.watchees := rfl
@[simp] theorem Node.setWatchee_desc (k : Nat) (p : Pid) (n : Node) : (n.setWatchee k p).desc = n.desc := rfl
@[simp] theorem Node.delWatchee_ref (k : Nat) (n : Node) : (n.delWatchee k).ref = n.ref := rfl
@[simp] theorem Node.delWatchee_pid (k : Nat) (n : Node) : (n.delWatchee k).pid = n.pid := rfl
@[simp] theorem Node.delWatchee_parent (k : Nat) (n : Node) : (n.delWatchee k).parent = n.parent := rfl
@[simp] theorem Node.delWatchee_watchers (k : Nat) (n : Node) : (n.delWatchee k).watchers = n.watchers := rfl
@[simp] theorem Node.delWatchee_watchees (k : Nat) (n : Node) : (n.delWatchee k).watchees = adel k n.watchees := rfl
@[simp] theorem Node.delWatchee_desc (k : Nat) (n : Node) : (n.delWatchee k).desc = n.desc := rfl
@[simp] theorem Node.setDesc_ref (k r : Nat) (n : Node) : (n.setDesc k r).ref = n.ref := rfl
@[simp] theorem Node.setDesc_pid (k r : Nat) (n : Node) : (n.setDesc k r).pid = n.pid := rfl
@[simp] theorem Node.setDesc_parent (k r : Nat) (n : Node) : (n.setDesc k r).parent = n.parent := rfl
@[simp] theorem Node.setDesc_watchers (k r : Nat) (n : Node) : (n.setDesc k r).watchers = n.watchers := rfl
@[simp] theorem Node.setDesc_watchees (k r : Nat) (n : Node) : (n.setDesc k r).watchees = n.watchees := rfl
@[simp] theorem Node.setDesc_desc (k r : Nat) (n : Node) : (n.setDesc k r).desc = aset k r n.desc := rfl
@[simp] theorem Node.delDesc_ref (k : Nat) (n : Node) : (n.delDesc k).ref = n.ref := rfl
@[simp] theorem Node.delDesc_pid (k : Nat) (n : Node) : (n.delDesc k).pid = n.pid := rfl
@[simp] theorem Node.delDesc_parent (k : Nat) (n : Node) : (n.delDesc k).parent = n.parent := rfl
@[simp] theorem Node.delDesc_watchers (k : Nat) (n : Node) : (n.delDesc k).watchers = n.watchers := rfl
@[simp] theorem Node.delDesc_watchees (k : Nat) (n : Node) : (n.delDesc k).watchees = n.watchees := rfl
@[simp] theorem Node.delDesc_desc (k : Nat) (n : Node) : (n.delDesc k).desc = adel k n.desc := rfl
@[simp] theorem Node.setParent_ref (q : Ptr) (n : Node) : (n.setParent q).ref = n.ref := rfl
@[simp] theorem Node.setParent_pid (q : Ptr) (n : Node) : (n.setParent q).pid = n.pid := rfl
@[simp] theorem Node.setParent_parent (q : Ptr) (n : Node) : (n.setParent q).parent = some q := rfl
@[simp] theorem Node.setParent_watchers (q : Ptr) (n : Node) : (n.setParent q).watchers = n.watchers := rfl
@[simp] theorem Node.setParent_watchees (q : Ptr) (n : Node) : (n.setParent q).watchees = n.watchees := rfl
@[simp] theorem Node.setParent_desc (q : Ptr) (n : Node) : (n.setParent q).desc = n.desc := rfl

/-- Consistency of the tree's bookkeeping.
* `nodup/key_id`: `pids` is a map and every node is filed under the ID of its PID;
* `counter`: the atomic counter equals the number of registered nodes;
* (the name index has its own invariant `NWF`, Lemmas/C09/Names.lean)
* `wval/eval`: the PID stored under key `k` in a watchers/watchees map has ID `k`;
* `wsym/esym`: `w ∈ watchers(a)` iff `a ∈ watchees(w)`, and both ends are registered. -/
structure WF (t : Tree) : Prop where
  nodup : (akeys t.pids).Nodup
  key_id : ∀ k n, aget k t.pids = some n → n.pid.id = k
  counter : t.counter = (t.pids.length : Int)
  wval : ∀ a na w pw, aget a t.pids = some na → aget w na.watchers = some pw → pw.id = w
  eval : ∀ a na e pe, aget a t.pids = some na → aget e na.watchees = some pe → pe.id = e
  wsym : ∀ a na w, aget a t.pids = some na → (aget w na.watchers).isSome →
    ∃ nw, aget w t.pids = some nw ∧ (aget a nw.watchees).isSome
  esym : ∀ a na e, aget a t.pids = some na → (aget e na.watchees).isSome →
    ∃ ne, aget e t.pids = some ne ∧ (aget a ne.watchers).isSome

@[simp] theorem modNode_pids (t : Tree) (id : Nat) (f : Node → Node) : (t.modNode id f).pids = amod id f t.pids := rfl
@[simp] theorem modNode_names (t : Tree) (id : Nat) (f : Node → Node) : (t.modNode id f).names = t.names := rfl
@[simp] theorem modNode_counter (t : Tree) (id : Nat) (f : Node → Node) : (t.modNode id f).counter = t.counter := rfl
@[simp] theorem modNode_next (t : Tree) (id : Nat) (f : Node → Node) : (t.modNode id f).next = t.next := rfl

theorem aget_modNode (t : Tree) (id k : Nat) (f : Node → Node) :
    aget k (t.modNode id f).pids = if k = id then (aget k t.pids).map f else aget k t.pids :=
  aget_amod id k f t.pids

theorem live_eq_some (t : Tree) (p : Ptr) (n : Node) :
    t.live p = some n ↔ aget p.id t.pids = some n ∧ n.ref = p.ref := by
  -- `fun_cases f args` gives one goal per leaf of `f` in Model/C09.lean, numbered in the order of the leaves there,
  -- with the guard outcomes and pattern equations on the way as hypotheses
  fun_cases Tree.live t p
  case case1 m hm hr => -- registered and the same node object
    rw [hm]; exact ⟨fun e => ⟨e, Option.some.inj e ▸ hr⟩, And.left⟩
  case case2 m hm hr => -- registered, another node object
    rw [hm]; exact ⟨nofun, fun ⟨e, h⟩ => absurd (Option.some.inj e ▸ h) hr⟩
  case case3 hm => rw [hm]; exact ⟨nofun, fun e => nomatch e.1⟩ -- not registered

/-- the clauses of `WF` that do not speak of watchers -/
structure Keyed (t : Tree) : Prop where
  nodup : (akeys t.pids).Nodup
  key_id : ∀ k n, aget k t.pids = some n → n.pid.id = k
  counter : t.counter = (t.pids.length : Int)

theorem WF.keyed {t : Tree} (h : WF t) : Keyed t := ⟨h.nodup, h.key_id, h.counter⟩

theorem forall_modNode {P : Nat → Node → Prop} {t : Tree} {id : Nat} {f : Node → Node} (hf : ∀ n, P id n → P id (f n))
    (h : ∀ k n, aget k t.pids = some n → P k n) : ∀ k n, aget k (t.modNode id f).pids = some n → P k n := by
  intro k n hk
  rw [aget_modNode] at hk
  split at hk
  · next e =>
    obtain ⟨n0, hn0, rfl⟩ := Option.map_eq_some_iff.mp hk
    exact e ▸ hf n0 (e ▸ h k n0 hn0)
  · exact h k n hk

theorem Keyed.modNode {t : Tree} (h : Keyed t) (id : Nat) {f : Node → Node} (hp : ∀ n, (f n).pid = n.pid) :
    Keyed (t.modNode id f) :=
  ⟨by simpa using h.nodup, forall_modNode (fun n hn => (hp n).symm ▸ hn) h.key_id, by simpa using h.counter⟩

theorem Keyed.insert {t t' : Tree} (h : Keyed t) {k : Nat} {c : Node} (hk : aget k t.pids = none) (hc : c.pid.id = k)
    (hp : t'.pids = aset k c t.pids) (hn : t'.counter = t.counter + 1) : Keyed t' := by
  refine ⟨hp ▸ nodup_aset _ _ _ h.nodup, fun k' n hk' => ?_, ?_⟩
  · rw [hp, aget_aset] at hk'
    split at hk'
    · next e => cases hk'; exact hc.trans e.symm
    · exact h.key_id k' n hk'
  · rw [hn, hp, length_aset_of_not_mem _ _ _ ((aget_none_iff _ _).mp hk), h.counter]; rfl

theorem WF.watcher_id {t : Tree} (h : WF t) {a x : Nat} {q : Pid} (hl : look Node.watchers t.pids a x = some q) :
    q.id = x :=
  let ⟨n, hn, hx⟩ := look_eq_some.mp hl
  h.wval a n x q hn hx

theorem WF.watchee_id {t : Tree} (h : WF t) {x a : Nat} {q : Pid} (hl : look Node.watchees t.pids x a = some q) :
    q.id = a :=
  let ⟨n, hn, ha⟩ := look_eq_some.mp hl
  h.eval x n a q hn ha

theorem WF.sym {t : Tree} (h : WF t) (a x : Nat) :
    (look Node.watchers t.pids a x).isSome = (look Node.watchees t.pids x a).isSome := by
  rw [Bool.eq_iff_iff, look_isSome, look_isSome]
  exact ⟨fun ⟨n, hn, hx⟩ => h.wsym a n x hn hx, fun ⟨n, hn, ha⟩ => h.esym x n a hn ha⟩

theorem WF.of_look {t : Tree} (hk : Keyed t)
    (hw : ∀ a x q, look Node.watchers t.pids a x = some q → q.id = x)
    (he : ∀ x a q, look Node.watchees t.pids x a = some q → q.id = a)
    (hs : ∀ a x, (look Node.watchers t.pids a x).isSome = (look Node.watchees t.pids x a).isSome) : WF t where
  nodup := hk.nodup
  key_id := hk.key_id
  counter := hk.counter
  wval a _ x q ha hx := hw a x q (by rw [look_of_aget ha]; exact hx)
  eval x _ a q hx ha := he x a q (by rw [look_of_aget hx]; exact ha)
  wsym a _ x ha hx := look_isSome.mp (by rw [← hs, look_of_aget ha]; exact hx)
  esym x _ a hx ha := look_isSome.mp (by rw [hs, look_of_aget hx]; exact ha)

theorem WF.same_look {t t' : Tree} (h : WF t) (hk : Keyed t')
    (hw : ∀ a x, look Node.watchers t'.pids a x = look Node.watchers t.pids a x)
    (he : ∀ x a, look Node.watchees t'.pids x a = look Node.watchees t.pids x a) : WF t' :=
  WF.of_look hk (fun a x q hl => h.watcher_id (hw a x ▸ hl)) (fun x a q hl => h.watchee_id (he x a ▸ hl))
    fun a x => by rw [hw, he]; exact h.sym a x

/-- a writer that changes the watch relation at the one pair "`X` watches `P`", on both sides alike -/
theorem WF.set_pair {t t' : Tree} (h : WF t) (hk : Keyed t') (P X : Nat) (ow oe : Option Pid)
    (hso : ow.isSome = oe.isSome) (hpw : ∀ q ∈ ow, q.id = X) (hpe : ∀ q ∈ oe, q.id = P)
    (hw : ∀ a x, look Node.watchers t'.pids a x = if a = P ∧ x = X then ow else look Node.watchers t.pids a x)
    (he : ∀ x a, look Node.watchees t'.pids x a = if x = X ∧ a = P then oe else look Node.watchees t.pids x a) :
    WF t' := by
  refine WF.of_look hk (fun a x q hl => ?_) (fun x a q hl => ?_) fun a x => ?_
  · rw [hw] at hl
    split at hl
    · next hc => exact (hpw q hl).trans hc.2.symm
    · exact h.watcher_id hl
  · rw [he] at hl
    split at hl
    · next hc => exact (hpe q hl).trans hc.2.symm
    · exact h.watchee_id hl
  · rw [hw, he]
    by_cases hc : a = P ∧ x = X
    · rw [if_pos hc, if_pos hc.symm, hso]
    · rw [if_neg hc, if_neg fun hc' => hc hc'.symm]
      exact h.sym a x

theorem addWatcher_eq (t : Tree) (p w : Pid) :
    t.addWatcher p w = t ∨ ((aget p.id t.pids).isSome ∧ (aget w.id t.pids).isSome ∧
      t.addWatcher p w = (t.modNode p.id (Node.setWatcher w.id w)).modNode w.id (Node.setWatchee p.id p)) := by
  fun_cases Tree.addWatcher t p w
  case case1 | case2 => exact Or.inl rfl -- one of the two is NoSender; one of the two is not registered
  case case3 _ hreg => -- both registered: the two map writes
    refine Or.inr ⟨?_, ?_, rfl⟩
    · cases hp : aget p.id t.pids <;> simp [hp] at hreg ⊢
    · cases hw : aget w.id t.pids <;> simp [hw] at hreg ⊢

theorem attach_eq (t : Tree) (a p : Pid) :
    (t.attach a p).1 = t ∨ ∃ pn cn, aget a.id t.pids = some pn ∧ aget p.id t.pids = some cn ∧
      (t.attach a p).1 = (((t.modNode p.id (Node.setParent ⟨a.id, pn.ref⟩)).modNode a.id (Node.setDesc p.id cn.ref)).modNode
        a.id (Node.setWatchee p.id p)).modNode p.id (Node.setWatcher a.id a) := by
  fun_cases Tree.attach t a p
  -- parentNoSender, parentMissing, pidMissing, unsupported (the cycle guard): the tree is returned as it was
  case case1 | case2 | case3 | case4 => exact Or.inl rfl
  case case5 _ pn hpn cn hcn _ _ _ _ => exact Or.inr ⟨pn, cn, hpn, hcn, rfl⟩ -- ok: the four map writes

theorem addRoot_eq (t : Tree) (p : Pid) :
    (t.addRoot p).1 = t ∨ (aget p.id t.pids = none ∧ t.rootUsed = false ∧
      (t.addRoot p).1 = { t with pids := aset p.id ⟨t.next, p, none, [], [], []⟩ t.pids,
                                 names := aset p.name ⟨p.id, t.next⟩ t.names,
                                 counter := t.counter + 1, next := t.next + 1, rootUsed := true }) := by
  fun_cases Tree.addRoot t p
  case case1 | case2 | case3 => exact Or.inl rfl -- noSender, pidExists, unsupported (root handed out already)
  case case4 _ hp hru _ => exact Or.inr ⟨Option.not_isSome_iff_eq_none.mp hp, by simpa using hru, rfl⟩ -- ok

theorem addNode_eq (t : Tree) (a p : Pid) :
    (∃ r, r ≠ .ok ∧ t.addNode a p = (t, r)) ∨ ∃ pn, aget p.id t.pids = none ∧ aget a.id t.pids = some pn ∧
      t.addNode a p =
        ({ (t.modNode a.id (Node.setDesc p.id t.next)).modNode a.id (Node.setWatchee p.id p) with
            pids := aset p.id ⟨t.next, p, some ⟨a.id, pn.ref⟩, [(a.id, a)], [], []⟩
              ((t.modNode a.id (Node.setDesc p.id t.next)).modNode a.id (Node.setWatchee p.id p)).pids,
            names := aset p.name ⟨p.id, t.next⟩ t.names,
            shadowed := match aget p.name t.names with
              | some prev => aset p.name ((aget p.name t.shadowed).getD [] ++ [prev]) t.shadowed
              | none => t.shadowed,
            counter := t.counter + 1, next := t.next + 1 }, .ok) := by
  fun_cases Tree.addNode t a p
  case case1 => exact Or.inl ⟨.parentNoSender, nofun, rfl⟩
  case case2 => exact Or.inl ⟨.pidExists, nofun, rfl⟩
  case case3 => exact Or.inl ⟨.parentMissing, nofun, rfl⟩
  case case4 _ hp pn hpn _ _ _ => exact Or.inr ⟨pn, Option.not_isSome_iff_eq_none.mp hp, hpn, rfl⟩ -- ok

theorem wf_modNode {t : Tree} (h : WF t) (id : Nat) {f : Node → Node} (hp : ∀ n, (f n).pid = n.pid)
    (hw : ∀ n, (f n).watchers = n.watchers) (he : ∀ n, (f n).watchees = n.watchees) : WF (t.modNode id f) :=
  h.same_look (h.keyed.modNode id hp) (look_amod_same hw id t.pids) (look_amod_same he id t.pids)

theorem wf_removeDescendant (t : Tree) (a c : Nat) (h : WF t) : WF (t.removeDescendant a c) :=
  wf_modNode h a (Node.delDesc_pid c) (Node.delDesc_watchers c) (Node.delDesc_watchees c)

theorem wf_removeWatcher (t : Tree) (e w : Pid) (h : WF t) : WF (t.removeWatcher e w) := by
  unfold Tree.removeWatcher
  refine h.set_pair ((h.keyed.modNode _ (Node.delWatchee_pid _)).modNode _ (Node.delWatcher_pid _))
    e.id w.id none none rfl (by simp) (by simp) (fun a x => ?_) (fun x a => ?_) <;>
    simp only [modNode_pids]
  · rw [look_amod_adel (Node.delWatcher_watchers _), look_amod_same (Node.delWatchee_watchers _)]
  · rw [look_amod_same (Node.delWatcher_watchees _), look_amod_adel (Node.delWatchee_watchees _)]

theorem wf_addWatcher (t : Tree) (p w : Pid) (h : WF t) : WF (t.addWatcher p w) := by
  rcases addWatcher_eq t p w with e | ⟨hp, hw, e⟩ <;> rw [e]
  · exact h
  refine h.set_pair ((h.keyed.modNode _ (Node.setWatcher_pid _ _)).modNode _ (Node.setWatchee_pid _ _))
    p.id w.id (some w) (some p) rfl (by simp) (by simp) (fun a x => ?_) (fun x a => ?_) <;> simp only [modNode_pids]
  · rw [look_amod_same (Node.setWatchee_watchers _ _), look_amod_aset (Node.setWatcher_watchers _ _) hp]
  · rw [look_amod_aset (Node.setWatchee_watchees _ _) (by simpa using hw),
      look_amod_same (Node.setWatcher_watchees _ _)]

theorem wf_attach (t : Tree) (a p : Pid) (h : WF t) : WF (t.attach a p).1 := by
  rcases attach_eq t a p with e | ⟨pn, cn, hpn, hcn, e⟩ <;> rw [e]
  · exact h
  refine h.set_pair ((((h.keyed.modNode _ (Node.setParent_pid _)).modNode _ (Node.setDesc_pid _ _)).modNode _
    (Node.setWatchee_pid _ _)).modNode _ (Node.setWatcher_pid _ _)) p.id a.id (some a) (some p) rfl (by simp) (by simp)
    (fun x y => ?_) (fun y x => ?_) <;>
    simp only [modNode_pids]
  · rw [look_amod_aset (Node.setWatcher_watchers _ _) (by simp [hcn]), look_amod_same (Node.setWatchee_watchers _ _),
      look_amod_same (Node.setDesc_watchers _ _), look_amod_same (Node.setParent_watchers _)]
  · rw [look_amod_same (Node.setWatcher_watchees _ _), look_amod_aset (Node.setWatchee_watchees _ _) (by simp [hpn]),
      look_amod_same (Node.setDesc_watchees _ _), look_amod_same (Node.setParent_watchees _)]

theorem wf_of_nil {t : Tree} (hp : t.pids = []) (hc : t.counter = 0) : WF t := by
  obtain ⟨pids, _, _, counter, _, _⟩ := t
  cases hp
  cases hc
  exact WF.of_look ⟨List.nodup_nil, fun _ _ h => (nomatch (h : none = some _)), rfl⟩ (fun _ _ _ h => nomatch (h : none = some _))
    (fun _ _ _ h => nomatch (h : none = some _)) fun _ _ => rfl

theorem wf_empty : WF Tree.empty := wf_of_nil rfl rfl

theorem wf_reset (t : Tree) : WF t.reset := wf_of_nil rfl rfl

theorem wf_addRoot (t : Tree) (p : Pid) (h : WF t) : WF (t.addRoot p).1 := by
  rcases addRoot_eq t p with e | ⟨hp, -, e⟩ <;> rw [e]
  · exact h
  refine h.same_look (h.keyed.insert hp rfl rfl rfl) (fun a x => ?_) (fun x a => ?_) <;>
    · simp only []
      rw [look_aset]
      split
      · next e => rw [e, look_of_absent hp]; rfl
      · rfl

theorem wf_addNode (t : Tree) (a p : Pid) (h : WF t) : WF (t.addNode a p).1 := by
  rcases addNode_eq t a p with ⟨r, -, e⟩ | ⟨pn, hp, hpn, e⟩ <;> rw [e]
  · exact h
  have hne : p.id ≠ a.id := fun e => by rw [e, hpn] at hp; cases hp
  have hk := (h.keyed.modNode a.id (Node.setDesc_pid p.id t.next)).modNode a.id (Node.setWatchee_pid p.id p)
  refine h.set_pair (hk.insert (k := p.id) (by simpa [aget_amod, hne] using hp) rfl rfl rfl) p.id a.id (some a) (some p) rfl
    (by simp) (by simp) (fun x y => ?_) (fun y x => ?_) <;>
    simp only [modNode_pids]
  · rw [look_aset, look_amod_same (Node.setWatchee_watchers _ _), look_amod_same (Node.setDesc_watchers _ _)]
    by_cases hx : x = p.id
    · rw [if_pos hx, hx, look_of_absent hp, aget_cons, aget_nil]
      simp [eq_comm]
    · rw [if_neg hx, if_neg fun hc => hx hc.1]
  · rw [look_aset, look_amod_aset (Node.setWatchee_watchees _ _) (by simp [hpn]),
      look_amod_same (Node.setDesc_watchees _ _)]
    split
    · next hy => rw [hy, if_neg fun hc => hne hc.1, look_of_absent hp]; rfl
    · rfl

theorem addOrAttach_induct {P : Tree → Prop} (hatt : ∀ t a p, P t → P (t.attach a p).1)
    (hadd : ∀ t a p, P t → P (t.addNode a p).1) (t : Tree) (a p : Pid) (h : P t) : P (t.addOrAttach a p).1 := by
  fun_cases Tree.addOrAttach t a p
  case case1 => exact h -- parent NoSender: nothing
  case case2 => exact hatt t a p h -- registered already: attach
  case case3 => exact hadd t a p h -- addNode

theorem wf_addOrAttach (t : Tree) (a p : Pid) (h : WF t) : WF (t.addOrAttach a p).1 :=
  addOrAttach_induct wf_attach wf_addNode t a p h

@[simp] theorem scrub_ref (n m : Node) : (scrub n m).ref = m.ref := rfl
@[simp] theorem scrub_pid (n m : Node) : (scrub n m).pid = m.pid := rfl
@[simp] theorem scrub_parent (n m : Node) : (scrub n m).parent = m.parent := rfl

theorem scrub_watchers (n m : Node) :
    (scrub n m).watchers = if (aget m.pid.id n.watchees).isSome then adel n.pid.id m.watchers else m.watchers := rfl

theorem removeNode_of_live {t : Tree} {p : Ptr} {n : Node} (hl : t.live p = some n) :
    t.removeNode p = { t with
      pids := amapv (scrub n) (adel p.id t.pids)
      names := (dropName t.names t.shadowed n.pid.name p).1
      shadowed := (dropName t.names t.shadowed n.pid.name p).2
      counter := t.counter - 1 } := by
  unfold Tree.removeNode
  rw [hl]

theorem removeNode_of_dead {t : Tree} {p : Ptr} (hl : t.live p = none) : t.removeNode p = t := by
  unfold Tree.removeNode
  rw [hl]

theorem aget_removeNode {t : Tree} {p : Ptr} {n : Node} (hl : t.live p = some n) (k : Nat) :
    aget k (t.removeNode p).pids = if k = p.id then none else (aget k t.pids).map (scrub n) := by
  rw [removeNode_of_live hl]
  simp only [aget_amapv, aget_adel]
  split <;> rfl

/-- `scrub` deletes `p.id` from `watchers(m)` where `m` is among the watchees of the dying node, and by `WF.sym` it
    is in no other `watchers(m)` (likewise for watchees): every watch pair that mentions `p.id` goes -/
theorem wf_removeNode (t : Tree) (p : Ptr) (h : WF t) : WF (t.removeNode p) := by
  cases hl : t.live p with
  | none => rw [removeNode_of_dead hl]; exact h
  | some n =>
    have hn := ((live_eq_some t p n).mp hl).1
    have hnid : n.pid.id = p.id := h.key_id _ _ hn
    have hg := aget_removeNode hl
    have hW : ∀ a x, look Node.watchers (t.removeNode p).pids a x =
        if a = p.id ∨ x = p.id then none else look Node.watchers t.pids a x := fun a x => by
      rw [removeNode_of_live hl, ← hnid]
      refine look_scrub (scrub_watchers n) _ (fun m hm hc => ?_) x
      have := h.sym a p.id
      rw [look_of_aget hm, look_of_aget hn, ← h.key_id a m hm, ← hnid] at this
      exact Option.not_isSome_iff_eq_none.mp (this ▸ hc)
    have hE : ∀ x a, look Node.watchees (t.removeNode p).pids x a =
        if x = p.id ∨ a = p.id then none else look Node.watchees t.pids x a := fun x a => by
      rw [removeNode_of_live hl, ← hnid]
      refine look_scrub (fun _ => rfl) _ (fun m hm hc => ?_) a
      have := h.sym p.id x
      rw [look_of_aget hm, look_of_aget hn, ← h.key_id x m hm, ← hnid] at this
      rw [Bool.or_eq_true, not_or] at hc
      exact Option.not_isSome_iff_eq_none.mp (this ▸ hc.1)
    refine WF.of_look ⟨?_, fun k m hk => ?_, ?_⟩ (fun a x q hq => ?_) (fun x a q hq => ?_) fun a x => ?_
    · rw [removeNode_of_live hl]
      simpa using nodup_adel p.id t.pids h.nodup
    · rw [hg] at hk
      split at hk
      · cases hk
      · obtain ⟨m0, hm0, rfl⟩ := Option.map_eq_some_iff.mp hk
        exact h.key_id k m0 hm0
    · rw [removeNode_of_live hl]
      have := length_adel_of_mem p.id t.pids h.nodup ((aget_isSome_iff _ _).mp (by rw [hn]; rfl))
      simp only [length_amapv, h.counter, ← this]
      omega
    · rw [hW] at hq
      split at hq
      · cases hq
      · exact h.watcher_id hq
    · rw [hE] at hq
      split at hq
      · cases hq
      · exact h.watchee_id hq
    · rw [hW, hE]
      by_cases hc : a = p.id ∨ x = p.id
      · rw [if_pos hc, if_pos hc.symm]
      · rw [if_neg hc, if_neg fun hc' => hc hc'.symm]
        exact h.sym a x

theorem deleteNode_induct {P : Tree → Prop} (hrm : ∀ t p, P t → P (t.removeNode p)) (t : Tree) (q : Pid) (h : P t) :
    P (t.deleteNode q) := by
  fun_cases Tree.deleteNode t q
  case case1 | case2 => exact h -- NoSender; not registered
  case case3 => exact List.foldlRecOn _ _ h fun b hb p _ => hrm b p hb -- the fold of removeNode over the subtree

theorem wf_deleteNode (t : Tree) (p : Pid) (h : WF t) : WF (t.deleteNode p) :=
  deleteNode_induct wf_removeNode t p h

theorem step_induct {P : Tree → Prop} (hroot : ∀ t p, P t → P (t.addRoot p).1)
    (hadd : ∀ t a p, P t → P (t.addNode a p).1) (hatt : ∀ t a p, P t → P (t.attach a p).1)
    (haw : ∀ t p w, P t → P (t.addWatcher p w)) (hrw : ∀ t e w, P t → P (t.removeWatcher e w))
    (hrd : ∀ t a c, P t → P (t.removeDescendant a c)) (hrm : ∀ t p, P t → P (t.removeNode p))
    (hreset : ∀ t : Tree, P t.reset) (t : Tree) (o : Op) (h : P t) : P (t.step o).1 := by
  cases o with
  | addRoot p => exact hroot t p h
  | addNode a p => exact hadd t a p h
  | attach a p => exact hatt t a p h
  | addOrAttach a p => exact addOrAttach_induct hatt hadd t a p h
  | addWatcher p w => exact haw t p w h
  | removeWatcher e w => exact hrw t e w h
  | removeDescendant a c => exact hrd t a c h
  | deleteNode p => exact deleteNode_induct hrm t p h
  | reset => exact hreset t

theorem wf_step (t : Tree) (o : Op) (h : WF t) : WF (t.step o).1 :=
  step_induct wf_addRoot wf_addNode wf_attach wf_addWatcher wf_removeWatcher wf_removeDescendant wf_removeNode
    wf_reset t o h

theorem wf_run (ops : List Op) (t : Tree) (h : WF t) : WF (t.run ops) :=
  List.foldlRecOn ops _ h fun t h o _ => wf_step t o h

/-- net effect of `attachNodeLocked(a, p)` on the node filed under key `k` -/
def attachG (a p : Pid) (pr cr : Nat) (k : Nat) (n : Node) : Node :=
  { n with
    parent := if k = p.id then some ⟨a.id, pr⟩ else n.parent
    desc := if k = a.id then aset p.id cr n.desc else n.desc
    watchees := if k = a.id then aset p.id p n.watchees else n.watchees
    watchers := if k = p.id then aset a.id a n.watchers else n.watchers }

@[simp] theorem attachG_ref (a p : Pid) (pr cr k : Nat) (n : Node) : (attachG a p pr cr k n).ref = n.ref := rfl
@[simp] theorem attachG_pid (a p : Pid) (pr cr k : Nat) (n : Node) : (attachG a p pr cr k n).pid = n.pid := rfl

/-- net effect of `addNodeLocked(a, p)` on an already registered node filed under `k` -/
def addG (a p : Pid) (r : Nat) (k : Nat) (n : Node) : Node :=
  { n with
    desc := if k = a.id then aset p.id r n.desc else n.desc
    watchees := if k = a.id then aset p.id p n.watchees else n.watchees }

@[simp] theorem addG_ref (a p : Pid) (r k : Nat) (n : Node) : (addG a p r k n).ref = n.ref := rfl
@[simp] theorem addG_pid (a p : Pid) (r k : Nat) (n : Node) : (addG a p r k n).pid = n.pid := rfl
@[simp] theorem addG_watchers (a p : Pid) (r k : Nat) (n : Node) : (addG a p r k n).watchers = n.watchers := rfl

end GoaktVerif.Model.C09
