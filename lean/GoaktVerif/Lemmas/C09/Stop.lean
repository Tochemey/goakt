/-
C09 — the stop procedure (`Sys.shutdown`) satisfies `Post`: induction on the recursion depth, with the fold invariant
`FI` over the children loop of `freeChildren`.  `FI rank p` is transitive (`FI.trans`) and holds of every step that
leaves the running set alone (`FI.of_frame`) and of a returned stop below `p` (`PostC.fi`): one loop iteration and the
whole call are compositions of such steps; `Post.of_fi` turns the composed `FI` into `Post` once `p` is offline.
-/
import GoaktVerif.Lemmas.C09.Shape

namespace GoaktVerif.Model.C09

/-- standing assumptions on the tree: the live `descendants` graph is acyclic (witnessed by a rank that
    decreases along every edge) and NoSender has no children -/
def Hyp (rank : Nat → Nat) (t : Tree) : Prop :=
  (∀ x y, edge t x y → rank y < rank x) ∧ (∀ y, ¬ edge t NOS y)

theorem hyp_mono {rank : Nat → Nat} {t t' : Tree} (h : ShapeLe t t') (hy : Hyp rank t) : Hyp rank t' :=
  ⟨fun x y he => hy.1 x y (edge_of_shapeLe h he), fun y he => hy.2 y (edge_of_shapeLe h he)⟩

/-- what `Shutdown(p)` guarantees when it returns (from state `s` to `s'`) -/
structure Post (rank : Nat → Nat) (s : Sys) (p : Nat) (s' : Sys) : Prop where
  shape : ShapeLe s.tree s'.tree
  run_sub : ∀ x, x ∈ s'.running → x ∈ s.running
  stop_sub : ∀ x, x ∈ s'.stopping → x ∈ s.stopping
  desc_same : ∀ x, (x ∈ s'.running ∨ x ∉ s.running) → DescSame s.tree s'.tree x
  self_off : p ∉ s'.running
  closed : ∀ x y, x ∈ s.running → x ∉ s'.running → edge s.tree x y → y ∉ s'.running ∨ y ∈ s.stopping
  log_ext : ∃ evs, s'.log = s.log ++ evs ∧ ∀ x, x ∈ s.running → x ∉ s'.running → Ev.postStop x ∈ evs
  rank_le : ∀ x, x ∈ s.running → x ∉ s'.running → rank x ≤ rank p
  order : ∀ x y, x ∈ s.running → x ∉ s'.running → edge s.tree x y → y ∈ s.running → y ∉ s.stopping →
    Before s'.log (Ev.postStop y) (Ev.postStop x)

/-- the loop invariant of `freeChildren(p)`: `s1` = state when the loop starts, `si` = current state -/
structure FI (rank : Nat → Nat) (p : Nat) (s1 si : Sys) : Prop where
  shape : ShapeLe s1.tree si.tree
  run_sub : ∀ x, x ∈ si.running → x ∈ s1.running
  stop_sub : ∀ x, x ∈ si.stopping → x ∈ s1.stopping
  desc_same : ∀ x, x ≠ p → (x ∈ si.running ∨ x ∉ s1.running) → DescSame s1.tree si.tree x
  closed : ∀ x y, x ≠ p → x ∈ s1.running → x ∉ si.running → edge s1.tree x y → y ∉ si.running ∨ y ∈ s1.stopping
  log_ext : ∃ evs, si.log = s1.log ++ evs ∧ ∀ x, x ∈ s1.running → x ∉ si.running → Ev.postStop x ∈ evs
  rank_lt : ∀ x, x ∈ s1.running → x ∉ si.running → rank x < rank p
  order : ∀ x y, x ∈ s1.running → x ∉ si.running → edge s1.tree x y → y ∈ s1.running → y ∉ s1.stopping →
    Before si.log (Ev.postStop y) (Ev.postStop x)

theorem FI.of_frame {rank : Nat → Nat} {p : Nat} {s s' : Sys} (hsh : ShapeLe s.tree s'.tree)
    (hd : ∀ x, x ≠ p → DescSame s.tree s'.tree x) (hr : s'.running = s.running)
    (hst : ∀ x, x ∈ s'.stopping → x ∈ s.stopping) (hl : ∃ evs, s'.log = s.log ++ evs) : FI rank p s s' :=
  have off : ∀ {x} {P : Prop}, x ∈ s.running → x ∉ s'.running → P := fun h1 h2 => absurd (hr ▸ h1) h2
  ⟨hsh, fun _ h => hr ▸ h, hst, fun x hx _ => hd x hx, fun _ _ _ => off, hl.imp fun _ h => ⟨h, fun _ => off⟩, fun _ => off,
    fun _ _ => off⟩

theorem fi_refl {rank : Nat → Nat} {p : Nat} {s : Sys} : FI rank p s s :=
  .of_frame (shapeLe_refl _) (fun _ _ => rfl) rfl (fun _ h => h) ⟨[], (List.append_nil _).symm⟩

/-- the body of the children loop at recursion depth `fuel` -/
abbrev childStep (fuel p : Nat) : Sys → Pid → Option Sys := Sys.childStep (Sys.shutdown fuel) p

/-- the state right before the child's `Shutdown` (or the skip) -/
def prep (p : Nat) (s : Sys) (c : Pid) : Sys :=
  { (s.unwatch p c.id) with tree := (s.unwatch p c.id).tree.removeDescendant p c.id }

theorem childStep_eq (fuel p : Nat) (s : Sys) (c : Pid) :
    childStep fuel p s c = if (prep p s c).suspended.contains c.id || (prep p s c).isRunning c.id
      then Sys.shutdown fuel (prep p s c) c.id else some (prep p s c) := rfl

theorem prep_shape (p : Nat) (s : Sys) (c : Pid) : ShapeLe s.tree (prep p s c).tree :=
  shapeLe_trans (shapeLe_removeWatcher _ _ _) (shapeLe_removeDescendant _ _ _)

theorem prep_desc (p : Nat) (s : Sys) (c : Pid) (x : Nat) (hx : x ≠ p) : DescSame s.tree (prep p s c).tree x :=
  (descSame_removeWatcher _ _ _ x).trans (descSame_removeDescendant _ _ _ x hx)

/-- `Post` without the clause about `p` itself (also true of a skipped child, with `s' = s`) -/
structure PostC (rank : Nat → Nat) (s : Sys) (p : Nat) (s' : Sys) : Prop where
  shape : ShapeLe s.tree s'.tree
  run_sub : ∀ x, x ∈ s'.running → x ∈ s.running
  stop_sub : ∀ x, x ∈ s'.stopping → x ∈ s.stopping
  desc_same : ∀ x, (x ∈ s'.running ∨ x ∉ s.running) → DescSame s.tree s'.tree x
  closed : ∀ x y, x ∈ s.running → x ∉ s'.running → edge s.tree x y → y ∉ s'.running ∨ y ∈ s.stopping
  log_ext : ∃ evs, s'.log = s.log ++ evs ∧ ∀ x, x ∈ s.running → x ∉ s'.running → Ev.postStop x ∈ evs
  rank_le : ∀ x, x ∈ s.running → x ∉ s'.running → rank x ≤ rank p
  order : ∀ x y, x ∈ s.running → x ∉ s'.running → edge s.tree x y → y ∈ s.running → y ∉ s.stopping →
    Before s'.log (Ev.postStop y) (Ev.postStop x)

theorem Post.core {rank : Nat → Nat} {s : Sys} {p : Nat} {s' : Sys} (h : Post rank s p s') : PostC rank s p s' :=
  ⟨h.shape, h.run_sub, h.stop_sub, h.desc_same, h.closed, h.log_ext, h.rank_le, h.order⟩

theorem postC_refl {rank : Nat → Nat} {s : Sys} {p : Nat} : PostC rank s p s :=
  ⟨shapeLe_refl _, fun _ h => h, fun _ h => h, fun _ _ => rfl, fun _ _ h1 h2 => absurd h1 h2,
   ⟨[], by simp, fun _ h1 h2 => absurd h1 h2⟩, fun _ h1 h2 => absurd h1 h2, fun _ _ h1 h2 => absurd h1 h2⟩

theorem post_offline (rank : Nat → Nat) (s : Sys) (p : Nat) (h : p ∉ s.running) : Post rank s p s :=
  have c : PostC rank s p s := postC_refl
  ⟨c.shape, c.run_sub, c.stop_sub, c.desc_same, h, c.closed, c.log_ext, c.rank_le, c.order⟩

theorem PostC.fi {rank : Nat → Nat} {s : Sys} {q : Nat} {s' : Sys} (h : PostC rank s q s') {p : Nat}
    (hlt : rank q < rank p) : FI rank p s s' :=
  ⟨h.shape, h.run_sub, h.stop_sub, fun x _ => h.desc_same x, fun x y _ => h.closed x y, h.log_ext,
    fun x h1 h2 => Nat.lt_of_le_of_lt (h.rank_le x h1 h2) hlt, h.order⟩

theorem ne_of_rank_lt {rank : Nat → Nat} {p x : Nat} (h : rank x < rank p) : x ≠ p :=
  fun e => Nat.lt_irrefl _ (e ▸ h)

/-- the loop invariant composes: whoever goes offline in the second phase is not `p`, so its children are the same
    at the start of both phases -/
theorem FI.trans {rank : Nat → Nat} {p : Nat} {a b c : Sys} (h1 : FI rank p a b) (h2 : FI rank p b c) : FI rank p a c := by
  obtain ⟨e1, l1, p1⟩ := h1.log_ext
  obtain ⟨e2, l2, p2⟩ := h2.log_ext
  have edge_b : ∀ x y, x ∈ b.running → x ∉ c.running → edge a.tree x y → edge b.tree x y := fun x y hb hc he =>
    edge_of_descSame h1.shape (h1.desc_same x (ne_of_rank_lt (h2.rank_lt x hb hc)) (Or.inl hb)) he
  refine ⟨shapeLe_trans h1.shape h2.shape, fun x hx => h1.run_sub x (h2.run_sub x hx),
    fun x hx => h1.stop_sub x (h2.stop_sub x hx), fun x hx hr => ?_, fun x y hx ha hc he => ?_,
    ⟨e1 ++ e2, by rw [l2, l1, List.append_assoc], fun x ha hc => ?_⟩, fun x ha hc => ?_, fun x y ha hc he hy hS => ?_⟩
  · exact (h1.desc_same x hx (hr.imp_left (h2.run_sub x))).trans
      (h2.desc_same x hx (hr.imp_right fun h hb => h (h1.run_sub x hb)))
  · by_cases hb : x ∈ b.running
    · exact (h2.closed x y hx hb hc (edge_b x y hb hc he)).imp_right (h1.stop_sub y)
    · exact (h1.closed x y hx ha hb he).imp_left fun h hy => h (h2.run_sub y hy)
  · by_cases hb : x ∈ b.running
    · exact List.mem_append_right _ (p2 x hb hc)
    · exact List.mem_append_left _ (p1 x ha hb)
  · by_cases hb : x ∈ b.running
    · exact h2.rank_lt x hb hc
    · exact h1.rank_lt x ha hb
  · rw [l2]
    by_cases hb : x ∈ b.running
    · by_cases hyb : y ∈ b.running
      · exact l2 ▸ h2.order x y hb hc (edge_b x y hb hc he) hyb fun h => hS (h1.stop_sub y h)
      · exact before_of_mem (l1 ▸ List.mem_append_right _ (p1 y hy hyb)) (p2 x hb hc)
    · exact before_append _ (h1.order x y ha hb he hy hS)

/-- one iteration of the children loop, from the state it starts in: the frame step `prep`, then the child's stop -/
theorem fi_step (rank : Nat → Nat) (p : Nat) (si sj : Sys) (c : Pid) (hrank : rank c.id < rank p)
    (hP : PostC rank (prep p si c) c.id sj) : FI rank p si sj :=
  (FI.of_frame (prep_shape p si c) (prep_desc p si c) rfl (fun _ h => h) ⟨[], (List.append_nil _).symm⟩).trans (hP.fi hrank)

/-- every segment of the children loop of `p` is an `FI` from the state the segment starts in; each child it visits is
    offline afterwards or was being stopped by an enclosing call -/
theorem fi_fold (rank : Nat → Nat) (fuel p : Nat)
    (IH : ∀ s c s', Hyp rank s.tree → s.shutdown fuel c = some s' → Post rank s c s') :
    ∀ (rest : List Pid) (si sf : Sys), Hyp rank si.tree → (∀ c, c ∈ rest → rank c.id < rank p) →
      rest.foldlM (childStep fuel p) si = some sf →
      FI rank p si sf ∧ ∀ c, c ∈ rest → c.id ∉ sf.running ∨ c.id ∈ si.stopping := by
  intro rest
  induction rest with
  | nil =>
    intro si sf _ _ h
    cases h
    exact ⟨fi_refl, fun _ h => nomatch h⟩
  | cons c rest ih =>
    intro si sf hyp hr h
    rw [List.foldlM_cons] at h
    obtain ⟨sj, hc, h⟩ := Option.bind_eq_some_iff.mp h
    have hPc : PostC rank (prep p si c) c.id sj ∧ (c.id ∉ sj.running ∨ c.id ∈ si.stopping) := by
      rw [childStep_eq] at hc
      split at hc
      · have hpost := IH _ _ _ (hyp_mono (prep_shape p si c) hyp) hc
        exact ⟨hpost.core, Or.inl hpost.self_off⟩
      · next hcond =>
        cases hc
        refine ⟨postC_refl, ?_⟩
        by_cases hrun : c.id ∈ (prep p si c).running
        · by_cases hs : c.id ∈ (prep p si c).stopping
          · exact Or.inr hs
          · -- running and not stopping: suspended or `IsRunning()`, the child would not have been skipped
            exact absurd (by simp [Sys.isRunning, hrun, hs]) hcond
        · exact Or.inl hrun
    have fij := fi_step rank p si sj c (hr c List.mem_cons_self) hPc.1
    obtain ⟨fjf, hrest⟩ := ih sj sf (hyp_mono fij.shape hyp) (fun c' hc' => hr c' (List.mem_cons_of_mem _ hc')) h
    refine ⟨fij.trans fjf, fun c' hc' => ?_⟩
    rcases List.mem_cons.mp hc' with rfl | hc'
    · exact hPc.2.imp_left fun h hx => h (fjf.run_sub _ hx)
    · exact (hrest c' hc').imp_right (fij.stop_sub _)

/-- the call that marked `p` as stopping, ran the loop (`fi`, up to `s2`) and then took `p` offline, `PostStop(p)`
    recorded after everything the loop logged; `hkids`: what the loop did to the children `p` had when it began -/
theorem Post.of_fi {rank : Nat → Nat} {s : Sys} {p : Nat} {s2 s' : Sys} (hyp : Hyp rank s.tree) (hp : p ∈ s.running)
    (fi : FI rank p { s with stopping := p :: s.stopping } s2)
    (hkids : ∀ y, edge s.tree p y → y ∉ s2.running ∨ y ∈ p :: s.stopping)
    (hsh : ShapeLe s2.tree s'.tree) (hd : ∀ x, DescSame s2.tree s'.tree x)
    (hrun : ∀ x, x ∈ s'.running ↔ x ∈ s2.running ∧ x ≠ p) (hstop : ∀ x, x ∈ s'.stopping → x ∈ s2.stopping ∧ x ≠ p)
    (hlog : ∃ e4, s'.log = s2.log ++ Ev.postStop p :: e4) : Post rank s p s' := by
  obtain ⟨ef, l2, pf⟩ := fi.log_ext
  obtain ⟨e4, l4⟩ := hlog
  have sub : ∀ x, x ∈ s'.running → x ∈ s2.running := fun x h => ((hrun x).mp h).1
  have off2 : ∀ x, x ≠ p → x ∉ s'.running → x ∉ s2.running := fun x hxp hx h2 => hx ((hrun x).mpr ⟨h2, hxp⟩)
  have hoff : p ∉ s'.running := fun h => ((hrun p).mp h).2 rfl
  have tail : ∀ {y}, y ∈ p :: s.stopping → y ≠ p → y ∈ s.stopping := fun h hy => (List.mem_cons.mp h).resolve_left hy
  have le : ∀ x, x ∈ s.running → x ∉ s'.running → rank x ≤ rank p := fun x h1 ho => by
    by_cases hxp : x = p
    · exact hxp ▸ Nat.le_refl _
    · exact Nat.le_of_lt (fi.rank_lt x h1 (off2 x hxp ho))
  refine ⟨shapeLe_trans fi.shape hsh, fun x hx => fi.run_sub x (sub x hx),
    fun x hx => tail (fi.stop_sub x (hstop x hx).1) (hstop x hx).2, fun x hr => ?_, hoff, fun x y h1 ho he => ?_,
    ⟨ef ++ Ev.postStop p :: e4, by rw [l4, l2]; exact List.append_assoc _ _ _, fun x h1 ho => ?_⟩, le,
    fun x y h1 ho he hy hys => ?_⟩
  · have hxp : x ≠ p := hr.elim (fun h e => hoff (e ▸ h)) fun h e => h (e ▸ hp)
    exact (fi.desc_same x hxp (hr.imp_left (sub x))).trans (hd x)
  · by_cases hy_p : y = p
    · exact Or.inl (hy_p ▸ hoff)
    · refine (?_ : y ∉ s2.running ∨ y ∈ p :: s.stopping).imp (fun h hy => h (sub y hy)) fun h => tail h hy_p
      by_cases hxp : x = p
      · exact hkids y (hxp ▸ he)
      · exact fi.closed x y hxp h1 (off2 x hxp ho) he
  · by_cases hxp : x = p
    · exact List.mem_append_right _ (hxp ▸ List.mem_cons_self)
    · exact List.mem_append_left _ (pf x h1 (off2 x hxp ho))
  · have hS : y ∉ p :: s.stopping := fun h =>
      hys (tail h (ne_of_rank_lt (Nat.lt_of_lt_of_le (hyp.1 x y he) (le x h1 ho))))
    rw [l4]
    by_cases hxp : x = p
    · subst hxp
      exact ⟨s2.log, e4, rfl, l2 ▸ List.mem_append_right _ (pf y hy ((hkids y he).resolve_right hS))⟩
    · exact before_append _ (fi.order x y h1 (off2 x hxp ho) he hy hS)

/-- the tail of `Shutdown(p)` after the children loop (`s1` = state when the loop starts, `s2` = when it ends) -/
theorem post_of_loop (rank : Nat → Nat) {s s1 s2 : Sys} {p : Nat} (hyp : Hyp rank s.tree) (hp : p ∈ s.running)
    (hq01 : Quiet { s with stopping := p :: s.stopping } s1) (fi : FI rank p s1 s2)
    (hkids : ∀ y, edge s1.tree p y → y ∉ s2.running ∨ y ∈ s1.stopping) :
    Post rank s p ((({ s2 with log := s2.log ++ [Ev.postStop p] }).freeWatchers p).offline p) := by
  have hq34 := quiet_freeWatchers ({ s2 with log := s2.log ++ [Ev.postStop p] }) p
  generalize ({ s2 with log := s2.log ++ [Ev.postStop p] } : Sys).freeWatchers p = s4 at hq34 ⊢
  obtain ⟨e0, l1, -⟩ := hq01.log
  obtain ⟨e4, l4, -⟩ := hq34.log
  have h1stop : s1.stopping = p :: s.stopping := hq01.stopping
  refine Post.of_fi hyp hp
    ((FI.of_frame hq01.shape (fun x _ => hq01.desc x) hq01.running (fun x h => h1stop ▸ h) ⟨e0, l1⟩).trans fi)
    (fun y he => (hkids y (edge_of_descSame hq01.shape (hq01.desc p) he)).imp_right fun h =>
      h1stop ▸ h) hq34.shape hq34.desc
    (fun x => by simp [Sys.offline, hq34.running]) (fun x hx => ?_)
    ⟨e4, by rw [show (s4.offline p).log = s4.log from rfl, l4]; simp⟩
  simpa [Sys.offline, hq34.stopping] using hx

theorem shutdown_post (rank : Nat → Nat) :
    ∀ (fuel : Nat) (s : Sys) (p : Nat) (s' : Sys), Hyp rank s.tree → s.shutdown fuel p = some s' → Post rank s p s' := by
  intro fuel
  induction fuel with
  | zero => intro s p s' _ h; simp [Sys.shutdown] at h
  | succ fuel IH =>
    intro s p s' hyp h
    by_cases hp : p ∈ s.running
    case neg =>
      have : s.running.contains p = false := by simpa using hp
      unfold Sys.shutdown at h
      simp only [this, Bool.not_false, if_true, Option.some.injEq] at h
      subst h
      exact post_offline rank s p hp
    unfold Sys.shutdown at h
    rw [if_neg (by simpa using hp)] at h
    simp only [] at h
    have hq01 := quiet_freeWatchees ({ s with stopping := p :: s.stopping }) p
    generalize ({ s with stopping := p :: s.stopping } : Sys).freeWatchees p = s1 at h hq01
    have hyp1 : Hyp rank s1.tree := hyp_mono hq01.shape hyp
    obtain ⟨s2, hloop, h⟩ := Option.bind_eq_some_iff.mp h
    obtain ⟨fi, hkids⟩ : FI rank p s1 s2 ∧ (∀ y, edge s1.tree p y → y ∉ s2.running ∨ y ∈ s1.stopping) := by
      cases hc : s1.tree.children p with
      | none =>
        rw [hc] at hloop
        simp only [Option.some.injEq] at hloop
        subst hloop
        refine ⟨fi_refl, fun y he => ?_⟩
        by_cases hnos : p = NOS
        · exact absurd (hnos ▸ he) (hyp1.2 y)
        · exact absurd he (children_none_no_edge _ _ hc hnos y)
      | some cs =>
        rw [hc] at hloop
        have hce := children_edge _ _ _ hc
        obtain ⟨fi, hk⟩ := fi_fold rank fuel p IH cs s1 s2 hyp1 (fun c hc => hyp1.1 p c.id (hce.1 c hc)) hloop
        refine ⟨fi, fun y he => ?_⟩
        obtain ⟨c, hc1, hc2⟩ := hce.2 y he
        rw [← hc2]
        exact hk c hc1
    cases h
    exact post_of_loop rank hyp hp hq01 fi hkids

end GoaktVerif.Model.C09
