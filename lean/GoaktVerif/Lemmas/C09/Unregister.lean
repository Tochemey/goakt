/-
C09 — `deleteNode(q)` unregisters `q`, and nothing a later `deleteNode` does registers it again.
-/
import GoaktVerif.Lemmas.C09.WF
import GoaktVerif.Model.C09.Stop

namespace GoaktVerif.Model.C09

theorem removeNode_sub (t : Tree) (r : Ptr) (k : Nat) (n' : Node) (h : aget k (t.removeNode r).pids = some n') :
    ∃ n, aget k t.pids = some n ∧ n'.ref = n.ref := by
  cases hl : t.live r with
  | none => rw [removeNode_of_dead hl] at h; exact ⟨n', h, rfl⟩
  | some m =>
    rw [aget_removeNode hl] at h
    split at h
    · cases h
    · obtain ⟨n, hn, rfl⟩ := Option.map_eq_some_iff.mp h
      exact ⟨n, hn, rfl⟩

theorem foldl_removeNode_sub (l : List Ptr) (t : Tree) (k : Nat) (n' : Node)
    (h : aget k (l.foldl Tree.removeNode t).pids = some n') : ∃ n, aget k t.pids = some n ∧ n'.ref = n.ref := by
  induction l generalizing t with
  | nil => exact ⟨n', h, rfl⟩
  | cons r l ih =>
    obtain ⟨n1, hn1, hr1⟩ := ih _ h
    obtain ⟨n, hn, hr⟩ := removeNode_sub t r k n1 hn1
    exact ⟨n, hn, hr1.trans hr⟩

theorem deleteNode_absent (t : Tree) (q : Pid) (k : Nat) (h : aget k t.pids = none) : aget k (t.deleteNode q).pids = none :=
  deleteNode_induct (P := fun t => aget k t.pids = none) (fun t p h => by
    cases hn : aget k (t.removeNode p).pids with
    | none => rfl
    | some n' =>
      obtain ⟨n, hn0, -⟩ := removeNode_sub t p k n' hn
      rw [h] at hn0; cases hn0) t q h

/-- `deleteNode(q)` leaves nothing registered under `q`'s id: the clean-up loop visits the subtree in reverse
    pre-order, so its last iteration is for `q`'s own node object, which is still the one registered under `q.id`
    if anything is (`removeNode` never changes a `ref`) -/
theorem deleteNode_unregisters (t : Tree) (q : Pid) (hq : q.id ≠ NOS) : aget q.id (t.deleteNode q).pids = none := by
  -- `fun_cases f args` gives one goal per leaf of `f` in Model/C09.lean, numbered in the order of the leaves there,
  -- with the guard outcomes and pattern equations on the way as hypotheses
  fun_cases Tree.deleteNode t q
  case case1 h0 => exact absurd h0 hq -- NoSender: excluded
  case case2 _ hn => exact hn -- not registered: the tree stays
  case case3 _ n hn => -- the fold of `removeNode` over the subtree
    have hlive : t.live ⟨q.id, n.ref⟩ = some n := (live_eq_some _ _ _).mpr ⟨hn, rfl⟩
    simp only [Tree.fuel, Tree.subtree, hlive, List.reverse_cons, List.foldl_append, List.foldl_cons, List.foldl_nil]
    generalize (List.flatMap _ n.desc).reverse = l
    have hsub : ∀ n', aget q.id (l.foldl Tree.removeNode t).pids = some n' → n'.ref = n.ref := fun n' h' => by
      obtain ⟨n0, hn0, hr⟩ := foldl_removeNode_sub l t q.id n' h'
      rw [hn] at hn0
      cases hn0
      exact hr
    generalize l.foldl Tree.removeNode t = t' at hsub ⊢
    cases hl : t'.live ⟨q.id, n.ref⟩ with
    | some m => rw [aget_removeNode hl, if_pos rfl]
    | none =>
      rw [removeNode_of_dead hl]
      cases hn' : aget q.id t'.pids with
      | none => rfl
      | some n' =>
        rw [(live_eq_some t' ⟨q.id, n.ref⟩ n').mpr ⟨hn', hsub n' hn'⟩] at hl
        cases hl

/-- once death watch has handled the `Terminated` messages it was sent, none of the actors they name is
    registered any more -/
theorem drain_unregisters (s : Sys) (dw since q : Nat) (hq : q ≠ NOS)
    (hmem : q ∈ terminatedTo dw (s.log.drop since)) : aget q (s.drainDeathWatch dw since).tree.pids = none := by
  unfold Sys.drainDeathWatch
  generalize terminatedTo dw (s.log.drop since) = l at hmem
  induction l generalizing s with
  | nil => cases hmem
  | cons a l ih =>
    rw [List.foldl_cons]
    rcases List.mem_cons.mp hmem with rfl | hmem'
    · -- handled now; later deleteNodes keep it unregistered
      exact List.foldlRecOn l Sys.deathWatch (deleteNode_unregisters s.tree (mkPid q) hq) fun s1 h b _ =>
        deleteNode_absent s1.tree (mkPid b) q h
    · exact ih _ hmem'

end GoaktVerif.Model.C09
