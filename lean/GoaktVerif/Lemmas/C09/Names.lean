/-
C09 — the name index (`names` + `shadowed`, pid_tree.go after fix 38faff1) and its invariant `NWF`, whose point is
that EVERY registered node is the entry of its name or waits in `shadowed` — hence a registered actor's name always
resolves to a registered actor of that name.
Proofs go through `stack` (per name: the shadowed node objects, then the entry) and `nwf_iff_stack`.
-/
import GoaktVerif.Lemmas.C09.WF

namespace GoaktVerif.Model.C09

structure NWF (t : Tree) : Prop where
  /-- nothing is registered before the root: `addNode` needs a registered parent -/
  root_empty : t.rootUsed = false → t.pids = []
  names_live : ∀ nm p, aget nm t.names = some p → ∃ n, t.live p = some n ∧ n.pid.name = nm
  shadow_live : ∀ nm l q, aget nm t.shadowed = some l → q ∈ l → ∃ n, t.live q = some n ∧ n.pid.name = nm
  shadow_ne : ∀ nm l q, aget nm t.shadowed = some l → q ∈ l → aget nm t.names ≠ some q
  shadow_nodup : ∀ nm l, aget nm t.shadowed = some l → l.Nodup
  shadow_entry : ∀ nm l q, aget nm t.shadowed = some l → q ∈ l → (aget nm t.names).isSome
  names_full : ∀ k n, aget k t.pids = some n →
    aget n.pid.name t.names = some ⟨k, n.ref⟩ ∨ ∃ l, aget n.pid.name t.shadowed = some l ∧ (⟨k, n.ref⟩ : Ptr) ∈ l

/-- a registered actor's name resolves to a registered actor carrying that name -/
theorem NWF.resolves {t : Tree} (h : NWF t) (k : Nat) (n : Node) (hn : aget k t.pids = some n) :
    ∃ q m, aget n.pid.name t.names = some q ∧ t.live q = some m ∧ m.pid.name = n.pid.name := by
  rcases h.names_full k n hn with h1 | ⟨l, hl, hmem⟩
  · obtain ⟨m, hm, hname⟩ := h.names_live _ _ h1
    exact ⟨_, m, h1, hm, hname⟩
  · obtain ⟨q, hq⟩ := Option.isSome_iff_exists.mp (h.shadow_entry _ l _ hl hmem)
    obtain ⟨m, hm, hname⟩ := h.names_live _ _ hq
    exact ⟨q, m, hq, hm, hname⟩

theorem live_modNode (t : Tree) (id : Nat) (f : Node → Node) (hr : ∀ n, (f n).ref = n.ref) (q : Ptr) (n : Node)
    (h : t.live q = some n) : (t.modNode id f).live q = some (if q.id = id then f n else n) := by
  rw [live_eq_some] at h
  rw [live_eq_some, aget_modNode]
  by_cases hid : q.id = id
  · subst hid
    simp [h.1, hr, h.2]
  · simp [hid, h.1, h.2]

theorem live_name_modNode {t : Tree} {id : Nat} {f : Node → Node} (hr : ∀ n, (f n).ref = n.ref)
    (hp : ∀ n, (f n).pid = n.pid) {q : Ptr} {n : Node} {nm : Nat} (hq : t.live q = some n) (hname : n.pid.name = nm) :
    ∃ n', (t.modNode id f).live q = some n' ∧ n'.pid.name = nm := by
  refine ⟨_, live_modNode t id f hr q n hq, ?_⟩
  split
  · rw [hp]; exact hname
  · exact hname

theorem names_live_modNode (t : Tree) (id : Nat) (f : Node → Node)
    (hr : ∀ n, (f n).ref = n.ref) (hp : ∀ n, (f n).pid = n.pid)
    (h : ∀ nm p, aget nm t.names = some p → ∃ n, t.live p = some n ∧ n.pid.name = nm) :
    ∀ nm p, aget nm (t.modNode id f).names = some p → ∃ n, (t.modNode id f).live p = some n ∧ n.pid.name = nm :=
  fun nm p hnm => let ⟨_, hn, hname⟩ := h nm p hnm; live_name_modNode hr hp hn hname

theorem live_ptr_unique (t : Tree) (q p : Ptr) (m n : Node) (hq : t.live q = some m) (hp : t.live p = some n)
    (hid : q.id = p.id) : q = p := by
  rw [live_eq_some] at hq hp
  obtain ⟨qi, qr⟩ := q
  obtain ⟨pi, pr⟩ := p
  cases hid
  rw [hq.1] at hp
  cases hp.1
  exact congrArg (Ptr.mk qi) (hq.2.symm.trans hp.2)

/-- the node objects that hold or wait for the name `nm`, oldest first; the `names` entry comes last -/
def stack (ns : List (Nat × Ptr)) (sh : List (Nat × List Ptr)) (nm : Nat) : List Ptr :=
  (aget nm sh).getD [] ++ (aget nm ns).toList

theorem mem_waiting {sh : List (Nat × List Ptr)} {nm : Nat} {q : Ptr} :
    q ∈ (aget nm sh).getD [] ↔ ∃ l, aget nm sh = some l ∧ q ∈ l := by
  cases aget nm sh <;> simp

theorem mem_stack {ns : List (Nat × Ptr)} {sh : List (Nat × List Ptr)} {nm : Nat} {q : Ptr} :
    q ∈ stack ns sh nm ↔ (∃ l, aget nm sh = some l ∧ q ∈ l) ∨ aget nm ns = some q := by
  rw [stack, List.mem_append, mem_waiting, Option.mem_toList]

theorem nwf_iff_stack (t : Tree) : NWF t ↔
    (t.rootUsed = false → t.pids = []) ∧
    (∀ nm q, q ∈ stack t.names t.shadowed nm → ∃ n, t.live q = some n ∧ n.pid.name = nm) ∧
    (∀ nm, (stack t.names t.shadowed nm).Nodup) ∧
    (∀ nm, aget nm t.names = none → (aget nm t.shadowed).getD [] = []) ∧
    ∀ k n, aget k t.pids = some n → (⟨k, n.ref⟩ : Ptr) ∈ stack t.names t.shadowed n.pid.name := by
  constructor
  · intro h
    refine ⟨h.root_empty, fun nm q hq => ?_, fun nm => List.nodup_append.mpr ⟨?_, ?_, fun a ha b hb e => ?_⟩,
      fun nm hnone => List.eq_nil_iff_forall_not_mem.mpr fun q hq => ?_, fun k n hk => ?_⟩
    · rcases mem_stack.mp hq with ⟨l, hl, hm⟩ | hq
      · exact h.shadow_live nm l q hl hm
      · exact h.names_live nm q hq
    · cases hl : aget nm t.shadowed with
      | none => exact List.nodup_nil
      | some l => exact h.shadow_nodup nm l hl
    · cases aget nm t.names <;> simp
    · obtain ⟨l, hl, hm⟩ := mem_waiting.mp ha
      exact h.shadow_ne nm l a hl hm (e ▸ Option.mem_toList.mp hb)
    · obtain ⟨l, hl, hm⟩ := mem_waiting.mp hq
      have := h.shadow_entry nm l q hl hm
      rw [hnone] at this
      cases this
    · exact mem_stack.mpr (h.names_full k n hk).symm
  · intro ⟨hroot, hlive, hnd, hent, hfull⟩
    refine ⟨hroot, fun nm p hp => hlive nm p (mem_stack.mpr (Or.inr hp)),
      fun nm l q hl hq => hlive nm q (mem_stack.mpr (Or.inl ⟨l, hl, hq⟩)), fun nm l q hl hq he => ?_, fun nm l hl => ?_,
      fun nm l q hl hq => ?_, fun k n hk => (mem_stack.mp (hfull k n hk)).symm⟩
    · exact (List.nodup_append.mp (hnd nm)).2.2 q (mem_waiting.mpr ⟨l, hl, hq⟩) q (Option.mem_toList.mpr he) rfl
    · have := (List.nodup_append.mp (hnd nm)).1
      rwa [hl] at this
    · cases he : aget nm t.names with
      | some _ => rfl
      | none =>
        have := hent nm he
        rw [hl] at this
        cases this
        cases hq

theorem nwf_modNode {t : Tree} {id : Nat} {f : Node → Node}
    (hr : ∀ n, (f n).ref = n.ref) (hp : ∀ n, (f n).pid = n.pid) (h : NWF t) : NWF (t.modNode id f) := by
  obtain ⟨hroot, hlive, hnd, hent, hfull⟩ := (nwf_iff_stack t).mp h
  refine (nwf_iff_stack _).mpr ⟨fun hru => ?_, fun nm q hq => ?_, hnd, hent,
    forall_modNode (P := fun k n => (⟨k, n.ref⟩ : Ptr) ∈ stack t.names t.shadowed n.pid.name)
      (fun n hn => by rw [hp, hr]; exact hn) hfull⟩
  · simp [Tree.modNode, hroot hru, amod]
  · obtain ⟨n, hn, hname⟩ := hlive nm q hq
    exact live_name_modNode hr hp hn hname

theorem nwf_removeWatcher (t : Tree) (e w : Pid) (h : NWF t) : NWF (t.removeWatcher e w) :=
  nwf_modNode (Node.delWatcher_ref _) (Node.delWatcher_pid _)
    (nwf_modNode (Node.delWatchee_ref _) (Node.delWatchee_pid _) h)

theorem nwf_removeDescendant (t : Tree) (a c : Nat) (h : NWF t) : NWF (t.removeDescendant a c) :=
  nwf_modNode (Node.delDesc_ref c) (Node.delDesc_pid c) h

theorem nwf_addWatcher (t : Tree) (p w : Pid) (h : NWF t) : NWF (t.addWatcher p w) := by
  rcases addWatcher_eq t p w with e | ⟨-, -, e⟩ <;> rw [e]
  · exact h
  · exact nwf_modNode (Node.setWatchee_ref _ _) (Node.setWatchee_pid _ _)
      (nwf_modNode (Node.setWatcher_ref _ _) (Node.setWatcher_pid _ _) h)

theorem nwf_attach (t : Tree) (a p : Pid) (h : NWF t) : NWF (t.attach a p).1 := by
  rcases attach_eq t a p with e | ⟨pn, cn, -, -, e⟩ <;> rw [e]
  · exact h
  · exact nwf_modNode (Node.setWatcher_ref _ _) (Node.setWatcher_pid _ _)
      (nwf_modNode (Node.setWatchee_ref _ _) (Node.setWatchee_pid _ _)
        (nwf_modNode (Node.setDesc_ref _ _) (Node.setDesc_pid _ _)
          (nwf_modNode (Node.setParent_ref _) (Node.setParent_pid _) h)))

theorem nwf_of_nil {t : Tree} (hp : t.pids = []) (hn : t.names = []) (hs : t.shadowed = []) : NWF t := by
  obtain ⟨pids, names, shadowed, _, _, _⟩ := t
  cases hp
  cases hn
  cases hs
  exact (nwf_iff_stack _).mpr ⟨fun _ => rfl, fun _ _ h => (nomatch (h : _ ∈ [])), fun _ => List.nodup_nil, fun _ _ => rfl,
    fun _ _ h => nomatch (h : none = some _)⟩

theorem nwf_empty : NWF Tree.empty := nwf_of_nil rfl rfl rfl

theorem nwf_reset (t : Tree) : NWF t.reset := nwf_of_nil rfl rfl rfl

/-- `t'` is `t` plus a brand-new node `c` for PID `p` (id not registered) that takes the name entry, the
    previous holder (if any) moving to `shadowed`: the new node is pushed on the stack of `p.name` -/
theorem nwf_insertNamed (t t' : Tree) (p : Pid) (c : Node) (hc : c.pid = p) (habs : aget p.id t.pids = none)
    (hp : t'.pids = aset p.id c t.pids) (hn : t'.names = aset p.name ⟨p.id, c.ref⟩ t.names)
    (hs : t'.shadowed = match aget p.name t.names with
      | some prev => aset p.name ((aget p.name t.shadowed).getD [] ++ [prev]) t.shadowed
      | none => t.shadowed)
    (hr : t'.rootUsed = true) (h : NWF t) : NWF t' := by
  obtain ⟨-, hlive, hnd, hent, hfull⟩ := (nwf_iff_stack t).mp h
  have hother : ∀ nm, nm ≠ p.name → aget nm t'.names = aget nm t.names ∧ aget nm t'.shadowed = aget nm t.shadowed := by
    intro nm hnm
    rw [hn, hs, aget_aset, if_neg hnm]
    refine ⟨rfl, ?_⟩
    split
    · rw [aget_aset, if_neg hnm]
    · rfl
  have hst : ∀ nm, stack t'.names t'.shadowed nm =
      if nm = p.name then stack t.names t.shadowed nm ++ [⟨p.id, c.ref⟩] else stack t.names t.shadowed nm := by
    intro nm
    unfold stack
    split
    · next e =>
      rw [e, hn, hs]
      cases aget p.name t.names <;> simp [aget_aset]
    · next hnm => rw [(hother nm hnm).1, (hother nm hnm).2]
  have keep : ∀ q n, t.live q = some n → t'.live q = some n ∧ q ≠ ⟨p.id, c.ref⟩ := by
    intro q n hq
    have hq' := (live_eq_some t q n).mp hq
    have hne : q.id ≠ p.id := fun he => by rw [he, habs] at hq'; cases hq'.1
    exact ⟨by rw [live_eq_some, hp, aget_aset, if_neg hne]; exact hq', fun he => hne (congrArg Ptr.id he)⟩
  refine (nwf_iff_stack _).mpr ⟨fun hru => absurd (hr.symm.trans hru) (by decide), fun nm q hq => ?_, fun nm => ?_,
    fun nm hnone => ?_, fun k n hk => ?_⟩
  · rw [hst] at hq
    split at hq
    · next e =>
      rcases List.mem_append.mp hq with hq | hq
      · obtain ⟨n, hl, hname⟩ := hlive nm q hq
        exact ⟨n, (keep q n hl).1, hname⟩
      · cases List.mem_singleton.mp hq
        exact ⟨c, by rw [live_eq_some, hp, aget_aset, if_pos rfl]; exact ⟨rfl, rfl⟩, by rw [hc, e]⟩
    · obtain ⟨n, hl, hname⟩ := hlive nm q hq
      exact ⟨n, (keep q n hl).1, hname⟩
  · rw [hst]
    split
    · refine List.nodup_append.mpr ⟨hnd nm, by simp, fun a ha b hb => ?_⟩
      obtain ⟨n, hl, -⟩ := hlive nm a ha
      cases List.mem_singleton.mp hb
      exact (keep a n hl).2
    · exact hnd nm
  · by_cases hnm : nm = p.name
    · rw [hnm, hn, aget_aset, if_pos rfl] at hnone
      cases hnone
    · rw [(hother nm hnm).2]
      exact hent nm ((hother nm hnm).1 ▸ hnone)
  · rw [hp, aget_aset] at hk
    rw [hst]
    split at hk
    · next hkp =>
      cases hk
      rw [hc, if_pos rfl, hkp]
      exact List.mem_append_right _ (List.mem_singleton.mpr rfl)
    · split
      · exact List.mem_append_left _ (hfull k n hk)
      · exact hfull k n hk

theorem nwf_addRoot (t : Tree) (p : Pid) (h : NWF t) : NWF (t.addRoot p).1 := by
  rcases addRoot_eq t p with e | ⟨habs, hru, e⟩ <;> rw [e]
  · exact h
  -- nothing is registered, so no name entry exists
  have hnone : aget p.name t.names = none := by
    cases hq : aget p.name t.names with
    | none => rfl
    | some q =>
      obtain ⟨n, hn, _⟩ := h.names_live _ _ hq
      rw [live_eq_some, h.root_empty hru] at hn
      cases hn.1
  exact nwf_insertNamed t _ p (Node.mk t.next p none [] [] []) rfl habs rfl rfl (by simp [hnone]) rfl h

theorem nwf_addNode (t : Tree) (a p : Pid) (h : NWF t) : NWF (t.addNode a p).1 := by
  rcases addNode_eq t a p with ⟨r, -, e⟩ | ⟨pn, habs, hpn, e⟩ <;> rw [e]
  · exact h
  have hru : t.rootUsed = true := by
    cases hr : t.rootUsed with
    | true => rfl
    | false => rw [h.root_empty hr] at hpn; cases hpn
  have hne : p.id ≠ a.id := fun he => by rw [he, hpn] at habs; cases habs
  refine nwf_insertNamed _ _ p (Node.mk t.next p (some ⟨a.id, pn.ref⟩) [(a.id, a)] [] []) rfl ?_ rfl rfl rfl hru
    (nwf_modNode (Node.setWatchee_ref _ _) (Node.setWatchee_pid _ _)
      (nwf_modNode (Node.setDesc_ref _ _) (Node.setDesc_pid _ _) h))
  simpa [aget_amod, hne] using habs

theorem dropName_spec (names : List (Nat × Ptr)) (sh : List (Nat × List Ptr)) (name : Nat) (p : Ptr) :
    (∀ nm, nm ≠ name → aget nm (dropName names sh name p).1 = aget nm names
        ∧ aget nm (dropName names sh name p).2 = aget nm sh)
    ∧ (aget name names = some p →
        aget name (dropName names sh name p).1 = ((aget name sh).getD []).getLast?
        ∧ (aget name (dropName names sh name p).2).getD [] = ((aget name sh).getD []).dropLast)
    ∧ (aget name names ≠ some p →
        aget name (dropName names sh name p).1 = aget name names
        ∧ (aget name (dropName names sh name p).2).getD [] = ((aget name sh).getD []).filter (· != p)) := by
  have del : ∀ {β : Type} (m : List (Nat × β)) nm, aget nm (adel name m) = if nm = name then none else aget nm m :=
    fun m nm => aget_adel name nm m
  have set : ∀ {β : Type} (v : β) (m : List (Nat × β)) nm,
      aget nm (aset name v m) = if nm = name then some v else aget nm m := fun v m nm => aget_aset name nm v m
  -- `fun_cases f args` gives one goal per leaf of `f` in Model/C09.lean, numbered in the order of the leaves there,
  -- with the guard outcomes and pattern equations on the way as hypotheses (`l` is the model's `prevs`)
  fun_cases dropName names sh name p
  -- `p` holds the entry: the most recent waiting node `q` gets it and leaves `shadowed`
  case case1 l hent q hq =>
    rw [show ((aget name sh).getD []).getLast? = some q from hq]
    obtain ⟨ys, hl⟩ := List.getLast?_eq_some_iff.mp hq
    rw [hl, show (aget name sh).getD [] = ys ++ [q] from hl]
    refine ⟨fun nm hnm => ⟨by rw [set, if_neg hnm], ?_⟩, fun _ => ⟨by rw [set, if_pos rfl], ?_⟩,
      fun h => absurd hent h⟩ <;> rw [List.dropLast_concat] <;> split
    · rw [del, if_neg hnm]
    · rw [set, if_neg hnm]
    · next hlen => rw [del, if_pos rfl, (List.eq_nil_of_length_eq_zero (by simpa using hlen) : ys = [])]; rfl
    · rw [set, if_pos rfl]; rfl
  -- `p` holds the entry and nobody waits: the entry goes
  case case2 l hent hq =>
    rw [show (aget name sh).getD [] = [] from List.getLast?_eq_none_iff.mp hq]
    exact ⟨fun nm hnm => ⟨by rw [del, if_neg hnm], rfl⟩, fun _ => ⟨by rw [del, if_pos rfl]; rfl, rfl⟩,
      fun h => absurd hent h⟩
  -- `p` does not hold the entry and nobody waits: nothing changes
  case case3 l hent hemp =>
    exact ⟨fun nm _ => ⟨rfl, rfl⟩, fun h => absurd h hent,
      fun _ => ⟨rfl, by rw [show (aget name sh).getD [] = [] from List.isEmpty_iff.mp hemp]; rfl⟩⟩
  -- `p` waits (or is not in the index): it leaves the list, the entry stays
  case case4 l hent kept _ =>
    refine ⟨fun nm hnm => ⟨rfl, ?_⟩, fun h => absurd h hent, fun _ => ⟨rfl, ?_⟩⟩ <;> dsimp only <;> split
    · rw [del, if_neg hnm]
    · rw [set, if_neg hnm]
    · next hk => rw [del, if_pos rfl]; exact (List.isEmpty_iff.mp hk).symm
    · rw [set, if_pos rfl]; rfl

theorem dropName_stack (ns : List (Nat × Ptr)) (sh : List (Nat × List Ptr)) (name : Nat) (p : Ptr)
    (hnd : (stack ns sh name).Nodup) (nm : Nat) :
    stack (dropName ns sh name p).1 (dropName ns sh name p).2 nm =
      if nm = name then (stack ns sh nm).filter (· != p) else stack ns sh nm := by
  obtain ⟨hother, hent, hne⟩ := dropName_spec ns sh name p
  unfold stack at hnd ⊢
  split
  · next e =>
    subst e
    by_cases he : aget nm ns = some p
    · rw [(hent he).1, (hent he).2, he]
      rw [he] at hnd
      generalize (aget nm sh).getD [] = l at hnd ⊢
      have hp : l.filter (· != p) = l :=
        List.filter_eq_self.mpr fun a ha => by
          simpa using fun e : a = p => (List.nodup_append.mp hnd).2.2 a ha p (by simp) e
      rw [List.filter_append, hp]
      cases hq : l.getLast? with
      | none => simp [List.getLast?_eq_none_iff.mp hq]
      | some q =>
        obtain ⟨ys, rfl⟩ := List.getLast?_eq_some_iff.mp hq
        simp
    · rw [(hne he).1, (hne he).2, List.filter_append]
      cases hq : aget nm ns with
      | none => rfl
      | some q =>
        have hqp : q ≠ p := fun e => he (hq.trans (congrArg some e))
        simp [hqp]
  · next hnm => rw [(hother nm hnm).1, (hother nm hnm).2]

theorem nwf_removeNode (t : Tree) (p : Ptr) (h : NWF t) : NWF (t.removeNode p) := by
  cases hl : t.live p with
  | none => rw [removeNode_of_dead hl]; exact h
  | some n =>
    obtain ⟨hroot, hlive, hnd, hent, hfull⟩ := (nwf_iff_stack t).mp h
    have hg := aget_removeNode hl
    have hN : (t.removeNode p).names = (dropName t.names t.shadowed n.pid.name p).1 := by
      rw [removeNode_of_live hl]
    have hS : (t.removeNode p).shadowed = (dropName t.names t.shadowed n.pid.name p).2 := by
      rw [removeNode_of_live hl]
    have hst := dropName_stack t.names t.shadowed n.pid.name p (hnd _)
    obtain ⟨hother, hentp, hnep⟩ := dropName_spec t.names t.shadowed n.pid.name p
    rw [← hN, ← hS] at hst hother hentp hnep
    have sub : ∀ nm q, q ∈ stack (t.removeNode p).names (t.removeNode p).shadowed nm →
        q ∈ stack t.names t.shadowed nm ∧ q ≠ p := by
      intro nm q hq
      rw [hst] at hq
      split at hq
      · have := List.mem_filter.mp hq
        exact ⟨this.1, by simpa using this.2⟩
      · next hnm =>
        refine ⟨hq, fun e => hnm ?_⟩
        obtain ⟨m, hm, hname⟩ := hlive nm q hq
        rw [e, hl] at hm
        cases hm
        exact hname.symm
    refine (nwf_iff_stack _).mpr ⟨fun hru => ?_, fun nm q hq => ?_, fun nm => ?_, fun nm hnone => ?_,
      fun k m' hk => ?_⟩
    · have : (t.removeNode p).rootUsed = t.rootUsed := by rw [removeNode_of_live hl]
      rw [live_eq_some, hroot (this ▸ hru)] at hl
      cases hl.1
    · obtain ⟨hm, hne⟩ := sub nm q hq
      obtain ⟨m, hm1, hnm⟩ := hlive nm q hm
      have hid : q.id ≠ p.id := fun he => hne (live_ptr_unique t q p m n hm1 hl he)
      have hq' := (live_eq_some t q m).mp hm1
      exact ⟨scrub n m, by rw [live_eq_some, hg, if_neg hid, hq'.1]; exact ⟨rfl, hq'.2⟩, hnm⟩
    · rw [hst]
      split
      · exact (hnd _).filter _
      · exact hnd nm
    · by_cases hnm : nm = n.pid.name
      · subst hnm
        by_cases he : aget n.pid.name t.names = some p
        · rw [(hentp he).1] at hnone
          rw [(hentp he).2, List.getLast?_eq_none_iff.mp hnone]
          rfl
        · rw [(hnep he).1] at hnone
          rw [(hnep he).2, hent _ hnone]
          rfl
      · rw [(hother nm hnm).2]
        exact hent nm ((hother nm hnm).1 ▸ hnone)
    · rw [hg] at hk
      split at hk
      · cases hk
      · next hkp =>
        obtain ⟨m, hm, rfl⟩ := Option.map_eq_some_iff.mp hk
        have := hfull k m hm
        rw [hst, scrub_pid, scrub_ref]
        split
        · exact List.mem_filter.mpr ⟨this, by simpa using fun e : (⟨k, m.ref⟩ : Ptr) = p => hkp (congrArg Ptr.id e)⟩
        · exact this

theorem nwf_step (t : Tree) (o : Op) (h : NWF t) : NWF (t.step o).1 :=
  step_induct nwf_addRoot nwf_addNode nwf_attach nwf_addWatcher nwf_removeWatcher nwf_removeDescendant nwf_removeNode
    nwf_reset t o h

theorem nwf_run (ops : List Op) (t : Tree) (h : NWF t) : NWF (t.run ops) :=
  List.foldlRecOn ops _ h fun t h o _ => nwf_step t o h

end GoaktVerif.Model.C09
