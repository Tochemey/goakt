/-
C09 — the shape of the tree (which nodes exist, their refs/pids/descendants) under the ops the stop path performs:
`removeWatcher` leaves it alone, `removeDescendant p c` only shrinks `descendants(p)`; the watch-only steps of the stop
path leave the shape, the actor states and every PostStop record alone (`Quiet`).
-/
import GoaktVerif.Lemmas.C09.WF
import GoaktVerif.Model.C09.Stop

namespace GoaktVerif.Model.C09

/-- `y` is a live direct child of `x` (an entry of `descendants(x)` that points to a registered node object) -/
def edge (t : Tree) (x y : Nat) : Prop :=
  ∃ nx e n, aget x t.pids = some nx ∧ e ∈ nx.desc ∧ t.live ⟨e.1, e.2⟩ = some n ∧ n.pid.id = y

/-- same nodes, same node objects and PIDs; `descendants` may only have lost entries -/
def ShapeLe (t t' : Tree) : Prop :=
  ∀ x, (∀ n, aget x t.pids = some n → ∃ n', aget x t'.pids = some n' ∧ n'.ref = n.ref ∧ n'.pid = n.pid ∧
          ∀ e, e ∈ n'.desc → e ∈ n.desc)
     ∧ (∀ n', aget x t'.pids = some n' → ∃ n, aget x t.pids = some n)

def DescSame (t t' : Tree) (x : Nat) : Prop :=
  (aget x t.pids).map (·.desc) = (aget x t'.pids).map (·.desc)

theorem shapeLe_refl (t : Tree) : ShapeLe t t :=
  fun _ => ⟨fun n h => ⟨n, h, rfl, rfl, fun _ he => he⟩, fun n' h => ⟨n', h⟩⟩

theorem shapeLe_trans {a b c : Tree} (h1 : ShapeLe a b) (h2 : ShapeLe b c) : ShapeLe a c := by
  intro x
  constructor
  · intro n hn
    obtain ⟨n1, hn1, r1, p1, d1⟩ := (h1 x).1 n hn
    obtain ⟨n2, hn2, r2, p2, d2⟩ := (h2 x).1 n1 hn1
    exact ⟨n2, hn2, by rw [r2, r1], by rw [p2, p1], fun e he => d1 e (d2 e he)⟩
  · intro n' hn'
    obtain ⟨n1, hn1⟩ := (h2 x).2 n' hn'
    exact (h1 x).2 n1 hn1

theorem descSame_refl (t : Tree) (x : Nat) : DescSame t t x := rfl

theorem live_of_shapeLe {t t' : Tree} (h : ShapeLe t t') (q : Ptr) (n : Node) (hl : t.live q = some n) :
    ∃ n', t'.live q = some n' ∧ n'.pid = n.pid := by
  rw [live_eq_some] at hl
  obtain ⟨n', hn', hr, hp, _⟩ := (h q.id).1 n hl.1
  exact ⟨n', by rw [live_eq_some]; exact ⟨hn', by rw [hr]; exact hl.2⟩, hp⟩

theorem ShapeLe.back {t t' : Tree} (h : ShapeLe t t') {x : Nat} {n' : Node} (hn' : aget x t'.pids = some n') :
    ∃ n, aget x t.pids = some n ∧ n'.ref = n.ref ∧ n'.pid = n.pid ∧ ∀ e, e ∈ n'.desc → e ∈ n.desc := by
  obtain ⟨n, hn⟩ := (h x).2 n' hn'
  obtain ⟨n2, hn2, hr, hp, hd⟩ := (h x).1 n hn
  cases hn'.symm.trans hn2
  exact ⟨n, hn, hr, hp, hd⟩

theorem live_back_of_shapeLe {t t' : Tree} (h : ShapeLe t t') (q : Ptr) (n' : Node) (hl : t'.live q = some n') :
    ∃ n, t.live q = some n ∧ n'.pid = n.pid := by
  rw [live_eq_some] at hl
  obtain ⟨n, hn, hr, hp, -⟩ := h.back hl.1
  exact ⟨n, by rw [live_eq_some]; exact ⟨hn, by rw [← hr]; exact hl.2⟩, hp⟩

theorem edge_of_shapeLe {t t' : Tree} (h : ShapeLe t t') {x y : Nat} (he : edge t' x y) : edge t x y := by
  obtain ⟨nx', e, n', hx', hmem, hl, hid⟩ := he
  obtain ⟨nx, hx, -, -, hd⟩ := h.back hx'
  obtain ⟨n, hn, hp⟩ := live_back_of_shapeLe h _ n' hl
  exact ⟨nx, e, n, hx, hd e hmem, hn, by rw [← hp]; exact hid⟩

theorem edge_of_descSame {t t' : Tree} (h : ShapeLe t t') {x y : Nat} (hd : DescSame t t' x) (he : edge t x y) :
    edge t' x y := by
  obtain ⟨nx, e, n, hx, hmem, hl, hid⟩ := he
  obtain ⟨nx', hx', _, _, _⟩ := (h x).1 nx hx
  have hdesc : nx'.desc = nx.desc := by
    unfold DescSame at hd
    rw [hx, hx'] at hd
    simpa using hd.symm
  obtain ⟨n', hn', hp⟩ := live_of_shapeLe h _ n hl
  exact ⟨nx', e, n', hx', by rw [hdesc]; exact hmem, hn', by rw [hp]; exact hid⟩

theorem shapeLe_modNode (t : Tree) (id : Nat) (f : Node → Node)
    (hr : ∀ n, (f n).ref = n.ref) (hp : ∀ n, (f n).pid = n.pid) (hd : ∀ n e, e ∈ (f n).desc → e ∈ n.desc) :
    ShapeLe t (t.modNode id f) := by
  intro x
  constructor
  · intro n hn
    by_cases hx : x = id
    · subst hx
      exact ⟨f n, by rw [aget_modNode]; simp [hn], hr n, hp n, hd n⟩
    · exact ⟨n, by rw [aget_modNode]; simp [hx, hn], rfl, rfl, fun _ he => he⟩
  · intro n' hn'
    rw [aget_modNode] at hn'
    split at hn'
    · obtain ⟨n, hn, _⟩ := Option.map_eq_some_iff.mp hn'
      exact ⟨n, hn⟩
    · exact ⟨n', hn'⟩

theorem descSame_modNode (t : Tree) (id : Nat) (f : Node → Node) (x : Nat)
    (h : x ≠ id ∨ ∀ n, (f n).desc = n.desc) : DescSame t (t.modNode id f) x := by
  unfold DescSame
  rw [aget_modNode]
  by_cases hx : x = id
  · rcases h with h | h
    · exact absurd hx h
    · simp only [hx, if_true, Option.map_map]
      cases aget id t.pids <;> simp [h]
  · simp [hx]

theorem shapeLe_removeWatcher (t : Tree) (e w : Pid) : ShapeLe t (t.removeWatcher e w) := by
  unfold Tree.removeWatcher
  exact shapeLe_trans (shapeLe_modNode t w.id (Node.delWatchee e.id) (fun _ => rfl) (fun _ => rfl) (fun _ _ h => h))
    (shapeLe_modNode _ e.id (Node.delWatcher w.id) (fun _ => rfl) (fun _ => rfl) (fun _ _ h => h))

theorem descSame_removeWatcher (t : Tree) (e w : Pid) (x : Nat) : DescSame t (t.removeWatcher e w) x := by
  unfold Tree.removeWatcher
  exact (descSame_modNode t w.id (Node.delWatchee e.id) x (Or.inr fun _ => rfl)).trans
    (descSame_modNode _ e.id (Node.delWatcher w.id) x (Or.inr fun _ => rfl))

theorem shapeLe_removeDescendant (t : Tree) (a c : Nat) : ShapeLe t (t.removeDescendant a c) := by
  unfold Tree.removeDescendant
  exact shapeLe_modNode t a (Node.delDesc c) (fun _ => rfl) (fun _ => rfl) (fun _ _ h => (List.mem_filter.mp h).1)

theorem descSame_removeDescendant (t : Tree) (a c x : Nat) (h : x ≠ a) : DescSame t (t.removeDescendant a c) x := by
  unfold Tree.removeDescendant
  exact descSame_modNode t a (Node.delDesc c) x (Or.inl h)

/-- `s'` differs from `s` only in watcher/watchee maps and in `Terminated` records appended to the log -/
structure Quiet (s s' : Sys) : Prop where
  shape : ShapeLe s.tree s'.tree
  desc : ∀ x, DescSame s.tree s'.tree x
  running : s'.running = s.running
  suspended : s'.suspended = s.suspended
  stopping : s'.stopping = s.stopping
  log : ∃ evs, s'.log = s.log ++ evs ∧ ∀ e ∈ evs, ∃ w a, e = Ev.terminated w a

theorem quiet_refl (s : Sys) : Quiet s s :=
  ⟨shapeLe_refl _, fun _ => rfl, rfl, rfl, rfl, [], by simp, by simp⟩

theorem quiet_trans {a b c : Sys} (h1 : Quiet a b) (h2 : Quiet b c) : Quiet a c := by
  obtain ⟨e1, hl1, ht1⟩ := h1.log
  obtain ⟨e2, hl2, ht2⟩ := h2.log
  refine ⟨shapeLe_trans h1.shape h2.shape, fun x => (h1.desc x).trans (h2.desc x), h2.running.trans h1.running,
    h2.suspended.trans h1.suspended, h2.stopping.trans h1.stopping, e1 ++ e2, ?_, ?_⟩
  · rw [hl2, hl1, List.append_assoc]
  · intro e he
    rcases List.mem_append.mp he with h | h
    · exact ht1 e h
    · exact ht2 e h

theorem quiet_unwatch (s : Sys) (w e : Nat) : Quiet s (s.unwatch w e) :=
  ⟨shapeLe_removeWatcher _ _ _, descSame_removeWatcher _ _ _, rfl, rfl, rfl, [], by simp [Sys.unwatch], by simp⟩

theorem quiet_foldl {α : Type} (f : Sys → α → Sys) (hf : ∀ s a, Quiet s (f s a)) (l : List α) (s : Sys) :
    Quiet s (l.foldl f s) := List.foldlRecOn l f (quiet_refl s) fun b hb a _ => quiet_trans hb (hf b a)

theorem quiet_freeWatchees (s : Sys) (p : Nat) : Quiet s (s.freeWatchees p) := by
  -- `fun_cases f args` gives one goal per leaf of `f` in Model/C09.lean, Model/C09/Stop.lean, numbered in the order of the
  -- leaves there, with the guard outcomes and pattern equations on the way as hypotheses
  fun_cases Sys.freeWatchees s p
  case case1 => exact quiet_refl s -- no snapshot (NoSender or not registered)
  case case2 => exact quiet_foldl _ (fun s (w : Pid) => quiet_unwatch s p w.id) _ s -- one `unwatch` per watchee

theorem quiet_notify (p : Nat) (s : Sys) (w : Pid) : Quiet s (Sys.notify p s w) := by
  fun_cases Sys.notify p s w
  case case1 => -- the watcher runs: un-watched, one `Terminated` logged
    have h := quiet_unwatch s w.id p
    exact ⟨h.shape, h.desc, rfl, rfl, rfl, [Ev.terminated w.id p], rfl, by simp⟩
  case case2 => exact quiet_refl s -- not running: skipped

theorem quiet_freeWatchers (s : Sys) (p : Nat) : Quiet s (s.freeWatchers p) := by
  fun_cases Sys.freeWatchers s p
  case case1 => exact quiet_refl s -- no snapshot
  case case2 => exact quiet_foldl _ (quiet_notify p) _ s -- one `notify` per watcher

theorem children_edge (t : Tree) (p : Nat) (cs : List Pid) (h : t.children p = some cs) :
    (∀ c, c ∈ cs → edge t p c.id) ∧ (∀ y, edge t p y → ∃ c, c ∈ cs ∧ c.id = y) := by
  revert h
  fun_cases Tree.children t p
  case case1 | case2 => exact nofun -- NoSender; not registered: `none`
  case case3 _ n hn => -- registered: the live entries of `desc`
    rintro ⟨⟩
    constructor
    · intro c hc
      simp only [List.mem_filterMap] at hc
      obtain ⟨e, he, hm⟩ := hc
      obtain ⟨m, hm1, hm2⟩ := Option.map_eq_some_iff.mp hm
      exact ⟨n, e, m, hn, he, hm1, by rw [← hm2]⟩
    · intro y hy
      obtain ⟨nx, e, m, hx, he, hl, hid⟩ := hy
      have : nx = n := by rw [hn] at hx; simpa using hx.symm
      subst this
      exact ⟨m.pid, by simp only [List.mem_filterMap]; exact ⟨e, he, by simp [hl]⟩, hid⟩

theorem children_none_no_edge (t : Tree) (p : Nat) (h : t.children p = none) (hp : p ≠ NOS) (y : Nat) : ¬ edge t p y := by
  intro hy
  obtain ⟨nx, _, _, hx, _⟩ := hy
  unfold Tree.children at h
  simp [hp, hx] at h

/-- some occurrence of `b` is preceded by an occurrence of `a` -/
def Before (l : List Ev) (a b : Ev) : Prop := ∃ l1 l2, l = l1 ++ b :: l2 ∧ a ∈ l1

theorem before_append {l : List Ev} {a b : Ev} (m : List Ev) (h : Before l a b) : Before (l ++ m) a b := by
  obtain ⟨l1, l2, hl, ha⟩ := h
  exact ⟨l1, l2 ++ m, by rw [hl]; simp, ha⟩

theorem before_of_mem {l m : List Ev} {a b : Ev} (ha : a ∈ l) (hb : b ∈ m) : Before (l ++ m) a b := by
  obtain ⟨m1, m2, hm⟩ := List.append_of_mem hb
  exact ⟨l ++ m1, m2, by rw [hm]; simp, List.mem_append_left _ ha⟩

end GoaktVerif.Model.C09
