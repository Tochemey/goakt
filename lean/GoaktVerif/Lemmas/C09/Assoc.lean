/-
C09 — association lists (`aget/aset/adel/amod/amapv`) behave like Go maps, and `look`, the lookup in a map
stored inside a map (a node's `watchers` / `watchees` reached through `pids`).
-/
import GoaktVerif.Model.C09
import GoaktVerif.Lemmas.Assoc

namespace GoaktVerif.Model.C09

variable {α : Type}

@[simp] theorem aget_nil (k : Nat) : aget k ([] : List (Nat × α)) = none := rfl

theorem aget_cons (k : Nat) (e : Nat × α) (l : List (Nat × α)) :
    aget k (e :: l) = if e.1 = k then some e.2 else aget k l := rfl

theorem aget_eq_lookup (k : Nat) (l : List (Nat × α)) : aget k l = List.lookup k l :=
  Assoc.lookup_of_eqns (fun l k => aget k l) (fun _ => rfl) (fun _ _ _ _ => rfl) l k

theorem aget_adel (k k' : Nat) (l : List (Nat × α)) :
    aget k' (adel k l) = if k' = k then none else aget k' l := by
  rw [aget_eq_lookup, aget_eq_lookup]
  exact Assoc.lookup_del k (fun _ => bne_iff_ne) l k'

theorem aget_aset (k k' : Nat) (v : α) (l : List (Nat × α)) :
    aget k' (aset k v l) = if k' = k then some v else aget k' l := by
  rw [aget_eq_lookup, aget_eq_lookup]
  exact Assoc.lookup_put k (fun _ => bne_iff_ne) v l k'

theorem aget_amod (k k' : Nat) (f : α → α) (l : List (Nat × α)) :
    aget k' (amod k f l) = if k' = k then (aget k' l).map f else aget k' l := by
  induction l with
  | nil => simp [amod]
  | cons e l ih =>
    unfold amod at ih ⊢
    rw [List.map_cons, aget_cons, aget_cons, ih]
    by_cases he : e.1 = k
    · subst he
      rw [if_pos rfl]
      by_cases h : e.1 = k'
      · subst h; simp
      · simp [h]
    · rw [if_neg he]
      by_cases h : e.1 = k'
      · subst h; simp [he]
      · simp [h]

@[simp] theorem isSome_aget_amod (k k' : Nat) (f : α → α) (l : List (Nat × α)) :
    (aget k' (amod k f l)).isSome = (aget k' l).isSome := by
  rw [aget_amod]; split <;> simp

theorem aget_amapv (k : Nat) (f : α → α) (l : List (Nat × α)) :
    aget k (amapv f l) = (aget k l).map f := by
  rw [aget_eq_lookup, aget_eq_lookup]
  exact Assoc.lookup_map_val f l k

theorem aget_none_iff (k : Nat) (l : List (Nat × α)) : aget k l = none ↔ k ∉ akeys l := by
  rw [aget_eq_lookup]
  exact Assoc.lookup_eq_none_iff l k

theorem aget_isSome_iff (k : Nat) (l : List (Nat × α)) : (aget k l).isSome ↔ k ∈ akeys l := by
  rw [Option.isSome_iff_ne_none, ne_eq, aget_none_iff, Decidable.not_not]

theorem aget_mem (k : Nat) (l : List (Nat × α)) (v : α) (h : aget k l = some v) : (k, v) ∈ l :=
  Assoc.mem_of_lookup (aget_eq_lookup k l ▸ h)

theorem mem_aget (l : List (Nat × α)) (e : Nat × α) (hk : (akeys l).Nodup) (he : e ∈ l) : aget e.1 l = some e.2 :=
  (aget_eq_lookup _ l).trans (Assoc.lookup_of_mem hk he)

@[simp] theorem akeys_amod (k : Nat) (f : α → α) (l : List (Nat × α)) : akeys (amod k f l) = akeys l := by
  simp only [akeys, amod, List.map_map]
  apply List.map_congr_left
  intro e _
  simp only [Function.comp]
  split <;> rfl

@[simp] theorem akeys_amapv (f : α → α) (l : List (Nat × α)) : akeys (amapv f l) = akeys l := by
  simp [akeys, amapv, List.map_map, Function.comp_def]

@[simp] theorem length_amod (k : Nat) (f : α → α) (l : List (Nat × α)) : (amod k f l).length = l.length :=
  List.length_map _

@[simp] theorem length_amapv (f : α → α) (l : List (Nat × α)) : (amapv f l).length = l.length :=
  List.length_map _

theorem akeys_adel (k : Nat) (l : List (Nat × α)) : akeys (adel k l) = (akeys l).filter (· != k) := by
  simp [akeys, adel, List.filter_map, Function.comp_def]

theorem nodup_adel (k : Nat) (l : List (Nat × α)) (h : (akeys l).Nodup) : (akeys (adel k l)).Nodup :=
  Assoc.nodup_keys_filter _ h

theorem nodup_aset (k : Nat) (v : α) (l : List (Nat × α)) (h : (akeys l).Nodup) : (akeys (aset k v l)).Nodup :=
  Assoc.nodup_keys_put k (fun _ => bne_iff_ne) v h

theorem adel_of_not_mem (k : Nat) (l : List (Nat × α)) (h : k ∉ akeys l) : adel k l = l :=
  List.filter_eq_self.mpr fun e he => by
    simpa using fun hk : e.1 = k => h (hk ▸ List.mem_map_of_mem he)

theorem length_adel_of_mem (k : Nat) (l : List (Nat × α)) (hn : (akeys l).Nodup) (h : k ∈ akeys l) :
    (adel k l).length + 1 = l.length := by
  induction l with
  | nil => simp [akeys] at h
  | cons e l ih =>
    rw [akeys, List.map_cons, List.nodup_cons] at hn
    rw [akeys, List.map_cons, List.mem_cons] at h
    unfold adel at ih ⊢
    rw [List.filter_cons]
    by_cases he : e.1 = k
    · rw [if_neg (by simpa using he), ← adel, adel_of_not_mem k l (he ▸ hn.1), List.length_cons]
    · rw [if_pos (by simpa using he), List.length_cons, List.length_cons,
        ih hn.2 (h.resolve_left fun hk => he hk.symm)]

theorem length_aset_of_not_mem (k : Nat) (v : α) (l : List (Nat × α)) (h : k ∉ akeys l) :
    (aset k v l).length = l.length + 1 := by
  rw [aset, adel_of_not_mem k l h, List.length_cons]

variable {β : Type}

def look (g : α → List (Nat × β)) (l : List (Nat × α)) (a x : Nat) : Option β :=
  (aget a l).bind fun n => aget x (g n)

theorem look_eq_some {g : α → List (Nat × β)} {l : List (Nat × α)} {a x : Nat} {v : β} :
    look g l a x = some v ↔ ∃ n, aget a l = some n ∧ aget x (g n) = some v :=
  Option.bind_eq_some_iff

theorem look_of_aget {g : α → List (Nat × β)} {l : List (Nat × α)} {a : Nat} {n : α} (h : aget a l = some n)
    (x : Nat) : look g l a x = aget x (g n) := by
  rw [look, h]; rfl

theorem look_of_absent {g : α → List (Nat × β)} {l : List (Nat × α)} {a : Nat} (h : aget a l = none) (x : Nat) :
    look g l a x = none := by
  rw [look, h]; rfl

theorem look_isSome {g : α → List (Nat × β)} {l : List (Nat × α)} {a x : Nat} :
    (look g l a x).isSome ↔ ∃ n, aget a l = some n ∧ (aget x (g n)).isSome := by
  cases h : aget a l with
  | none => simp [look_of_absent h]
  | some n => simp [look_of_aget h]

theorem look_amod (g : α → List (Nat × β)) (id : Nat) (f : α → α) (l : List (Nat × α)) (a x : Nat) :
    look g (amod id f l) a x = if a = id then look (g ∘ f) l a x else look g l a x := by
  unfold look
  rw [aget_amod]
  split
  · rw [Option.bind_map]; rfl
  · rfl

theorem look_amod_same {g : α → List (Nat × β)} {f : α → α} (hf : ∀ n, g (f n) = g n) (id : Nat)
    (l : List (Nat × α)) (a x : Nat) : look g (amod id f l) a x = look g l a x := by
  rw [look_amod, (funext hf : g ∘ f = g), ite_self]

theorem look_amod_aset {g : α → List (Nat × β)} {f : α → α} {k : Nat} {v : β} (hf : ∀ n, g (f n) = aset k v (g n))
    {id : Nat} {l : List (Nat × α)} (hid : (aget id l).isSome) (a x : Nat) :
    look g (amod id f l) a x = if a = id ∧ x = k then some v else look g l a x := by
  obtain ⟨n, hn⟩ := Option.isSome_iff_exists.mp hid
  rw [look_amod]
  by_cases ha : a = id
  · subst ha
    rw [if_pos rfl, look_of_aget hn, look_of_aget hn, Function.comp, hf, aget_aset]
    simp
  · rw [if_neg ha, if_neg fun h => ha h.1]

theorem look_amod_adel {g : α → List (Nat × β)} {f : α → α} {k : Nat} (hf : ∀ n, g (f n) = adel k (g n))
    (id : Nat) (l : List (Nat × α)) (a x : Nat) :
    look g (amod id f l) a x = if a = id ∧ x = k then none else look g l a x := by
  rw [look_amod]
  by_cases ha : a = id
  · subst ha
    rw [if_pos rfl]
    cases hn : aget a l with
    | none => rw [look_of_absent hn, look_of_absent hn, ite_self]
    | some n =>
      rw [look_of_aget hn, look_of_aget hn, Function.comp, hf, aget_adel]
      simp
  · rw [if_neg ha, if_neg fun h => ha h.1]

theorem look_aset (g : α → List (Nat × β)) (k : Nat) (c : α) (l : List (Nat × α)) (a x : Nat) :
    look g (aset k c l) a x = if a = k then aget x (g c) else look g l a x := by
  unfold look
  rw [aget_aset]
  split <;> rfl

theorem look_adel (g : α → List (Nat × β)) (k : Nat) (l : List (Nat × α)) (a x : Nat) :
    look g (adel k l) a x = if a = k then none else look g l a x := by
  unfold look
  rw [aget_adel]
  split <;> rfl

theorem look_amapv (g : α → List (Nat × β)) (f : α → α) (l : List (Nat × α)) (a x : Nat) :
    look g (amapv f l) a x = look (g ∘ f) l a x := by
  unfold look
  rw [aget_amapv, Option.bind_map]; rfl

/-- `F` deletes `K` from the inner map where `c` holds; where `c` fails, `K` is not in it anyway -/
theorem look_scrub {g : α → List (Nat × β)} {F : α → α} {c : α → Prop} [DecidablePred c] {K : Nat}
    (hF : ∀ m, g (F m) = if c m then adel K (g m) else g m) (P : Nat) {l : List (Nat × α)} {a : Nat}
    (hnc : ∀ m, aget a l = some m → ¬ c m → aget K (g m) = none) (x : Nat) :
    look g (amapv F (adel P l)) a x = if a = P ∨ x = K then none else look g l a x := by
  rw [look_amapv, look_adel]
  by_cases ha : a = P
  · rw [if_pos ha, if_pos (Or.inl ha)]
  rw [if_neg ha]
  cases hm : aget a l with
  | none => rw [look_of_absent hm, look_of_absent hm, ite_self]
  | some m =>
    rw [look_of_aget hm, look_of_aget hm, Function.comp, hF]
    by_cases hc : c m
    · rw [if_pos hc, aget_adel]; simp [ha]
    · rw [if_neg hc]
      split
      · next hx => rw [hx.resolve_left ha, hnc m hm hc]
      · rfl

end GoaktVerif.Model.C09
