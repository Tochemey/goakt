/-
C30 — the inductive invariant of the grain activation protocol and its preservation.

Setting of the invariant: every node runs its grain operations sequentially (`Seq`: one logical
thread per node — the per-identity single flight for activations, and no deactivation concurrent with
them), and either the repaired `tryClaimGrain` (`fix = true`) or a step that does not take the
lost-claim branch (`lostClaim c tid = false`).
-/
import GoaktVerif.Model.C30
import GoaktVerif.Lemmas.Pool

namespace GoaktVerif.C30
open GoaktVerif.Model.C30

/-- the step of `tid` would take the branch of `tryClaimGrain` that returns (false, nil, nil):
the NX put was refused and the re-read finds no record any more -/
def lostClaim (c : Cfg) (tid : Nat) : Bool :=
  match c.threads[tid]? with
  | some t =>
    match t.pc with
    | some (.claimGet _) => !t.pre && c.sh.reg.isNone
    | _ => false
  | none => false

/-- facts a thread of node `n` parked at `pc` relies on -/
def Loc (sh : Sh) (n : Node) : Option PC → Prop
  | none => True
  | some .opStart => True
  | some (.ownExists p) | some (.ownGet p) | some (.claimNx p) | some (.claimGet p) =>
    sh.tbl n = none ∧ p < sh.nprocs ∧ sh.procs p = ⟨n, false, false⟩
  | some (.activate p _) =>
    sh.tbl n = none ∧ p < sh.nprocs ∧ sh.procs p = ⟨n, false, false⟩ ∧ sh.reg = some n
  | some (.failDel _) => sh.tbl n = none ∧ sh.reg = some n
  | some (.finPut p) => sh.tbl n = some p
  | some (.rbHook p) | some (.dHook p) => sh.tbl n = some p
  | some (.rbDel p) | some (.dDel p) =>
    sh.tbl n = none ∧ sh.reg = some n ∧ p < sh.nprocs ∧ (sh.procs p).node = n ∧ (sh.procs p).hook = false

/-- facts about node `n`: its table entry is an active, activated process of that node and the
registry names `n`; every active instance of the node is the one in its table -/
def NodeInv (sh : Sh) (n : Node) : Prop :=
  (∀ p, sh.tbl n = some p → p < sh.nprocs ∧ sh.procs p = ⟨n, true, true⟩ ∧ sh.reg = some n) ∧
  (∀ q, q < sh.nprocs → (sh.procs q).node = n → (sh.procs q).hook = true → sh.tbl n = some q)

/-- one thread per node -/
def Seq (ts : List Thread) : Prop :=
  ∀ (i j : Nat) (ti tj : Thread), ts[i]? = some ti → ts[j]? = some tj → ti.node = tj.node → i = j

structure Inv (c : Cfg) : Prop where
  node : ∀ n, NodeInv c.sh n
  loc : ∀ (tid : Nat) (t : Thread), c.threads[tid]? = some t → Loc c.sh t.node t.pc
  seq : Seq c.threads

/-- what a step of a thread of node `m` may change -/
structure Frame (m : Node) (sh sh' : Sh) : Prop where
  tbl : ∀ n, n ≠ m → sh'.tbl n = sh.tbl n
  mono : sh.nprocs ≤ sh'.nprocs
  fwd : ∀ p, p < sh.nprocs → (sh.procs p).node ≠ m → sh'.procs p = sh.procs p
  bwd : ∀ p, p < sh'.nprocs → (sh'.procs p).node ≠ m → p < sh.nprocs ∧ sh.procs p = sh'.procs p
  reg : sh'.reg = sh.reg ∨ sh.reg = none ∨ sh.reg = some m

theorem Frame.reg_named {sh sh' : Sh} {n m : Node} (f : Frame m sh sh') (hn : n ≠ m) (hr : sh.reg = some n) :
    sh'.reg = some n := by
  rcases f.reg with h1 | h1 | h1
  · rw [h1, hr]
  · rw [hr] at h1; cases h1
  · rw [hr] at h1; cases h1; exact absurd rfl hn

theorem loc_frame {sh sh' : Sh} {n m : Node} {pc : Option PC}
    (h : Loc sh n pc) (hn : n ≠ m) (f : Frame m sh sh') : Loc sh' n pc := by
  have hreg := f.reg_named hn
  have htbl {o : Option ProcId} (h1 : sh.tbl n = o) : sh'.tbl n = o := (f.tbl n hn).trans h1
  have hproc {p : ProcId} (hp : p < sh.nprocs) (he : (sh.procs p).node = n) :
      p < sh'.nprocs ∧ sh'.procs p = sh.procs p :=
    ⟨Nat.lt_of_lt_of_le hp f.mono, f.fwd p hp (he ▸ hn)⟩
  cases pc with
  | none => trivial
  | some pc =>
    cases pc with
    | opStart => trivial
    | ownExists p | ownGet p | claimNx p | claimGet p =>
      obtain ⟨h1, h2, h3⟩ := h
      have e := hproc h2 (h3 ▸ rfl)
      exact ⟨htbl h1, e.1, e.2.trans h3⟩
    | activate p _ =>
      obtain ⟨h1, h2, h3, h4⟩ := h
      have e := hproc h2 (h3 ▸ rfl)
      exact ⟨htbl h1, e.1, e.2.trans h3, hreg h4⟩
    | failDel _ => exact ⟨htbl h.1, hreg h.2⟩
    | finPut p | rbHook p | dHook p => exact htbl h
    | rbDel p | dDel p =>
      obtain ⟨h1, h2, h3, h4, h5⟩ := h
      have e := hproc h3 h4
      exact ⟨htbl h1, hreg h2, e.1, e.2 ▸ h4, e.2 ▸ h5⟩

theorem nodeinv_frame {sh sh' : Sh} {n m : Node}
    (h : NodeInv sh n) (hn : n ≠ m) (f : Frame m sh sh') : NodeInv sh' n := by
  constructor
  · intro p hp
    rw [f.tbl n hn] at hp
    obtain ⟨h1, h2, h3⟩ := h.1 p hp
    exact ⟨Nat.lt_of_lt_of_le h1 f.mono, by rw [f.fwd p h1 (by rw [h2]; exact hn), h2], f.reg_named hn h3⟩
  · intro q hq hnode hhook
    obtain ⟨h1, h2⟩ := f.bwd q hq (by rw [hnode]; exact hn)
    rw [f.tbl n hn]
    exact h.2 q h1 (by rw [h2]; exact hnode) (by rw [h2]; exact hhook)


theorem upd_same {α : Type} (f : Nat → α) (k : Nat) (v : α) : upd f k v k = v := by simp [upd]
theorem upd_other {α : Type} (f : Nat → α) (k i : Nat) (v : α) (h : i ≠ k) : upd f k v i = f i := by simp [upd, h]

theorem finish_node (t : Thread) (r : Res) : (finish t r).node = t.node := by
  unfold finish; split <;> rfl
theorem goto_node (t : Thread) (pc : PC) : (goto t pc).node = t.node := rfl
theorem goto_pc (t : Thread) (pc : PC) : (goto t pc).pc = some pc := rfl
theorem loc_finish (sh : Sh) (n : Node) (t : Thread) (r : Res) : Loc sh n (finish t r).pc := by
  unfold finish; split <;> exact True.intro

theorem frame_of_eq {m : Node} {sh sh' : Sh} (h1 : sh'.tbl = sh.tbl) (h2 : sh'.nprocs = sh.nprocs)
    (h3 : sh'.procs = sh.procs) (h4 : sh'.reg = sh.reg ∨ sh.reg = none ∨ sh.reg = some m) : Frame m sh sh' where
  tbl := fun n _ => by rw [h1]
  mono := by rw [h2]; exact Nat.le_refl _
  fwd := fun p _ _ => by rw [h3]
  bwd := fun p hp _ => ⟨by rw [← h2]; exact hp, by rw [h3]⟩
  reg := h4

theorem nodeinv_of_eq {n : Node} {sh sh' : Sh} (h : NodeInv sh n) (h1 : sh'.tbl = sh.tbl) (h2 : sh'.nprocs = sh.nprocs)
    (h3 : sh'.procs = sh.procs) (h4 : sh'.reg = sh.reg ∨ sh.tbl n = none) : NodeInv sh' n := by
  constructor
  · intro p hp
    rw [h1] at hp
    obtain ⟨a, b, c⟩ := h.1 p hp
    refine ⟨by rw [h2]; exact a, by rw [h3]; exact b, ?_⟩
    rcases h4 with e | e
    · rw [e]; exact c
    · rw [e] at hp; cases hp
  · intro q hq hnode hhook
    rw [h1]
    exact h.2 q (by rw [← h2]; exact hq) (by rw [← h3]; exact hnode) (by rw [← h3]; exact hhook)


def LocalOK (sh : Sh) (t : Thread) (r : Sh × Thread) : Prop :=
  Frame t.node sh r.1 ∧ NodeInv r.1 t.node ∧ Loc r.1 t.node r.2.pc ∧ r.2.node = t.node

def ShOK (sh : Sh) (n : Node) (sh' : Sh) : Prop := Frame n sh sh' ∧ NodeInv sh' n

theorem LocalOK.finish {sh sh' : Sh} {t : Thread} (h : ShOK sh t.node sh') (r : Res) : LocalOK sh t (sh', finish t r) :=
  ⟨h.1, h.2, loc_finish _ _ _ _, finish_node _ _⟩

theorem LocalOK.goto {sh sh' : Sh} {t : Thread} {pc : PC} (h : ShOK sh t.node sh') (hl : Loc sh' t.node (some pc)) :
    LocalOK sh t (sh', goto t pc) :=
  ⟨h.1, h.2, hl, rfl⟩

/-- a step that writes at most the two logs (registry reads, refused writes, a failed OnActivate) -/
theorem quiet {sh : Sh} {n : Node} {ev : List HookEv} {log : List RegEv} (hn : NodeInv sh n) :
    ShOK sh n { sh with ev := ev, log := log } :=
  ⟨frame_of_eq rfl rfl rfl (.inl rfl), hn⟩

theorem wrote {sh : Sh} {n : Node} {r : Option Node} {e : RegEv} (hn : NodeInv sh n)
    (h : r = sh.reg ∨ sh.tbl n = none ∧ (sh.reg = none ∨ sh.reg = some n)) : ShOK sh n (setReg sh r e) :=
  ⟨frame_of_eq rfl rfl rfl (h.imp id And.right), nodeinv_of_eq hn rfl rfl rfl (h.imp id And.left)⟩

/-- A step of node `n` that writes one process `p` of that node (an old one, or the one it creates) and the table entry
    of `n`: before it the table of `n` is empty or holds `p`, after it the node is idle or active with `p`. -/
theorem rewrote {sh sh' : Sh} {n : Node} {p : ProcId} {pr : Proc} (hn : NodeInv sh n)
    (hprocs : sh'.procs = upd sh.procs p pr) (hpr : pr.node = n)
    (hp : p < sh.nprocs ∧ (sh.procs p).node = n ∧ sh'.nprocs = sh.nprocs ∨ p = sh.nprocs ∧ sh'.nprocs = sh.nprocs + 1)
    (htbl : ∀ k, k ≠ n → sh'.tbl k = sh.tbl k) (hreg : sh'.reg = sh.reg ∨ sh.reg = none ∨ sh.reg = some n)
    (hold : sh.tbl n = none ∨ sh.tbl n = some p)
    (hnew : sh'.tbl n = none ∧ pr.hook = false ∨
      sh'.tbl n = some p ∧ p < sh'.nprocs ∧ pr = ⟨n, true, true⟩ ∧ sh'.reg = some n) : ShOK sh n sh' := by
  have hoth (q : ProcId) (e : q ≠ p) : sh'.procs q = sh.procs q := by rw [hprocs, upd_other _ _ _ _ e]
  have hself : sh'.procs p = pr := by rw [hprocs, upd_same]
  obtain ⟨hmono, hnp, hnode⟩ : sh.nprocs ≤ sh'.nprocs ∧ (∀ q, q < sh'.nprocs → q ≠ p → q < sh.nprocs) ∧
      (p < sh.nprocs → (sh.procs p).node = n) := by
    rcases hp with ⟨_, h2, h3⟩ | ⟨h1, h3⟩
    · exact ⟨Nat.le_of_eq h3.symm, fun q hq _ => h3 ▸ hq, fun _ => h2⟩
    · exact ⟨h3 ▸ Nat.le_succ _, fun q hq e => Nat.lt_of_le_of_ne (Nat.le_of_lt_succ (h3.subst (motive := (q < ·)) hq)) (h1 ▸ e),
        fun h => absurd h (h1 ▸ Nat.lt_irrefl _)⟩
  refine ⟨⟨htbl, hmono, fun q hq hne => hoth q fun e => hne (e ▸ hnode (e ▸ hq)), fun q hq hne => ?_, hreg⟩,
    fun q hq => ?_, fun q hq hnode hhk => ?_⟩
  · have e : q ≠ p := fun e => hne (e ▸ hself ▸ hpr)
    exact ⟨hnp q hq e, (hoth q e).symm⟩
  · rcases hnew with ⟨h, _⟩ | ⟨h, h1, h2, h3⟩
    · cases h.symm.trans hq
    · cases h.symm.trans hq; exact ⟨h1, hself.trans h2, h3⟩
  · by_cases e : q = p
    · subst e
      rw [hself] at hhk
      rcases hnew with ⟨_, h⟩ | ⟨h, _⟩
      · cases h.symm.trans hhk
      · exact h
    · -- another active process of the node would be the old table entry, which is `p` or none
      rw [hoth q e] at hnode hhk
      have := hn.2 q (hnp q hq e) hnode hhk
      rcases hold with h | h <;> cases h.symm.trans this
      exact absurd rfl e

theorem ok_newProc (sh : Sh) (t : Thread) (hn : NodeInv sh t.node) (ht : sh.tbl t.node = none) :
    LocalOK sh t (newProc sh t.node, goto t (.ownExists sh.nprocs)) :=
  .goto (rewrote hn rfl rfl (.inr ⟨rfl, rfl⟩) (fun _ _ => rfl) (.inl rfl) (.inl ht) (.inl ⟨ht, rfl⟩))
    ⟨ht, Nat.lt_succ_self _, upd_same _ _ _⟩

theorem exec_opStart (fix : Bool) (sh : Sh) (t : Thread) (hn : NodeInv sh t.node) :
    LocalOK sh t (exec fix sh t .opStart) := by
  have same : ShOK sh t.node sh := quiet hn
  simp only [exec]
  split
  · exact .finish same _
  · split
    · exact .finish same _
    · exact .goto same ‹_›
  · split
    · -- a process in the local table is activated: the fast path
      rename_i p hp
      refine iteInduction (fun _ => .finish same _) fun hna => absurd ?_ hna
      rw [(hn.1 p hp).2.1]
    · exact ok_newProc sh t hn ‹_›

theorem ok_owner (sh : Sh) (t : Thread) (p : ProcId) {o : Node} {e : RegEv} (hn : NodeInv sh t.node)
    (hl : Loc sh t.node (some (.ownGet p))) (hr : sh.reg = some o) :
    LocalOK sh t (if o = t.node then (logReg sh e, goto t (.activate p false)) else (logReg sh e, finish t (.own o))) :=
  iteInduction (fun ho => .goto (quiet hn) ⟨hl.1, hl.2.1, hl.2.2, ho ▸ hr⟩) fun _ => .finish (quiet hn) _

theorem exec_activate (fix : Bool) (sh : Sh) (t : Thread) (p : ProcId) (claimed : Bool) (hn : NodeInv sh t.node)
    (hl : Loc sh t.node (some (.activate p claimed))) : LocalOK sh t (exec fix sh t (.activate p claimed)) := by
  obtain ⟨h1, h2, h3, h4⟩ := hl
  refine iteInduction (fun _ => ?_) fun _ => ?_
  · cases claimed
    · exact .finish (quiet hn) _
    · exact .goto (quiet hn) ⟨h1, h4⟩
  · have htbl : (activateOn sh t.node p).tbl t.node = some p := upd_same _ _ _
    exact .goto (rewrote hn rfl (h3 ▸ rfl) (.inl ⟨h2, h3 ▸ rfl, rfl⟩) (fun k hk => upd_other _ _ _ _ hk) (.inl rfl)
      (.inl h1) (.inr ⟨htbl, h2, by rw [h3], h4⟩)) htbl

theorem ok_hookOff (sh : Sh) (t : Thread) (p : ProcId) (hn : NodeInv sh t.node) (hl : sh.tbl t.node = some p) :
    ShOK sh t.node (hookOff sh t.node p) ∧ Loc (hookOff sh t.node p) t.node (some (.rbDel p)) := by
  obtain ⟨h1, h2, h3⟩ := hn.1 p hl
  have hnew : (hookOff sh t.node p).procs p = ⟨t.node, true, false⟩ := (upd_same _ _ _).trans (by rw [h2])
  have htbl : (hookOff sh t.node p).tbl t.node = none := upd_same _ _ _
  exact ⟨rewrote hn rfl (h2 ▸ rfl) (.inl ⟨h1, h2 ▸ rfl, rfl⟩) (fun k hk => upd_other _ _ _ _ hk) (.inl rfl) (.inr hl)
      (.inl ⟨htbl, rfl⟩), htbl, h3, h1, hnew ▸ rfl, hnew ▸ rfl⟩

theorem ok_delOff (sh : Sh) (t : Thread) (p : ProcId) (r : Res) (hn : NodeInv sh t.node)
    (hl : Loc sh t.node (some (.rbDel p))) : LocalOK sh t (delOff sh t.node p, finish t r) :=
  have ⟨h1, h2, h3, h4, h5⟩ := hl
  .finish (rewrote (sh' := delOff sh t.node p) hn rfl h4 (.inl ⟨h3, h4, rfl⟩) (fun _ _ => rfl) (.inr (.inr h2)) (.inl h1)
    (.inl ⟨h1, h5⟩)) r

theorem exec_local (fix : Bool) (sh : Sh) (t : Thread) (pc : PC) (hn : NodeInv sh t.node)
    (hl : Loc sh t.node (some pc)) (hg : fix = true ∨ (∀ p, pc = .claimGet p → sh.reg ≠ none)) :
    LocalOK sh t (exec fix sh t pc) := by
  cases pc with
  | opStart => exact exec_opStart fix sh t hn
  | ownExists p => cases hr : sh.reg <;> simp only [exec, hr] <;> exact .goto (quiet hn) hl
  | ownGet p =>
    cases hr : sh.reg <;> simp only [exec, hr]
    · exact .goto (quiet hn) hl
    · exact ok_owner sh t p hn hl hr
  | claimNx p =>
    cases hr : sh.reg <;> simp only [exec, hr]
    · exact .goto (wrote hn (.inr ⟨hl.1, .inl hr⟩)) ⟨hl.1, hl.2.1, hl.2.2, rfl⟩
    · exact .goto (quiet hn) hl
  | claimGet p =>
    cases hr : sh.reg <;> simp only [exec, hr]
    · -- the lost-claim branch: only the repaired code gets here, and it retries the claim
      exact iteInduction (fun _ => .goto (quiet hn) hl) fun hf => absurd hr (hg.resolve_left hf p rfl)
    · exact ok_owner sh t p hn hl hr
  | activate p c => exact exec_activate fix sh t p c hn hl
  | failDel p => exact .finish (wrote hn (.inr ⟨hl.1, .inr hl.2⟩)) _
  | finPut p =>
    exact iteInduction (fun _ => .goto (quiet hn) hl) fun _ => .finish (wrote hn (.inl (hn.1 p hl).2.2.symm)) _
  -- `Loc` has one clause for `rbDel p` and `dDel p`: the lemmas stated for the rollback serve the deactivation too
  | rbHook p | dHook p =>
    obtain ⟨h, hl'⟩ := ok_hookOff sh t p hn hl
    exact .goto h hl'
  | rbDel p | dDel p => exact ok_delOff sh t p _ hn hl

theorem inv_replace (c : Cfg) (tid : Nat) (t t2 : Thread) (sh' : Sh) (h : Inv c) (ht : c.threads[tid]? = some t)
    (hnode : t2.node = t.node) (hf : Frame t.node c.sh sh') (hni : NodeInv sh' t.node) (hl : Loc sh' t.node t2.pc) :
    Inv { sh := sh', threads := c.threads.set tid t2 } := by
  refine ⟨fun n => ?_, Pool.forall_set (hnode ▸ hl) fun j t' e hj => ?_,
    Pool.pair_set (K := fun i (ti : Thread) j (tj : Thread) => ti.node = tj.node → i = j) (fun _ => rfl) h.seq fun j tj e hj => ?_⟩
  · by_cases e : n = t.node
    · subst e; exact hni
    · exact nodeinv_frame (h.node n) e hf
  · exact loc_frame (h.loc j t' hj) (fun en => e (h.seq j tid t' t hj ht en)) hf
  · exact ⟨fun en => h.seq tid j t tj ht hj (hnode ▸ en), fun en => h.seq j tid tj t hj ht (hnode ▸ en)⟩

theorem step_none {fix : Bool} {c : Cfg} {tid : Nat} (ht : c.threads[tid]? = none) : step fix c tid = c := by
  simp [step, stepL, ht]

theorem step_done {fix : Bool} {c : Cfg} {tid : Nat} {t : Thread} (ht : c.threads[tid]? = some t) (hpc : t.pc = none) :
    step fix c tid = c := by
  simp [step, stepL, ht, hpc]

theorem step_pre {fix : Bool} {c : Cfg} {tid : Nat} {t : Thread} {pc : PC} (ht : c.threads[tid]? = some t)
    (hpc : t.pc = some pc) (hpre : t.pre = true) :
    step fix c tid = { c with threads := c.threads.set tid { t with pre := false } } := by
  simp [step, stepL, ht, hpc, hpre]

theorem step_exec {fix : Bool} {c : Cfg} {tid : Nat} {t : Thread} {pc : PC} (ht : c.threads[tid]? = some t)
    (hpc : t.pc = some pc) (hpre : t.pre = false) :
    step fix c tid = { sh := (exec fix c.sh t pc).1, threads := c.threads.set tid (exec fix c.sh t pc).2 } := by
  simp [step, stepL, ht, hpc, hpre]

/-- THE INDUCTIVE STEP: every step of every thread preserves the invariant, provided the code is
repaired (`fix`) or the step is not the lost-claim branch -/
theorem inv_step (fix : Bool) (c : Cfg) (tid : Nat) (h : Inv c)
    (hg : fix = true ∨ lostClaim c tid = false) : Inv (step fix c tid) := by
  cases ht : c.threads[tid]? with
  | none => rw [step_none ht]; exact h
  | some t =>
    cases hpc : t.pc with
    | none => rw [step_done ht hpc]; exact h
    | some pc =>
      cases hpre : t.pre with
      | true =>
        rw [step_pre ht hpc hpre]
        exact inv_replace c tid t { t with pre := false } c.sh h ht rfl
          (frame_of_eq rfl rfl rfl (Or.inl rfl)) (h.node t.node) (h.loc tid t ht)
      | false =>
        rw [step_exec ht hpc hpre]
        have hl : Loc c.sh t.node (some pc) := by rw [← hpc]; exact h.loc tid t ht
        have hg' : fix = true ∨ (∀ p, pc = .claimGet p → c.sh.reg ≠ none) := by
          rcases hg with e | e
          · exact Or.inl e
          · refine Or.inr ?_
            intro p hp hr
            simp [lostClaim, ht, hpc, hp, hpre, hr] at e
        obtain ⟨hf, hni, hl', hnode⟩ := exec_local fix c.sh t pc (h.node t.node) hl hg'
        exact inv_replace c tid t (exec fix c.sh t pc).2 (exec fix c.sh t pc).1 h ht hnode hf hni hl'

theorem inv_named {sh : Sh} (h : ∀ n, NodeInv sh n) (q : ProcId) (hq : q < sh.nprocs) (hh : (sh.procs q).hook = true) :
    sh.reg = some (sh.procs q).node :=
  ((h _).1 q ((h _).2 q hq rfl hh)).2.2

theorem inv_unique {sh : Sh} (h : ∀ n, NodeInv sh n) (q1 q2 : ProcId) (h1 : q1 < sh.nprocs) (h2 : q2 < sh.nprocs)
    (hh1 : (sh.procs q1).hook = true) (hh2 : (sh.procs q2).hook = true) : q1 = q2 := by
  have r1 := inv_named h q1 h1 hh1
  have r2 := inv_named h q2 h2 hh2
  have e : (sh.procs q1).node = (sh.procs q2).node := by
    rw [r1] at r2; injection r2
  have t1 := (h _).2 q1 h1 rfl hh1
  have t2 := (h _).2 q2 h2 rfl hh2
  rw [e, t2] at t1
  injection t1 with t1
  exact t1.symm

theorem active_le_one {sh : Sh} (h : ∀ n, NodeInv sh n) : activeCount sh ≤ 1 := by
  unfold activeCount
  apply filter_le_one _ _ List.nodup_range
  intro a b ha hb pa pb
  exact inv_unique h a b (List.mem_range.mp ha) (List.mem_range.mp hb) pa pb

def distinct : List Nat → Bool
  | [] => true
  | a :: l => !l.contains a && distinct l

theorem distinct_nodup : ∀ (l : List Nat), distinct l = true → l.Nodup
  | [], _ => .nil
  | a :: l, hd => by
    simp only [distinct, Bool.and_eq_true, Bool.not_eq_true', List.contains_eq_mem, decide_eq_false_iff_not] at hd
    exact List.nodup_cons.mpr ⟨hd.1, distinct_nodup l hd.2⟩

theorem mkThread_node (n : Node) (prog : List Op) : (mkThread n prog).node = n := by
  unfold mkThread; split <;> rfl

theorem mkThread_loc (sh : Sh) (n : Node) (prog : List Op) : Loc sh n (mkThread n prog).pc := by
  unfold mkThread; split <;> exact True.intro

theorem inv_init (nn : Nat) (thr : List (Node × List Op)) (hd : distinct (thr.map Prod.fst) = true) :
    Inv (init nn thr) := by
  refine ⟨?_, ?_, ?_⟩
  · intro n
    constructor
    · intro p hp; cases hp
    · intro q hq; exact absurd hq (Nat.not_lt_zero _)
  · intro tid t ht
    simp only [init, List.getElem?_map, Option.map_eq_some_iff] at ht
    obtain ⟨⟨n, prog⟩, _, e⟩ := ht
    subst e
    rw [mkThread_node]
    exact mkThread_loc _ _ _
  · intro i j ti tj hi hj e
    simp only [init, List.getElem?_map, Option.map_eq_some_iff] at hi hj
    obtain ⟨⟨n1, p1⟩, a1, e1⟩ := hi
    obtain ⟨⟨n2, p2⟩, a2, e2⟩ := hj
    subst e1; subst e2
    rw [mkThread_node, mkThread_node] at e
    subst e
    have hi : (thr.map Prod.fst)[i]? = some n1 := by rw [List.getElem?_map, a1]; rfl
    have hj : (thr.map Prod.fst)[j]? = some n1 := by rw [List.getElem?_map, a2]; rfl
    exact (List.getElem?_inj (List.getElem?_eq_some_iff.mp hi).1 (distinct_nodup _ hd)).mp (hi.trans hj.symm)

end GoaktVerif.C30
