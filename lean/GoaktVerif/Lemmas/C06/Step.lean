/-
C06: the invariant `Inv` holds initially and is preserved by every guarded step, hence along every
guarded schedule.

A clause of `Inv` is a statement about a few components of the configuration, and a step writes
few components.  A step lemma therefore names only the clauses that read a component the step
writes; `{ hI with … }` carries the others over, which type-checks because on the updated
configuration they reduce to the very propositions `hI` proves.  No clause reads `stopping`,
`suspended`, `passivating`, `sysbox`, `box`, `budget` or `log`.
-/
import GoaktVerif.Lemmas.C06
import GoaktVerif.Lemmas.C06.Inv
import GoaktVerif.Lemmas.Run

namespace GoaktVerif.C06
open GoaktVerif.Model.C06 GoaktVerif.Spec.C06

section
variable {c : Cfg}

theorem none_elim {α : Type} {o : Option α} {P : α → Prop} (h0 : o = none) (a : α) (h1 : o = some a) : P a :=
  nomatch h0.symm.trans h1

theorem none_some {α : Type} {P : α → Prop} : ∀ a : α, none = some a → P a := none_elim rfl

theorem holder_pc {id : Nat} {v : Via} {pc pc' : SD} {P : Holder → Prop} (hne : pc ≠ pc' := by decide) :
    ∀ h, some (Holder.mk id v pc) = some h → h.pc = pc' → P h :=
  fun _ hh hpc => by cases hh; exact absurd hpc hne

theorem at_holder {h : Holder} {P : Holder → Prop} (hp : P h) : ∀ h', some h = some h' → P h' :=
  fun _ hh => Option.some.inj hh ▸ hp

theorem afterPostB_unlocked (hl : c.locker = none) : afterPostB c ≠ true := by rw [afterPostB, hl]; nofun

theorem setT_self (c : Cfg) (i : Nat) (pc : TPC) : (setT c i pc).threads i = pc := if_pos rfl

theorem csStep_frame (c : Cfg) (h : Holder) :
    (csStep c h).w = c.w ∧ (csStep c h).threads = c.threads ∧ (csStep c h).win = c.win
      ∧ (csReturns c h = true → (csStep c h).locker = none) := by
  obtain ⟨id, v, pc⟩ := h
  cases pc
  case check => simp only [csStep, csReturns]; split <;> simp [*]
  case unlock => exact ⟨rfl, rfl, rfl, fun _ => rfl⟩
  all_goals exact ⟨rfl, rfl, rfl, nofun⟩

namespace Inv

theorem ok (hI : Inv c) : c.mon.ok = true := by
  rw [Mon.ok, hI.ok1, hI.ok2, hI.ok3, hI.ok4]; rfl

theorem win_none (hI : Inv c) {h : Holder} (hl : c.locker = some h) : c.win = none :=
  Decidable.byContradiction fun hw => nomatch (hI.ex2 hw).symm.trans hl

theorem busy (hI : Inv c) (hw : c.w ≠ .idle) :
    c.sched = .processing ∧ c.win = none ∧ ∀ h, c.locker = some h → h.id = 0 :=
  ⟨Decidable.byContradiction fun h => hw (hI.turn.2 h), hI.ex1 hw⟩

theorem unlocked (hI : Inv c) (hw : c.w ≠ .idle) (hn : ∀ b, c.w ≠ .sdIn b) : c.locker = none :=
  Option.eq_none_iff_forall_ne_some.2 fun h hh =>
    have ⟨b, hb⟩ := hI.ex3 h hh ((hI.busy hw).2.2 h hh)
    hn b hb

theorem posts_zero (hI : Inv c) {h : Holder} (hl : c.locker = some h) (hpc : h.pc = .check ∨ h.pc = .postB)
    (hrb : c.running = true ∨ c.beh = true) : c.mon.posts = 0 := by
  have ha : afterPostB c ≠ true := by
    simp only [afterPostB, hl]; rcases hpc with e | e <;> rw [e] <;> decide
  rcases hrb with hr | hb
  · exact (hI.k1 hr).resolve_right ha
  · rcases hI.k4 hb with h0 | h1 | ⟨i, hi, _⟩
    · exact h0
    · exact absurd h1 ha
    · exact nomatch (hI.win_none hl).symm.trans hi

theorem turn_trySchedule (hI : Inv c) : c.w = .idle ↔ trySchedule c.sched ≠ .processing := by
  rw [hI.turn, trySchedule]
  split
  next h => rw [h]; exact ⟨nofun, nofun⟩
  · exact Iff.rfl

end Inv

theorem inv_enq (hI : Inv c) {sb bx : Nat} :
    Inv { c with sysbox := sb, box := bx, sched := trySchedule c.sched } :=
  { hI with turn := hI.turn_trySchedule }

theorem inv_acquire (hI : Inv c) (hl : c.locker = none) (hwin : c.win = none) (me : Nat) (v : Via)
    (hturn : c.w ≠ .idle → me = 0) (hme : me = 0 → ∃ b, c.w = .sdIn b) : Inv (acquire c me v) :=
  have hpost := afterPostB_unlocked hl
  { hI with
    ex1 := fun hw => ⟨hwin, fun h hh => by cases hh; exact hturn hw⟩
    ex2 := fun h => absurd hwin h
    ex3 := fun h hh hid => by cases hh; exact hme hid
    postBy := (hI.postBy.trans (by rw [hl]) : c.mon.postBy = [])
    k1 := fun hr => .inl ((hI.k1 hr).resolve_right hpost)
    k3 := holder_pc
    k4 := fun hb => (hI.k4 hb).imp_right (.inr <| ·.resolve_left hpost)
    k6 := holder_pc }

theorem inv_cs (hI : Inv c) {h : Holder} (hl : c.locker = some h) : Inv (csStep c h) := by
  obtain ⟨id, v, pc⟩ := h
  have hwin := hI.win_none hl
  -- the exclusion clauses speak of the holder's goroutine only
  have id0 := fun hw => (hI.ex1 hw).2 _ hl
  have sd := hI.ex3 _ hl
  have postBy := hI.postBy
  rw [hl] at postBy
  cases pc <;> simp only [csStep, resetFlags]
  case check =>
    have p0 := hI.posts_zero hl (.inl rfl)
    split
    next hr =>
      exact { hI with
        ex1 := fun hw => ⟨hwin, at_holder (id0 hw)⟩, ex2 := (absurd hwin ·), ex3 := at_holder sd, postBy
        k1 := fun hr => .inl (p0 (.inl hr))
        k3 := fun _ _ _ => hr
        k4 := fun hb => .inl (p0 (.inr hb))
        k6 := holder_pc }
    next hr =>
      exact { hI with
        ex1 := fun _ => ⟨hwin, none_some⟩, ex2 := fun _ => rfl, ex3 := none_some, postBy
        k1 := fun h => absurd h hr
        k3 := none_some
        k4 := fun hb => .inl (p0 (.inr hb))
        k6 := none_some }
  case postB =>
    have hr := hI.k3 _ hl rfl
    have ok := postB_ok (g := id) (v := v) hI.ok2 hI.ok4 (hI.posts_zero hl (.inr rfl) (.inl hr)) (by
      -- a handler inside Receive is the worker's, and then only the worker can hold the lock
      rw [hI.recvBy]
      split
      next hw => have : id = 0 := (hI.busy (hw ▸ nofun)).2.2 _ hl; rw [this]; rfl
      next => rfl)
    exact { hI with
      ex1 := fun hw => ⟨hwin, at_holder (id0 hw)⟩, ex2 := (absurd hwin ·), ex3 := at_holder sd
      ok2 := ok.1, ok4 := ok.2
      postBy := congrArg (id :: ·) postBy
      k1 := fun _ => .inr rfl
      k2 := none_elim (hI.win_none hl)
      k3 := holder_pc
      k4 := fun _ => .inr (.inl rfl)
      k6 := holder_pc }
  case postE =>
    exact { hI with
      ex1 := fun hw => ⟨hwin, at_holder (id0 hw)⟩, ex2 := (absurd hwin ·), ex3 := at_holder sd
      postBy := postE_postBy postBy
      k1 := fun _ => .inr rfl
      k3 := holder_pc
      k4 := fun _ => .inr (.inl rfl)
      k6 := holder_pc }
  case reset =>
    exact { hI with
      ex1 := fun hw => ⟨hwin, at_holder (id0 hw)⟩, ex2 := (absurd hwin ·), ex3 := at_holder sd, postBy
      k1 := nofun
      k3 := holder_pc
      k4 := nofun
      k6 := fun _ _ _ => ⟨rfl, rfl⟩ }
  case unlock =>
    have ⟨hr, hb⟩ := hI.k6 _ hl rfl
    exact { hI with
      ex1 := fun _ => ⟨hwin, none_some⟩, ex2 := fun _ => rfl, ex3 := none_some, postBy
      k1 := fun h => absurd (hr.symm.trans h) nofun
      k3 := none_some
      k4 := fun h => absurd (hb.symm.trans h) nofun
      k6 := none_some }

/-- lock free: the worker's pc and the dispatch state change together (a message may leave a mailbox) -/
theorem inv_setW (hI : Inv c) (hl : c.locker = none) (w : WPC) (s : Sched)
    (recvBy : c.mon.recvBy = match w with | .recv _ => some 0 | _ => none)
    (h : w = .idle ∧ s ≠ .processing ∨ w ≠ .idle ∧ s = .processing ∧ c.win = none) {sb bx : Nat} :
    Inv { c with w := w, sched := s, sysbox := sb, box := bx } :=
  { hI with
    recvBy
    turn := h.elim (fun ⟨hw, hs⟩ => ⟨fun _ => hs, fun _ => hw⟩) fun ⟨hw, hs, _⟩ => ⟨(absurd · hw), (absurd hs ·)⟩
    ex1 := fun hw => ⟨h.elim (absurd ·.1 hw) (·.2.2), none_elim hl⟩
    ex3 := none_elim hl }

theorem inv_w (hI : Inv c) (hg : okStep c 0 = true) : Inv (wStep c) := by
  have recvBy := hI.recvBy
  unfold wStep
  split
  -- idle
  next hw =>
    simp only [okStep, hw, Bool.and_eq_true, Option.isNone_iff_eq_none] at hg
    rw [hw] at recvBy
    split
    · exact inv_setW hI hg.1 (.loop c.budget) .processing recvBy (.inr ⟨nofun, rfl, hg.2⟩)
    · exact hI
  all_goals
    rename_i hw
    have hi : c.w ≠ .idle := hw ▸ nofun
    have ⟨hp, hwin, _⟩ := hI.busy hi
    rw [hw] at recvBy
  -- loop 0: the budget is used up
  next =>
    exact inv_setW hI (hI.unlocked hi (hw ▸ nofun)) .idle .scheduled recvBy (.inl ⟨rfl, nofun⟩)
  -- loop (b + 1): a PoisonPill; else a user message (Receive, or dropped without a behaviour); else the turn ends
  next b _ =>
    have hl := hI.unlocked hi (hw ▸ nofun)
    split
    · exact inv_setW hI hl (.sdLock b) _ recvBy (.inr ⟨nofun, hp, hwin⟩)
    · split
      · split
        next hb =>
          -- the behaviour is installed and nobody is stopping the actor: no PostStop yet
          have p0 : c.mon.posts = 0 := by
            rcases hI.k4 hb with h | h | ⟨i, hi, _⟩
            · exact h
            · exact absurd h (afterPostB_unlocked hl)
            · exact nomatch hwin.symm.trans hi
          have ok := recvB_ok (g := wid) hI.ok3 hI.ok4 p0 (hI.postBy.trans (by rw [hl]))
          exact { hI with
            turn := ⟨nofun, (absurd hp ·)⟩
            ex1 := fun _ => hI.ex1 hi
            ex3 := none_elim hl
            ok1 := recvB_c1 hI.ok1 (hI.pre1 hwin), ok3 := ok.1, ok4 := ok.2
            recvBy := rfl }
        next => exact inv_setW hI hl (.loop b) _ recvBy (.inr ⟨nofun, hp, hwin⟩)
      · exact inv_setW hI hl .idle .idle recvBy (.inl ⟨rfl, nofun⟩)
  -- recv
  next b _ =>
    exact { hI with
      turn := ⟨nofun, (absurd hp ·)⟩
      ex1 := fun _ => hI.ex1 hi
      ex3 := none_elim (hI.unlocked hi (hw ▸ nofun))
      recvBy := rfl }
  -- sdLock
  next b _ =>
    have hl := hI.unlocked hi (hw ▸ nofun)
    split
    · exact inv_acquire (inv_setW hI hl (.sdIn b) _ recvBy (.inr ⟨nofun, hp, hwin⟩)) hl hwin wid .pill
        (fun _ => rfl) fun _ => ⟨b, rfl⟩
    · exact hI
  -- sdIn
  next b _ =>
    split
    · exact hI
    next h hl =>
      split
      · have h1 := inv_cs hI hl
        have ⟨hw', _, hwin', hret⟩ := csStep_frame c h
        split
        next hr =>
          -- Shutdown returns into the turn loop
          exact inv_setW h1 (hret hr) (.loop b) _ (by rw [h1.recvBy, hw', hw])
            (.inr ⟨nofun, (h1.busy (hw'.trans hw ▸ nofun)).1, hwin'.trans hwin⟩)
        · exact h1
      · exact hI

theorem inv_setT (hI : Inv c) (i : Nat) {pc pc₀ : TPC} (hpc : c.threads i = pc₀)
    (h1 : pc₀.inWin = false := by rfl) (h2 : pc.inWin = false := by rfl) : Inv (setT c i pc) := by
  have hwi : c.win ≠ some i := fun h => by have := (hI.win1 i).2 h; rw [hpc, h1] at this; cases this
  -- the window's owner is another thread, whose program counter stays
  have ht : ∀ j, c.win = some j → (setT c i pc).threads j = c.threads j := fun j hj =>
    if_neg fun (e : j = i) => hwi (e ▸ hj)
  exact { hI with
    win1 := Pool.owner_move hI.win1 (h2.trans ((congrArg TPC.inWin hpc).trans h1).symm)
    pre2 := fun j hj => by rw [ht j hj]; exact hI.pre2 j hj
    k2 := fun j hj => by rw [ht j hj]; exact hI.k2 j hj
    k4 := fun hb => (hI.k4 hb).imp_right (·.imp_right fun ⟨j, hj, h⟩ => ⟨j, hj, (ht j hj).trans h⟩) }

theorem inv_rSpin (hI : Inv c) (i : Nat) (hl : c.locker = none) (hwin : c.win = none) (hs : c.sched = .idle) :
    Inv (setT { c with win := some i } i .rBeh) :=
  { hI with
    win1 := Pool.owner_enter hI.win1 hwin rfl
    ex1 := fun hw => absurd (hI.turn.2 (hs ▸ nofun)) hw
    ex2 := fun _ => hl
    pre1 := nofun
    pre2 := fun j hj => by
      cases hj
      rw [setT_self]
      exact ⟨fun h => absurd ((hI.pre1 hwin).symm.trans h) nofun, nofun⟩
    k2 := fun j hj h => by cases hj; exact nomatch (setT_self _ i _).symm.trans h
    k4 := fun hb => (hI.k4 hb).imp_right (·.imp_right fun ⟨j, hj, _⟩ => nomatch hwin.symm.trans hj) }

theorem win_facts (hI : Inv c) (i : Nat) {pc : TPC} (hpc : c.threads i = pc) (hin : pc.inWin = true := by rfl) :
    c.win = some i ∧ c.locker = none ∧ c.w = .idle :=
  have hw := (hI.win1 i).1 (hpc ▸ hin)
  ⟨hw, hI.ex2 (hw ▸ nofun), Decidable.byContradiction fun hn => nomatch (hI.ex1 hn).1.symm.trans hw⟩

theorem inv_rBeh (hI : Inv c) (i : Nat) (hpc : c.threads i = .rBeh) : Inv (setT { c with beh := true } i .rPreB) :=
  have ⟨hw, hl, _⟩ := win_facts hI i hpc
  { hI with
    win1 := Pool.owner_move hI.win1 (congrArg TPC.inWin hpc).symm
    pre2 := fun j hj => by
      cases hw.symm.trans hj
      rw [setT_self]
      exact iff_of_false (fun h => nomatch hpc.symm.trans ((hI.pre2 i hw).1 h)) nofun
    k2 := fun j hj h => by cases hw.symm.trans hj; exact nomatch (setT_self _ i _).symm.trans h
    k4 := fun _ => .inr (.inr ⟨i, hw, setT_self _ i _⟩)
    k6 := none_elim hl }

theorem inv_rPreB (hI : Inv c) (i : Nat) (hpc : c.threads i = .rPreB) :
    Inv (setT (emit c (.preB (tidOf i) .restart)) i .rPreE) :=
  have ⟨hw, _, _⟩ := win_facts hI i hpc
  { hI with
    win1 := Pool.owner_move hI.win1 (congrArg TPC.inWin hpc).symm
    pre1 := fun h => nomatch h.symm.trans hw
    pre2 := fun j hj => by cases hw.symm.trans hj; rw [setT_self]; exact ⟨fun _ => rfl, fun _ => rfl⟩
    k1 := fun _ => .inl rfl
    k2 := fun _ _ _ => rfl
    k4 := fun _ => .inl rfl }

theorem inv_rPreE (hI : Inv c) (i : Nat) (hpc : c.threads i = .rPreE) :
    Inv (setT { emit c (.preE (tidOf i)) with running := true } i .rFin) :=
  have ⟨hw, hl, _⟩ := win_facts hI i hpc
  have p0 := hI.k2 i hw hpc
  { hI with
    win1 := Pool.owner_move hI.win1 (congrArg TPC.inWin hpc).symm
    pre1 := fun _ => rfl
    pre2 := fun j hj => by cases hw.symm.trans hj; rw [setT_self]; exact ⟨nofun, nofun⟩
    k1 := fun _ => .inl p0
    k2 := fun j hj h => by cases hw.symm.trans hj; exact nomatch (setT_self _ i _).symm.trans h
    k3 := none_elim hl
    k4 := fun _ => .inl p0
    k6 := none_elim hl }

theorem inv_rFin (hI : Inv c) (i : Nat) (hpc : c.threads i = .rFin) :
    Inv (setT { c with sched := trySchedule c.sched, suspended := false, box := c.box + 1, win := none } i .done) :=
  have ⟨hw, _, hidle⟩ := win_facts hI i hpc
  { hI with
    turn := hI.turn_trySchedule
    win1 := Pool.owner_leave hI.win1 hw rfl
    ex1 := fun h => absurd hidle h
    ex2 := fun h => absurd rfl h
    pre1 := fun _ => eq_true_of_ne_false fun h => nomatch hpc.symm.trans ((hI.pre2 i hw).1 h)
    pre2 := none_some
    k2 := none_some
    k4 := fun hb => (hI.k4 hb).imp_right (·.imp_right fun ⟨j, hj, h⟩ => by
      cases hw.symm.trans hj; exact nomatch hpc.symm.trans h) }

theorem inv_t (hI : Inv c) (k : Nat) (hg : okStep c (k + 1) = true) : Inv (tStep c k) := by
  -- `fun_cases tStep c k` yields one goal per leaf of the model's definition, with the pc equation and every branch condition
  -- as hypotheses; `case1`, `case2`, … follow the order of the leaves in Model/C06.lean.
  fun_cases tStep c k
  -- done; sdLock with the lock taken; sdIn with no holder or another holder; rWait still running; rSpin not Idle: no-ops
  case case1 | case9 | case10 | case13 | case18 | case21 => exact hI
  -- tCheck (both ways), xPre (both ways), pCheck gives up, rCheck (both ways), rWait → rSpin: only the thread moves
  case case2 p hpc _ | case3 p hpc _ | case6 v hpc _ | case7 v hpc _ | case14 hpc _ | case16 hpc _ | case17 hpc _
      | case19 hpc _ =>
    exact inv_setT hI k hpc
  -- tEnq of a PoisonPill, tEnq of a message
  case case4 hpc | case5 p hpc _ => exact inv_setT (inv_enq hI) k hpc
  -- sdLock, lock free: the guard says no turn is in progress and no window is open
  case case8 v hpc hn =>
    simp only [okStep, hpc, Bool.and_eq_true, bne_iff_ne, Option.isNone_iff_eq_none] at hg
    have h1 := inv_acquire hI (Option.isNone_iff_eq_none.1 hn) hg.2 (tidOf k) v (absurd (hI.turn.2 hg.1) ·) nofun
    exact inv_setT h1 k hpc
  -- sdIn, this thread holds the lock and Shutdown returns
  case case11 v hpc h hl _ _ =>
    exact inv_setT (inv_cs hI hl) k ((congrFun (csStep_frame c h).2.1 k).trans hpc) rfl (by cases v <;> rfl)
  -- sdIn, this thread holds the lock and stays inside
  case case12 v hpc h hl _ _ => exact inv_cs hI hl
  -- pCheck sets `passivating`
  case case15 hpc _ =>
    -- no clause of `Inv` reads `passivating`: each clause of `hI` has the type wanted here
    exact inv_setT (c := { c with passivating := true }) { hI with } k hpc
  -- rSpin, Idle: the window opens; the guard says the lock is free and no other window is open
  case case20 hpc hs =>
    simp only [okStep, hpc, Bool.and_eq_true, Option.isNone_iff_eq_none] at hg
    exact inv_rSpin hI k hg.1 hg.2 hs
  -- inside the window
  case case22 hpc => exact inv_rBeh hI k hpc   -- rBeh
  case case23 hpc => exact inv_rPreB hI k hpc  -- rPreB
  case case24 hpc => exact inv_rPreE hI k hpc  -- rPreE
  case case25 hpc => exact inv_rFin hI k hpc   -- rFin

end

theorem inv_step (c : Cfg) (a : Nat) (hI : Inv c) (hg : okStep c a = true) : Inv (step c a) := by
  cases a with
  | zero => exact inv_w hI hg
  | succ k => exact inv_t hI k hg

theorem initial_not_inWin {t : TPC} (h : t.initial = true) : t.inWin = false := by
  cases t <;> first | rfl | nomatch h

theorem inv_init (b : Nat) (prog : Nat → TPC) (hp : ∀ i, (prog i).initial = true) : Inv (init b prog) where
  turn := ⟨fun _ => nofun, fun _ => rfl⟩
  win1 i := ⟨fun h => absurd ((initial_not_inWin (hp i)).symm.trans h) nofun, nofun⟩
  ex1 h := absurd rfl h
  ex2 h := absurd rfl h
  ex3 := none_some
  ok1 := rfl
  ok2 := rfl
  ok3 := rfl
  ok4 := rfl
  recvBy := rfl
  postBy := rfl
  pre1 _ := rfl
  pre2 := none_some
  k1 _ := .inl rfl
  k2 := none_some
  k3 := none_some
  k4 _ := .inl rfl
  k6 := none_some

theorem inv_run (c : Cfg) (s : List Nat) (hI : Inv c) (hg : guarded c s = true) : Inv (run c s) :=
  (Run.inv (P := fun c s => Inv c ∧ guarded c s = true) (fun _ => rfl) (fun _ _ _ => rfl)
    (fun c a _ ⟨hI, hg⟩ => have hg := Bool.and_eq_true_iff.1 hg; ⟨inv_step c a hI hg.1, hg.2⟩) s c ⟨hI, hg⟩).1

end GoaktVerif.C06
