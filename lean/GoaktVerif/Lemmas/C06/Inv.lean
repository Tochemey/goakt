/-
C06: the inductive invariant of guarded executions (definition + automation macro).
-/
import GoaktVerif.Model.C06

namespace GoaktVerif.C06
open GoaktVerif.Model.C06 GoaktVerif.Spec.C06

def afterPostB (c : Cfg) : Bool :=
  match c.locker with
  | some h => h.pc == .postE || h.pc == .reset
  | none => false

/-- invariant of every execution whose steps satisfy `okStep` -/
structure Inv (c : Cfg) : Prop where
  turn : c.w = .idle ↔ c.sched ≠ .processing
  win1 : ∀ i, (c.threads i).inWin = true ↔ c.win = some i
  ex1 : c.w ≠ .idle → c.win = none ∧ ∀ h, c.locker = some h → h.id = 0
  ex2 : c.win ≠ none → c.locker = none
  ex3 : ∀ h, c.locker = some h → h.id = 0 → ∃ b, c.w = .sdIn b
  ok1 : c.mon.c1 = true
  ok2 : c.mon.c2 = true
  ok3 : c.mon.c3 = true
  ok4 : c.mon.c4 = true
  recvBy : c.mon.recvBy = (match c.w with | .recv _ => some 0 | _ => none)
  postBy : c.mon.postBy = (match c.locker with | some h => if h.pc = .postE then [h.id] else [] | none => [])
  pre1 : c.win = none → c.mon.preDone = true
  pre2 : ∀ i, c.win = some i → (c.mon.preDone = false ↔ c.threads i = .rPreE)
  k1 : c.running = true → c.mon.posts = 0 ∨ afterPostB c = true
  k2 : ∀ i, c.win = some i → c.threads i = .rPreE → c.mon.posts = 0
  k3 : ∀ h, c.locker = some h → h.pc = .postB → c.running = true
  k4 : c.beh = true → c.mon.posts = 0 ∨ afterPostB c = true ∨ ∃ i, c.win = some i ∧ c.threads i = .rPreB
  k6 : ∀ h, c.locker = some h → h.pc = .unlock → c.running = false ∧ c.beh = false

macro "inv_solve" : tactic =>
  `(tactic| (constructor <;> simp_all [afterPostB, emit, monStep, acquire, wid, tidOf, resetFlags, sameOrNone]))

end GoaktVerif.C06
