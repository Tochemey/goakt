import GoaktVerif.Gen.C23
import GoaktVerif.Model.C23
import GoaktVerif.Lemmas.FixedWidth
/-
Tie of the decoders' bounds to the Go source: every length / bound condition regenerated by go2lean
(`Gen.C23.*`, kind `if_cond`, on every run) equals the named condition the model branches on, for all
inputs in the range the code can produce (`len(..)` and `int(uint32)` values: non-negative, below 2^61).
An edit of a bound in the source changes the regenerated definition and breaks the matching theorem.
-/
namespace GoaktVerif.C23
open GoaktVerif.Model.C23

/-- a Go `int` that holds a length or an `int(uint32)`: non-negative and far from overflow -/
def IsLen (x : Int64) : Prop := 0 ≤ x.toInt ∧ x.toInt < 2 ^ 61

theorem lit8 : (8 : Int64).toInt = 8 := rfl
theorem lit10 : (10 : Int64).toInt = 10 := rfl
theorem lit12 : (12 : Int64).toInt = 12 := rfl
theorem lit0 : (0 : Int64).toInt = 0 := rfl

abbrev nat (x : Int64) : Nat := x.toInt.toNat

/-! Lengths are below 2^61, so `int` sums of up to three of them stay below 2^63: `+`, `<` and `≤` are those of the values. -/

theorem IsLen.toInt_eq {a : Int64} (ha : IsLen a) : a.toInt = nat a := (Int.toNat_of_nonneg ha.1).symm

theorem IsLen.toInt_add {a b : Int64} (ha : IsLen a) (hb : IsLen b) : (a + b).toInt = (nat a + nat b : Nat) := by
  have := ha.1; have := ha.2; have := hb.1; have := hb.2
  rw [FixedWidth.toInt_add_of_fits a b (by omega) (by omega), IsLen.toInt_eq ha, IsLen.toInt_eq hb, Int.natCast_add]

theorem IsLen.toInt_add3 {a b c : Int64} (ha : IsLen a) (hb : IsLen b) (hc : IsLen c) :
    (a + b + c).toInt = (nat a + nat b + nat c : Nat) := by
  have hab := IsLen.toInt_add ha hb
  have := IsLen.toInt_eq ha; have := IsLen.toInt_eq hb; have := ha.2; have := hb.2; have := hc.1; have := hc.2
  rw [FixedWidth.toInt_add_of_fits (a + b) c (by omega) (by omega), hab, IsLen.toInt_eq hc, ← Int.natCast_add]

theorem IsLen.lt_nat {a b : Int64} (ha : IsLen a) (hb : IsLen b) : a < b ↔ nat a < nat b := by
  rw [Int64.lt_iff_toInt_lt, IsLen.toInt_eq ha, IsLen.toInt_eq hb, Int.ofNat_lt]

theorem IsLen.le_nat {a b : Int64} (ha : IsLen a) (hb : IsLen b) : a ≤ b ↔ nat a ≤ nat b := by
  rw [Int64.le_iff_toInt_le, IsLen.toInt_eq ha, IsLen.toInt_eq hb, Int.ofNat_le]

theorem IsLen.add_gt {a b c : Int64} (ha : IsLen a) (hb : IsLen b) (hc : IsLen c) :
    a + b > c ↔ nat a + nat b > nat c := by
  rw [gt_iff_lt, Int64.lt_iff_toInt_lt, IsLen.toInt_add ha hb, IsLen.toInt_eq hc, Int.ofNat_lt]

theorem isLen0 : IsLen 0 := by unfold IsLen; decide
theorem isLen8 : IsLen 8 := by unfold IsLen; decide
theorem isLen10 : IsLen 10 := by unfold IsLen; decide
theorem isLen12 : IsLen 12 := by unfold IsLen; decide

theorem gen_umShort (dataLen : Int64) (h : IsLen dataLen) :
    Gen.C23.umShort dataLen = decide (UmShort (nat dataLen)) :=
  decide_eq_decide.mpr (IsLen.lt_nat h isLen8)

theorem gen_umTotal (dataLen messageLength : Int64) (h : IsLen dataLen) (hm : IsLen messageLength) :
    Gen.C23.umTotal dataLen messageLength = decide (UmTotal (nat dataLen) (nat messageLength)) := by
  rw [Gen.C23.umTotal, ← Bool.decide_or]
  exact decide_eq_decide.mpr (or_congr (IsLen.lt_nat h hm) (IsLen.lt_nat hm isLen8))

theorem gen_umName (messageLength nameLen : Int64) (hm : IsLen messageLength) (hn : IsLen nameLen) :
    Gen.C23.umName messageLength nameLen = decide (UmName (nat nameLen) (nat messageLength)) :=
  decide_eq_decide.mpr (IsLen.add_gt isLen8 hn hm)

theorem gen_uwmShort (dataLen : Int64) (h : IsLen dataLen) :
    Gen.C23.uwmShort dataLen = decide (UwmShort (nat dataLen)) :=
  decide_eq_decide.mpr (IsLen.lt_nat h isLen12)

theorem gen_uwmTotal (dataLen messageLength : Int64) (h : IsLen dataLen) (hm : IsLen messageLength) :
    Gen.C23.uwmTotal dataLen messageLength = decide (UwmTotal (nat dataLen) (nat messageLength)) := by
  rw [Gen.C23.uwmTotal, ← Bool.decide_or]
  exact decide_eq_decide.mpr (or_congr (IsLen.lt_nat h hm) (IsLen.lt_nat hm isLen12))

/-- the SUM of both lengths must fit (`seeded/C23-m9` weakens this bound) -/
theorem gen_uwmBound (messageLength metaLen nameLen : Int64) (hm : IsLen messageLength) (hk : IsLen metaLen)
    (hn : IsLen nameLen) :
    Gen.C23.uwmBound messageLength metaLen nameLen = decide (UwmBound (nat nameLen) (nat metaLen) (nat messageLength)) :=
  decide_eq_decide.mpr (by
    rw [gt_iff_lt, Int64.lt_iff_toInt_lt, IsLen.toInt_add3 isLen12 hn hk, IsLen.toInt_eq hm, Int.ofNat_lt]; rfl)

theorem gen_uwmHasMeta (metaLen : Int64) (hk : IsLen metaLen) :
    Gen.C23.uwmHasMeta metaLen = decide (UwmHasMeta (nat metaLen)) :=
  decide_eq_decide.mpr (IsLen.lt_nat isLen0 hk)

theorem gen_rdMin (totalLen : UInt32) : Gen.C23.rdMin totalLen = decide (RdMin totalLen.toNat) := by
  simp only [Gen.C23.rdMin, UInt32.lt_iff_toNat_lt, RdMin]
  rfl

theorem gen_rdMax (maxFrameSize totalLen : UInt32) :
    Gen.C23.rdMax maxFrameSize totalLen = decide (RdMax totalLen.toNat maxFrameSize.toNat) := by
  simp only [Gen.C23.rdMax, gt_iff_lt, UInt32.lt_iff_toNat_lt, RdMax]

theorem gen_srvMin (totalLen : UInt32) : Gen.C23.srvMin totalLen = decide (RdMin totalLen.toNat) :=
  gen_rdMin totalLen

theorem gen_srvMax (maxFrameSize totalLen : UInt32) :
    Gen.C23.srvMax maxFrameSize totalLen = decide (RdMax totalLen.toNat maxFrameSize.toNat) :=
  gen_rdMax maxFrameSize totalLen

theorem gen_srvTriesMeta (frameLen : Int64) (h : IsLen frameLen) :
    Gen.C23.srvTriesMeta frameLen = decide (SrvTriesMeta (nat frameLen)) :=
  decide_eq_decide.mpr (IsLen.le_nat isLen12 h)

theorem gen_cliShort (frameLen : Int64) (h : IsLen frameLen) :
    Gen.C23.cliShort frameLen = decide (CliShort (nat frameLen)) :=
  decide_eq_decide.mpr (IsLen.lt_nat h isLen12)

/-- the format-detection condition (no bound on nameLen) -/
theorem gen_cliDetect (nameLen potentialMetaLen totalLen : Int64) (hn : IsLen nameLen) (hk : IsLen potentialMetaLen)
    (ht : IsLen totalLen) :
    Gen.C23.cliDetect nameLen potentialMetaLen totalLen =
      decide (CliDetect (nat totalLen) (nat nameLen) (nat potentialMetaLen)) := by
  rw [Gen.C23.cliDetect, ← Bool.decide_and, ← Bool.decide_and]
  refine decide_eq_decide.mpr (and_congr ⟨fun h => (IsLen.lt_nat isLen0 hn).mp h.1, fun h => ⟨(IsLen.lt_nat isLen0 hn).mpr h, (IsLen.le_nat isLen0 hk).mpr (Nat.zero_le _)⟩⟩ ?_)
  rw [Int64.le_iff_toInt_le, IsLen.toInt_add3 isLen12 hn hk, IsLen.toInt_eq ht, Int.ofNat_le]; rfl

theorem gen_mdShort (dataLen : Int64) (h : IsLen dataLen) :
    Gen.C23.mdShort dataLen = decide (MdShort (nat dataLen)) :=
  decide_eq_decide.mpr (IsLen.lt_nat h isLen10)

theorem gen_mdKey (dataLen keyLen pos : Int64) (h : IsLen dataLen) (hk : IsLen keyLen) (hp : IsLen pos) :
    Gen.C23.mdKey dataLen keyLen pos = decide (MdNeeds (nat pos) (nat keyLen) (nat dataLen)) :=
  decide_eq_decide.mpr (IsLen.add_gt hp hk h)

theorem gen_mdVal (dataLen pos valLen : Int64) (h : IsLen dataLen) (hp : IsLen pos) (hv : IsLen valLen) :
    Gen.C23.mdVal dataLen pos valLen = decide (MdNeeds (nat pos) (nat valLen) (nat dataLen)) :=
  decide_eq_decide.mpr (IsLen.add_gt hp hv h)

theorem gen_mdTail (dataLen pos : Int64) (h : IsLen dataLen) (hp : IsLen pos) :
    Gen.C23.mdTail dataLen pos = decide (MdNeeds (nat pos) 8 (nat dataLen)) :=
  decide_eq_decide.mpr (IsLen.add_gt hp isLen8 h)

theorem gen_mdHasDeadline (remaining : Int64) :
    Gen.C23.mdHasDeadline remaining = decide (MdHasDeadline remaining.toInt) := by
  refine Bool.eq_iff_iff.mpr ?_
  rw [Gen.C23.mdHasDeadline, bne_iff_ne, decide_eq_true_iff, ne_eq, ← Int64.toInt_inj]
  rfl

example : IsLen 46 ∧ IsLen 24 ∧ IsLen 34 := by unfold IsLen; decide
-- the frame of the seeded change C23-m9 (total 46, nameLen 24, metaLen 34: each fits, the sum does not) is rejected
example : Gen.C23.uwmBound 46 34 24 = true ∧ Gen.C23.uwmBound 70 34 24 = false := by decide
example : Gen.C23.umName 12 4 = false ∧ Gen.C23.umName 11 4 = true := by decide
example : Gen.C23.rdMin 7 = true ∧ Gen.C23.rdMin 8 = false ∧ Gen.C23.rdMax 16 17 = true ∧ Gen.C23.rdMax 16 16 = false := by decide
-- a 300-byte type name passes the detection condition; a legacy frame's bytes 8:12 (≥ 0x41000000) do not
example : Gen.C23.cliDetect 300 10 400 = true ∧ Gen.C23.cliDetect 30 1090519040 60 = false := by decide

end GoaktVerif.C23
