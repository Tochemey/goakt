/-
The selection loops of the dispatch in closed form: the two try-each loops return the first success in registration order
(`findSome?`), `resolve` the first exact-type entry that accepts, else the first entry that accepts (`findIdx?`).
With them: `Agree` (no registered serializer mis-decodes a frame) and what `dispDeserialize` returns with its proto fast path.
-/
import GoaktVerif.Model.C25

namespace GoaktVerif.C25
open GoaktVerif.Model.C25

variable {M : Type}

/-- "no entry mis-decodes": every registered entry either rejects the bytes or decodes them to `m` -/
def Agree (es : List (Entry M)) (d : Bytes) (m : M) : Prop :=
  ∀ e ∈ es, ∀ m', e.deser d = .ok m' → m' = m

theorem toOption_eq_some {α} {x : Except Err α} {a : α} : x.toOption = some a ↔ x = .ok a := by
  cases x <;> simp [Except.toOption]

theorem toOption_eq_none {α} {x : Except Err α} : x.toOption = none ↔ ∃ e, x = .error e := by
  cases x <;> simp [Except.toOption]

/-- both loops of the dispatcher return the first success in registration order; which error they report when there
    is none is claimed by no theorem, hence `toOption` -/
theorem serLoop_toOption (es : List (Entry M)) (m : M) (last : Option Err) :
    (serLoop es m last).toOption = es.findSome? fun e => (e.ser m).toOption := by
  induction es generalizing last with
  | nil => cases last <;> rfl
  | cons e es ih =>
    rw [serLoop, List.findSome?_cons]
    cases e.ser m with
    | ok d => rfl
    | error err => exact ih _

theorem deserLoop_toOption (es : List (Entry M)) (d : Bytes) (last : Option Err) :
    (deserLoop es d last).toOption = es.findSome? fun e => (e.deser d).toOption := by
  induction es generalizing last with
  | nil => cases last <;> rfl
  | cons e es ih =>
    rw [deserLoop, List.findSome?_cons]
    cases e.deser d with
    | ok m => rfl
    | error err => exact ih _

theorem deserLoop_ok_mem (es : List (Entry M)) (d : Bytes) (m : M) (last : Option Err)
    (h : deserLoop es d last = .ok m) : ∃ e ∈ es, e.deser d = .ok m := by
  have := deserLoop_toOption es d last
  rw [h] at this
  obtain ⟨e, he, h'⟩ := List.exists_of_findSome?_eq_some this.symm
  exact ⟨e, he, toOption_eq_some.mp h'⟩

theorem deserLoop_all_fail (es : List (Entry M)) (d : Bytes) (last : Option Err)
    (h : ∀ e ∈ es, ∀ m, e.deser d ≠ .ok m) : ∃ err, deserLoop es d last = .error err := by
  rw [← toOption_eq_none, deserLoop_toOption, List.findSome?_eq_none_iff]
  intro e he
  cases hd : e.deser d with
  | ok m => exact absurd hd (h e he m)
  | error _ => rfl

theorem deserLoop_agree (es : List (Entry M)) (d : Bytes) (m : M) (last : Option Err)
    (hag : Agree es d m) (hex : ∃ e ∈ es, e.deser d = .ok m) : deserLoop es d last = .ok m := by
  obtain ⟨e, he, hd⟩ := hex
  cases h : deserLoop es d last with
  | ok m' =>
    obtain ⟨e', he', hd'⟩ := deserLoop_ok_mem es d m' last h
    rw [hag e' he' m' hd']
  | error err =>
    have := deserLoop_toOption es d last
    rw [h] at this
    have := List.findSome?_eq_none_iff.mp this.symm e he
    rw [hd] at this; cases this

theorem firstProto_mem (es : List (Entry M)) (p : Entry M) (h : firstProto es = some p) : p ∈ es := by
  induction es with
  | nil => simp [firstProto] at h
  | cons e es ih =>
    unfold firstProto at h
    split at h
    · cases h; exact List.mem_cons_self
    · exact List.mem_cons_of_mem _ (ih h)

theorem dispDeserialize_cases (reg : Bytes → Bool) (es : List (Entry M)) (d : Bytes) :
    dispDeserialize reg es d = deserLoop es d none ∨
    ∃ p ∈ es, ∃ m, p.deser d = .ok m ∧ dispDeserialize reg es d = .ok m := by
  -- `fun_cases f args` gives one goal per leaf of `f` in Model/C25.lean, numbered in the order of the leaves there,
  -- with the pattern equations and guard outcomes on the way as hypotheses and a `let` of `f` as a local definition
  fun_cases dispDeserialize reg es d
  case case3 p hp _ _ _ m hd => exact .inr ⟨p, firstProto_mem es p hp, m, hd, rfl⟩ -- a registered type, read by the proto serializer
  -- no proto serializer; no type name in the frame; the proto serializer fails on it; the type is not registered: the loop
  case case1 | case2 | case4 | case5 => exact .inl rfl

theorem dispDeserialize_agree (reg : Bytes → Bool) (es : List (Entry M)) (d : Bytes) (m : M)
    (hag : Agree es d m) (hex : ∃ e ∈ es, e.deser d = .ok m) : dispDeserialize reg es d = .ok m := by
  obtain h | ⟨p, hp, m', hd, h⟩ := dispDeserialize_cases reg es d
  · rw [h]; exact deserLoop_agree es d m none hag hex
  · rw [h, hag p hp m' hd]

/-- `serializerDispatch.Deserialize` never invents a message: a result was decoded by a registered serializer -/
theorem dispDeserialize_sound (reg : Bytes → Bool) (es : List (Entry M)) (d : Bytes) (m : M)
    (h : dispDeserialize reg es d = .ok m) : ∃ e ∈ es, e.deser d = .ok m := by
  obtain h' | ⟨p, hp, m', hd, h'⟩ := dispDeserialize_cases reg es d <;> rw [h'] at h
  · exact deserLoop_ok_mem es d m none h
  · cases h; exact ⟨p, hp, hd⟩

theorem resolveFrom_eq (es : List (Entry M)) (m : M) (k : Nat) (fi : Option Nat) :
    resolveFrom es m k fi =
      ((es.findIdx? fun e => e.accepts m && e.exact).map (k + ·)).or
        (fi.or ((es.findIdx? fun e => e.accepts m).map (k + ·))) := by
  induction es generalizing k fi with
  | nil => cases fi <;> rfl
  | cons e es ih =>
    -- an index of the tail, shifted by one and counted from `k`, is that index counted from `k + 1`
    have hf : ((fun x => k + x) ∘ fun i => i + 1) = fun x => k + 1 + x := funext fun i => by
      show k + (i + 1) = k + 1 + i; omega
    unfold resolveFrom
    rw [List.findIdx?_cons, List.findIdx?_cons, ih, ih]
    by_cases ha : e.accepts m = true
    · by_cases hx : e.exact = true
      · simp [ha, hx]
      · cases fi <;> simp [ha, hx, hf]
    · simp [ha, hf]

/-- the selection rule in closed form: the first exact-type entry that accepts, else the first entry that accepts -/
theorem resolve_eq (es : List (Entry M)) (m : M) :
    resolve es m = match es.findIdx? (fun e => e.accepts m && e.exact) with
      | some i => some i
      | none => es.findIdx? fun e => e.accepts m := by
  rw [resolve, resolveFrom_eq]
  cases es.findIdx? (fun e => e.accepts m && e.exact) with
  | some i => simp
  | none => cases es.findIdx? (fun e => e.accepts m) <;> simp

theorem findIdx?_getElem? {α} {xs : List α} {p : α → Bool} {i : Nat} (h : xs.findIdx? p = some i) :
    ∃ x, xs[i]? = some x ∧ p x = true := by
  have := List.of_findIdx?_eq_some h
  cases hx : xs[i]? <;> simp [hx] at this
  exact ⟨_, rfl, this⟩

theorem getElem?_mem' {α} (l : List α) (i : Nat) (a : α) (h : l[i]? = some a) : a ∈ l :=
  List.mem_of_getElem? h

theorem resolveFrom_eq_doc (es : List (Entry M)) (m : M) (k : Nat) (fi : Option Nat) :
    resolveFrom es m k fi = resolveDocFrom es m k fi := by
  induction es generalizing k fi with
  | nil => rfl
  | cons e es ih => unfold resolveFrom resolveDocFrom; simp [ih]

end GoaktVerif.C25
