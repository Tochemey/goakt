/-
C31: the ghost monitor is the monitor of the ghost log; the invariant `Base` and its preservation by
every step.
-/
import GoaktVerif.Model.C31
import GoaktVerif.Lemmas.C06
import GoaktVerif.Lemmas.Run

namespace GoaktVerif.C31
open GoaktVerif.Model.C31 GoaktVerif.Spec.C06
open GoaktVerif.Model.C06 (Sched trySchedule)
open GoaktVerif.Pool (forall_upd)
open GoaktVerif.C06 (recvB_c1)

theorem step_mon (c : Cfg) (a : Nat) (hm : c.mon = monOf c.log) : (step c a).mon = monOf (step c a).log := by
  -- with `monOf log` put for the monitor both sides compute to the same term, whatever the step does
  -- (`fun_cases`: one goal per leaf of the model's definition)
  cases c
  dsimp only at hm
  subst hm
  cases a with
  | zero => simp only [step]; fun_cases wStep <;> rfl
  | succ k => simp only [step]; fun_cases tStep <;> rfl

theorem step_deleted (c : Cfg) (a : Nat) (hd : c.deleted = true) : (step c a).deleted = true := by
  -- every leaf leaves `deleted` alone, except `dea .fin` and `mDea .fin`: `finish` writes `true`
  cases a with
  | zero => simp only [step]; fun_cases wStep c <;> first | exact hd | rfl
  | succ k => simp only [step]; fun_cases tStep c k <;> first | exact hd | rfl

theorem run_inv {P : Cfg → Prop} (h : ∀ c a, P c → P (step c a)) (s : List Nat) (c : Cfg) (hc : P c) : P (run c s) :=
  Run.inv' (fun _ => rfl) (fun _ _ _ => rfl) h s c hc

theorem setT_self (c : Cfg) (i : Nat) (pc : GT) : (setT c i pc).threads i = pc := if_pos rfl

theorem setT_ne (c : Cfg) {i j : Nat} (pc : GT) (h : j ≠ i) : (setT c i pc).threads j = c.threads j := if_neg h

theorem GT.of_initial {t : GT} (h : t.initial = true) : t.creating = false ∧ t.direct = false := by
  cases t <;> first | exact ⟨rfl, rfl⟩ | cases h

theorem absurd_tf {P : Prop} {b : Bool} (h1 : b = true) (h2 : b = false) : P :=
  nomatch h1.symm.trans h2

theorem active_of_not_gone {a p : Bool} (h : ¬(!a || p) = true) : a = true := by
  cases a
  · exact absurd rfl h
  · rfl

/-- Invariant of every execution (any pool, any schedule): nothing happens to the process before
    its activation has completed, and activation happens once. -/
structure Base (c : Cfg) : Prop where
  others : ∀ i, i ≠ 0 → (c.threads i).creating = false
  pre : c.mon.preDone = false ↔ (c.threads 0).creating = true
  quiet : c.mon.preDone = false → c.box = [] ∧ c.active = false ∧ c.w = .idle ∧ c.sched = .idle ∧ c.deleted = false ∧ c.inMap = false
  early : c.mon.preDone = false → ∀ i, i ≠ 0 → (c.threads i).initial = true
  ok1 : c.mon.c1 = true
  del : c.deleted = true → c.inMap = false ∧ c.active = false

theorem Base.of_creating {c : Cfg} (hB : Base c) {i : Nat} (h : (c.threads i).creating = true) :
    i = 0 ∧ c.mon.preDone = false := by
  have hi : i = 0 := Decidable.of_not_not fun hi => Bool.noConfusion ((hB.others i hi).symm.trans h)
  subst hi
  exact ⟨rfl, hB.pre.2 h⟩

theorem Base.started {c : Cfg} (hB : Base c) (h : c.active = true ∨ c.inMap = true ∨ c.deleted = true) :
    c.mon.preDone = true := by
  cases hp : c.mon.preDone
  · obtain ⟨-, ha, -, -, hd, hm⟩ := hB.quiet hp
    rw [ha, hm, hd] at h
    rcases h with h | h | h <;> cases h
  · rfl

theorem Base.started_of_pc {c : Cfg} (hB : Base c) {k : Nat} {pc : GT} (hpc : c.threads k = pc)
    (h1 : pc.creating = false := by rfl) (h2 : pc.initial = false := by rfl) : c.mon.preDone = true := by
  subst hpc
  cases hp : c.mon.preDone
  · by_cases hk : k = 0
    · subst hk; exact nomatch h1.symm.trans (hB.pre.1 hp)
    · exact nomatch h2.symm.trans (hB.early hp k hk)
  · rfl

theorem base_init (reent expired : Bool) (budget : Nat) (prog : Nat → GT) (hp : admissible prog) :
    Base (init reent expired budget prog) :=
  have ⟨⟨_, h0⟩, hrest⟩ := hp
  { others := fun i hi => (GT.of_initial (hrest i hi)).1
    pre := ⟨fun _ => congrArg GT.creating h0, fun _ => rfl⟩
    quiet := fun _ => ⟨rfl, rfl, rfl, rfl, rfl, rfl⟩
    early := fun _ => hrest
    ok1 := rfl
    del := nofun }

theorem base_setT {c : Cfg} (k : Nat) {pc₀ pc : GT} (hB : Base c) (hpc : c.threads k = pc₀)
    (h2 : c.mon.preDone = false → k ≠ 0 → pc.initial = true) (h : pc₀.creating = pc.creating := by rfl) :
    Base (setT c k pc) :=
  have h1 := (congrArg GT.creating hpc).trans h
  { hB with
    others := forall_upd (P := fun i (t : GT) => i ≠ 0 → t.creating = false) (fun hk => h1.symm.trans (hB.others k hk))
      fun i _ => hB.others i
    pre := by
      by_cases hk : k = 0
      · subst hk; rw [setT_self, ← h1]; exact hB.pre
      · rw [setT_ne c pc (Ne.symm hk)]; exact hB.pre
    early := fun hp => forall_upd (P := fun i (t : GT) => i ≠ 0 → t.initial = true) (h2 hp) fun i _ => hB.early hp i }

theorem base_w (c : Cfg) (hB : Base c) : Base (wStep c) := by
  cases hpd : c.mon.preDone
  · -- nothing is scheduled before activation has completed
    obtain ⟨-, -, hw, hs, -, -⟩ := hB.quiet hpd
    unfold wStep
    simp only [hw, hs]
    exact hB
  · -- afterwards a worker step writes nothing `Base` reads, except clause 1 at the start of an OnReceive
    -- and `deleted` at the end of deactivate
    have q {P : Prop} : c.mon.preDone = false → P := absurd_tf hpd
    -- `fun_cases wStep c` yields one goal per leaf of the model's definition, with the pc equation and every branch condition
    -- as hypotheses; `case1`, `case2`, … follow the order of the leaves in Model/C31.lean (likewise `tStep`).
    fun_cases wStep c
    -- loop (b + 1), a user message for an active process: OnReceive begins
    case case5 => exact { hB with quiet := q, ok1 := recvB_c1 hB.ok1 hpd }
    -- dea .fin
    case case14 => exact { hB with quiet := q, del := fun _ => ⟨rfl, rfl⟩ }
    -- idle, loop, rcv, dea .deaB, dea .deaE
    all_goals exact { hB with quiet := q }

theorem base_t (c : Cfg) (k : Nat) (hB : Base c) : Base (tStep c k) := by
  fun_cases tStep c k
  -- done, fresh, sEnsure waiting on the single-flight: nothing moves
  case case1 | case2 | case8 => exact hB
  -- aB
  case case3 p hpc =>
    -- only thread 0 creates, and OnActivate has not completed
    obtain ⟨rfl, hpd⟩ := hB.of_creating (congrArg GT.creating hpc)
    refine base_setT 0 ?_ hpc fun _ h => absurd rfl h
    exact { hB with
      pre := ⟨fun _ => congrArg GT.creating hpc, fun _ => rfl⟩
      quiet := fun _ => hB.quiet hpd, early := fun _ => hB.early hpd }
  -- aE
  case case4 p hpc =>
    obtain ⟨rfl, hpd⟩ := hB.of_creating (congrArg GT.creating hpc)
    exact {
      others := forall_upd (P := fun i (t : GT) => i ≠ 0 → t.creating = false) (fun _ => rfl) fun i _ => hB.others i
      pre := ⟨nofun, fun h => nomatch (congrArg GT.creating (setT_self _ 0 _)).symm.trans h⟩
      quiet := nofun, early := nofun, ok1 := hB.ok1
      del := fun h => nomatch (hB.quiet hpd).2.2.2.2.1.symm.trans h }
  -- sEnsure, registered and active: activation is over
  case case5 p hpc h => exact base_setT k hB hpc (absurd_tf (hB.started (.inr (.inl (Bool.and_eq_true_iff.1 h).1))))
  -- sEnsure, deleted: likewise
  case case6 p hpc _ h => exact base_setT k hB hpc (absurd_tf (hB.started (.inr (.inr h))))
  -- sEnsure, registered but inactive: likewise
  case case7 p hpc _ _ h => exact base_setT k hB hpc (absurd_tf (hB.started (.inr (.inl h))))
  -- sRecv, active: enqueues
  case case9 p hpc h => exact base_setT k { hB with quiet := absurd_tf (hB.started (.inl h)) } hpc fun _ _ => rfl
  -- sRecv, inactive; mCheck gives up: the thread is done
  case case10 p hpc _ | case11 hpc _ => exact base_setT k hB hpc fun _ _ => rfl
  -- mCheck, reentrant grain: passivation pill through the mailbox
  case case12 hpc h _ =>
    exact base_setT k { hB with quiet := absurd_tf (hB.started (.inl (active_of_not_gone h))) } hpc fun _ _ => rfl
  -- mCheck → mTake
  case case13 hpc h _ => exact base_setT k hB hpc (absurd_tf (hB.started (.inl (active_of_not_gone h))))
  -- mTake: Idle but the re-test failed (release) / not Idle (pill through the mailbox): the thread is done
  case case14 hpc _ _ | case16 hpc _ =>
    exact base_setT k { hB with quiet := absurd_tf (hB.started_of_pc hpc) } hpc fun _ _ => rfl
  -- mTake takes the turn, mDea .deaB, mDea .deaE: on to a pc that is not initial
  case case15 hpc _ _ | case17 hpc | case18 hpc =>
    have hpd := hB.started_of_pc hpc
    exact base_setT k { hB with quiet := absurd_tf hpd } hpc (absurd_tf hpd)
  -- mDea .fin
  case case19 hpc =>
    exact base_setT k { hB with quiet := absurd_tf (hB.started_of_pc hpc), del := fun _ => ⟨rfl, rfl⟩ } hpc fun _ _ => rfl

theorem base_step (c : Cfg) (a : Nat) (hB : Base c) : Base (step c a) :=
  match a with
  | 0 => base_w c hB
  | k + 1 => base_t c k hB

end GoaktVerif.C31
