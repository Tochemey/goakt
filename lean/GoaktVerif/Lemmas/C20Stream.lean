import GoaktVerif.Model.C20.Stream
import GoaktVerif.Spec.C20
import GoaktVerif.Lemmas.ListFacts

/-
C20 — the sequential event-stream model delivers, for EVERY operation sequence, exactly what the per-subscriber specification
prescribes.  Model: `Model.C20.Stream` (shared topic relation, registry, per-subscriber queues, exactly as `EventsStream` keeps
them); specification: `Spec.C20.viewStep`/`specRun`.
-/
namespace GoaktVerif.C20
open GoaktVerif.Model.C20.Stream GoaktVerif.Spec.C20

/-- Subscriber `i` of the model (record `sb`) and its independent view agree.  The topic sets are compared only
while the subscriber is active: an inactive one receives nothing, and `RemoveSubscriber`/`Close` clear the view's
topics at once, while nothing here says that the model's unsubscribe loop over `Sub.topics` has taken every pair `(t, i)`
out of `rel`. -/
def SubRel (s : State) (i : SubId) (sb : Sub) (v : View) : Prop :=
  v.alive = sb.active ∧ v.pending = sb.queue ∧
    (sb.active = true → i ∈ s.registry ∧ ∀ t, (t, i) ∈ s.rel ↔ t ∈ v.subscribed)

/-- simulation relation between the model state and the list of independent views -/
structure Rel (s : State) (vs : List View) : Prop where
  len : vs.length = s.subs.length
  bound : ∀ (t i : Nat), (t, i) ∈ s.rel → i < s.subs.length
  sub : ∀ i sb v, s.subs[i]? = some sb → vs[i]? = some v → SubRel s i sb v

theorem rel_init : Rel init [] := ⟨rfl, fun _ _ h => (nomatch h), fun _ _ _ h => (nomatch h)⟩

theorem SubRel.frame {s s' : State} {j sb v} (r : SubRel s j sb v) (hreg : j ∈ s.registry → j ∈ s'.registry)
    (hrel : ∀ t, (t, j) ∈ s'.rel ↔ (t, j) ∈ s.rel) : SubRel s' j sb v :=
  ⟨r.1, r.2.1, fun ha => ⟨hreg (r.2.2 ha).1, fun t => (hrel t).trans ((r.2.2 ha).2 t)⟩⟩

theorem SubRel.receives {s : State} {i sb v} (r : SubRel s i sb v) (t : Topic) :
    (sb.active && decide ((t, i) ∈ s.rel)) = true ↔ v.alive = true ∧ t ∈ v.subscribed := by
  rw [r.1]
  cases ha : sb.active with
  | false => simp
  | true => simp [(r.2.2 ha).2 t]

theorem mem_insertNew {α} [DecidableEq α] (l : List α) (a b : α) : b ∈ insertNew l a ↔ b ∈ l ∨ b = a := by
  unfold insertNew
  split
  · exact ⟨Or.inl, fun h => h.elim id (· ▸ ‹a ∈ l›)⟩
  · simp

/-- the views after an operation that is not `add` -/
abbrev stepViews (vs : List View) (op : Op) : List View := vs.mapIdx fun i v => viewStep i v op

theorem getElem?_stepViews (vs : List View) (op : Op) (i : Nat) :
    (stepViews vs op)[i]? = (vs[i]?).map (fun v => viewStep i v op) := List.getElem?_mapIdx

def target : Op → Option SubId
  | .sub i _ | .unsub i _ | .rm i | .it i | .shut i | .tops i | .act i => some i
  | _ => none

theorem viewStep_other {op : Op} {i j : SubId} (ht : target op = some i) (hij : i ≠ j) (v : View) :
    viewStep j v op = v := by
  cases op with
  | sub _ _ | unsub _ _ | rm _ | it _ | shut _ => cases ht; simp [viewStep, hij]
  | tops _ | act _ => rfl
  | _ => cases ht

/-- The one step lemma: the subscriber list is rewritten pointwise by `g`, and `g` keeps every subscriber in
step with what the operation does to its view. -/
theorem Rel.step {s s' : State} {vs} (h : Rel s vs) (op : Op) (g : SubId → Sub → Sub)
    (hsubs : ∀ i, s'.subs[i]? = (s.subs[i]?).map (g i))
    (hbound : ∀ (t i : Nat), (t, i) ∈ s'.rel → i < s.subs.length)
    (hsub : ∀ i sb v, s.subs[i]? = some sb → SubRel s i sb v → SubRel s' i (g i sb) (viewStep i v op)) :
    Rel s' (stepViews vs op) := by
  have hlen := length_eq_of_getElem?_map hsubs
  refine ⟨by rw [List.length_mapIdx, h.len, hlen], fun t i hm => hlen ▸ hbound t i hm, fun i sb' v' hi hv => ?_⟩
  rw [hsubs] at hi
  rw [getElem?_stepViews] at hv
  cases hs : s.subs[i]? with
  | none => rw [hs] at hi; cases hi
  | some sb =>
    cases hvs : vs[i]? with
    | none => rw [hvs] at hv; cases hv
    | some v =>
      rw [hs] at hi
      rw [hvs] at hv
      cases hi
      cases hv
      exact hsub i sb v hs (h.sub i sb v hs hvs)

theorem Rel.modify {s s' : State} {vs} (h : Rel s vs) {op : Op} (i : SubId) {f : Sub → Sub}
    (ht : target op = some i) (hsubs : s'.subs = s.subs.modify i f)
    (hbound : ∀ (t j : Nat), (t, j) ∈ s'.rel → j < s.subs.length)
    (hi : ∀ sb v, s.subs[i]? = some sb → SubRel s i sb v → SubRel s' i (f sb) (viewStep i v op))
    (hreg : ∀ j, i ≠ j → j ∈ s.registry → j ∈ s'.registry)
    (hrel : ∀ t j, i ≠ j → ((t, j) ∈ s'.rel ↔ (t, j) ∈ s.rel)) : Rel s' (stepViews vs op) := by
  refine h.step op _ (fun j => hsubs ▸ List.getElem?_modify f i s.subs j) hbound fun j sb v hj r => ?_
  by_cases hij : i = j
  · subst hij; rw [if_pos rfl]; exact hi sb v hj r
  · rw [if_neg hij, viewStep_other ht hij]; exact r.frame (hreg j hij) (fun t => hrel t j hij)

theorem Rel.same {s vs} (h : Rel s vs) {op : Op}
    (hop : ∀ j sb v, s.subs[j]? = some sb → SubRel s j sb v → viewStep j v op = v) : Rel s (stepViews vs op) := by
  refine h.step op (fun _ sb => sb) (fun i => by cases s.subs[i]? <;> rfl) h.bound fun j sb v hj r => ?_
  rw [hop j sb v hj r]; exact r

theorem rel_nosub {s vs} (h : Rel s vs) {i : SubId} {op : Op} (ht : target op = some i) (hs : s.subs[i]? = none) :
    Rel s (stepViews vs op) :=
  h.same fun _ _ v hj _ => viewStep_other ht (fun e => nomatch (e ▸ hs).symm.trans hj) v

theorem rel_foldl {α} {f : State → α → State} {op : α → Op}
    (hf : ∀ {s vs}, Rel s vs → ∀ a, Rel (f s a) (stepViews vs (op a))) (l : List α) :
    ∀ {s vs}, Rel s vs → Rel (l.foldl f s) (l.foldl (fun vs a => stepViews vs (op a)) vs) := by
  induction l with
  | nil => exact id
  | cons a l ih => exact fun h => ih (hf h a)

theorem rel_publish {s vs} (h : Rel s vs) (t k) : Rel (publish s t k) (stepViews vs (.pub t k)) := by
  refine h.step _ _ (fun i => List.getElem?_mapIdx) h.bound fun i sb v _ r => ?_
  have hc := r.receives t
  simp only [viewStep]
  by_cases hx : (sb.active && decide ((t, i) ∈ s.rel)) = true
  · rw [if_pos hx, if_pos (hc.mp hx)]; exact ⟨r.1, congrArg (· ++ [(t, k)]) r.2.1, r.2.2⟩
  · rw [if_neg hx, if_neg (mt hc.mpr hx)]; exact r

/-- a broadcast is, view by view, the sequence of its publishes -/
theorem viewStep_bc (i : SubId) (v : View) (k : Nat) (ts : List Topic) :
    viewStep i v (.bc k ts) = ts.foldl (fun v t => viewStep i v (.pub t k)) v := by
  induction ts generalizing v with
  | nil => simp [viewStep]
  | cons t ts ih =>
    rw [List.foldl_cons, ← ih]
    simp only [viewStep]
    by_cases ha : v.alive = true <;> by_cases hm : t ∈ v.subscribed <;> simp [ha, hm]

theorem getElem?_foldl_stepViews {α} (op : α → Op) (l : List α) (vs : List View) (j : Nat) :
    (l.foldl (fun vs a => stepViews vs (op a)) vs)[j]? = (vs[j]?).map fun v => l.foldl (fun v a => viewStep j v (op a)) v := by
  induction l generalizing vs with
  | nil => simp only [List.foldl_nil]; cases vs[j]? <;> rfl
  | cons a l ih => rw [List.foldl_cons, ih, getElem?_stepViews, Option.map_map]; rfl

theorem stepViews_bc (vs : List View) (k : Nat) (ts : List Topic) :
    stepViews vs (.bc k ts) = ts.foldl (fun vs t => stepViews vs (.pub t k)) vs :=
  List.ext_getElem? fun i => by
    rw [getElem?_stepViews, getElem?_foldl_stepViews]
    exact congrArg (Option.map · _) (funext fun v => viewStep_bc i v k ts)

theorem rel_unsubscribe {s vs} (h : Rel s vs) (i t) :
    Rel (unsubscribe s i t) (stepViews vs (.unsub i t)) := by
  refine h.modify i rfl rfl (fun t' j hm => h.bound t' j (List.mem_filter.mp hm).1) (fun sb v _ r => ?_)
    (fun _ _ hr => hr)
    (fun t' j hij => by simp [unsubscribe, List.mem_filter, Ne.symm hij])
  simp only [viewStep, if_true]
  refine ⟨r.1, r.2.1, fun ha => ⟨(r.2.2 ha).1, fun t' => ?_⟩⟩
  simp [unsubscribe, List.mem_filter, (r.2.2 ha).2 t']

theorem rel_sub {s vs} (h : Rel s vs) (i t) : Rel (step s (.sub i t)).1 (stepViews vs (.sub i t)) := by
  simp only [step]
  cases hs : s.subs[i]? with
  | none => exact rel_nosub h rfl hs
  | some sbi =>
    by_cases hact : sbi.active = true
    · simp only [hact, if_true]
      refine h.modify i rfl rfl (fun t' j hm => ?_) (fun sb v hj r => ?_)
        (fun _ _ hr => hr)
        (fun t' j hij => by simp [mem_insertNew, Ne.symm hij])
      · rcases (mem_insertNew ..).mp hm with hm | hm
        · exact h.bound t' j hm
        · cases hm; exact (List.getElem?_eq_some_iff.mp hs).1
      · cases hs.symm.trans hj
        simp only [viewStep]
        rw [if_pos ⟨trivial, r.1.trans hact⟩]
        refine ⟨r.1, r.2.1, fun _ => ⟨(r.2.2 hact).1, fun t' => ?_⟩⟩
        simp [mem_insertNew, (r.2.2 hact).2 t', or_comm]
    · simp only [hact, Bool.false_eq_true, if_false]
      -- the only view that could change is `i`'s, and that one is not alive
      refine h.same fun j sb v hj r => ?_
      by_cases hij : i = j
      · subst hij
        cases hs.symm.trans hj
        simp [viewStep, r.1, hact]
      · exact viewStep_other rfl hij v

theorem rel_shut {s vs} (h : Rel s vs) (i) : Rel (step s (.shut i)).1 (stepViews vs (.shut i)) := by
  simp only [step]
  cases hs : s.subs[i]? with
  | none => exact rel_nosub h rfl hs
  | some sbi =>
    refine h.modify i rfl rfl h.bound (fun sb v _ r => ?_)
      (fun _ _ hr => hr) (fun _ _ _ => Iff.rfl)
    simp only [viewStep, if_true]
    exact ⟨rfl, r.2.1, fun ha => nomatch ha⟩

theorem rel_it {s vs} (h : Rel s vs) (i) : Rel (step s (.it i)).1 (stepViews vs (.it i)) := by
  simp only [step]
  cases hs : s.subs[i]? with
  | none => exact rel_nosub h rfl hs
  | some sbi =>
    refine h.modify i rfl rfl h.bound (fun sb v _ r => ?_)
      (fun _ _ hr => hr) (fun _ _ _ => Iff.rfl)
    simp only [viewStep, if_true]
    exact ⟨r.1, rfl, r.2.2⟩

/-- `.rm i` overwrites the topics of view `i`, so the unsubscribe loop before it leaves no trace in the views -/
theorem stepViews_rm_unsub (vs : List View) (i : SubId) (ts : List Topic) :
    stepViews (ts.foldl (fun vs t => stepViews vs (.unsub i t)) vs) (.rm i) = stepViews vs (.rm i) := by
  induction ts generalizing vs with
  | nil => rfl
  | cons t ts ih =>
    rw [List.foldl_cons, ih]
    apply List.ext_getElem?
    intro j
    simp only [getElem?_stepViews, Option.map_map]
    cases vs[j]? with
    | none => rfl
    | some v => exact congrArg some (by simp only [Function.comp, viewStep]; split <;> rfl)

theorem rel_rm {s vs} (h : Rel s vs) (i) : Rel (step s (.rm i)).1 (stepViews vs (.rm i)) := by
  simp only [step]
  cases hs : s.subs[i]? with
  | none => exact rel_nosub h rfl hs
  | some sbi =>
    have h1 := rel_foldl (fun h t => rel_unsubscribe h i t) sbi.topics h
    rw [← stepViews_rm_unsub vs i sbi.topics]
    refine h1.modify i rfl rfl h1.bound (fun sb v _ r => ?_)
      (fun j hij hr => List.mem_filter.mpr ⟨hr, by simpa using Ne.symm hij⟩)
      (fun _ _ _ => Iff.rfl)
    simp only [viewStep, if_true]
    exact ⟨rfl, r.2.1, fun ha => nomatch ha⟩

theorem rel_close {s vs} (h : Rel s vs) : Rel (step s .close).1 (stepViews vs .close) := by
  refine h.step _ _ (fun j => List.getElem?_mapIdx) (fun _ _ hm => nomatch hm) fun j sb v _ r => ?_
  -- a subscriber outside the registry is inactive already
  have dead : (if decide (j ∈ s.registry) then { sb with active := false } else sb).active = false := by
    split
    · rfl
    · rename_i hr
      cases hb : sb.active with
      | false => rfl
      | true => exact absurd (r.2.2 hb).1 (by simpa using hr)
  exact ⟨dead.symm, by rw [viewStep, r.2.1]; split <;> rfl, fun ha => nomatch dead.symm.trans ha⟩

theorem rel_add {s vs} (h : Rel s vs) :
    Rel (step s .add).1 (vs ++ [{ alive := true, subscribed := [], pending := [] }]) := by
  refine ⟨by simp [step, h.len], fun t j hm => ?_, fun (j : Nat) sb v hj hv => ?_⟩
  · exact Nat.lt_of_lt_of_le (h.bound t j hm) (by simp [step])
  · rcases getElem?_snoc hj with hj | ⟨rfl, rfl⟩
    · have hlt := (List.getElem?_eq_some_iff.mp hj).1
      rw [List.getElem?_append_left (h.len ▸ hlt)] at hv
      exact (h.sub j sb v hj hv).frame (List.mem_append_left _) (fun _ => Iff.rfl)
    · rw [← h.len, List.getElem?_concat_length] at hv
      cases hv
      exact ⟨rfl, rfl, fun _ => ⟨List.mem_append_right _ (List.mem_singleton.mpr rfl),
        fun t => ⟨fun hm => absurd (h.bound t _ hm) (Nat.lt_irrefl _), fun hm => nomatch hm⟩⟩⟩

def nextViews (vs : List View) : Op → List View
  | .add => vs ++ [{ alive := true, subscribed := [], pending := [] }]
  | op => stepViews vs op

theorem rel_step {s vs} (h : Rel s vs) (op : Op) : Rel (step s op).1 (nextViews vs op) := by
  cases op with
  | add => exact rel_add h
  | sub i t => exact rel_sub h i t
  | unsub i t =>
    simp only [step, nextViews]
    cases hs : s.subs[i]? with
    | none => exact rel_nosub h rfl hs
    | some sb => exact rel_unsubscribe h i t
  | rm i => exact rel_rm h i
  | pub t k => exact rel_publish h t k
  | bc k ts => simp only [step, nextViews]; rw [stepViews_bc]; exact rel_foldl (fun h t => rel_publish h t k) ts h
  | it i => exact rel_it h i
  | shut i => exact rel_shut h i
  | close => exact rel_close h
  | count t => exact h.same fun _ _ _ _ _ => rfl
  | tops i => simp only [step]; cases s.subs[i]? <;> exact h.same fun _ _ _ _ _ => rfl
  | act i => simp only [step]; cases s.subs[i]? <;> exact h.same fun _ _ _ _ _ => rfl

theorem specRun_cons (vs : List View) (op : Op) (ops : List Op) :
    specRun vs (op :: ops) =
      (match op with | .it i => [vs[i]?.map (·.pending)] | _ => []) ++ specRun (nextViews vs op) ops := by
  cases op <;> rfl

theorem itOutputs_it (i : SubId) (ops : List Op) (o : Out) (outs : List Out) :
    itOutputs (.it i :: ops) (o :: outs) = (match o with | .msgs l => some l | _ => none) :: itOutputs ops outs := by
  cases o <;> rfl

theorem stream_refines (ops : List Op) : ∀ s vs, Rel s vs → itOutputs ops (run s ops) = specRun vs ops := by
  induction ops with
  | nil => intro s vs _; rfl
  | cons op ops ih =>
    intro s vs h
    rw [specRun_cons, ← ih _ _ (rel_step h op)]
    show itOutputs (op :: ops) ((step s op).2 :: run (step s op).1 ops) = _
    cases op with
    | it i =>
      rw [itOutputs_it]
      -- `Iterator` of an existing subscriber returns its queue, which is the view's `pending`
      simp only [step]
      cases hs : s.subs[i]? with
      | none => rw [List.getElem?_eq_none (h.len ▸ List.getElem?_eq_none_iff.mp hs)]; rfl
      | some sb =>
        have hv := List.getElem?_eq_getElem (h.len ▸ (List.getElem?_eq_some_iff.mp hs).1 : i < vs.length)
        rw [hv]
        exact congrArg (some · :: _) (h.sub i sb _ hs hv).2.1.symm
    | _ => rfl

end GoaktVerif.C20
