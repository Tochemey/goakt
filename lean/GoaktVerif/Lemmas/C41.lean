/-
The replicator's maps are association lists read by `List.lookup` (`aget m k` unfolds to `List.lookup k m`), so their
facts, used by C41 and C39, are those of Lemmas/Assoc.lean in the model's vocabulary.
-/
import GoaktVerif.Model.C41
import GoaktVerif.Lemmas.Assoc

namespace GoaktVerif.C41
open GoaktVerif.Model.C41

variable {α : Type} {V : Type}

theorem aget_nil (k : Nat) : aget ([] : List (Nat × α)) k = none := rfl

theorem aget_cons (m : List (Nat × α)) (a : Nat) (b : α) (k : Nat) :
    aget ((a, b) :: m) k = if k = a then some b else aget m k :=
  Assoc.lookup_cons_ite a b m k

theorem aget_adel (m : List (Nat × α)) (k k' : Nat) :
    aget (adel m k) k' = if k' = k then none else aget m k' :=
  Assoc.lookup_del k (fun _ => bne_iff_ne) m k'

theorem aget_aset (m : List (Nat × α)) (k : Nat) (v : α) (k' : Nat) :
    aget (aset m k v) k' = if k' = k then some v else aget m k' :=
  Assoc.lookup_put k (fun _ => bne_iff_ne) v m k'

theorem ahas_aset (m : List (Nat × α)) (k : Nat) (v : α) (k' : Nat) :
    ahas (aset m k v) k' = (decide (k' = k) || ahas m k') := by
  unfold ahas
  rw [aget_aset]
  by_cases h : k' = k
  · rw [if_pos h, decide_eq_true h]; rfl
  · rw [if_neg h, decide_eq_false h]; rfl

theorem ahas_aset_self (m : List (Nat × α)) (k : Nat) (v : α) : ahas (aset m k v) k = true := by
  rw [ahas_aset, decide_eq_true rfl]; rfl

theorem ahas_aset_of {m : List (Nat × α)} {k' : Nat} (h : ahas m k' = true) (k : Nat) (v : α) :
    ahas (aset m k v) k' = true := by
  rw [ahas_aset, h, Bool.or_true]

theorem ahas_adel (m : List (Nat × α)) (k k' : Nat) :
    ahas (adel m k) k' = (!decide (k' = k) && ahas m k') := by
  unfold ahas
  rw [aget_adel]
  by_cases h : k' = k
  · rw [if_pos h, decide_eq_true h]; rfl
  · rw [if_neg h, decide_eq_false h]; rfl

theorem aget_map {β : Type} (m : List (Nat × α)) (f : α → β) (k : Nat) :
    aget (m.map (fun p => (p.1, f p.2))) k = (aget m k).map f :=
  Assoc.lookup_map_val f m k

theorem ahas_iff_any (m : List (Nat × α)) (k : Nat) :
    ahas m k = m.any (fun t => t.1 == k) :=
  Bool.eq_iff_iff.mpr (List.lookup_isSome_iff.trans (List.any_eq_true.trans
    (exists_congr fun _ => and_congr_right fun _ => by rw [beq_iff_eq, beq_iff_eq, eq_comm])).symm)

theorem ahas_of_mem (m : List (Nat × α)) (k : Nat) (v : α) (h : (k, v) ∈ m) : ahas m k = true :=
  List.lookup_isSome_iff.mpr ⟨(k, v), h, beq_self_eq_true k⟩

theorem ahas_of_filter {m : List (Nat × α)} {p : Nat × α → Bool} {k : Nat} :
    ahas (m.filter p) k = true → ahas m k = true :=
  List.filter_sublist.lookup_isSome

theorem aget_none_iff {m : List (Nat × α)} {k : Nat} :
    aget m k = none ↔ (m.map (·.1)).contains k = false := by
  rw [show aget m k = List.lookup k m from rfl, Assoc.lookup_eq_none_iff, List.contains_eq_mem, decide_eq_false_iff_not]

end GoaktVerif.C41
