/-
C12, the message-count clause: every passivation attempt of the message-count path (`countFire`) is
preceded by a `crossed` event of the same entry, i.e. by a MessageProcessed call that found
processed ≥ baseline + maxMessages (`C12_count_threshold`).
-/
import GoaktVerif.Lemmas.C12Stable

namespace GoaktVerif.C12
open GoaktVerif.Model.C12 GoaktVerif.Model.C12.State

def Crossed (log : List Ev) (g : Nat) : Prop := ∃ a p b m, Ev.crossed a g p b m ∈ log

theorem Crossed.mono {log : List Ev} {g : Nat} (l : List Ev) (h : Crossed log g) : Crossed (l ++ log) g := by
  obtain ⟨a, p, b, m, hm⟩ := h
  exact ⟨a, p, b, m, List.mem_append_right _ hm⟩

/-- everything on the trigger channel, every pending entry and every count-path attempt so far goes
    back to a crossing of the threshold by that very entry -/
structure CInv (s : State) : Prop where
  chan : ∀ g ∈ s.chan, Crossed s.log g
  pend : ∀ g, (s.objs g).pending = true → Crossed s.log g
  fire : ∀ a g, Ev.countFire a g ∈ s.log → Crossed s.log g

theorem CInv.frame {s t : State} (l : List Ev) (hl : t.log = l ++ s.log) (hf : ∀ a g, Ev.countFire a g ∉ l)
    (hc : ∀ g ∈ t.chan, g ∈ s.chan ∨ (s.objs g).pending = true ∨ Crossed t.log g)
    (hp : ∀ g, (t.objs g).pending = true → (s.objs g).pending = true ∨ Crossed t.log g)
    (hi : CInv s) : CInv t := by
  have mono : ∀ g, Crossed s.log g → Crossed t.log g := fun g h => hl ▸ h.mono l
  refine ⟨fun g hg => ?_, fun g hg => (hp g hg).elim (fun h => mono g (hi.pend g h)) id, fun a g hm => ?_⟩
  · rcases hc g hg with h | h | h
    · exact mono g (hi.chan g h)
    · exact mono g (hi.pend g h)
    · exact h
  · rw [hl] at hm
    exact mono g (hi.fire a g ((List.mem_append.mp hm).resolve_left (hf a g)))

theorem CInv.emit {s : State} (e : Ev) (he : ∀ a g, e ≠ .countFire a g) (hi : CInv s) : CInv (s.emit e) :=
  hi.frame [e] rfl (fun a g h => he a g (List.mem_singleton.mp h).symm) (fun _ h => .inl h) fun _ h => .inl h

theorem stable_cinv : Stable CInv where
  quiet h hi := hi.frame [] h.silent.log nofun (fun g hg => (h.silent.chan g hg).imp_right .inl) fun g hg => .inl (h.silent.pend g hg)
  crossing s a g p b m _ hi := hi.frame (s := s) [_] rfl (by simp) (fun _ h => .inl h) fun x hx => by
    by_cases hxg : x = g
    · exact .inr ⟨a, p, b, m, by simp [emit, hxg]⟩
    · left; simpa [emit, setE, upd, hxg] using hx
  blocked s u a src hi := hi.emit _ (by simp [triedEv])
  stop s a _ hi := hi.frame [_] rfl (by simp) (fun _ h => .inl h) fun _ h => .inl h
  passivated s a src _ hi := hi.frame [_, _] rfl (by simp [triedEv]) (fun _ h => .inl h) fun _ h => .inl h
  decide u g _ _ hi := hi.emit _ (by simp [decideEv])
  fire s g rest hc hi := by
    have hg : Crossed s.log g := hi.chan g (by simp [hc])
    have mono : ∀ x, Crossed s.log x → Crossed (Ev.countFire (s.objs g).actor g :: s.log) x := fun x h => h.mono [_]
    refine ⟨fun x hx => mono x (hi.chan x (hc ▸ List.mem_cons_of_mem _ hx)),
      fun x hx => mono x (hi.pend x hx), fun a' g' hm => ?_⟩
    rcases List.mem_cons.mp hm with heq | hm
    · cases heq; exact mono g hg
    · exact mono g' (hi.fire a' g' hm)

theorem cinv_reachable (cfg : List (Strat × Bool)) (ops : List Op) : CInv (run (init cfg) ops) :=
  stable_cinv.reachable ⟨nofun, nofun, nofun⟩ cfg ops

end GoaktVerif.C12
