import GoaktVerif.Lemmas.C15Worker
import GoaktVerif.Lemmas.Run

/-
C15 — `Mode.fixed`: every action preserves the invariant; the initial configuration satisfies it.
-/
namespace GoaktVerif.C15
open GoaktVerif.Model.C15

theorem finv_step {c : Cfg} {own : ChanId → ReqId} (h : FInv c own) (tid : Nat) : ∃ own1, FInv (step c tid) own1 :=
  step_cases h tid h finv_start (finv_build h) (finv_reply h) (fun ht _ _ => finv_timedOut h ht)
    (fun ht _ _ => finv_deqNil h ht) (finv_deqCons h) (fun ht hpc _ => finv_cas h ht hpc) (finv_send h)

theorem finv_timeout {c : Cfg} {own : ChanId → ReqId} (h : FInv c own) (tid : Nat) : FInv (timeout c tid) own := by
  unfold timeout
  cases ht : c.threads[tid]? with
  | none => exact h
  | some t =>
    have hok := h.thr tid t ht
    obtain ⟨pc, cur, prog, hist, dl⟩ := t
    cases pc with
    | none => exact h
    | some pc =>
      cases pc with
      | askBuild _ _ | askSelect _ _ _ => exact finv_same h ht hok (Or.inl rfl) (Or.inl rfl) id
      | _ => exact h

theorem finv_act {c : Cfg} {own : ChanId → ReqId} (h : FInv c own) (a : Act) : ∃ own1, FInv (act c a) own1 := by
  cases a with
  | run tid => exact finv_step h tid
  | timeout tid => exact ⟨own, finv_timeout h tid⟩

theorem finv_runActs (acts : List Act) (c : Cfg) (own : ChanId → ReqId) (h : FInv c own) : ∃ own1, FInv (runActs c acts) own1 :=
  Run.inv' (P := fun c => ∃ own, FInv c own) (fun _ => rfl) (fun _ _ _ => rfl) (fun _ a ⟨_, h⟩ => finv_act h a) acts c ⟨own, h⟩

def hasH (p : List Op) : Bool := p.contains .handle

theorem hasH_iff (p : List Op) : hasH p = true ↔ Op.handle ∈ p := by simp [hasH]

def idle (p : List Op) : Thread := { pc := none, cur := none, prog := p, hist := [], deadline := false }

theorem spawn_cons (c : Cfg) (p : List Op) (ps : List (List Op)) :
    spawn c (p :: ps) =
      spawn { (startNext c (idle p)).1 with threads := (startNext c (idle p)).1.threads ++ [(startNext c (idle p)).2] } ps := rfl

theorem finv_add_idle {c : Cfg} {own} (h : FInv c own) (d : Thread) (hd : d.pc = none) (hh : d.hist = [])
    (hs : responderish d → ∀ (tid : Nat) t, c.threads[tid]? = some t → ¬ responderish t) :
    FInv { c with threads := c.threads ++ [d] } own := by
  refine ⟨h.g.frame _ _, Pool.forall_snoc ⟨by rw [ThreadOk, hd]; trivial, fun k v hm => nomatch hh ▸ hm⟩ h.thr,
    C15C20.Inj.snoc h.build_dist (by rw [buildCtx, hd]),
    C15C20.Inj.snoc h.sel_dist (by rw [selChan, hd]), fun t1 t2 th1 th2 h1 h2 r1 r2 => ?_⟩
  rcases getElem?_snoc h1 with g1 | ⟨e1, rfl⟩ <;> rcases getElem?_snoc h2 with g2 | ⟨e2, rfl⟩
  · exact h.single t1 t2 th1 th2 g1 g2 r1 r2
  · exact absurd r1 (hs r2 t1 th1 g1)
  · exact absurd r2 (hs r1 t2 th2 g2)
  · rw [e1, e2]

theorem finv_empty : FInv (empty .fixed) (fun _ => 0) := by
  have hctx : ∀ i, ctxOf (empty .fixed) i = { closed := false, response := none, msg := none } := fun i => by
    cases i <;> rfl
  have nil : ∀ {P : Nat → Prop} (i : Nat), i ∈ ([] : List Nat) → P i := fun _ h => nomatch h
  have nth : ∀ {j : Nat} {t : Thread}, (empty .fixed).threads[j]? = some t → False := fun h => nomatch h
  refine ⟨⟨rfl, Nat.zero_lt_one, nil, nil, nil, fun i ch hx => ?_, by simp [empty], fun ch v hx => ?_,
    nil, List.nodup_nil, nil, fun _ _ h => nomatch h⟩, fun _ _ h => (nth h).elim, fun _ _ _ _ _ _ h => (nth h).elim,
    fun _ _ _ _ _ _ h => (nth h).elim, fun _ _ _ _ h => (nth h).elim⟩
  · rw [hctx] at hx; cases hx
  · cases hx

theorem finv_spawn (ps : List (List Op)) : ∀ (c : Cfg) (own : ChanId → ReqId), FInv c own →
    (∀ (tid : Nat) t, c.threads[tid]? = some t → responderish t → ∀ p ∈ ps, hasH p = false) →
    (ps.filter hasH).length ≤ 1 → ∃ own1, FInv (spawn c ps) own1 := by
  induction ps with
  | nil => exact fun c own h _ _ => ⟨own, h⟩
  | cons p ps ih =>
    intro c own h hex hcnt
    rw [spawn_cons]
    -- add the thread idle, then let it start its first operation
    have h1 := finv_add_idle h (idle p) rfl rfl fun hr tid t ht hrt =>
      nomatch (hex tid t ht hrt p (List.mem_cons_self ..)).symm.trans ((hasH_iff p).mpr (hr.elim (nomatch ·) id))
    have h2 := finv_start (c := { c with threads := c.threads ++ [idle p] }) (tid := c.threads.length) h1
      (List.getElem?_concat_length ..) rfl
    rw [startNext_set_threads] at h2
    have e2 : upd { (startNext c (idle p)).1 with threads := c.threads ++ [idle p] } c.threads.length (startNext c (idle p)).2 =
        { (startNext c (idle p)).1 with threads := (startNext c (idle p)).1.threads ++ [(startNext c (idle p)).2] } := by
      simp [upd, (startNext_frame c (idle p)).thr]
    rw [e2] at h2
    refine ih _ own h2 (fun tid t ht hr q hq => ?_) ?_
    · -- a worker among the threads spawned so far: no later program may ask for another
      have hcnt' : ∀ q ∈ ps, hasH p = true → hasH q = false := fun q hq hp => by
        rw [List.filter_cons, if_pos hp, List.length_cons] at hcnt
        cases hq' : hasH q with
        | false => rfl
        | true =>
          have := List.length_pos_of_mem (List.mem_filter.mpr ⟨hq, hq'⟩)
          omega
      rw [(startNext_frame c (idle p)).thr] at ht
      rcases getElem?_snoc ht with ht | ⟨_, rfl⟩
      · exact hex tid t ht hr q (List.mem_cons_of_mem _ hq)
      · exact hcnt' q hq ((hasH_iff p).mpr (responderish_startNext c (idle p) hr))
    · rw [List.filter_cons] at hcnt
      split at hcnt
      · exact Nat.le_of_succ_le hcnt
      · exact hcnt

theorem finv_init (progs : List (List Op)) (h : (progs.filter hasH).length ≤ 1) : ∃ own, FInv (init .fixed progs) own :=
  finv_spawn progs _ _ finv_empty (fun _ _ ht => nomatch ht) h

end GoaktVerif.C15
