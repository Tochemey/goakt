import GoaktVerif.Model.C42
import GoaktVerif.Spec.C42
import GoaktVerif.Lemmas.Run
import GoaktVerif.Lemmas.ListFacts

/-!
Producer-controller half of the C42/C43 invariant: facts about `Producer.handle` alone, against an
abstract stored log and an abstract bound `R` (the consumer controller's requestUpToSeq).

The decision tree of every handler is analysed once (`*_cases`); theorems about "any handler call" instantiate the
motive of these instead of unfolding the handlers again.
-/
namespace GoaktVerif.C42
open GoaktVerif.Model.C42 GoaktVerif.Spec.C42

theorem mem_dropWhile {α} (f : α → Bool) (l : List α) (x : α) (h : x ∈ l.dropWhile f) : x ∈ l :=
  List.dropWhile_subset f h

theorem puOf_append (a b : List POut) : puOf (a ++ b) = puOf a ++ puOf b := by
  induction a with
  | nil => rfl
  | cons x xs ih => cases x <;> simp [puOf, ih]

theorem mem_pcOf {x : PMsg} {o : List POut} : x ∈ pcOf o ↔ POut.toConsumer x ∈ o := by
  induction o with
  | nil => simp [pcOf]
  | cons y ys ih => cases y <;> simp [pcOf, ih]

theorem mem_puOf {x : PUMsg} {o : List POut} : x ∈ puOf o ↔ POut.toUser x ∈ o := by
  induction o with
  | nil => simp [puOf]
  | cons y ys ih => cases y <;> simp [puOf, ih]

theorem mem_cpOf {x : CMsg} {o : List COut} : x ∈ cpOf o ↔ COut.toProducer x ∈ o := by
  induction o with
  | nil => simp [cpOf]
  | cons y ys ih => cases y <;> simp [cpOf, ih]

theorem mem_cuOf {d : Delivery} {o : List COut} : d ∈ cuOf o ↔ COut.toUser d ∈ o := by
  induction o with
  | nil => simp [cuOf]
  | cons y ys ih => cases y <;> simp [cuOf, ih]

section cases
variable {motive : Producer × List POut → Prop} (p : Producer)

theorem advanceConfirmed_cases (c : Nat) (old : c ≤ p.confirmedSeq → motive (p, []))
    (new : p.confirmedSeq < c → motive
      ({ p with confirmedSeq := c, unconfirmed := p.unconfirmed.dropWhile (fun m => m.seq ≤ c), persistedConfirmedSeq := c },
        p.confirmations (p.unconfirmed.takeWhile (fun m => m.seq ≤ c)))) :
    motive (p.advanceConfirmed c) :=
  iteInduction old fun h => new (Nat.lt_of_not_le h)

theorem allowNext_cases :
    (p.allowNextRequest = (p, [])) ∨
    (p.handshake = .idle ∧ p.currentSeq < p.demandUpTo ∧
      p.allowNextRequest = ({ p with handshake := .credit, token := p.tokenCtr + 1, tokenCtr := p.tokenCtr + 1 },
        [.toUser (.requestNext p.session (p.tokenCtr + 1))])) := by
  by_cases h : (p.handshake != .idle || decide (p.currentSeq ≥ p.demandUpTo)) = true
  · exact .inl (if_pos h)
  · refine .inr ⟨?_, ?_, if_neg h⟩ <;> simp at h
    · exact h.1
    · exact h.2

theorem handleRegister_cases (n : Nat) (known : motive (p, [.toConsumer (.regAck p.session (p.confirmedSeq + 1) p.nonce)]))
    (fresh : motive ({ p with registered := true, nonce := n, demandUpTo := min p.demandUpTo p.currentSeq },
      [.toConsumer (.regAck p.session (p.confirmedSeq + 1) n)])) :
    motive (p.handleRegister n) := by
  unfold Producer.handleRegister
  by_cases h : (!p.registered || p.nonce != n) = true
  · simp only [if_pos h]; exact fresh
  · simp only [if_neg h]; exact known

/-- state and outputs of a Request that passed the checks of `handleRequest` -/
def granted (c u : Nat) (v : Bool) : Producer × List POut :=
  let p2 := { (p.advanceConfirmed c).1 with demandUpTo := u, windowSpan := u - c }
  (p2.allowNextRequest.1,
    (p.advanceConfirmed c).2 ++ (if v then p2.resendUnconfirmed else []) ++ p2.allowNextRequest.2)

theorem handleRequest_cases (s n c u : Nat) (v : Bool) (skip : p.fromRegistered s n = false → motive (p, []))
    (fail : p.fromRegistered s n = true → ¬(c ≤ p.currentSeq ∧ c ≤ u ∧ u ≤ c + maxWindow) → motive p.terminate)
    (grant : p.fromRegistered s n = true → c ≤ p.currentSeq → c ≤ u → u ≤ c + maxWindow → motive (granted p c u v)) :
    motive (p.handleRequest s n c u v) := by
  unfold Producer.handleRequest
  refine iteInduction (fun h0 => skip (by simpa using h0)) fun h0 => ?_
  have h0 : p.fromRegistered s n = true := by simpa using h0
  refine iteInduction (fun h => fail h0 ?_) fun h => ?_ <;>
    simp only [Bool.or_eq_true, decide_eq_true_eq, not_or, Nat.not_lt] at h
  · omega
  · exact grant h0 h.1.1 h.1.2 h.2

theorem handleAck_cases (s n c : Nat) (skip : p.fromRegistered s n = false → motive (p, []))
    (fail : p.fromRegistered s n = true → p.currentSeq < c → motive p.terminate)
    (adv : p.fromRegistered s n = true → c ≤ p.currentSeq → motive (p.advanceConfirmed c)) :
    motive (p.handleAck s n c) := by
  unfold Producer.handleAck
  refine iteInduction (fun h0 => skip (by simpa using h0)) fun h0 => ?_
  have h0 : p.fromRegistered s n = true := by simpa using h0
  exact iteInduction (fail h0) fun h => adv h0 (Nat.le_of_not_lt h)

theorem handleProduced_cases (s t i pl : Nat)
    (skip : s ≠ p.session ∨ (p.handshake ≠ .idle ∧ p.handshake ≠ .credit ∧ t = p.token ∧ i = p.pendingId) ∨
      (t = p.lastToken ∧ i = p.lastId) → motive (p, []))
    (fail : ¬(p.handshake ≠ .idle ∧ p.handshake ≠ .credit ∧ t = p.token ∧ i = p.pendingId) →
      ¬(t = p.lastToken ∧ i = p.lastId) → ¬(p.handshake = .credit ∧ t = p.token) → motive p.terminate)
    (store : s = p.session → ¬(t = p.lastToken ∧ i = p.lastId) → p.handshake = .credit → t = p.token →
      motive (p.completeStore i pl)) :
    motive (p.handleProduced s t i pl) := by
  unfold Producer.handleProduced
  refine iteInduction (fun h => skip (.inl (by simpa using h))) fun h0 =>
    iteInduction (fun h => skip (.inr (.inl (by simpa [and_assoc] using h)))) fun h1 =>
    iteInduction (fun h => skip (.inr (.inr (by simpa using h)))) fun h2 =>
    iteInduction (fun h => fail (by simpa [and_assoc] using h1) (by simpa using h2) fun ⟨e, _⟩ => by simp [e] at h) fun h3 =>
    iteInduction (fun h => fail (by simpa [and_assoc] using h1) (by simpa using h2) fun ⟨_, e⟩ => by simp [e] at h) fun h4 =>
    store (by simpa using h0) (by simpa using h2) (by simpa using h3) (by simpa using h4)

abbrev acked : Producer := { p with handshake := .accept, storedMessage := none }

theorem handleStoredAck_cases (s t i : Nat)
    (skip : ¬(s = p.session ∧ p.handshake = .storedAck ∧ t = p.token ∧ i = p.pendingId) → motive (p, []))
    (fail : ¬(p.handshake = .storedAck ∧ t = p.token ∧ i = p.pendingId) → ¬(t = p.lastToken ∧ i = p.lastId) →
      motive p.terminate)
    (accept : s = p.session → p.handshake = .storedAck → t = p.token → i = p.pendingId → motive (acked p).completeAccept) :
    motive (p.handleStoredAck s t i) := by
  unfold Producer.handleStoredAck
  refine iteInduction (fun h => skip fun e => by simp [e.1] at h) fun h0 => iteInduction (fun h => ?_) fun h1 =>
    iteInduction (fun _ => skip fun e => h1 (by simp [e.2.1, e.2.2.1, e.2.2.2])) fun _ =>
    iteInduction (fun _ => skip fun e => h1 (by simp [e.2.1, e.2.2.1, e.2.2.2])) fun h3 =>
    fail (by simpa using h1) (by simpa using h3)
  simp only [Bool.and_eq_true, beq_iff_eq] at h
  exact accept (by simpa using h0) h.1.1 h.1.2 h.2

theorem handleTick_cases (credit : p.handshake = .credit → motive (p, [.toUser (.requestNext p.session p.token)]))
    (stored : ∀ m, p.handshake = .storedAck → p.storedMessage = some m → motive (p, [.toUser m]))
    (quiet : motive (p, [])) : motive p.handleTick := by
  unfold Producer.handleTick
  cases h : p.handshake
  case credit => exact credit h
  case storedAck =>
    cases hm : p.storedMessage
    · exact quiet
    · exact stored _ h hm
  all_goals exact quiet

end cases

theorem react_cases {motive : UserP × Option PIn → Prop} (u : UserP) (m0 : PUMsg)
    (again : ∀ s t i pl, m0 = .requestNext s t → u.answered = some (t, i, pl) → motive (u, some (.produced s t i pl)))
    (fresh : ∀ s t, m0 = .requestNext s t → (∀ i pl, u.answered ≠ some (t, i, pl)) →
      motive ({ answered := some (t, u.jobs + 1, payloadOf (u.jobs + 1)), jobs := u.jobs + 1 },
        some (.produced s t (u.jobs + 1) (payloadOf (u.jobs + 1)))))
    (stored : ∀ s t i q, m0 = .stored s t i q → motive (u, some (.storedAck s t i)))
    (notice : ∀ s i q, m0 = .deliveryConfirmed s i q → motive (u, none)) : motive (u.react m0) := by
  cases m0 with
  | requestNext s t =>
    unfold UserP.react
    cases ha : u.answered with
    | none => exact fresh s t rfl fun _ _ e => by rw [ha] at e; cases e
    | some x =>
      obtain ⟨t', i, pl⟩ := x
      refine iteInduction (fun e => ?_) fun e => fresh s t rfl fun _ _ e' => ?_
      · cases (beq_iff_eq.mp e : t' = t); exact again s t i pl rfl ha
      · rw [ha] at e'; cases e'; exact e (beq_self_eq_true _)
  | stored s t i q => exact stored s t i q rfl
  | deliveryConfirmed s i q => exact notice s i q rfl

theorem advance_fields (p : Producer) (c : Nat) :
    (p.advanceConfirmed c).1.registered = p.registered ∧ (p.advanceConfirmed c).1.session = p.session ∧
    (p.advanceConfirmed c).1.currentSeq = p.currentSeq ∧ (p.advanceConfirmed c).1.failed = p.failed ∧
    (p.advanceConfirmed c).1.confirmedSeq = max p.confirmedSeq c :=
  advanceConfirmed_cases p c
    (motive := fun r => r.1.registered = p.registered ∧ r.1.session = p.session ∧ r.1.currentSeq = p.currentSeq ∧
      r.1.failed = p.failed ∧ r.1.confirmedSeq = max p.confirmedSeq c)
    (fun h => ⟨rfl, rfl, rfl, rfl, (Nat.max_eq_left h).symm⟩)
    fun h => ⟨rfl, rfl, rfl, rfl, (Nat.max_eq_right (Nat.le_of_lt h)).symm⟩

theorem allow_fields (p : Producer) :
    p.allowNextRequest.1.session = p.session ∧ p.allowNextRequest.1.currentSeq = p.currentSeq ∧
    p.allowNextRequest.1.confirmedSeq = p.confirmedSeq ∧ p.allowNextRequest.1.unconfirmed = p.unconfirmed ∧
    p.allowNextRequest.1.failed = p.failed ∧ p.allowNextRequest.1.demandUpTo = p.demandUpTo := by
  rcases allowNext_cases p with e | ⟨_, _, e⟩ <;> rw [e] <;> exact ⟨rfl, rfl, rfl, rfl, rfl, rfl⟩

theorem handleTick_fst (p : Producer) : p.handleTick.1 = p :=
  handleTick_cases p (motive := fun r => r.1 = p) (fun _ => rfl) (fun _ _ _ => rfl) rfl

/-- the confirmation watermark a message of the consumer controller carries -/
def carried : PIn → Nat
  | .fromConsumer (.request _ _ c _ _) => c
  | .fromConsumer (.ack _ _ c) => c
  | _ => 0

/-- What a handler call can do to the sequence bookkeeping: nothing; drop the confirmed prefix up to the watermark
    the message carries; append the produced message. -/
inductive SeqStep (p : Producer) (pin : PIn) (p' : Producer) : Prop
  | same : p'.currentSeq = p.currentSeq → p'.confirmedSeq = p.confirmedSeq → p'.unconfirmed = p.unconfirmed → SeqStep p pin p'
  | confirm : p.confirmedSeq < carried pin → carried pin ≤ p.currentSeq → p'.currentSeq = p.currentSeq →
      p'.confirmedSeq = carried pin → p'.unconfirmed = p.unconfirmed.dropWhile (fun m => m.seq ≤ carried pin) → SeqStep p pin p'
  | store (s t i pl : Nat) : pin = .produced s t i pl → p'.currentSeq = p.currentSeq + 1 → p'.confirmedSeq = p.confirmedSeq →
      p'.unconfirmed = p.unconfirmed ++ [⟨i, p.currentSeq + 1, pl⟩] → SeqStep p pin p'

theorem SeqStep.of_eq {p p' p'' : Producer} {pin : PIn} (h : SeqStep p pin p') (e1 : p''.currentSeq = p'.currentSeq)
    (e2 : p''.confirmedSeq = p'.confirmedSeq) (e3 : p''.unconfirmed = p'.unconfirmed) : SeqStep p pin p'' := by
  cases h with
  | same a b c => exact .same (e1.trans a) (e2.trans b) (e3.trans c)
  | confirm x y a b c => exact .confirm x y (e1.trans a) (e2.trans b) (e3.trans c)
  | store s t i pl e a b c => exact .store s t i pl e (e1.trans a) (e2.trans b) (e3.trans c)

theorem SeqStep.allow {p p' : Producer} {pin : PIn} (h : SeqStep p pin p') : SeqStep p pin p'.allowNextRequest.1 :=
  have ⟨_, e1, e2, e3, _⟩ := allow_fields p'
  h.of_eq e1 e2 e3

theorem handle_seqs (p : Producer) (pin : PIn) : SeqStep p pin (p.handle pin).1 := by
  have adv : ∀ c, carried pin = c → c ≤ p.currentSeq → SeqStep p pin (p.advanceConfirmed c).1 := fun c e hc =>
    advanceConfirmed_cases p c (motive := fun r => SeqStep p pin r.1) (fun _ => .same rfl rfl rfl)
      fun h => e ▸ .confirm (e ▸ h) (e ▸ hc) rfl rfl rfl
  unfold Producer.handle
  refine iteInduction (motive := fun r : Producer × List POut => SeqStep p pin r.1) (fun _ => .same rfl rfl rfl) fun _ => ?_
  rcases pin with (n | ⟨s, n, c, u, v⟩ | ⟨s, n, c⟩) | ⟨s, t, i, pl⟩ | ⟨s, t, i⟩ | _
  · exact handleRegister_cases p n (motive := fun r => SeqStep p _ r.1) (.same rfl rfl rfl) (.same rfl rfl rfl)
  · exact handleRequest_cases p s n c u v (motive := fun r => SeqStep p _ r.1) (fun _ => .same rfl rfl rfl) (fun _ _ => .same rfl rfl rfl)
      fun _ hc _ _ => SeqStep.allow (p' := { (p.advanceConfirmed c).1 with demandUpTo := u, windowSpan := u - c })
        ((adv c rfl hc).of_eq rfl rfl rfl)
  · exact handleAck_cases p s n c (motive := fun r => SeqStep p _ r.1) (fun _ => .same rfl rfl rfl) (fun _ _ => .same rfl rfl rfl)
      fun _ hc => adv c rfl hc
  · exact handleProduced_cases p s t i pl (motive := fun r => SeqStep p _ r.1) (fun _ => .same rfl rfl rfl)
      (fun _ _ _ => .same rfl rfl rfl) fun _ _ _ _ => .store s t i pl rfl rfl rfl rfl
  · exact handleStoredAck_cases p s t i (motive := fun r => SeqStep p _ r.1) (fun _ => .same rfl rfl rfl)
      (fun _ _ => .same rfl rfl rfl) fun _ _ _ _ => SeqStep.allow (.same rfl rfl rfl)
  · show SeqStep p .tick p.handleTick.1
    rw [handleTick_fst]; exact .same rfl rfl rfl

theorem handle_conf_le (p : Producer) (pin : PIn) : (p.handle pin).1.confirmedSeq ≤ max p.confirmedSeq (carried pin) := by
  cases handle_seqs p pin with
  | same _ b _ => exact b ▸ Nat.le_max_left ..
  | confirm _ _ _ b _ => exact b ▸ Nat.le_max_right ..
  | store _ _ _ _ _ _ b _ => exact b ▸ Nat.le_max_left ..

theorem handle_cur (p : Producer) (pin : PIn) (h : ∀ s t i pl, pin ≠ .produced s t i pl) :
    (p.handle pin).1.currentSeq = p.currentSeq := by
  cases handle_seqs p pin with
  | same a _ _ => exact a
  | confirm _ _ a _ _ => exact a
  | store s t i pl e _ _ _ => exact absurd e (h s t i pl)


/-- a stored-log entry as the triple carried by messages -/
abbrev InLog (stored : List UMsg) (id seq pl : Nat) : Prop := (⟨id, seq, pl⟩ : UMsg) ∈ stored

/-- the log is indexed by sequence: the k-th stored message has sequence k -/
def Indexed (stored : List UMsg) : Prop := ∀ i m, stored[i]? = some m → m.seq = i + 1

/-- producer controller against the stored log -/
structure PLoc (p : Producer) (stored : List UMsg) : Prop where
  sess : p.session ≠ 0
  idx : Indexed stored
  len : stored.length = p.currentSeq
  pay : ∀ m ∈ stored, m.payload = payloadOf m.id
  unc : ∀ m ∈ p.unconfirmed, m ∈ stored
  pend : p.handshake = .storedAck → InLog stored p.pendingId p.pendingSeq p.pendingPayload
  stmsg : ∀ x, p.storedMessage = some x → ∃ s t i q, x = .stored s t i q ∧ q ≤ p.currentSeq

/-- producer controller against the demand the consumer controller has granted so far (`R`) -/
structure PDem (p : Producer) (R : Nat) : Prop where
  dem : p.demandUpTo ≤ R
  cur : p.currentSeq ≤ R
  cred : p.handshake = .credit → p.currentSeq < R

/-- the ghost log entry a handler call adds (same expression as in `World.stepP`) -/
def newStored (p p' : Producer) (m : PIn) : List UMsg :=
  if p'.currentSeq > p.currentSeq then
    (match m with | .produced _ _ i pl => [⟨i, p'.currentSeq, pl⟩] | _ => []) else []

/-- what the link invariants demand of one output of the producer controller -/
def POutOK (p' : Producer) (stored' : List UMsg) (R : Nat) : POut → Prop
  | .toConsumer (.sequenced s i q pl) => s = p'.session ∧ InLog stored' i q pl ∧ q ≤ R
  | .toConsumer (.regAck s nx _) => s = p'.session ∧ nx = p'.confirmedSeq + 1
  | .toUser (.stored _ _ _ q) => q ≤ p'.currentSeq
  | _ => True

/-- what an incoming message must satisfy (guaranteed by the link invariants) -/
def PInOK (R : Nat) : PIn → Prop
  | .fromConsumer (.request _ _ _ u _) => u ≤ R
  | .produced _ _ i pl => pl = payloadOf i
  | _ => True

theorem Mon.step_sent_ok (m : Mon) (q : Nat) (h : q ≤ m.maxReq) : m.step (.sent q) = m := by
  simp [Mon.step, h]

theorem Mon.step_stored_old (m : Mon) (i q : Nat) (h : q ≤ m.ids.length) : m.step (.stored i q) = m := by
  have : (q == m.ids.length + 1) = false := by simp; omega
  simp [Mon.step, this]

theorem Mon.step_stored_new (m : Mon) (i q : Nat) (h : q = m.ids.length + 1) :
    m.step (.stored i q) = { m with ids := m.ids ++ [i] } := by
  simp [Mon.step, h]

/-- the post-condition every producer-controller handler call establishes -/
structure PPost (p : Producer) (stored : List UMsg) (R : Nat) (pin : PIn) (p' : Producer) (o : List POut) : Prop where
  loc : PLoc p' (stored ++ newStored p p' pin)
  dem : PDem p' R
  outs : ∀ x ∈ o, POutOK p' (stored ++ newStored p p' pin) R x
  sess : p'.session = p.session
  conf : p'.confirmedSeq = p.confirmedSeq ∨ (∃ s n c u v, pin = .fromConsumer (.request s n c u v)) ∨
    (∃ s n c, pin = .fromConsumer (.ack s n c))
  mon : ∀ m : Mon, m.ids = stored.map (·.id) → m.maxReq = R →
    m.run (obsOfP o) = { m with ids := (stored ++ newStored p p' pin).map (·.id) }

theorem obsOfP_append (a b : List POut) : obsOfP (a ++ b) = obsOfP a ++ obsOfP b := by
  induction a with
  | nil => rfl
  | cons x xs ih =>
    cases x with
    | toConsumer m => cases m <;> simp [obsOfP, ih]
    | toUser m => cases m <;> simp [obsOfP, ih]

theorem Mon.run_append (m : Mon) (a b : List Obs) : m.run (a ++ b) = (m.run a).run b :=
  Run.append (fun _ => rfl) (fun _ _ _ => rfl) m a b

variable {p : Producer} {stored : List UMsg} {R : Nat}

theorem Mon.run_old (m : Mon) {p' : Producer} (o : List POut) (h : ∀ x ∈ o, POutOK p' stored m.maxReq x)
    (hl : p'.currentSeq ≤ m.ids.length) : m.run (obsOfP o) = m := by
  induction o with
  | nil => rfl
  | cons x xs ih =>
    have hx := h x (List.mem_cons_self ..)
    have ih := ih fun y hy => h y (List.mem_cons_of_mem _ hy)
    rcases x with (_ | ⟨s, i, q, pl⟩) | (_ | ⟨s, t, i, q⟩ | _)
    case sequenced => simp only [obsOfP, Mon.run]; rw [Mon.step_sent_ok _ _ hx.2.2]; exact ih
    case stored => simp only [obsOfP, Mon.run]; rw [Mon.step_stored_old _ _ _ (Nat.le_trans hx hl)]; exact ih
    all_goals exact ih

theorem PPost.of_quiet (pin : PIn) {p' : Producer} {o : List POut}
    (hc : p'.currentSeq = p.currentSeq) (hL : PLoc p' stored) (hD : PDem p' R)
    (ho : ∀ x ∈ o, POutOK p' stored R x) (hs : p'.session = p.session)
    (hconf : p'.confirmedSeq = p.confirmedSeq ∨ (∃ s n c u v, pin = .fromConsumer (.request s n c u v)) ∨
      (∃ s n c, pin = .fromConsumer (.ack s n c))) :
    PPost p stored R pin p' o := by
  have hns : stored ++ newStored p p' pin = stored := by simp [newStored, hc]
  refine ⟨by rw [hns]; exact hL, hD, by rw [hns]; exact ho, hs, hconf, fun m h1 h2 => ?_⟩
  rw [hns, Mon.run_old m o (h2 ▸ ho) (by rw [h1, List.length_map, hL.len]; exact Nat.le_refl _), ← h1]

theorem PPost.noop (pin : PIn) (hL : PLoc p stored) (hD : PDem p R) : PPost p stored R pin p [] :=
  .of_quiet pin rfl hL hD (fun _ h => nomatch h) rfl (.inl rfl)

theorem PPost.terminate (pin : PIn) (hL : PLoc p stored) (hD : PDem p R) :
    PPost p stored R pin p.terminate.1 p.terminate.2 :=
  .of_quiet pin rfl ⟨hL.sess, hL.idx, hL.len, hL.pay, hL.unc, hL.pend, hL.stmsg⟩ ⟨hD.dem, hD.cur, hD.cred⟩
    (fun _ h => nomatch h) rfl (.inl rfl)

theorem PPost.tick (hL : PLoc p stored) (hD : PDem p R) : PPost p stored R .tick p.handleTick.1 p.handleTick.2 := by
  refine handleTick_cases p (motive := fun r => PPost p stored R .tick r.1 r.2) (fun _ => ?_) (fun m _ hm => ?_) (.noop _ hL hD) <;>
    refine .of_quiet _ rfl hL hD (fun x hx => ?_) rfl (.inl rfl) <;> cases List.mem_singleton.mp hx
  · trivial
  · obtain ⟨s, t, i, q, rfl, hq⟩ := hL.stmsg _ hm
    exact hq

theorem PPost.register (p : Producer) (stored : List UMsg) (R : Nat) (n : Nat) (hL : PLoc p stored) (hD : PDem p R) :
    PPost p stored R (.fromConsumer (.register n)) (p.handleRegister n).1 (p.handleRegister n).2 :=
  handleRegister_cases p n (motive := fun r => PPost p stored R _ r.1 r.2)
    (.of_quiet _ rfl hL hD (fun x hx => by cases List.mem_singleton.mp hx; exact ⟨rfl, rfl⟩) rfl (.inl rfl))
    -- a new registration lowers the emission limit to what is stored
    (.of_quiet _ rfl ⟨hL.sess, hL.idx, hL.len, hL.pay, hL.unc, hL.pend, hL.stmsg⟩
      ⟨Nat.le_trans (Nat.min_le_left ..) hD.dem, hD.cur, hD.cred⟩
      (fun x hx => by cases List.mem_singleton.mp hx; exact ⟨rfl, rfl⟩) rfl (.inl rfl))

theorem PLoc.advance (hL : PLoc p stored) (c : Nat) : PLoc (p.advanceConfirmed c).1 stored :=
  advanceConfirmed_cases p c (motive := fun r => PLoc r.1 stored) (fun _ => hL) fun _ =>
    ⟨hL.sess, hL.idx, hL.len, hL.pay, fun m hm => hL.unc m (mem_dropWhile _ _ _ hm), hL.pend, hL.stmsg⟩

theorem PDem.advance (hD : PDem p R) (c : Nat) : PDem (p.advanceConfirmed c).1 R :=
  advanceConfirmed_cases p c (motive := fun r => PDem r.1 R) (fun _ => hD) fun _ => ⟨hD.dem, hD.cur, hD.cred⟩

theorem advanceConfirmed_outs (p : Producer) (c : Nat) :
    ∀ x ∈ (p.advanceConfirmed c).2, ∃ i q, x = POut.toUser (.deliveryConfirmed p.session i q) := by
  refine advanceConfirmed_cases p c (motive := fun r => ∀ x ∈ r.2, ∃ i q, x = POut.toUser (.deliveryConfirmed p.session i q))
    (fun _ _ h => nomatch h) fun _ x hx => ?_
  unfold Producer.confirmations at hx
  split at hx
  · obtain ⟨m, _, rfl⟩ := List.mem_map.mp hx; exact ⟨_, _, rfl⟩
  · cases hx

theorem PLoc.allow (hL : PLoc p stored) : PLoc p.allowNextRequest.1 stored := by
  rcases allowNext_cases p with e | ⟨_, _, e⟩ <;> rw [e]
  · exact hL
  · exact ⟨hL.sess, hL.idx, hL.len, hL.pay, hL.unc, nofun, hL.stmsg⟩

/-- a credit is opened only below the granted demand -/
theorem PDem.allow (hD : PDem p R) : PDem p.allowNextRequest.1 R := by
  rcases allowNext_cases p with e | ⟨_, hlt, e⟩ <;> rw [e]
  · exact hD
  · exact ⟨hD.dem, hD.cur, fun _ => Nat.lt_of_lt_of_le hlt hD.dem⟩

theorem allow_outs (p : Producer) : ∀ x ∈ p.allowNextRequest.2, ∃ s t, x = POut.toUser (.requestNext s t) := by
  rcases allowNext_cases p with e | ⟨_, _, e⟩ <;> rw [e]
  · exact fun _ h => nomatch h
  · exact fun x hx => ⟨_, _, List.mem_singleton.mp hx⟩

/-- all emissions go through `emitSequenced`: to a registered consumer, within the demand -/
theorem emit_mem {p : Producer} {m : UMsg} {x : POut} (h : x ∈ p.emitSequenced m) :
    x = .toConsumer (.sequenced p.session m.id m.seq m.payload) ∧ p.registered = true ∧ m.seq ≤ p.demandUpTo := by
  revert h
  refine iteInduction (motive := fun o => x ∈ o → _) (fun _ h => nomatch h) fun hg h => ?_
  simp only [Bool.or_eq_true, Bool.not_eq_true', decide_eq_true_eq, not_or, Nat.not_lt, Bool.not_eq_false] at hg
  exact ⟨List.mem_singleton.mp h, hg.1, hg.2⟩

theorem resend_outs (p : Producer) :
    ∀ x ∈ p.resendUnconfirmed, ∃ m ∈ p.unconfirmed,
      x = POut.toConsumer (.sequenced p.session m.id m.seq m.payload) ∧ m.seq ≤ p.demandUpTo := fun _ hx =>
  have ⟨m, hm, hx⟩ := List.mem_flatMap.mp hx
  ⟨m, List.takeWhile_subset _ hm, (emit_mem hx).1, (emit_mem hx).2.2⟩

theorem PPost.ack (s n c : Nat) (hL : PLoc p stored) (hD : PDem p R) :
    PPost p stored R (.fromConsumer (.ack s n c)) (p.handleAck s n c).1 (p.handleAck s n c).2 :=
  handleAck_cases p s n c (motive := fun r => PPost p stored R _ r.1 r.2) (fun _ => .noop _ hL hD) (fun _ _ => .terminate _ hL hD)
    fun _ _ => .of_quiet _ (advance_fields p c).2.2.1 (hL.advance c) (hD.advance c)
      (fun x hx => by obtain ⟨_, _, rfl⟩ := advanceConfirmed_outs p c x hx; trivial)
      (advance_fields p c).2.1 (.inr (.inr ⟨_, _, _, rfl⟩))

theorem PPost.grant (s n c u : Nat) (v : Bool) (hL : PLoc p stored) (hD : PDem p R) (hu : u ≤ R) :
    PPost p stored R (.fromConsumer (.request s n c u v)) (granted p c u v).1 (granted p c u v).2 := by
  have hL1 := hL.advance c
  have hD1 := hD.advance c
  have ho1 := advanceConfirmed_outs p c
  obtain ⟨_, hs1, hc1, _⟩ := advance_fields p c
  unfold granted
  generalize p.advanceConfirmed c = r at *
  obtain ⟨p1, o1⟩ := r
  have hL2 : PLoc { p1 with demandUpTo := u, windowSpan := u - c } stored :=
    ⟨hL1.sess, hL1.idx, hL1.len, hL1.pay, hL1.unc, hL1.pend, hL1.stmsg⟩
  have hD2 : PDem { p1 with demandUpTo := u, windowSpan := u - c } R := ⟨hu, hD1.cur, hD1.cred⟩
  obtain ⟨hs3, hc3, _⟩ := allow_fields { p1 with demandUpTo := u, windowSpan := u - c }
  refine .of_quiet _ (hc3.trans hc1) hL2.allow hD2.allow (fun x hx => ?_) (hs3.trans hs1) (.inr (.inl ⟨_, _, _, _, _, rfl⟩))
  rcases List.mem_append.mp hx with hx | hx
  · rcases List.mem_append.mp hx with hx | hx
    · obtain ⟨_, _, rfl⟩ := ho1 x hx; trivial
    · split at hx
      · obtain ⟨m, hm, rfl, hq⟩ := resend_outs _ x hx
        exact ⟨hs3.symm, hL2.unc m hm, Nat.le_trans hq hu⟩
      · cases hx
  · obtain ⟨_, _, rfl⟩ := allow_outs _ x hx; trivial

theorem PPost.request (p : Producer) (stored : List UMsg) (R : Nat) (s n c u : Nat) (v : Bool)
    (hL : PLoc p stored) (hD : PDem p R) (hu : u ≤ R) :
    PPost p stored R (.fromConsumer (.request s n c u v)) (p.handleRequest s n c u v).1 (p.handleRequest s n c u v).2 :=
  handleRequest_cases p s n c u v (motive := fun r => PPost p stored R _ r.1 r.2) (fun _ => .noop _ hL hD)
    (fun _ _ => .terminate _ hL hD) fun _ _ _ _ => .grant s n c u v hL hD hu

theorem Indexed.snoc (stored : List UMsg) (e : UMsg) (h : Indexed stored) (he : e.seq = stored.length + 1) :
    Indexed (stored ++ [e]) :=
  fun i m hm => (getElem?_snoc hm).elim (h i m) fun ⟨hi, hx⟩ => hi ▸ hx ▸ he

theorem PPost.produced (p : Producer) (stored : List UMsg) (R : Nat) (s t i pl : Nat)
    (hL : PLoc p stored) (hD : PDem p R) (hpl : pl = payloadOf i) :
    PPost p stored R (.produced s t i pl) (p.handleProduced s t i pl).1 (p.handleProduced s t i pl).2 := by
  refine handleProduced_cases p s t i pl (motive := fun r => PPost p stored R _ r.1 r.2) (fun _ => .noop _ hL hD)
    (fun _ _ _ => .terminate _ hL hD) fun _ _ hcred _ => ?_
  have hns : newStored p (p.completeStore i pl).1 (.produced s t i pl) = [⟨i, p.currentSeq + 1, pl⟩] := by
    simp [newStored, Producer.completeStore]
  refine ⟨?_, ⟨hD.dem, hD.cred hcred, nofun⟩, fun x hx => ?_, rfl, .inl rfl, fun m h1 _ => ?_⟩ <;> rw [hns]
  · refine ⟨hL.sess, Indexed.snoc _ _ hL.idx (by rw [hL.len]), by rw [List.length_append, hL.len]; rfl, ?_, ?_,
      fun _ => List.mem_append_right _ (List.mem_singleton_self _),
      fun x hx => ⟨_, _, _, _, (Option.some.inj hx).symm, Nat.le_refl _⟩⟩ <;> intro m hm <;>
      rcases List.mem_append.mp hm with hm | hm
    · exact hL.pay m hm
    · cases List.mem_singleton.mp hm; exact hpl
    · exact List.mem_append_left _ (hL.unc m hm)
    · exact List.mem_append_right _ hm
  · cases List.mem_singleton.mp hx; exact Nat.le_refl _
  · simp only [Producer.completeStore, obsOfP, Mon.run]
    rw [Mon.step_stored_new _ _ _ (by rw [h1, List.length_map, hL.len]), h1, List.map_append]; rfl

theorem PPost.accept (s t i : Nat) (hL : PLoc p stored) (hD : PDem p R) (hsa : p.handshake = .storedAck) :
    PPost p stored R (.storedAck s t i) (acked p).completeAccept.1 (acked p).completeAccept.2 := by
  unfold Producer.completeAccept
  have hL1 : PLoc (Producer.resetHandshake { acked p with lastToken := p.token, lastId := p.pendingId }) stored :=
    ⟨hL.sess, hL.idx, hL.len, hL.pay, hL.unc, nofun, nofun⟩
  have hD1 : PDem (Producer.resetHandshake { acked p with lastToken := p.token, lastId := p.pendingId }) R :=
    ⟨hD.dem, hD.cur, nofun⟩
  obtain ⟨hs, hc, hf, _⟩ := allow_fields (Producer.resetHandshake { acked p with lastToken := p.token, lastId := p.pendingId })
  refine .of_quiet _ hc hL1.allow hD1.allow (fun x hx => ?_) hs (.inl hf)
  rcases List.mem_append.mp hx with hx | hx
  · obtain ⟨rfl, _, hq⟩ := emit_mem hx
    exact ⟨hs.symm, hL.pend hsa, Nat.le_trans hq hD.dem⟩
  · obtain ⟨_, _, rfl⟩ := allow_outs _ x hx; trivial

theorem PPost.storedAck (s t i : Nat) (hL : PLoc p stored) (hD : PDem p R) :
    PPost p stored R (.storedAck s t i) (p.handleStoredAck s t i).1 (p.handleStoredAck s t i).2 :=
  handleStoredAck_cases p s t i (motive := fun r => PPost p stored R _ r.1 r.2) (fun _ => .noop _ hL hD)
    (fun _ _ => .terminate _ hL hD) fun _ hsa _ _ => .accept s t i hL hD hsa

theorem PPost.handle (p : Producer) (stored : List UMsg) (R : Nat) (pin : PIn)
    (hL : PLoc p stored) (hD : PDem p R) (hin : PInOK R pin) :
    PPost p stored R pin (p.handle pin).1 (p.handle pin).2 := by
  unfold Producer.handle
  refine iteInduction (motive := fun r : Producer × List POut => PPost p stored R pin r.1 r.2) (fun _ => .noop _ hL hD) fun _ => ?_
  rcases pin with (n | ⟨s, n, c, u, v⟩ | ⟨s, n, c⟩) | ⟨s, t, i, pl⟩ | ⟨s, t, i⟩ | _
  · exact .register _ _ _ _ hL hD
  · exact .request _ _ _ _ _ _ _ _ hL hD hin
  · exact .ack _ _ _ hL hD
  · exact .produced _ _ _ _ _ _ _ hL hD hin
  · exact .storedAck _ _ _ hL hD
  · exact .tick hL hD

/-! The unconfirmed buffer holds exactly the sequences confirmedSeq+1 … currentSeq, in order
("ascending contiguous sequence order" in the Go comment) — for ANY input sequence. -/

/-- `l` carries the sequences a+1, a+2, … -/
def Consec : List UMsg → Nat → Prop
  | [], _ => True
  | m :: r, a => m.seq = a + 1 ∧ Consec r (a + 1)

structure PCons (p : Producer) : Prop where
  consec : Consec p.unconfirmed p.confirmedSeq
  len : p.confirmedSeq + p.unconfirmed.length = p.currentSeq

theorem consec_dropWhile (l : List UMsg) (a c cur : Nat) (h : Consec l a) (hl : a + l.length = cur) (h1 : a ≤ c) (h2 : c ≤ cur) :
    Consec (l.dropWhile (fun m => m.seq ≤ c)) c ∧ c + (l.dropWhile (fun m => m.seq ≤ c)).length = cur := by
  induction l generalizing a with
  | nil => exact ⟨trivial, by simp at hl ⊢; omega⟩
  | cons m r ih =>
    obtain ⟨hm, hr⟩ := h
    simp only [List.length_cons] at hl
    by_cases hle : m.seq ≤ c
    · rw [List.dropWhile_cons_of_pos (by simpa using hle)]
      exact ih (a + 1) hr (by omega) (by omega)
    · rw [List.dropWhile_cons_of_neg (by simpa using hle)]
      have : c = a := by omega
      subst this
      exact ⟨⟨hm, hr⟩, by simp only [List.length_cons]; omega⟩

theorem consec_snoc (l : List UMsg) (a cur : Nat) (x : UMsg) (h : Consec l a) (hl : a + l.length = cur) (hx : x.seq = cur + 1) :
    Consec (l ++ [x]) a := by
  induction l generalizing a with
  | nil => simp at hl; subst hl; exact ⟨hx, trivial⟩
  | cons m r ih =>
    simp only [List.length_cons] at hl
    exact ⟨h.1, ih (a + 1) h.2 (by omega)⟩

theorem PCons.advance {p : Producer} (h : PCons p) (c : Nat) (hc : c ≤ p.currentSeq) : PCons (p.advanceConfirmed c).1 :=
  advanceConfirmed_cases p c (motive := fun r => PCons r.1) (fun _ => h) fun hlt =>
    have := consec_dropWhile p.unconfirmed p.confirmedSeq c p.currentSeq h.consec h.len (Nat.le_of_lt hlt) hc
    ⟨this.1, this.2⟩

theorem PCons.handle {p : Producer} (h : PCons p) (pin : PIn) : PCons (p.handle pin).1 := by
  cases handle_seqs p pin with
  | same a b c => exact ⟨b ▸ c ▸ h.consec, by rw [a, b, c]; exact h.len⟩
  | confirm x y a b c =>
    have := consec_dropWhile p.unconfirmed p.confirmedSeq (carried pin) p.currentSeq h.consec h.len (Nat.le_of_lt x) y
    exact ⟨b ▸ c ▸ this.1, by rw [a, b, c]; exact this.2⟩
  | store s t i pl _ a b c =>
    exact ⟨b ▸ c ▸ consec_snoc _ _ p.currentSeq _ h.consec h.len rfl, by
      have := h.len; rw [a, b, c, List.length_append, List.length_singleton]; omega⟩

theorem PCons.empty_of_eq {p : Producer} (h : PCons p) (e : p.confirmedSeq = p.currentSeq) : p.unconfirmed = [] := by
  have := h.len
  cases hu : p.unconfirmed with
  | nil => rfl
  | cons a r => rw [hu] at this; simp at this; omega

end GoaktVerif.C42
