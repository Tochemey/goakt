import GoaktVerif.Lemmas.C42.Producer

/-!
Consumer-controller half of the C42/C43 invariant: facts about `Consumer.handle` alone, against an
abstract stored log, the producer session and the Spec monitor.  Handlers are compositions of a few
primitive transitions; `CTrans` is closed under composition.
-/
namespace GoaktVerif.C42
open GoaktVerif.Model.C42 GoaktVerif.Spec.C42

/-- the stored log is indexed by sequence and carries the endpoint's payloads -/
structure LogOK (stored : List UMsg) : Prop where
  idx : Indexed stored
  pay : ∀ m ∈ stored, m.payload = payloadOf m.id

theorem LogOK.content {stored : List UMsg} (h : LogOK stored) {i q pl : Nat} (hm : InLog stored i q pl) :
    1 ≤ q ∧ (stored.map (·.id))[q - 1]? = some i ∧ pl = payloadOf i ∧ q ≤ stored.length := by
  obtain ⟨j, hj⟩ := List.getElem?_of_mem hm
  have hq := h.idx j _ hj
  have hjl : j < stored.length := (List.getElem?_eq_some_iff.mp hj).1
  simp only at hq
  refine ⟨by omega, ?_, h.pay _ hm, by omega⟩
  have : q - 1 = j := by omega
  rw [this, List.getElem?_map, hj]; rfl

/-- consumer controller against the stored log and the producer session -/
structure CLoc (c : Consumer) (stored : List UMsg) (psess : Nat) : Prop where
  sess : c.session = 0 ∨ c.session = psess
  fresh : c.session = 0 → c.requestUpToSeq = 0 ∧ c.inFlight = none ∧ c.expectedSeq = 1 ∧ c.buffer = [] ∧ c.confirmedSeq = 0
  buf : ∀ b ∈ c.buffer, InLog stored b.id b.seq b.payload
  buflen : c.buffer.length ≤ c.window
  infl : ∀ d, c.inFlight = some d → InLog stored d.id d.seq d.payload ∧ d.session = c.session ∧ d.seq = c.expectedSeq
  win : c.requestUpToSeq ≤ c.confirmedSeq + c.window
  ce : c.expectedSeq = c.confirmedSeq + 1
  /-- the unchunked consumer controller never takes its terminal `fail` path -/
  nf : c.failed = false
  /-- the consumer controller has confirmed nothing the producer controller has not stored -/
  cle : c.confirmedSeq ≤ stored.length

/-- the Spec monitor agrees with the consumer controller -/
structure CMon (c : Consumer) (stored : List UMsg) (m : Mon) : Prop where
  ids : m.ids = stored.map (·.id)
  infl : ∀ d, c.inFlight = some d → m.last = d.seq ∧ m.lastConfirmed = false
  idle : c.inFlight = none → m.last + 1 = c.expectedSeq ∧ m.lastConfirmed = true
  req : m.maxReq = c.requestUpToSeq
  ord : m.okOrder = true
  win : m.okWindow = true

/-- what the link invariants demand of one output of the consumer controller -/
def COutOK (c' : Consumer) (stored : List UMsg) : COut → Prop
  | .toProducer (.request _ _ cf u _) => u ≤ c'.requestUpToSeq ∧ c'.session ≠ 0 ∧ cf ≤ c'.confirmedSeq ∧ u = cf + c'.window
  | .toProducer (.ack _ _ cf) => c'.session ≠ 0 ∧ cf ≤ c'.confirmedSeq
  | .toProducer (.register _) => True
  | .toUser d => InLog stored d.id d.seq d.payload ∧ d.session = c'.session ∧ c'.session ≠ 0

/-- a (partial) handler run from `c` to `c'` emitting `o`, seen by monitor `m` -/
structure CTrans (stored : List UMsg) (psess : Nat) (c : Consumer) (m : Mon) (c' : Consumer) (o : List COut) : Prop where
  loc : CLoc c' stored psess
  mon : CMon c' stored (m.run (obsOfC o))
  outs : ∀ x ∈ o, COutOK c' stored x
  mono : c.requestUpToSeq ≤ c'.requestUpToSeq
  sess : c.session ≠ 0 → c'.session = c.session
  dem : (m.run (obsOfC o)).okDemand = m.okDemand
  wnd : c'.window = c.window
  cmono : c.confirmedSeq ≤ c'.confirmedSeq

theorem obsOfC_append (a b : List COut) : obsOfC (a ++ b) = obsOfC a ++ obsOfC b := by
  induction a with
  | nil => rfl
  | cons x xs ih =>
    cases x with
    | toProducer m => cases m <;> simp [obsOfC, ih]
    | toUser m => simp [obsOfC, ih]

theorem COutOK.lift {c c' : Consumer} {stored : List UMsg} {x : COut} (h : COutOK c stored x)
    (hm : c.requestUpToSeq ≤ c'.requestUpToSeq) (hs : c.session ≠ 0 → c'.session = c.session)
    (hw : c'.window = c.window) (hc : c.confirmedSeq ≤ c'.confirmedSeq) :
    COutOK c' stored x := by
  cases x with
  | toProducer m =>
    cases m with
    | register => trivial
    | request s n cf u v => exact ⟨by have := h.1; omega, by rw [hs h.2.1]; exact h.2.1, by have := h.2.2.1; omega, by rw [hw]; exact h.2.2.2⟩
    | ack s n cf => exact ⟨by rw [hs h.1]; exact h.1, by have := h.2; omega⟩
  | toUser d => exact ⟨h.1, by rw [hs h.2.2]; exact h.2.1, by rw [hs h.2.2]; exact h.2.2⟩

theorem CTrans.comp {stored : List UMsg} {psess : Nat} {c c1 c2 : Consumer} {m : Mon} {o1 o2 : List COut}
    (h1 : CTrans stored psess c m c1 o1) (h2 : CTrans stored psess c1 (m.run (obsOfC o1)) c2 o2) :
    CTrans stored psess c m c2 (o1 ++ o2) := by
  have hrun : m.run (obsOfC (o1 ++ o2)) = (m.run (obsOfC o1)).run (obsOfC o2) := by
    rw [obsOfC_append, Mon.run_append]
  refine ⟨h2.loc, hrun ▸ h2.mon, ?_, Nat.le_trans h1.mono h2.mono, ?_, ?_, by rw [h2.wnd, h1.wnd], Nat.le_trans h1.cmono h2.cmono⟩
  · intro x hx
    rcases List.mem_append.mp hx with hx | hx
    · exact (h1.outs x hx).lift h2.mono h2.sess h2.wnd h2.cmono
    · exact h2.outs x hx
  · intro h0
    rw [h2.sess (by rw [h1.sess h0]; exact h0), h1.sess h0]
  · rw [hrun, h2.dem, h1.dem]

theorem CTrans.refl {stored : List UMsg} {psess : Nat} {c : Consumer} {m : Mon}
    (hL : CLoc c stored psess) (hM : CMon c stored m) : CTrans stored psess c m c [] :=
  ⟨hL, hM, by simp, Nat.le_refl _, fun _ => rfl, rfl, rfl, Nat.le_refl _⟩

variable {stored : List UMsg} {psess : Nat} {c : Consumer} {m : Mon}

/-- a state change that touches none of the fields the invariant reads -/
theorem CTrans.frame (hL : CLoc c stored psess) (hM : CMon c stored m) (c' : Consumer)
    (h1 : c'.session = c.session) (h2 : c'.requestUpToSeq = c.requestUpToSeq) (h3 : c'.inFlight = c.inFlight)
    (h4 : c'.expectedSeq = c.expectedSeq) (h5 : c'.buffer = c.buffer) (h6 : c'.confirmedSeq = c.confirmedSeq)
    (h7 : c'.window = c.window) (h8 : c'.failed = c.failed := by rfl) : CTrans stored psess c m c' [] := by
  refine ⟨⟨?_, ?_, ?_, ?_, ?_, ?_, ?_, h8 ▸ hL.nf, h6 ▸ hL.cle⟩, ⟨hM.ids, ?_, ?_, ?_, hM.ord, hM.win⟩, by simp, by omega, fun _ => h1, rfl, h7, by omega⟩
  · rw [h1]; exact hL.sess
  · rw [h1, h2, h3, h4, h5, h6]; exact hL.fresh
  · rw [h5]; exact hL.buf
  · rw [h5, h7]; exact hL.buflen
  · rw [h3, h1, h4]; exact hL.infl
  · rw [h2, h6, h7]; exact hL.win
  · rw [h4, h6]; exact hL.ce
  · rw [h3]; exact hM.infl
  · rw [h3, h4]; exact hM.idle
  · rw [h2]; exact hM.req

theorem CTrans.after (hL : CLoc c stored psess) (hM : CMon c stored m) (c' : Consumer)
    (h1 : c'.session = c.session) (h2 : c'.requestUpToSeq = c.requestUpToSeq) (h3 : c'.inFlight = c.inFlight)
    (h4 : c'.expectedSeq = c.expectedSeq) (h5 : c'.buffer = c.buffer) (h6 : c'.confirmedSeq = c.confirmedSeq)
    (h7 : c'.window = c.window) {c2 : Consumer} {o : List COut}
    (k : CLoc c' stored psess → CMon c' stored m → CTrans stored psess c' m c2 o) (h8 : c'.failed = c.failed := by rfl) :
    CTrans stored psess c m c2 o :=
  have h := CTrans.frame hL hM c' h1 h2 h3 h4 h5 h6 h7 h8
  h.comp (k h.loc h.mon)

theorem CTrans.ite {c0 : Consumer} {cond : Prop} [Decidable cond] {a b : Consumer × List COut}
    (pos : cond → CTrans stored psess c0 m a.1 a.2) (neg : ¬cond → CTrans stored psess c0 m b.1 b.2) :
    CTrans stored psess c0 m (if cond then a else b).1 (if cond then a else b).2 :=
  iteInduction (motive := fun r : Consumer × List COut => CTrans stored psess c0 m r.1 r.2) pos neg

theorem Mon.step_requested (m : Mon) (u : Nat) (h : m.maxReq ≤ u) : m.step (.requested u) = { m with maxReq := u } := by
  simp [Mon.step, Nat.max_eq_right h]

theorem CTrans.sendRequest (hL : CLoc c stored psess) (hM : CMon c stored m) (v : Bool) :
    CTrans stored psess c m (c.sendRequest v).1 (c.sendRequest v).2 := by
  refine .ite (fun _ => .refl hL hM) fun hg => ?_
  have hs0 : c.session ≠ 0 := by simp at hg; exact hg.2
  have hrun : m.run (obsOfC [COut.toProducer (CMsg.request c.session c.nonce c.confirmedSeq (c.confirmedSeq + c.window) v)])
      = { m with maxReq := c.confirmedSeq + c.window } := Mon.step_requested _ _ (hM.req ▸ hL.win)
  refine ⟨⟨hL.sess, fun h => absurd h hs0, hL.buf, hL.buflen, hL.infl, Nat.le_refl _, hL.ce, hL.nf, hL.cle⟩, ?_, ?_, hL.win,
    fun _ => rfl, by rw [hrun], rfl, Nat.le_refl _⟩
  · rw [hrun]; exact ⟨hM.ids, hM.infl, hM.idle, rfl, hM.ord, hM.win⟩
  · intro x hx; cases List.mem_singleton.mp hx; exact ⟨Nat.le_refl _, hs0, Nat.le_refl _, rfl⟩

theorem CTrans.sendAck (hL : CLoc c stored psess) (hM : CMon c stored m) :
    CTrans stored psess c m c c.sendAck := by
  refine iteInduction (motive := fun o => CTrans stored psess c m c o) (fun _ => .refl hL hM) fun hg => ?_
  have hs0 : c.session ≠ 0 := by simp at hg; exact hg.2
  refine ⟨hL, hM, ?_, Nat.le_refl _, fun _ => rfl, rfl, rfl, Nat.le_refl _⟩
  intro x hx; cases List.mem_singleton.mp hx; exact ⟨hs0, Nat.le_refl _⟩

theorem Mon.step_present_new (m : Mon) (i q pl : Nat) (h1 : q = m.last + 1) (h2 : m.lastConfirmed = true)
    (h3 : m.okOrder = true) (h5 : m.ids[q - 1]? = some i) (h6 : pl = payloadOf i) :
    m.step (.present i q pl) = { m with last := q, lastConfirmed := false } := by
  simp [Mon.step, h1, h2, h3, h6]
  rw [h1] at h5; simpa using h5

theorem Mon.step_present_again (m : Mon) (i q pl : Nat) (h1 : q = m.last) (h2 : m.lastConfirmed = false)
    (h3 : m.okOrder = true) (h4 : 1 ≤ q) (h5 : m.ids[q - 1]? = some i) (h6 : pl = payloadOf i) :
    m.step (.present i q pl) = m := by
  subst h1
  have e1 : decide (1 ≤ m.last) = true := by simpa using h4
  have e2 : (m.ids[m.last - 1]? == some i) = true := by rw [h5]; simp
  cases m; simp_all [Mon.step]

theorem CTrans.deliver (hLog : LogOK stored) (hL : CLoc c stored psess) (hM : CMon c stored m) (b : BMsg)
    (hn : c.inFlight = none) (hq : b.seq = c.expectedSeq) (hb : InLog stored b.id b.seq b.payload) (hs : c.session ≠ 0) :
    CTrans stored psess c m (c.deliver b).1 (c.deliver b).2 := by
  obtain ⟨hq1, hid, hpl, _⟩ := hLog.content hb
  have hidle := hM.idle hn
  have hrun : m.run (obsOfC (c.deliver b).2) = { m with last := b.seq, lastConfirmed := false } :=
    Mon.step_present_new m b.id b.seq b.payload (hq.trans hidle.1.symm) hidle.2 hM.ord (by rw [hM.ids]; exact hid) hpl
  refine ⟨⟨hL.sess, fun h => absurd h hs, hL.buf, hL.buflen, ?_, hL.win, hL.ce, hL.nf, hL.cle⟩, ?_, ?_, Nat.le_refl _,
    fun _ => rfl, by rw [hrun], rfl, Nat.le_refl _⟩
  · intro d hd; cases Option.some.inj hd; exact ⟨hb, rfl, hq⟩
  · rw [hrun]
    exact ⟨hM.ids, fun d hd => by cases Option.some.inj hd; exact ⟨rfl, rfl⟩, nofun, hM.req, hM.ord, hM.win⟩
  · intro x hx; cases List.mem_singleton.mp hx; exact ⟨hb, rfl, hs⟩

theorem CTrans.retell (hLog : LogOK stored) (hL : CLoc c stored psess) (hM : CMon c stored m) (d : Delivery)
    (hd : c.inFlight = some d) (hs : c.session ≠ 0) : CTrans stored psess c m c [.toUser d] := by
  obtain ⟨hb, hds, hdq⟩ := hL.infl d hd
  obtain ⟨hq1, hid, hpl, _⟩ := hLog.content hb
  obtain ⟨hl, hlc⟩ := hM.infl d hd
  have hrun : m.run (obsOfC [COut.toUser d]) = m :=
    Mon.step_present_again m d.id d.seq d.payload hl.symm hlc hM.ord hq1 (by rw [hM.ids]; exact hid) hpl
  refine ⟨hL, by rw [hrun]; exact hM, ?_, Nat.le_refl _, fun _ => rfl, by rw [hrun], rfl, Nat.le_refl _⟩
  intro x hx; cases List.mem_singleton.mp hx; exact ⟨hb, hds, hs⟩

theorem CTrans.setBuffer (hL : CLoc c stored psess) (hM : CMon c stored m) (l : List BMsg)
    (h1 : ∀ b ∈ l, InLog stored b.id b.seq b.payload) (h2 : l.length ≤ c.window) (h3 : c.session = 0 → l = []) :
    CTrans stored psess c m { c with buffer := l } [] :=
  ⟨⟨hL.sess, fun h0 => have ⟨a, b, c', _, e⟩ := hL.fresh h0; ⟨a, b, c', h3 h0, e⟩, h1, h2, hL.infl, hL.win, hL.ce, hL.nf, hL.cle⟩,
    ⟨hM.ids, hM.infl, hM.idle, hM.req, hM.ord, hM.win⟩, nofun, Nat.le_refl _, fun _ => rfl, rfl, rfl, Nat.le_refl _⟩

theorem CTrans.register (hL : CLoc c stored psess) (hM : CMon c stored m) :
    CTrans stored psess c m c.register.1 c.register.2 :=
  .after hL hM { c with hasProducer := true, nonce := c.nonceCtr + 1, nonceCtr := c.nonceCtr + 1 } rfl rfl rfl rfl rfl rfl rfl
    fun hL hM => ⟨hL, hM, fun x hx => by cases List.mem_singleton.mp hx; trivial, Nat.le_refl _, fun _ => rfl, rfl, rfl, Nat.le_refl _⟩

theorem CTrans.solicit (hL : CLoc c stored psess) (hM : CMon c stored m) (now : Nat) :
    CTrans stored psess c m (c.solicitGapRequest now).1 (c.solicitGapRequest now).2 :=
  .after hL hM { c with lastGap := some now } rfl rfl rfl rfl rfl rfl rfl fun hL hM => .sendRequest hL hM true

theorem CTrans.sendGapRequest (hL : CLoc c stored psess) (hM : CMon c stored m) (now : Nat) :
    CTrans stored psess c m (c.sendGapRequest now).1 (c.sendGapRequest now).2 :=
  .ite (fun _ => .solicit hL hM now) fun _ => .refl hL hM

theorem insertBySeq_perm (b : BMsg) (l : List BMsg) : (Consumer.insertBySeq b l).Perm (b :: l) :=
  perm_insert_of_eqns (ins := Consumer.insertBySeq) (fun _ => rfl)
    (fun a c cs => by rw [Consumer.insertBySeq]; split; exact .inl rfl; exact .inr rfl) b l

theorem CTrans.bufferMessage (hL : CLoc c stored psess) (hM : CMon c stored m) (b : BMsg) (now : Nat)
    (hb : InLog stored b.id b.seq b.payload) (hs : c.session ≠ 0) :
    CTrans stored psess c m (c.bufferMessage b now).1 (c.bufferMessage b now).2 := by
  have h1 : CTrans stored psess c m (c.bufferInsert b) [] := by
    refine iteInduction (motive := fun c' => CTrans stored psess c m c' []) (fun _ => .refl hL hM) fun _ =>
      iteInduction (motive := fun c' => CTrans stored psess c m c' []) (fun _ => .refl hL hM) fun hlen => ?_
    refine .setBuffer hL hM _ (fun x hx => ?_) (by rw [(insertBySeq_perm _ _).length_eq, List.length_cons]; omega) fun h0 => absurd h0 hs
    rcases List.mem_cons.mp ((insertBySeq_perm _ _).mem_iff.mp hx) with rfl | hx
    · exact hb
    · exact hL.buf x hx
  exact .ite (fun _ => h1.comp (.sendGapRequest h1.loc h1.mon now)) fun _ => h1

theorem CTrans.drain (hLog : LogOK stored) (hL : CLoc c stored psess) (hM : CMon c stored m) :
    CTrans stored psess c m c.drain.1 c.drain.2 := by
  unfold Consumer.drain
  cases hin : c.inFlight with
  | some d => exact .refl hL hM
  | none =>
    cases hbuf : c.buffer with
    | nil => exact .refl hL hM
    | cons b bs =>
      refine .ite (fun hq => ?_) fun _ => .refl hL hM
      have hmem : ∀ x ∈ bs, x ∈ c.buffer := fun x hx => hbuf ▸ List.mem_cons_of_mem _ hx
      have hs : c.session ≠ 0 := fun h0 => by have := (hL.fresh h0).2.2.2.1; rw [hbuf] at this; cases this
      have h1 := CTrans.setBuffer hL hM bs (fun x hx => hL.buf x (hmem x hx))
        (by have := hL.buflen; rw [hbuf] at this; exact Nat.le_of_succ_le this) fun h0 => absurd h0 hs
      exact h1.comp (.deliver hLog h1.loc h1.mon b hin (by simpa using hq) (hL.buf b (hbuf ▸ List.mem_cons_self ..)) hs)

theorem CTrans.handleRegAck (hL : CLoc c stored psess) (hM : CMon c stored m) (s nx n : Nat)
    (hps : psess ≠ 0) (hs : s = psess) (hnx : c.session = 0 → nx = 1) :
    CTrans stored psess c m (c.handleRegAck s nx n).1 (c.handleRegAck s nx n).2 := by
  refine .ite (fun _ => .refl hL hM) fun _ => .ite (fun _ => .refl hL hM) fun _ => ?_
  refine iteInduction (motive := fun c2 : Consumer => CTrans stored psess c m (c2.sendRequest true).1 (c2.sendRequest true).2) (fun hne => ?_) fun _ =>
      .after hL hM { c with sawValidTraffic := true } rfl rfl rfl rfl rfl rfl rfl fun hL hM => .sendRequest hL hM true
  -- a new session is adopted only by a controller that has none: its fields are still the initial ones
  have h0 : c.session = 0 := hL.sess.resolve_right fun h => by simp [hs, h] at hne
  obtain ⟨f1, f2, f3, f4, f5⟩ := hL.fresh h0
  cases hnx h0; subst hs
  have hidle := hM.idle f2
  have h2 : CTrans stored s c m { c with sawValidTraffic := true, session := s, expectedSeq := 1, confirmedSeq := 1 - 1, buffer := [], inFlight := none } [] :=
    ⟨⟨.inr rfl, fun h => absurd h hps, nofun, Nat.zero_le _, nofun, by rw [f1]; exact Nat.zero_le _, rfl, hL.nf, Nat.zero_le _⟩,
      ⟨hM.ids, nofun, fun _ => ⟨f3 ▸ hidle.1, hidle.2⟩, f1 ▸ hM.req, hM.ord, hM.win⟩,
      nofun, by rw [f1]; exact Nat.zero_le _, fun h => absurd h0 h, rfl, rfl, by rw [f5]; exact Nat.zero_le _⟩
  exact h2.comp (.sendRequest h2.loc h2.mon true)

theorem CTrans.handleSequenced (hLog : LogOK stored) (hL : CLoc c stored psess) (hM : CMon c stored m) (s i q pl now : Nat)
    (hb : InLog stored i q pl) :
    CTrans stored psess c m (c.handleSequenced s i q pl now).1 (c.handleSequenced s i q pl now).2 := by
  refine .ite (fun _ => .refl hL hM) fun _ => .ite (fun _ => .refl hL hM) fun hsess => ?_
  have hs0 : c.session ≠ 0 := by simp at hsess; exact hsess.1
  refine .after hL hM { c with sawValidTraffic := true } rfl rfl rfl rfl rfl rfl rfl fun hL hM => ?_
  refine .ite (fun _ => .refl hL hM) fun _ => .ite (fun _ => .sendAck hL hM) fun _ =>
    .ite (fun hc => ?_) fun _ => .ite (fun _ => .refl hL hM) fun _ => ?_
  · simp only [Bool.and_eq_true, beq_iff_eq, Option.isNone_iff_eq_none] at hc
    exact .deliver hLog hL hM ⟨i, q, pl⟩ hc.2 hc.1 hb hs0
  · have h2 := CTrans.bufferMessage hL hM ⟨i, q, pl⟩ now hb hs0
    exact h2.comp (.drain hLog h2.loc h2.mon)

theorem LogOK.unique (h : LogOK stored) {i i' q pl pl' : Nat} (h1 : InLog stored i q pl) (h2 : InLog stored i' q pl') : i = i' := by
  have a := (h.content h1).2.1
  have b := (h.content h2).2.1
  rw [a] at b; exact Option.some.inj b

theorem CTrans.batchConfirmation (hL : CLoc c stored psess) (hM : CMon c stored m) :
    CTrans stored psess c m c.batchConfirmation.1 c.batchConfirmation.2 :=
  .ite (fun _ => .sendRequest hL hM false) fun _ => .ite (fun _ => .sendAck hL hM) fun _ => .refl hL hM

theorem Mon.step_confirm_okDemand (m : Mon) (q : Nat) : (m.step (.confirm q)).okDemand = m.okDemand := by
  simp only [Mon.step]; split <;> rfl

theorem Mon.step_confirm_other (m : Mon) (q : Nat) (h : q = m.last → m.lastConfirmed = true) : m.step (.confirm q) = m :=
  iteInduction (motive := fun r => r = m)
    (fun e => h (beq_iff_eq.mp e) ▸ (rfl : ({ m with lastConfirmed := m.lastConfirmed } : Mon) = m)) fun _ => rfl

/-- `handleConfirmed`, seen by a monitor that has just observed the endpoint's `Confirmed(q)` -/
theorem CTrans.handleConfirmed (hLog : LogOK stored) (hL : CLoc c stored psess) (hM : CMon c stored m) (s i q now : Nat)
    (hin : ∃ pl0, InLog stored i q pl0) (hs : s = c.session) :
    CTrans stored psess c (m.step (.confirm q)) (c.handleConfirmed s i q now).1 (c.handleConfirmed s i q now).2 := by
  obtain ⟨pl0, hin⟩ := hin
  unfold Consumer.handleConfirmed
  cases hd : c.inFlight with
  | none =>
    refine .refl hL ?_
    rw [Mon.step_confirm_other m q fun _ => (hM.idle hd).2]; exact hM
  | some d =>
    obtain ⟨hdl, hds, hdq⟩ := hL.infl d hd
    obtain ⟨hml, hmc⟩ := hM.infl d hd
    by_cases hmis : (s != c.session || i != d.id || q != d.seq) = true
    · -- a confirmation for another sequence than the one in flight does not touch the monitor's `last`
      simp only [if_pos hmis]
      refine .refl hL ?_
      rw [Mon.step_confirm_other m q fun e => ?_]; · exact hM
      subst hs; rw [hml] at e; subst e
      simp [hLog.unique hin hdl] at hmis
    · have hq : q = d.seq := by simp at hmis; exact hmis.2
      have hs0 : c.session ≠ 0 := fun h0 => by have := (hL.fresh h0).2.1; rw [hd] at this; cases this
      have hm0 : m.step (.confirm q) = { m with lastConfirmed := true } := by simp [Mon.step, hq, hml]
      -- the state in which the rest of the handler runs: watermark moved, stale buffer entries purged
      let c0 := Consumer.purgeBuffer { c with confirmedSeq := d.seq, expectedSeq := d.seq + 1, inFlight := none }
      have hL0 : CLoc c0 stored psess :=
        ⟨hL.sess, fun h => absurd h hs0, fun b hb => hL.buf b (mem_dropWhile _ _ _ hb),
          Nat.le_trans (List.dropWhile_sublist _).length_le hL.buflen, nofun,
          by have := hL.win; have := hL.ce; show c.requestUpToSeq ≤ d.seq + c.window; omega, rfl, hL.nf, (hLog.content hdl).2.2.2⟩
      have hM0 : CMon c0 stored { m with lastConfirmed := true } :=
        ⟨hM.ids, nofun, fun _ => ⟨congrArg (· + 1) hml, rfl⟩, hM.req, hM.ord, hM.win⟩
      have h1 : CTrans stored psess c { m with lastConfirmed := true } c0 [] :=
        ⟨hL0, hM0, nofun, Nat.le_refl _, fun _ => rfl, rfl, rfl, by have := hL.ce; show c.confirmedSeq ≤ d.seq; omega⟩
      rw [hm0]
      simp only [if_neg hmis]
      have h2 := CTrans.batchConfirmation hL0 hM0
      have h3 := CTrans.drain hLog h2.loc h2.mon
      refine .ite (fun _ => ?_) fun _ => h1.comp (h2.comp h3)
      rw [List.append_assoc]
      exact h1.comp (h2.comp (h3.comp (.solicit h3.loc h3.mon now)))

theorem CTrans.clearTraffic {c1 : Consumer} {o : List COut} (h : CTrans stored psess c m c1 o) :
    CTrans stored psess c m { c1 with sawValidTraffic := false } o :=
  List.append_nil o ▸ h.comp (.frame h.loc h.mon _ rfl rfl rfl rfl rfl rfl rfl)

theorem CTrans.handleTick (hLog : LogOK stored) (hL : CLoc c stored psess) (hM : CMon c stored m) (now : Nat) :
    CTrans stored psess c m (c.handleTick now).1 (c.handleTick now).2 := by
  unfold Consumer.handleTick
  refine CTrans.clearTraffic (.ite (fun _ => .register hL hM) fun hg => ?_)
  have hs0 : c.session ≠ 0 := by simp at hg; exact hg.1
  cases hd : c.inFlight with
  | some d => exact .retell hLog hL hM d hd hs0
  | none => exact .ite (fun _ => .sendGapRequest hL hM now) fun _ => .refl hL hM

/-- what an incoming message must satisfy (guaranteed by the link and mailbox invariants) -/
def CInOK (stored : List UMsg) (psess : Nat) (c : Consumer) : CIn → Prop
  | .fromProducer (.regAck s nx _) => s = psess ∧ (c.session = 0 → nx = 1)
  | .fromProducer (.sequenced _ i q pl) => InLog stored i q pl
  | .confirmed s i q => (∃ pl, InLog stored i q pl) ∧ s = c.session
  | .tick => True

/-- what the monitor sees before the handler runs: the endpoint's confirmation -/
def preMon (m : Mon) : CIn → Mon
  | .confirmed _ _ q => m.step (.confirm q)
  | _ => m

theorem preMon_okDemand (m : Mon) (cin : CIn) : (preMon m cin).okDemand = m.okDemand := by
  unfold preMon; split
  · exact Mon.step_confirm_okDemand _ _
  · rfl

theorem Mon.step_cstate {c : Consumer} (m : Mon) (hL : CLoc c stored psess) : m.step (cstateOf c) = m := by
  have h1 : decide (c.buffer.length ≤ c.window) = true := by simpa using hL.buflen
  have h2 : decide (c.requestUpToSeq ≤ c.confirmedSeq + c.window) = true := by simpa using hL.win
  simp only [cstateOf, Mon.step, h1, h2, Bool.and_true]

/-- what a consumer-controller handler call establishes: a transition seen by the monitor that has already
    observed the endpoint's confirmation, if the input is one -/
abbrev CPost (stored : List UMsg) (psess : Nat) (c : Consumer) (m : Mon) (cin : CIn) (c' : Consumer) (o : List COut) : Prop :=
  CTrans stored psess c (preMon m cin) c' o

theorem CPost.handle (hLog : LogOK stored) (hps : psess ≠ 0) (hL : CLoc c stored psess) (hM : CMon c stored m)
    (cin : CIn) (now : Nat) (hin : CInOK stored psess c cin) :
    CPost stored psess c m cin (c.handle cin now).1 (c.handle cin now).2 := by
  unfold Consumer.handle
  split
  · rename_i hf; rw [hL.nf] at hf; cases hf
  · split
    · exact CTrans.handleRegAck hL hM _ _ _ hps hin.1 hin.2
    · exact CTrans.handleSequenced hLog hL hM _ _ _ _ now hin
    · exact CTrans.handleConfirmed hLog hL hM _ _ _ now hin.1 hin.2
    · exact CTrans.handleTick hLog hL hM now

end GoaktVerif.C42
