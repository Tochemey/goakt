import GoaktVerif.Lemmas.C42.Reach

/-!
Progress in a form that is not temporal, from EVERY reachable world, by a fixed fault-free continuation of five steps
(two consumer-controller ticks, then delivery of the newest RegisterConsumer, RegistrationAck and timeout Request) that
makes the producer controller adopt the consumer's confirmation watermark and re-send the oldest message
that is still unconfirmed.  No reachable state is stuck.
-/
namespace GoaktVerif.C42
open GoaktVerif.Model.C42 GoaktVerif.Spec.C42

/-- a tick of the consumer controller: the producer side and the producer→consumer link are untouched, the
    traffic flag is cleared; with the flag already clear the controller re-registers with a fresh nonce -/
theorem tickC_facts {w : World} (g : Good w) :
    let w' := (w.step .tickC).1
    w'.p = w.p ∧ w'.netPC = w.netPC ∧ w'.c.sawValidTraffic = false ∧
    (w.c.sawValidTraffic = false →
      w'.netCP = w.netCP ++ [.register (w.c.nonceCtr + 1)] ∧ w'.c.nonce = w.c.nonceCtr + 1 ∧ w'.c.hasProducer = true) := by
  obtain ⟨_, h⟩ := g.inv
  simp only [World.step, World.stepC, Consumer.handle, h.cl.nf, Bool.false_eq_true, if_false]
  exact ⟨trivial, trivial, rfl, fun hs => by simp [Consumer.handleTick, hs, Consumer.register, cpOf]⟩

theorem getLast_snoc {α} (pre : List α) (x : α) : (pre ++ [x])[(pre ++ [x]).length - 1]? = some x := by
  simp

theorem eraseLast_snoc {α} (pre : List α) (x : α) : (pre ++ [x]).eraseIdx ((pre ++ [x]).length - 1) = pre := by
  rw [List.eraseIdx_eq_dropLast (by simp), List.dropLast_concat]

theorem step_newestCP {w : World} {pre : List CMsg} {x : CMsg} (hnet : w.netCP = pre ++ [x]) :
    w.step (.deliverCP (w.netCP.length - 1)) = ranP (({ w with netCP := pre } : World).stepP (.fromConsumer x)) := by
  simp only [World.step, hnet, getLast_snoc, eraseLast_snoc]

theorem step_newestPC {w : World} {pre : List PMsg} {x : PMsg} (hnet : w.netPC = pre ++ [x]) :
    w.step (.deliverPC (w.netPC.length - 1)) = ranC (({ w with netPC := pre } : World).stepC (.fromProducer x)) := by
  simp only [World.step, hnet, getLast_snoc, eraseLast_snoc]

theorem deliverCP_register {w : World} (g : Good w) {pre : List CMsg} {n : Nat} (hnet : w.netCP = pre ++ [.register n]) :
    let w' := (w.step (.deliverCP (w.netCP.length - 1))).1
    w'.c = w.c ∧ w'.netCP = pre ∧ w'.netPC = w.netPC ++ [.regAck w.p.session (w.p.confirmedSeq + 1) n] ∧
    w'.p.registered = true ∧ w'.p.nonce = n ∧ w'.p.session = w.p.session ∧ w'.p.failed = false := by
  have hf := g.i2.u.nf
  simp only [step_newestCP hnet, World.stepP, Producer.handle, hf, Bool.false_eq_true, if_false]
  unfold Producer.handleRegister
  simp only []
  split
  · simp [pcOf, hf]
  · rename_i h; simp at h; simp [pcOf, hf, h.1, h.2]

theorem deliverPC_regAck {w : World} (g : Good w) {pre : List PMsg} {s nx n : Nat} (hnet : w.netPC = pre ++ [.regAck s nx n])
    (hp : w.c.hasProducer = true) (hn : w.c.nonce = n) :
    let w' := (w.step (.deliverPC (w.netPC.length - 1))).1
    w'.p = w.p ∧ w'.c.session = s ∧ w'.c.nonce = n ∧ w'.c.window = w.c.window ∧ w'.c.failed = false ∧
    w'.netCP = w.netCP ++ [.request s n w'.c.confirmedSeq (w'.c.confirmedSeq + w.c.window) true] ∧
    w'.c.hasProducer = true ∧ w'.c.requestUpToSeq = w'.c.confirmedSeq + w.c.window := by
  obtain ⟨_, h⟩ := g.inv
  have hf := h.cl.nf
  have hps : s = w.p.session :=
    (h.netPC (.regAck s nx n) (hnet ▸ List.mem_append_right _ (List.mem_singleton_self _)) : _ ∧ _).1
  have hs : s ≠ 0 := hps ▸ h.pl.sess
  simp only [step_newestPC hnet, World.stepC, Consumer.handle, hf, Bool.false_eq_true, if_false]
  unfold Consumer.handleRegAck
  simp only [hp, Bool.not_true, Bool.false_eq_true, if_false, hn, bne_self_eq_false]
  rcases (hps ▸ h.cl.sess : w.c.session = 0 ∨ w.c.session = s) with h0 | h1
  · have : (s != w.c.session) = true := by simp [h0]; exact hs
    simp only [this, if_true]
    unfold Consumer.sendRequest
    have e : (s == 0) = false := by simpa using hs
    simp [e, cpOf, hf]
  · have : (s != w.c.session) = false := by simp [h1]
    simp only [this, Bool.false_eq_true, if_false]
    unfold Consumer.sendRequest
    have e : (w.c.session == 0) = false := by rw [h1]; simpa using hs
    simp [cpOf, hf, h1, hs]

theorem head_within {a cur len win s : Nat} (h1 : s = a + 1) (h2 : a + (len + 1) = cur) (h3 : 1 ≤ win) :
    s ≤ min cur (a + win) := by omega

/-- a timeout Request from the registered consumer controller makes the producer controller adopt the
    consumer's watermark and re-send the oldest message that is still unconfirmed -/
theorem request_resends (p : Producer) (cc win : Nat) (hf : p.failed = false) (hr : p.registered = true) (hpc : PCons p)
    (hle : p.confirmedSeq ≤ cc) (hcur : cc ≤ p.currentSeq) (hw1 : 1 ≤ win) (hw2 : win ≤ maxWindow) :
    (p.handleRequest p.session p.nonce cc (cc + win) true).1.failed = false ∧
    (p.handleRequest p.session p.nonce cc (cc + win) true).1.confirmedSeq = cc ∧
    (p.handleRequest p.session p.nonce cc (cc + win) true).1.session = p.session ∧
    ∀ mm, (p.handleRequest p.session p.nonce cc (cc + win) true).1.unconfirmed.head? = some mm →
      POut.toConsumer (.sequenced p.session mm.id mm.seq mm.payload) ∈ (p.handleRequest p.session p.nonce cc (cc + win) true).2 := by
  have hfr : p.fromRegistered p.session p.nonce = true := by simp [Producer.fromRegistered, hr]
  have heq : p.handleRequest p.session p.nonce cc (cc + win) true = granted p cc (cc + win) true :=
    handleRequest_cases p _ _ cc _ true (motive := fun r => r = granted p cc (cc + win) true)
      (fun e => by rw [hfr] at e; cases e) (fun _ e => absurd ⟨hcur, Nat.le_add_right .., Nat.add_le_add_left hw2 _⟩ e)
      fun _ _ _ _ => rfl
  rw [heq]
  obtain ⟨a1, a2, a3, a4, a5⟩ := advance_fields p cc
  have hp1 := hpc.advance cc hcur
  unfold granted
  generalize p.advanceConfirmed cc = r at *
  obtain ⟨p1, o1⟩ := r
  dsimp only at a1 a2 a3 a4 a5 hp1 ⊢
  obtain ⟨b1, _, b3, b4, b5, _⟩ := allow_fields { p1 with demandUpTo := cc + win, windowSpan := cc + win - cc }
  have a5 : p1.confirmedSeq = cc := a5.trans (Nat.max_eq_right hle)
  refine ⟨b5.trans (a4.trans hf), b3.trans a5, b1.trans a2, fun mm hmm => ?_⟩
  rw [b4] at hmm
  refine List.mem_append_left _ (List.mem_append_right _ ?_)
  -- the head of the unconfirmed buffer is `cc + 1`: within both limits of the resend
  have hc := hp1.consec
  have hl := hp1.len
  dsimp only at hmm
  cases hu : p1.unconfirmed with
  | nil => rw [hu] at hmm; cases hmm
  | cons m0 r =>
    rw [hu] at hmm hc hl; cases hmm
    have hlim : mm.seq ≤ min p1.currentSeq (cc + win) := a5 ▸ head_within hc.1 hl hw1
    rw [if_pos rfl, Producer.resendUnconfirmed]
    dsimp only
    rw [List.takeWhile_cons_of_pos (by simpa using hlim), List.flatMap_cons]
    refine List.mem_append_left _ ?_
    rw [Producer.emitSequenced, if_neg (by simp [a1.trans hr]; have := Nat.min_le_right p1.currentSeq (cc + win); omega)]
    exact List.mem_singleton.mpr (by rw [show p1.session = p.session from a2])

theorem deliverCP_request {w : World} (g : Good w) {pre : List CMsg}
    (hnet : w.netCP = pre ++ [.request w.p.session w.p.nonce w.c.confirmedSeq (w.c.confirmedSeq + w.c.window) true])
    (hr : w.p.registered = true) :
    let w' := (w.step (.deliverCP (w.netCP.length - 1))).1
    w'.c = w.c ∧ w'.p.failed = false ∧ w'.p.confirmedSeq = w.c.confirmedSeq ∧
    (∀ mm, w'.p.unconfirmed.head? = some mm → PMsg.sequenced w'.p.session mm.id mm.seq mm.payload ∈ w'.netPC) ∧
    w'.p.session = w.p.session := by
  have hf := g.i2.u.nf
  have hq := request_resends w.p w.c.confirmedSeq w.c.window hf hr g.i3.pc g.i3.pcle g.conf_le g.i3.wpos g.i2.win
  simp only [step_newestCP hnet, World.stepP, Producer.handle, hf, Bool.false_eq_true, if_false]
  refine ⟨trivial, hq.1, hq.2.1, ?_, hq.2.2.1⟩
  intro mm hmm
  rw [hq.2.2.1]
  exact List.mem_append_right _ (mem_pcOf.mpr (hq.2.2.2 mm hmm))

def recover (w : World) : World :=
  let w1 := (w.step .tickC).1
  let w2 := (w1.step .tickC).1
  let w3 := (w2.step (.deliverCP (w2.netCP.length - 1))).1
  let w4 := (w3.step (.deliverPC (w3.netPC.length - 1))).1
  (w4.step (.deliverCP (w4.netCP.length - 1))).1

/-- a step in which the producer endpoint does not act (drops and duplications are `quiet` too) -/
def quiet : Step → Bool
  | .userP => false
  | _ => true

theorem recover_script (w : World) : ∃ ss : List Step, ss.length = 5 ∧ ss.all quiet = true ∧ (w.run ss).1 = recover w :=
  ⟨[.tickC, .tickC, .deliverCP _, .deliverPC _, .deliverCP _], rfl, rfl, by
    -- stepwise: `rfl` through `World.run` itself makes the unifier evaluate the steps
    rw [World.run_cons, World.run_cons, World.run_cons, World.run_cons, World.run_cons, World.run_nil]
    exact rfl⟩

theorem recover_is_script (w : World) : ∃ ss : List Step, ss.length = 5 ∧ (w.run ss).1 = recover w :=
  have ⟨ss, h5, _, hr⟩ := recover_script w
  ⟨ss, h5, hr⟩

theorem recover_progress (w : World) (m : Mon) (h : Inv w m) (h2 : Inv2 w) (h3 : Inv3 w) :
    (recover w).p.failed = false ∧ (recover w).p.confirmedSeq = (recover w).c.confirmedSeq ∧
    (∀ mm, (recover w).p.unconfirmed.head? = some mm →
      PMsg.sequenced (recover w).p.session mm.id mm.seq mm.payload ∈ (recover w).netPC) ∧
    (recover w).c.hasProducer = true ∧ (recover w).c.session = (recover w).p.session ∧
    (recover w).c.requestUpToSeq = (recover w).c.confirmedSeq + (recover w).c.window := by
  have g : Good w := ⟨⟨m, h⟩, h2, h3⟩
  simp only [recover]
  have t1 := tickC_facts g
  have g1 := g.step .tickC
  generalize (w.step .tickC).1 = w1 at *
  obtain ⟨_, _, _, t2r⟩ := tickC_facts g1
  obtain ⟨t2net, t2nonce, t2hp⟩ := t2r t1.2.2.1
  have g2 := g1.step .tickC
  generalize (w1.step .tickC).1 = w2 at *
  obtain ⟨r3c, _, r3net, r3reg, r3nonce, r3sess, _⟩ := deliverCP_register g2 t2net
  have g3 := g2.step (.deliverCP (w2.netCP.length - 1))
  generalize (w2.step (.deliverCP (w2.netCP.length - 1))).1 = w3 at *
  obtain ⟨r4p, r4sess, r4nonce, r4win, _, r4net, r4hp, r4up⟩ :=
    deliverPC_regAck g3 r3net (by rw [r3c]; exact t2hp) (by rw [r3c]; exact t2nonce)
  have g4 := g3.step (.deliverPC (w3.netPC.length - 1))
  generalize (w3.step (.deliverPC (w3.netPC.length - 1))).1 = w4 at *
  have e1 : w2.p.session = w4.p.session := by rw [r4p]; exact r3sess.symm
  have e2 : w1.c.nonceCtr + 1 = w4.p.nonce := by rw [r4p]; exact r3nonce.symm
  rw [e1, e2, ← r4win] at r4net
  obtain ⟨r5c, r5f, r5conf, r5head, r5sess⟩ := deliverCP_request g4 r4net (by rw [r4p]; exact r3reg)
  exact ⟨r5f, by rw [r5conf, r5c], r5head, by rw [r5c]; exact r4hp, by rw [r5c, r5sess, r4sess, e1],
    by rw [r5c, r4up, r4win]⟩

end GoaktVerif.C42
