import GoaktVerif.Lemmas.C42.World
import GoaktVerif.Lemmas.C42.NoFail

/-!
World level: `Inv2` (the producer controller never fails, for a window ≤ MaxReliableFlowControlWindow), `Inv3`
(contiguous unconfirmed buffer; the producer never believes more confirmed than the consumer confirmed; window ≥ 1),
and `Good`, the three world invariants together, over which progress and eventual confirmation are stated.
-/
namespace GoaktVerif.C42
open GoaktVerif.Model.C42 GoaktVerif.Spec.C42

structure Inv2 (w : World) : Prop where
  u : UInv w.p w.inboxP w.userP
  win : w.c.window ≤ maxWindow

/-- what is in flight from the consumer controller is legal for the producer controller -/
theorem legal_of_net {w : World} {m : Mon} (h : Inv w m) (h2 : Inv2 w) (x : CMsg) (hx : x ∈ w.netCP) :
    PLegal w.p (.fromConsumer x) := by
  have hc := h.netCP x hx
  have hle : w.c.confirmedSeq ≤ w.p.currentSeq := h.pl.len ▸ h.cl.cle
  have := h2.win
  cases x with
  | register n => trivial
  | request s n c u v => obtain ⟨_, _, a, b⟩ := hc; exact fun _ => ⟨by omega, by omega, by omega⟩
  | ack s n c => exact fun _ => Nat.le_trans hc.2 hle

theorem UInv.drop {p : Producer} {inbox : List PUMsg} {u : UserP} (h : UInv p inbox u) (k : Nat) : UInv p (inbox.drop k) u := by
  induction k generalizing inbox with
  | zero => exact h
  | succ k ih =>
    cases inbox with
    | nil => exact h
    | cons m0 rest => exact ih h.tail

theorem Inv2.lost {w w' : World} (h2 : Inv2 w) (l : Lost w w') : Inv2 w' :=
  have ⟨k, hk⟩ := l.inboxP
  ⟨by rw [l.p, l.userP, hk]; exact h2.u.drop k, l.c ▸ h2.win⟩

theorem UInv.handle {p : Producer} {inbox : List PUMsg} {u : UserP} (h : UInv p inbox u) (pin : PIn) (hl : PLegal p pin)
    (hu : ∀ s t i pl, pin ≠ .produced s t i pl) (hs : ∀ s t i, pin ≠ .storedAck s t i) :
    UInv (p.handle pin).1 (inbox ++ puOf (p.handle pin).2) u := by
  unfold Producer.handle
  rw [if_neg (by simp [h.nf])]
  rcases pin with (n | ⟨s, n, c, u', v⟩ | ⟨s, n, c⟩) | ⟨s, t, i, pl⟩ | ⟨s, t, i⟩ | _
  · exact h.register n
  · exact h.request s n c u' v hl
  · exact h.ack s n c hl
  · exact absurd rfl (hu s t i pl)
  · exact absurd rfl (hs s t i)
  · exact h.tick

theorem stepC_frame (w : World) (cin : CIn) :
    (w.stepC cin).1.p = w.p ∧ (w.stepC cin).1.inboxP = w.inboxP ∧ (w.stepC cin).1.userP = w.userP := ⟨rfl, rfl, rfl⟩

theorem Inv2.step {w : World} {m : Mon} (h : Inv w m) (h2 : Inv2 w) (s : Step) : Inv2 (w.step s).1 := by
  refine h.step_cases (motive := fun _ r => Inv2 r.1) (fun s w' l _ => h2.lost l)
    (fun s w' cin l hpost _ => ⟨(h2.lost l).u, hpost.wnd ▸ (h2.lost l).win⟩)
    (fun s w' x l hx _ _ => ⟨(h2.lost l).u.handle _ (l.p ▸ legal_of_net h h2 x hx) nofun nofun, (h2.lost l).win⟩)
    ⟨h2.u.handle .tick trivial nofun nofun, h2.win⟩ (fun m0 rest pin w' e _ _ hin hr => ?_) s
  subst e
  have hu : UInv w.p (m0 :: rest) w.userP := hin ▸ h2.u
  refine ⟨?_, h2.win⟩
  cases m0 with
  | requestNext s t => obtain ⟨pin', hp, hu'⟩ := hu.reactRequestNext; cases hr.symm.trans hp; exact hu'
  | stored s t i q => cases hr; exact hu.reactStored
  | deliveryConfirmed s i q => cases hr

theorem Inv2.init (window interval : Nat) (dc : Bool) (hw : window ≤ maxWindow) : Inv2 (World.init window interval dc) :=
  ⟨⟨rfl, ⟨nofun, nofun⟩, nofun, .nil, nofun, fun _ => ⟨rfl, rfl, fun _ => rfl⟩, nofun, nofun, nofun⟩, hw⟩

structure Inv3 (w : World) : Prop where
  pc : PCons w.p
  pcle : w.p.confirmedSeq ≤ w.c.confirmedSeq
  wpos : 1 ≤ w.c.window

theorem Inv3.congr {w w' : World} (h3 : Inv3 w) (hp : w'.p = w.p) (hc : w'.c = w.c) : Inv3 w' :=
  ⟨hp ▸ h3.pc, by rw [hp, hc]; exact h3.pcle, hc ▸ h3.wpos⟩

theorem Inv3.stepP {w : World} (h3 : Inv3 w) (pin : PIn) (hin : carried pin ≤ w.c.confirmedSeq) : Inv3 (w.stepP pin).1 :=
  ⟨h3.pc.handle pin, Nat.le_trans (handle_conf_le w.p pin) (Nat.max_le.mpr ⟨h3.pcle, hin⟩), h3.wpos⟩

theorem Inv3.step {w : World} {m : Mon} (h : Inv w m) (h3 : Inv3 w) (s : Step) : Inv3 (w.step s).1 := by
  refine h.step_cases (motive := fun _ r => Inv3 r.1) (fun s w' l _ => h3.congr l.p l.c)
    (fun s w' cin l hpost _ => ?_) (fun s w' x l _ hin _ => (h3.congr l.p l.c).stepP _ hin.2)
    (h3.stepP .tick (Nat.zero_le _)) (fun m0 rest pin w' e _ hin _ _ => (h3.congr (e ▸ rfl) (e ▸ rfl)).stepP pin hin.2) s
  have h3' := h3.congr l.p l.c
  exact ⟨h3'.pc, Nat.le_trans h3'.pcle hpost.cmono, hpost.wnd ▸ h3'.wpos⟩

theorem Inv3.init (window interval : Nat) (dc : Bool) (hw : 1 ≤ window) : Inv3 (World.init window interval dc) :=
  ⟨⟨trivial, rfl⟩, Nat.le_refl _, hw⟩

structure Good (w : World) : Prop where
  inv : ∃ m, Inv w m
  i2 : Inv2 w
  i3 : Inv3 w

theorem Good.step {w : World} (g : Good w) (s : Step) : Good (w.step s).1 :=
  have ⟨_, h⟩ := g.inv
  ⟨⟨_, h.step s⟩, g.i2.step h s, g.i3.step h s⟩

theorem Good.run {w : World} (g : Good w) (ss : List Step) : Good (w.run ss).1 :=
  World.run_ind (P := Good) (fun _ s g => g.step s) g ss

theorem Good.init (window interval : Nat) (dc : Bool) (h1 : 1 ≤ window) (h2 : window ≤ maxWindow) :
    Good (World.init window interval dc) :=
  ⟨⟨_, Inv.init window interval dc⟩, Inv2.init window interval dc h2, Inv3.init window interval dc h1⟩

theorem Good.conf_le {w : World} (g : Good w) : w.c.confirmedSeq ≤ w.p.currentSeq :=
  have ⟨_, h⟩ := g.inv
  h.pl.len ▸ h.cl.cle

theorem run_inv (w : World) (m : Mon) (ss : List Step) (h : Inv w m) (h2 : Inv2 w) :
    ∃ m', Inv (w.run ss).1 m' ∧ Inv2 (w.run ss).1 :=
  World.run_ind (P := fun w => ∃ m, Inv w m ∧ Inv2 w) (fun _ s ⟨_, h, h2⟩ => ⟨_, h.step s, h2.step h s⟩) ⟨m, h, h2⟩ ss

theorem run_inv3 (w : World) (m : Mon) (ss : List Step) (h : Inv w m) (h2 : Inv2 w) (h3 : Inv3 w) :
    ∃ m', Inv (w.run ss).1 m' ∧ Inv2 (w.run ss).1 ∧ Inv3 (w.run ss).1 :=
  have g := Good.run ⟨⟨m, h⟩, h2, h3⟩ ss
  have ⟨m', h'⟩ := g.inv
  ⟨m', h', g.i2, g.i3⟩

end GoaktVerif.C42
