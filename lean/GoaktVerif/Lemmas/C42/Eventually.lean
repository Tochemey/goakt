import GoaktVerif.Lemmas.C42.Progress

/-!
"Eventually confirmed" as reachability, from every reachable world, of a state in which every message the producer
controller has stored is confirmed (its unconfirmed buffer is empty, confirmedSeq = currentSeq), by a finite
continuation in which the producer endpoint does not act (`quiet`).
One `round` — `recover`, deliver the re-sent oldest unconfirmed message, tick (re-tell the in-flight Delivery), let the
consumer endpoint work through its mailbox — either ends with nothing unconfirmed or raises the consumer controller's
confirmation watermark; induction on currentSeq − consumer confirmedSeq.
-/
namespace GoaktVerif.C42
open GoaktVerif.Model.C42 GoaktVerif.Spec.C42

theorem step_cur {w : World} {m : Mon} (h : Inv w m) (s : Step) (hq : quiet s = true) :
    (w.step s).1.p.currentSeq = w.p.currentSeq :=
  h.step_cases (motive := fun s r => quiet s = true → r.1.p.currentSeq = w.p.currentSeq)
    (fun _ _ l _ _ => congrArg _ l.p) (fun _ _ _ l _ _ _ => congrArg _ l.p)
    (fun _ w' x l _ _ _ _ => (handle_cur w'.p (.fromConsumer x) fun _ _ _ _ => nofun).trans (congrArg _ l.p))
    (fun _ => handle_cur w.p .tick fun _ _ _ _ => nofun) (fun _ _ _ _ _ _ _ _ _ hq => absurd hq Bool.false_ne_true) s hq

theorem step_conf_mono {w : World} {m : Mon} (h : Inv w m) (s : Step) : w.c.confirmedSeq ≤ (w.step s).1.c.confirmedSeq :=
  h.step_cases (motive := fun _ r => w.c.confirmedSeq ≤ r.1.c.confirmedSeq)
    (fun _ _ l _ => Nat.le_of_eq (congrArg _ l.c.symm))
    (fun _ _ _ l hpost _ => l.c ▸ hpost.cmono)
    (fun _ _ _ l _ _ _ => Nat.le_of_eq (congrArg _ l.c.symm)) (Nat.le_refl _)
    (fun _ _ _ _ e _ _ _ _ => e ▸ Nat.le_refl _) s

def Reaches (w w' : World) : Prop := ∃ ss : List Step, ss.all quiet = true ∧ (w.run ss).1 = w'

theorem Reaches.trans {a b c : World} (h1 : Reaches a b) (h2 : Reaches b c) : Reaches a c :=
  have ⟨s1, q1, e1⟩ := h1
  have ⟨s2, q2, e2⟩ := h2
  ⟨s1 ++ s2, by rw [List.all_append, q1, q2]; rfl, by
    rw [Run.append (run := fun w s => (World.run w s).1) (fun _ => rfl) (fun _ _ _ => rfl) a s1 s2, e1, e2]⟩

theorem Reaches.step (w : World) (s : Step) (hq : quiet s = true) : Reaches w (w.step s).1 :=
  ⟨[s], by rw [List.all_cons, hq]; rfl, rfl⟩

theorem recover_reaches (w : World) : Reaches w (recover w) :=
  have ⟨ss, _, hq, hr⟩ := recover_script w
  ⟨ss, hq, hr⟩

theorem Reaches.keeps {w w' : World} (g : Good w) (r : Reaches w w') :
    Good w' ∧ w'.p.currentSeq = w.p.currentSeq ∧ w.c.confirmedSeq ≤ w'.c.confirmedSeq := by
  obtain ⟨ss, hq, rfl⟩ := r
  induction ss generalizing w with
  | nil => exact ⟨g, rfl, Nat.le_refl _⟩
  | cons s ss ih =>
    simp only [List.all_cons, Bool.and_eq_true] at hq
    have ⟨g', hc, hm⟩ := ih (g.step s) hq.2
    have ⟨_, h⟩ := g.inv
    exact ⟨g', hc.trans (step_cur h s hq.1), Nat.le_trans (step_conf_mono h s) hm⟩

/-- the consumer controller handles the SequencedMessage right after its watermark: it is (or already was) handed
    to the endpoint -/
theorem handleSequenced_next (c : Consumer) (s id q pl now : Nat) (hp : c.hasProducer = true) (hs : c.session = s) (hs0 : s ≠ 0)
    (hq : q = c.confirmedSeq + 1) (hu : q ≤ c.requestUpToSeq) (hce : c.expectedSeq = c.confirmedSeq + 1)
    (hinfl : ∀ d, c.inFlight = some d → d.seq = c.expectedSeq ∧ d.session = c.session) :
    (∃ d, (c.handleSequenced s id q pl now).1.inFlight = some d ∧ d.seq = q ∧ d.session = s) ∧
    (c.handleSequenced s id q pl now).1.sawValidTraffic = true ∧ (c.handleSequenced s id q pl now).1.session = s := by
  unfold Consumer.handleSequenced
  rw [if_neg (by simp [hp]), if_neg (by simp [hs, hs0])]
  dsimp only
  rw [if_neg (by simp; omega), if_neg (by omega)]
  cases hin : c.inFlight with
  | none => rw [if_pos (by simp; omega)]; exact ⟨⟨_, rfl, rfl, hs⟩, rfl, hs⟩
  | some d =>
    have hd := hinfl d hin
    rw [if_neg (by simp), if_pos (by simp [Consumer.isInFlightSeq]; omega)]
    exact ⟨⟨d, rfl, by omega, hd.2.trans hs⟩, rfl, hs⟩

theorem deliver_head {w : World} (g : Good w) {i s id q pl : Nat} (hx : w.netPC[i]? = some (.sequenced s id q pl))
    (hp : w.c.hasProducer = true) (hs : w.c.session = s) (hq : q = w.c.confirmedSeq + 1) (hu : q ≤ w.c.requestUpToSeq) :
    ∃ d, (w.step (.deliverPC i)).1.c.inFlight = some d ∧ d.seq = q ∧ d.session = (w.step (.deliverPC i)).1.c.session ∧
      (w.step (.deliverPC i)).1.c.sawValidTraffic = true := by
  obtain ⟨_, h⟩ := g.inv
  have hs0 : s ≠ 0 := (h.netPC _ (mem_of_getElem? hx) : _ ∧ _).1 ▸ h.pl.sess
  obtain ⟨⟨d, h1, h2, h3⟩, h4, h5⟩ := handleSequenced_next w.c s id q pl w.now hp hs hs0 hq hu h.cl.ce
    fun d hd => ⟨(h.cl.infl d hd).2.2, (h.cl.infl d hd).2.1⟩
  have e : (w.step (.deliverPC i)).1.c = (w.c.handleSequenced s id q pl w.now).1 := by
    simp only [World.step, hx, World.stepC, Consumer.handle, h.cl.nf, Bool.false_eq_true, if_false]
  rw [e]
  exact ⟨d, h1, h2, h3.trans h5.symm, h4⟩

theorem tick_retell {w : World} (g : Good w) (d : Delivery) (hsaw : w.c.sawValidTraffic = true) (hin : w.c.inFlight = some d) :
    (w.step .tickC).1.inboxC = w.inboxC ++ [d] ∧ (w.step .tickC).1.c.inFlight = some d ∧
    (w.step .tickC).1.c.session = w.c.session := by
  obtain ⟨_, h⟩ := g.inv
  have e0 : (w.c.session == 0) = false := by
    simpa using fun h0 => nomatch hin.symm.trans (h.cl.fresh h0).2.1
  simp [World.step, World.stepC, Consumer.handle, h.cl.nf, Consumer.handleTick, e0, hsaw, hin, cuOf]

theorem sendRequest_conf (c : Consumer) (v : Bool) : (c.sendRequest v).1.confirmedSeq = c.confirmedSeq := by
  unfold Consumer.sendRequest; split <;> rfl

theorem drain_conf (c : Consumer) : c.drain.1.confirmedSeq = c.confirmedSeq := by
  -- `fun_cases f args` yields one goal per leaf of the model's definition of `f`, with every branch condition and match
  -- equation as hypotheses; `case1`, `case2`, … follow the order of the leaves in Model/C42.lean.
  fun_cases Consumer.drain c
  -- the head of the buffer is delivered; it is not the expected one; something in flight or an empty buffer:
  -- no leaf writes `confirmedSeq`
  case case1 | case2 | case3 => rfl

theorem batch_conf (c : Consumer) : c.batchConfirmation.1.confirmedSeq = c.confirmedSeq := by
  fun_cases Consumer.batchConfirmation c
  -- half the window is used up: a request goes out
  case case1 => exact sendRequest_conf _ _
  -- an ack goes out, or nothing: the consumer is unchanged
  case case2 | case3 => rfl

theorem confirmed_match (c : Consumer) (d : Delivery) (now : Nat) (hin : c.inFlight = some d) (hs : d.session = c.session) :
    (c.handleConfirmed d.session d.id d.seq now).1.confirmedSeq = d.seq := by
  unfold Consumer.handleConfirmed
  simp only [hin, hs, bne_self_eq_false, Bool.or_self, Bool.false_eq_true, if_false]
  split
  · unfold Consumer.solicitGapRequest
    rw [sendRequest_conf]
    simp only []
    rw [drain_conf, batch_conf]; rfl
  · simp only []
    rw [drain_conf, batch_conf]; rfl

theorem confirmed_other (c : Consumer) (d : Delivery) (s i q now : Nat) (hin : c.inFlight = some d)
    (hne : ¬(s = c.session ∧ i = d.id ∧ q = d.seq)) : c.handleConfirmed s i q now = (c, []) := by
  unfold Consumer.handleConfirmed
  simp only [hin]
  have : (s != c.session || i != d.id || q != d.seq) = true := by
    simp only [Bool.or_eq_true, bne_iff_ne, ne_eq]
    by_cases h1 : s = c.session
    · by_cases h2 : i = d.id
      · right; intro h3; exact hne ⟨h1, h2, h3⟩
      · left; right; exact h2
    · left; left; exact h1
  simp [this]

/-- the consumer endpoint works through its mailbox until the in-flight Delivery (the last entry) is confirmed -/
theorem drain_inbox (pre : List Delivery) : ∀ (w : World), Good w → ∀ d, w.inboxC = pre ++ [d] → w.c.inFlight = some d →
    d.session = w.c.session → ∃ w', Reaches w w' ∧ d.seq ≤ w'.c.confirmedSeq := by
  induction pre with
  | nil =>
    intro w g d hin hinf hds
    refine ⟨_, .step w (.userC true) rfl, ?_⟩
    obtain ⟨m, h⟩ := g.inv
    simp only [World.step, hin, List.nil_append, World.stepC, Consumer.handle, h.cl.nf, Bool.false_eq_true, if_false, if_true]
    rw [confirmed_match w.c d w.now hinf hds]; exact Nat.le_refl _
  | cons x pre' ih =>
    intro w g d hin hinf hds
    obtain ⟨m, h⟩ := g.inv
    by_cases hm : x.session = w.c.session ∧ x.id = d.id ∧ x.seq = d.seq
    · refine ⟨_, .step w (.userC true) rfl, ?_⟩
      simp only [World.step, hin, List.cons_append, World.stepC, Consumer.handle, h.cl.nf, Bool.false_eq_true, if_false, if_true]
      have := confirmed_match w.c d w.now hinf hds
      rw [hm.1, hm.2.1, hm.2.2, ← hds, this]; exact Nat.le_refl _
    · have hno := confirmed_other w.c d x.session x.id x.seq w.now hinf hm
      have hstep : (w.step (.userC true)).1.c = w.c ∧ (w.step (.userC true)).1.inboxC = pre' ++ [d] := by
        simp only [World.step, hin, List.cons_append, World.stepC, Consumer.handle, h.cl.nf, Bool.false_eq_true, if_false, if_true, hno, cuOf, List.append_nil]
        exact ⟨trivial, trivial⟩
      obtain ⟨w', r, hc⟩ := ih _ (g.step (.userC true)) d hstep.2 (by rw [hstep.1]; exact hinf) (by rw [hstep.1]; exact hds)
      exact ⟨w', (Reaches.step w (.userC true) rfl).trans r, hc⟩

theorem round {w : World} (g : Good w) :
    ∃ w', Reaches w w' ∧ (w'.p.confirmedSeq = w'.p.currentSeq ∨ w.c.confirmedSeq < w'.c.confirmedSeq) := by
  obtain ⟨m, h⟩ := g.inv
  obtain ⟨_, rc, rhead, rhp, rsess, rup⟩ := recover_progress w m h g.i2 g.i3
  have r5 := recover_reaches w
  have ⟨g5, _, hmono⟩ := r5.keeps g
  -- the worlds along the round are generalized one by one: with the nested step terms left in place every later step carries them
  generalize recover w = w5 at *
  have hlen := g5.i3.pc.len
  cases hu : w5.p.unconfirmed with
  | nil => rw [hu] at hlen; exact ⟨w5, r5, .inl hlen⟩
  | cons mm rest =>
    -- the oldest unconfirmed message has sequence confirmedSeq + 1 and was re-sent
    have hmm : mm.seq = w5.c.confirmedSeq + 1 := by have := g5.i3.pc.consec; rw [hu] at this; exact rc ▸ this.1
    obtain ⟨i, hi⟩ := List.getElem?_of_mem (rhead mm (by rw [hu]; rfl))
    obtain ⟨d, hd, hdq, hds, hsaw⟩ := deliver_head g5 hi rhp rsess hmm (by rw [hmm, rup]; exact Nat.add_le_add_left g5.i3.wpos _)
    have r6 := r5.trans (.step w5 (.deliverPC i) rfl)
    have g6 := g5.step (.deliverPC i)
    generalize (w5.step (.deliverPC i)).1 = w6 at *
    obtain ⟨r2in, r2inf, r2s⟩ := tick_retell g6 d hsaw hd
    have r7 := r6.trans (.step w6 .tickC rfl)
    have g7 := g6.step .tickC
    generalize (w6.step .tickC).1 = w7 at *
    obtain ⟨w8, r8, hc8⟩ := drain_inbox w6.inboxC w7 g7 d r2in r2inf (by rw [r2s]; exact hds)
    rw [hdq, hmm] at hc8
    exact ⟨w8, r7.trans r8, .inr (Nat.lt_of_le_of_lt hmono hc8)⟩

/-- what "everything stored is confirmed" means for the producer controller -/
def AllConfirmed (w0 w' : World) : Prop :=
  w'.p.currentSeq = w0.p.currentSeq ∧ w'.p.confirmedSeq = w'.p.currentSeq ∧ w'.p.unconfirmed = [] ∧ w'.p.failed = false

theorem eventually_reaches (n : Nat) : ∀ (w : World), Good w → w.p.currentSeq - w.c.confirmedSeq < n →
    ∃ w', Reaches w w' ∧ AllConfirmed w w' := by
  induction n with
  | zero => exact fun _ _ hn => absurd hn (Nat.not_lt_zero _)
  | succ n ih =>
    intro w g hn
    obtain ⟨w1, r1, h1⟩ := round g
    have ⟨g1, hc1, _⟩ := r1.keeps g
    rcases h1 with hdone | hlt
    · exact ⟨w1, r1, hc1, hdone, g1.i3.pc.empty_of_eq hdone, g1.i2.u.nf⟩
    · -- the watermark moved and is still within what is stored: the distance to it shrank
      have hlt' : w.c.confirmedSeq < w.p.currentSeq := Nat.lt_of_lt_of_le hlt (hc1 ▸ g1.conf_le)
      obtain ⟨w2, r2, a1, a2⟩ := ih w1 g1 (hc1 ▸ Nat.lt_of_lt_of_le (Nat.sub_lt_sub_left hlt' hlt) (Nat.le_of_lt_succ hn))
      exact ⟨w2, r1.trans r2, a1.trans hc1, a2⟩

theorem Good.eventually {w : World} (g : Good w) : ∃ cont : List Step, cont.all quiet = true ∧ AllConfirmed w (w.run cont).1 :=
  have ⟨_, ⟨cont, hq, e⟩, h⟩ := eventually_reaches _ w g (Nat.lt_succ_self _)
  ⟨cont, hq, e ▸ h⟩

theorem eventually_confirmed (n : Nat) : ∀ (w : World), Good w → w.p.currentSeq - w.c.confirmedSeq ≤ n →
    ∃ cont : List Step, cont.all quiet = true ∧ AllConfirmed w (w.run cont).1 :=
  fun _ g _ => g.eventually

end GoaktVerif.C42
