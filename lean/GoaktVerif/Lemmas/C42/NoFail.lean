import GoaktVerif.Lemmas.C42.Producer

/-!
`UInv`, the invariant that relates the producer controller's handshake fields, the producer endpoint's mailbox and the
endpoint's memory, and its preservation by every handler of the controller and by the endpoint's two reactions.
With it (`Inv2`, Reach.lean) the controller never takes its terminal failure path (`terminate`) under the endpoint
contract: the endpoint's mailbox is FIFO (lossy), the endpoint answers a RequestNext with a fresh job, re-answers the
token it answered last with the same Produced, and acknowledges every Stored.
-/
namespace GoaktVerif.C42
open GoaktVerif.Model.C42 GoaktVerif.Spec.C42

def tokOf : PUMsg → Option Nat
  | .requestNext _ t => some t
  | .stored _ t _ _ => some t
  | .deliveryConfirmed _ _ _ => none

def sessOf : PUMsg → Nat
  | .requestNext s _ => s
  | .stored s _ _ _ => s
  | .deliveryConfirmed s _ _ => s

def ansTok (u : UserP) : Nat := match u.answered with | some (t, _, _) => t | none => 0
def ansId (u : UserP) : Nat := match u.answered with | some (_, i, _) => i | none => 0

/-- mailbox order: tokens never decrease -/
def TokLe (m1 m2 : PUMsg) : Prop := ∀ t1 t2, tokOf m1 = some t1 → tokOf m2 = some t2 → t1 ≤ t2

structure UInv (p : Producer) (inbox : List PUMsg) (u : UserP) : Prop where
  nf : p.failed = false
  -- between handler calls the handshake is at rest: `.store` and `.accept` are passed through within one call
  rest : p.handshake ≠ .store ∧ p.handshake ≠ .accept
  range : ∀ m ∈ inbox, ∀ t, tokOf m = some t → ansTok u ≤ t ∧ t ≤ p.tokenCtr ∧ 1 ≤ t
  sorted : inbox.Pairwise TokLe
  sess : ∀ m ∈ inbox, sessOf m = p.session
  idle : p.handshake = .idle → ansTok u = p.tokenCtr ∧ p.lastToken = p.tokenCtr ∧ (1 ≤ p.tokenCtr → ansId u = p.lastId)
  cred : p.handshake = .credit → p.token = p.tokenCtr ∧ 1 ≤ p.tokenCtr ∧ p.lastToken + 1 = p.tokenCtr ∧
    ansTok u + 1 = p.tokenCtr ∧ (1 ≤ p.lastToken → ansId u = p.lastId)
  sack : p.handshake = .storedAck → p.token = p.tokenCtr ∧ 1 ≤ p.tokenCtr ∧ ansTok u = p.tokenCtr ∧
    ansId u = p.pendingId ∧ p.lastToken + 1 = p.tokenCtr ∧ ∃ q, p.storedMessage = some (.stored p.session p.token p.pendingId q)
  stor : ∀ s t i q, PUMsg.stored s t i q ∈ inbox →
    (t = p.token ∧ p.handshake = .storedAck ∧ i = p.pendingId) ∨ (t = p.lastToken ∧ i = p.lastId)

/-- the fields `UInv` reads -/
structure USame (p p' : Producer) : Prop where
  failed : p'.failed = p.failed
  hs : p'.handshake = p.handshake
  ctr : p'.tokenCtr = p.tokenCtr
  tok : p'.token = p.token
  lt : p'.lastToken = p.lastToken
  lid : p'.lastId = p.lastId
  pid : p'.pendingId = p.pendingId
  sm : p'.storedMessage = p.storedMessage
  sess : p'.session = p.session

variable {p : Producer} {inbox : List PUMsg} {u : UserP}

theorem UInv.of_same {p' : Producer} (h : UInv p inbox u) (e : USame p p') : UInv p' inbox u := by
  refine ⟨e.failed ▸ h.nf, by rw [e.hs]; exact h.rest, ?_, h.sorted, ?_, ?_, ?_, ?_, ?_⟩
  · rw [e.ctr]; exact h.range
  · rw [e.sess]; exact h.sess
  · rw [e.hs, e.ctr, e.lt, e.lid]; exact h.idle
  · rw [e.hs, e.ctr, e.lt, e.lid, e.tok]; exact h.cred
  · rw [e.hs, e.ctr, e.lt, e.tok, e.pid, e.sm, e.sess]; exact h.sack
  · rw [e.hs, e.lt, e.lid, e.tok, e.pid]; exact h.stor

/-- Appending messages to the mailbox: they are of the controller's session; what carries a token carries the
    current (= highest) one; a `Stored` is the one the controller waits on or its last completed one. -/
theorem UInv.append (h : UInv p inbox u) (l : List PUMsg) (hs : ∀ m ∈ l, sessOf m = p.session)
    (ht : ∀ m ∈ l, ∀ t, tokOf m = some t → t = p.tokenCtr ∧ 1 ≤ t ∧ ansTok u ≤ t)
    (hst : ∀ s t i q, PUMsg.stored s t i q ∈ l →
      (t = p.token ∧ p.handshake = .storedAck ∧ i = p.pendingId) ∨ (t = p.lastToken ∧ i = p.lastId)) :
    UInv p (inbox ++ l) u := by
  refine ⟨h.nf, h.rest, fun m hm t e => ?_, List.pairwise_append.mpr ⟨h.sorted, ?_, fun a ha b hb t1 t2 e1 e2 => ?_⟩,
    fun m hm => ?_, h.idle, h.cred, h.sack, fun s t i q hm => ?_⟩
  · rcases List.mem_append.mp hm with hm | hm
    · exact h.range m hm t e
    · obtain ⟨rfl, h1, h2⟩ := ht m hm t e; exact ⟨h2, Nat.le_refl _, h1⟩
  · exact List.pairwise_iff_forall_sublist.mpr fun {a b} hab t1 t2 e1 e2 => by
      rw [(ht a (hab.subset (by simp)) t1 e1).1, (ht b (hab.subset (by simp)) t2 e2).1]; exact Nat.le_refl _
  · rw [(ht b hb t2 e2).1]; exact (h.range a ha t1 e1).2.1
  · exact (List.mem_append.mp hm).elim (h.sess m) (hs m)
  · exact (List.mem_append.mp hm).elim (h.stor s t i q) (hst s t i q)

theorem UInv.append_one (h : UInv p inbox u) (m0 : PUMsg) (hs : sessOf m0 = p.session)
    (ht : ∀ t, tokOf m0 = some t → t = p.tokenCtr ∧ 1 ≤ t ∧ ansTok u ≤ t)
    (hst : ∀ s t i q, m0 = .stored s t i q →
      (t = p.token ∧ p.handshake = .storedAck ∧ i = p.pendingId) ∨ (t = p.lastToken ∧ i = p.lastId)) :
    UInv p (inbox ++ [m0]) u :=
  h.append [m0] (fun _ hm => List.mem_singleton.mp hm ▸ hs) (fun _ hm => List.mem_singleton.mp hm ▸ ht)
    fun s t i q hm => hst s t i q (List.mem_singleton.mp hm).symm

theorem UInv.skip (h : UInv p inbox u) : UInv p (inbox ++ puOf []) u := (List.append_nil inbox).symm ▸ h

theorem UInv.allow (h : UInv p inbox u) : UInv p.allowNextRequest.1 (inbox ++ puOf p.allowNextRequest.2) u := by
  rcases allowNext_cases p with e | ⟨hi, _, e⟩ <;> rw [e]
  · exact h.skip
  · -- a fresh token: above everything in the mailbox and above the endpoint's last answer
    obtain ⟨i1, i2, i3⟩ := h.idle hi
    have h' : UInv { p with handshake := .credit, token := p.tokenCtr + 1, tokenCtr := p.tokenCtr + 1 } inbox u :=
      ⟨h.nf, ⟨nofun, nofun⟩, fun m hm t e => have r := h.range m hm t e; ⟨r.1, Nat.le_succ_of_le r.2.1, r.2.2⟩, h.sorted,
        h.sess, nofun, fun _ => ⟨rfl, Nat.succ_pos _, congrArg (· + 1) i2, congrArg (· + 1) i1, fun hl => i3 (i2 ▸ hl)⟩, nofun,
        fun s t i q hm => (h.stor s t i q hm).elim (fun ⟨_, hsa, _⟩ => by rw [hi] at hsa; cases hsa) .inr⟩
    exact h'.append_one _ rfl (fun t e => by cases e; exact ⟨rfl, Nat.succ_pos _, by rw [i1]; exact Nat.le_succ _⟩) nofun

theorem advance_same (p : Producer) (c : Nat) : USame p (p.advanceConfirmed c).1 :=
  advanceConfirmed_cases p c (motive := fun r => USame p r.1) (fun _ => ⟨rfl, rfl, rfl, rfl, rfl, rfl, rfl, rfl, rfl⟩)
    fun _ => ⟨rfl, rfl, rfl, rfl, rfl, rfl, rfl, rfl, rfl⟩

theorem UInv.advance (h : UInv p inbox u) (c : Nat) :
    UInv (p.advanceConfirmed c).1 (inbox ++ puOf (p.advanceConfirmed c).2) u := by
  refine (h.of_same (advance_same p c)).append _ (fun m hm => ?_) (fun m hm t e => ?_) fun s t i q hm => ?_ <;>
    obtain ⟨_, _, e'⟩ := advanceConfirmed_outs p c _ (mem_puOf.mp hm) <;> cases e'
  · exact (advance_same p c).sess.symm
  · cases e

theorem resend_pu (p : Producer) : puOf p.resendUnconfirmed = [] :=
  List.eq_nil_iff_forall_not_mem.mpr fun m hm => by
    obtain ⟨_, _, e, _⟩ := resend_outs p _ (mem_puOf.mp hm); cases e

/-- legality of what the consumer controller sends, as far as the producer controller checks it -/
def PLegal (p : Producer) : PIn → Prop
  | .fromConsumer (.request s n c u _) => p.fromRegistered s n = true → c ≤ p.currentSeq ∧ c ≤ u ∧ u ≤ c + maxWindow
  | .fromConsumer (.ack s n c) => p.fromRegistered s n = true → c ≤ p.currentSeq
  | _ => True

theorem UInv.request {p : Producer} {inbox : List PUMsg} {u : UserP} (h : UInv p inbox u) (s n c up : Nat) (v : Bool)
    (hl : PLegal p (.fromConsumer (.request s n c up v))) :
    UInv (p.handleRequest s n c up v).1 (inbox ++ puOf (p.handleRequest s n c up v).2) u := by
  refine handleRequest_cases p s n c up v (motive := fun r => UInv r.1 (inbox ++ puOf r.2) u) (fun _ => h.skip)
    (fun hr hbad => absurd (hl hr) hbad) fun _ _ _ _ => ?_
  have h3 := ((h.advance c).of_same (p' := { (p.advanceConfirmed c).1 with demandUpTo := up, windowSpan := up - c })
    ⟨rfl, rfl, rfl, rfl, rfl, rfl, rfl, rfl, rfl⟩).allow
  have : ∀ p2 : Producer, puOf (if v = true then p2.resendUnconfirmed else []) = [] := fun p2 => by
    split
    · exact resend_pu _
    · rfl
  unfold granted
  rw [puOf_append, puOf_append, this, List.append_nil, ← List.append_assoc]
  exact h3

theorem UInv.ack (h : UInv p inbox u) (s n c : Nat) (hl : PLegal p (.fromConsumer (.ack s n c))) :
    UInv (p.handleAck s n c).1 (inbox ++ puOf (p.handleAck s n c).2) u :=
  handleAck_cases p s n c (motive := fun r => UInv r.1 (inbox ++ puOf r.2) u) (fun _ => h.skip)
    (fun hr hbad => absurd (hl hr) (Nat.not_le_of_lt hbad)) fun _ _ => h.advance c

theorem UInv.register {p : Producer} {inbox : List PUMsg} {u : UserP} (h : UInv p inbox u) (n : Nat) :
    UInv (p.handleRegister n).1 (inbox ++ puOf (p.handleRegister n).2) u :=
  handleRegister_cases p n (motive := fun r => UInv r.1 (inbox ++ puOf r.2) u) h.skip
    (UInv.skip (h.of_same ⟨rfl, rfl, rfl, rfl, rfl, rfl, rfl, rfl, rfl⟩))

theorem UInv.tick (h : UInv p inbox u) : UInv p.handleTick.1 (inbox ++ puOf p.handleTick.2) u := by
  refine handleTick_cases p (motive := fun r => UInv r.1 (inbox ++ puOf r.2) u) (fun hc => ?_) (fun m hc hm => ?_) h.skip
  · obtain ⟨c1, c2, c3, c4, c5⟩ := h.cred hc
    exact h.append_one _ rfl (fun t e => by cases e; exact ⟨c1, c1 ▸ c2, by omega⟩) nofun
  · obtain ⟨c1, c2, c3, c4, c5, q, hq⟩ := h.sack hc
    cases hm.symm.trans hq
    exact h.append_one _ rfl (fun t e => by cases e; exact ⟨c1, c1 ▸ c2, by omega⟩)
      fun _ _ _ _ e => by cases e; exact .inl ⟨rfl, hc, rfl⟩


/-- the endpoint consumed (or lost) the head of its mailbox -/
theorem UInv.tail {p : Producer} {m0 : PUMsg} {rest : List PUMsg} {u : UserP} (h : UInv p (m0 :: rest) u) : UInv p rest u :=
  ⟨h.nf, h.rest, fun m hm => h.range m (List.mem_cons_of_mem _ hm), (List.pairwise_cons.mp h.sorted).2,
   fun m hm => h.sess m (List.mem_cons_of_mem _ hm), h.idle, h.cred, h.sack,
   fun s t i q hm => h.stor s t i q (List.mem_cons_of_mem _ hm)⟩

/-- a Produced that repeats the endpoint's last answer is ignored: it belongs to the pending or to the last
    completed handshake -/
theorem produced_dup (h : UInv p inbox u) (t i pl : Nat) (ht : ansTok u = t) (hi : ansId u = i) (h1 : 1 ≤ t) :
    (p.handleProduced p.session t i pl) = (p, []) := by
  refine handleProduced_cases p p.session t i pl (motive := fun r => r = (p, [])) (fun _ => rfl) (fun n2 n3 _ => ?_)
    fun _ _ hc e => ?_
  · cases hh : p.handshake with
    | idle => obtain ⟨a, b, c⟩ := h.idle hh; exact absurd ⟨by omega, hi ▸ c (by omega)⟩ n3
    | credit => obtain ⟨a, b, c, d, e⟩ := h.cred hh; exact absurd ⟨by omega, hi ▸ e (by omega)⟩ n3
    | storedAck =>
      obtain ⟨a, b, c, d, e, _⟩ := h.sack hh
      exact absurd ⟨by rw [hh]; nofun, by rw [hh]; nofun, by omega, hi ▸ d⟩ n2
    | store => exact absurd hh h.rest.1
    | accept => exact absurd hh h.rest.2
  · have := h.cred hc; omega

/-- the endpoint handles a RequestNext at the head of its mailbox -/
theorem UInv.reactRequestNext {p : Producer} {rest : List PUMsg} {u : UserP} {s t : Nat} (h : UInv p (.requestNext s t :: rest) u) :
    ∃ pin, (u.react (.requestNext s t)).2 = some pin ∧
      UInv (p.handle pin).1 (rest ++ puOf (p.handle pin).2) (u.react (.requestNext s t)).1 := by
  have hs : s = p.session := h.sess (.requestNext s t) (List.mem_cons_self ..)
  obtain ⟨r1, r2, r3⟩ := h.range _ (List.mem_cons_self ..) t rfl
  subst hs
  have alive : ∀ s t i pl, p.handle (.produced s t i pl) = p.handleProduced s t i pl := fun _ _ _ _ =>
    (if_neg (by simp [h.nf]) : (if p.failed then (p, []) else _) = _)
  refine react_cases u _ (motive := fun r => ∃ pin, r.2 = some pin ∧ UInv (p.handle pin).1 (rest ++ puOf (p.handle pin).2) r.1)
    (fun _ _ i pl e ha => ?_) (fun _ _ e ha => ?_) (fun _ _ _ _ e => nomatch e) fun _ _ _ e => nomatch e <;> cases e
  · -- re-answer of the token answered last
    refine ⟨_, rfl, ?_⟩
    rw [alive, produced_dup h t i pl (by simp [ansTok, ha]) (by simp [ansId, ha]) r3]
    exact h.tail.skip
  · -- a fresh grant: the controller must be waiting for exactly this token
    have hdup : ansTok u ≠ t := fun e => by
      unfold ansTok at e
      cases hu : u.answered with
      | none => rw [hu] at e; exact absurd (e ▸ r3) (by decide)
      | some x => obtain ⟨t', i, pl⟩ := x; rw [hu] at e; exact ha i pl (e ▸ hu)
    have hcred : p.handshake = .credit := by
      cases hh : p.handshake with
      | idle => have := (h.idle hh).1; omega
      | credit => rfl
      | storedAck => have := (h.sack hh).2.2.1; omega
      | store => exact absurd hh h.rest.1
      | accept => exact absurd hh h.rest.2
    obtain ⟨c1, c2, c3, c4, c5⟩ := h.cred hcred
    have htT : t = p.tokenCtr := Nat.le_antisymm r2 (c4 ▸ Nat.lt_of_le_of_ne r1 hdup)
    have hprod : p.handleProduced p.session t (u.jobs + 1) (payloadOf (u.jobs + 1)) = p.completeStore (u.jobs + 1) (payloadOf (u.jobs + 1)) :=
      handleProduced_cases p p.session t _ _ (motive := fun r => r = p.completeStore _ _)
        (fun e => e.elim (absurd rfl) fun e => e.elim (fun e => absurd hcred e.2.1) fun e => by omega)
        (fun _ _ e => absurd ⟨hcred, by omega⟩ e) fun _ _ _ _ => rfl
    refine ⟨_, rfl, ?_⟩
    rw [alive, hprod]
    have ht := h.tail
    -- the handshake moves to `storedAck`; the endpoint remembers this token
    have h' : UInv (p.completeStore (u.jobs + 1) (payloadOf (u.jobs + 1))).1 rest
        { answered := some (t, u.jobs + 1, payloadOf (u.jobs + 1)), jobs := u.jobs + 1 } :=
      ⟨h.nf, ⟨nofun, nofun⟩,
        fun m hm t1 e => ⟨List.rel_of_pairwise_cons h.sorted hm t t1 rfl e, (ht.range m hm t1 e).2⟩,
        ht.sorted, ht.sess, nofun, nofun, fun _ => ⟨c1, c2, htT, rfl, c3, _, rfl⟩,
        fun s' t' i' q' hm => (ht.stor s' t' i' q' hm).elim (fun ⟨_, hsa, _⟩ => by rw [hcred] at hsa; cases hsa) .inr⟩
    exact h'.append_one _ rfl (fun t1 e => by cases e; exact ⟨c1, c1 ▸ c2, by show t ≤ p.token; omega⟩)
      fun _ _ _ _ e => by cases e; exact .inl ⟨rfl, rfl, rfl⟩

theorem emit_pu (p : Producer) (m : UMsg) : puOf (p.emitSequenced m) = [] :=
  List.eq_nil_iff_forall_not_mem.mpr fun _ hm => nomatch (emit_mem (mem_puOf.mp hm)).1

/-- the endpoint acknowledges a Stored at the head of its mailbox -/
theorem UInv.reactStored {p : Producer} {rest : List PUMsg} {u : UserP} {s t i q : Nat} (h : UInv p (.stored s t i q :: rest) u) :
    UInv (p.handle (.storedAck s t i)).1 (rest ++ puOf (p.handle (.storedAck s t i)).2) u := by
  have hs : s = p.session := h.sess (.stored s t i q) (List.mem_cons_self ..)
  obtain ⟨r1, r2, r3⟩ := h.range _ (List.mem_cons_self ..) t rfl
  subst hs
  have ht := h.tail
  rw [show p.handle (.storedAck p.session t i) = (if p.failed then (p, []) else p.handleStoredAck p.session t i) from rfl,
    if_neg (by simp [h.nf])]
  rcases h.stor _ t i q (List.mem_cons_self ..) with ⟨e1, hsa, e2⟩ | ⟨e1, e2⟩
  · -- the acknowledgement the controller is waiting for
    obtain ⟨k1, k2, k3, k4, k5, _⟩ := h.sack hsa
    have hacc : p.handleStoredAck p.session t i = (acked p).completeAccept :=
      handleStoredAck_cases p p.session t i (motive := fun r => r = (acked p).completeAccept)
        (fun e => absurd ⟨rfl, hsa, e1, e2⟩ e) (fun e _ => absurd ⟨hsa, e1, e2⟩ e) fun _ _ _ _ => rfl
    rw [hacc]
    unfold Producer.completeAccept
    rw [puOf_append, emit_pu, List.nil_append]
    refine UInv.allow ⟨h.nf, ⟨nofun, nofun⟩, ht.range, ht.sorted, ht.sess, fun _ => ⟨k3, k1, fun _ => k4⟩, nofun, nofun,
      fun s' t' i' q' hm => .inr ?_⟩
    rcases ht.stor s' t' i' q' hm with ⟨a, _, b⟩ | ⟨a, b⟩
    · exact ⟨a, b⟩
    · have := (ht.range _ hm t' rfl).1
      exact absurd a (by omega)
  · -- a late duplicate of a completed handshake
    have hdup : p.handleStoredAck p.session t i = (p, []) :=
      handleStoredAck_cases p p.session t i (motive := fun r => r = (p, [])) (fun _ => rfl)
        (fun _ e => absurd ⟨e1, e2⟩ e) fun _ hh ht' _ => by
          have := (h.sack hh).2.2.2.2.1; have := (h.sack hh).1; omega
    rw [hdup]
    exact ht.skip

end GoaktVerif.C42
