import GoaktVerif.Lemmas.C42.Consumer

/-!
The global inductive invariant `Inv` behind C42 (order, gaps, payloads) and C43 (demand, window), and its
preservation by every step of `World.step`, that is by every drop / duplicate / reorder / tick / endpoint
decision, in any order and number.
-/
namespace GoaktVerif.C42
open GoaktVerif.Model.C42 GoaktVerif.Spec.C42

/-- a message in flight from the producer controller to the consumer controller -/
def NetPCOK (w : World) : PMsg → Prop
  | .sequenced s i q pl => s = w.p.session ∧ InLog w.stored i q pl
  | .regAck s nx _ => s = w.p.session ∧ (w.c.session = 0 → nx = 1)

structure Inv (w : World) (m : Mon) : Prop where
  pl : PLoc w.p w.stored
  pd : PDem w.p w.c.requestUpToSeq
  cl : CLoc w.c w.stored w.p.session
  cm : CMon w.c w.stored m
  dm : m.okDemand = true
  user : ∀ t i pl, w.userP.answered = some (t, i, pl) → pl = payloadOf i
  netPC : ∀ x ∈ w.netPC, NetPCOK w x
  netCP : ∀ x ∈ w.netCP, COutOK w.c w.stored (.toProducer x)
  inboxC : ∀ d ∈ w.inboxC, COutOK w.c w.stored (.toUser d)
  fresh : w.c.session = 0 → w.p.confirmedSeq = 0

theorem Inv.logOK {w : World} {m : Mon} (h : Inv w m) : LogOK w.stored := ⟨h.pl.idx, h.pl.pay⟩

theorem Inv.ok {w : World} {m : Mon} (h : Inv w m) : m.ok = true := by
  simp [Mon.ok, h.cm.ord, h.dm, h.cm.win]

/-- what the world guarantees about a message handed to the producer controller -/
def PInW (w : World) (pin : PIn) : Prop :=
  PInOK w.c.requestUpToSeq pin ∧ carried pin ≤ w.c.confirmedSeq

theorem CLoc.mono_log {c : Consumer} {stored st : List UMsg} {psess : Nat} (h : CLoc c stored psess) :
    CLoc c (stored ++ st) psess :=
  ⟨h.sess, h.fresh, fun b hb => List.mem_append_left _ (h.buf b hb), h.buflen,
    fun d hd => ⟨List.mem_append_left _ (h.infl d hd).1, (h.infl d hd).2⟩, h.win, h.ce, h.nf,
    by rw [List.length_append]; exact Nat.le_trans h.cle (Nat.le_add_right _ _)⟩

theorem COutOK.mono_log {c : Consumer} {stored st : List UMsg} {x : COut} (h : COutOK c stored x) :
    COutOK c (stored ++ st) x := by
  cases x with
  | toProducer m => cases m <;> exact h
  | toUser d => exact ⟨List.mem_append_left _ h.1, h.2⟩

theorem Inv.stepP {w : World} {m : Mon} (h : Inv w m) (pin : PIn) (hin : PInW w pin) :
    Inv (w.stepP pin).1 (m.run (obsOfP (w.stepP pin).2)) := by
  have hp := PPost.handle w.p w.stored w.c.requestUpToSeq pin h.pl h.pd hin.1
  have hns : (w.stepP pin).1.stored = w.stored ++ newStored w.p (w.p.handle pin).1 pin := rfl
  have hmon := hp.mon m h.cm.ids h.cm.req
  have hconf : w.c.session = 0 → (w.p.handle pin).1.confirmedSeq = 0 := fun h0 => by
    have := handle_conf_le w.p pin
    have := hin.2
    rw [h.fresh h0] at *; rw [(h.cl.fresh h0).2.2.2.2] at *
    omega
  show Inv (w.stepP pin).1 (m.run (obsOfP (w.p.handle pin).2))
  rw [hmon]
  refine ⟨hp.loc, hp.dem, ?_, ?_, h.dm, h.user, ?_, ?_, ?_, hconf⟩
  · show CLoc w.c (w.stored ++ _) (w.p.handle pin).1.session
    rw [hp.sess]; exact h.cl.mono_log
  · exact ⟨rfl, h.cm.infl, h.cm.idle, h.cm.req, h.cm.ord, h.cm.win⟩
  · intro x hx
    have hx : x ∈ w.netPC ++ pcOf (w.p.handle pin).2 := hx
    rcases List.mem_append.mp hx with hx | hx
    · have := h.netPC x hx
      cases x with
      | sequenced s i q pl => exact ⟨by rw [this.1]; exact hp.sess.symm, List.mem_append_left _ this.2⟩
      | regAck s nx n => exact ⟨by rw [this.1]; exact hp.sess.symm, this.2⟩
    · have hmem : POut.toConsumer x ∈ (w.p.handle pin).2 := mem_pcOf.mp hx
      have := hp.outs _ hmem
      cases x with
      | sequenced s i q pl => exact ⟨this.1, this.2.1⟩
      | regAck s nx n => exact ⟨this.1, fun h0 => by rw [this.2, hconf h0]⟩
  · intro x hx; exact (h.netCP x hx).mono_log
  · intro d hd; exact (h.inboxC d hd).mono_log

theorem Inv.cpost {w : World} {m : Mon} (h : Inv w m) (cin : CIn) (hin : CInOK w.stored w.p.session w.c cin) :
    CPost w.stored w.p.session w.c m cin (w.c.handle cin w.now).1 (w.c.handle cin w.now).2 :=
  CPost.handle h.logOK h.pl.sess h.cl h.cm cin w.now hin

theorem Inv.stepC {w : World} {m : Mon} (h : Inv w m) (cin : CIn)
    (hc : CPost w.stored w.p.session w.c m cin (w.c.handle cin w.now).1 (w.c.handle cin w.now).2) :
    Inv (w.stepC cin).1 ((preMon m cin).run (obsOfC (w.stepC cin).2)) := by
  have hs0 : (w.c.handle cin w.now).1.session = 0 → w.c.session = 0 := fun h0 =>
    Decidable.byContradiction fun hne => hne ((hc.sess hne).symm.trans h0)
  show Inv (w.stepC cin).1 ((preMon m cin).run (obsOfC (w.c.handle cin w.now).2))
  refine ⟨h.pl, ⟨Nat.le_trans h.pd.dem hc.mono, Nat.le_trans h.pd.cur hc.mono, fun hcr => Nat.lt_of_lt_of_le (h.pd.cred hcr) hc.mono⟩,
    hc.loc, hc.mon, by rw [hc.dem, preMon_okDemand]; exact h.dm, h.user, ?_, ?_, ?_, fun h0 => h.fresh (hs0 h0)⟩
  · intro x hx
    have := h.netPC x hx
    cases x with
    | sequenced s i q pl => exact this
    | regAck s nx n => exact ⟨this.1, fun h0 => this.2 (hs0 h0)⟩
  · intro x hx
    have hx : x ∈ w.netCP ++ cpOf (w.c.handle cin w.now).2 := hx
    rcases List.mem_append.mp hx with hx | hx
    · exact (h.netCP x hx).lift hc.mono hc.sess hc.wnd hc.cmono
    · exact hc.outs _ (mem_cpOf.mp hx)
  · intro d hd
    have hd : d ∈ w.inboxC ++ cuOf (w.c.handle cin w.now).2 := hd
    rcases List.mem_append.mp hd with hd | hd
    · exact (h.inboxC d hd).lift hc.mono hc.sess hc.wnd hc.cmono
    · exact hc.outs _ (mem_cuOf.mp hd)

/-- the invariant only speaks about members of the links and mailboxes: losing messages keeps it -/
theorem Inv.shrink {w : World} {m : Mon} (h : Inv w m) (w' : World)
    (hp : w'.p = w.p) (hc : w'.c = w.c) (hs : w'.stored = w.stored)
    (hu : ∀ t i pl, w'.userP.answered = some (t, i, pl) → pl = payloadOf i)
    (h1 : ∀ x ∈ w'.netPC, x ∈ w.netPC) (h2 : ∀ x ∈ w'.netCP, x ∈ w.netCP) (h3 : ∀ x ∈ w'.inboxC, x ∈ w.inboxC) :
    Inv w' m := by
  refine ⟨?_, ?_, ?_, ?_, h.dm, ?_, ?_, ?_, ?_, ?_⟩
  · rw [hp, hs]; exact h.pl
  · rw [hp, hc]; exact h.pd
  · rw [hp, hc, hs]; exact h.cl
  · rw [hc, hs]; exact h.cm
  · exact hu
  · intro x hx
    have := h.netPC x (h1 x hx)
    cases x <;> simpa [NetPCOK, hp, hc, hs] using this
  · intro x hx; rw [hc, hs]; exact h.netCP x (h2 x hx)
  · intro x hx; rw [hc, hs]; exact h.inboxC x (h3 x hx)
  · rw [hp, hc]; exact h.fresh

/-- `w'` is `w` after losing messages (the producer endpoint's mailbox is FIFO and loses a prefix); the clock may have moved -/
structure Lost (w w' : World) : Prop where
  p : w'.p = w.p
  c : w'.c = w.c
  stored : w'.stored = w.stored
  userP : w'.userP = w.userP
  netPC : ∀ x ∈ w'.netPC, x ∈ w.netPC
  netCP : ∀ x ∈ w'.netCP, x ∈ w.netCP
  inboxC : ∀ x ∈ w'.inboxC, x ∈ w.inboxC
  inboxP : ∃ k, w'.inboxP = w.inboxP.drop k

theorem Lost.refl (w : World) : Lost w w := ⟨rfl, rfl, rfl, rfl, fun _ h => h, fun _ h => h, fun _ h => h, 0, rfl⟩

theorem Inv.lost {w w' : World} {m : Mon} (h : Inv w m) (l : Lost w w') : Inv w' m :=
  h.shrink w' l.p l.c l.stored (l.userP ▸ h.user) l.netPC l.netCP l.inboxC

theorem mem_of_getElem? {α} {l : List α} {i : Nat} {x : α} (h : l[i]? = some x) : x ∈ l :=
  List.mem_of_getElem? h

theorem mem_eraseIdx {α} {l : List α} {i : Nat} {x : α} (h : x ∈ l.eraseIdx i) : x ∈ l :=
  List.mem_of_mem_eraseIdx h

theorem PInW.ofNet {w : World} {m : Mon} (h : Inv w m) (x : CMsg) (hx : x ∈ w.netCP) : PInW w (.fromConsumer x) := by
  have := h.netCP x hx
  cases x with
  | register n => exact ⟨trivial, Nat.zero_le _⟩
  | request s n c u v => exact ⟨this.1, this.2.2.1⟩
  | ack s n c => exact ⟨trivial, this.2⟩

theorem CInOK.ofNet {w : World} {m : Mon} (h : Inv w m) (x : PMsg) (hx : x ∈ w.netPC) :
    CInOK w.stored w.p.session w.c (.fromProducer x) := by
  have := h.netPC x hx
  cases x with
  | regAck s nx n => exact this
  | sequenced s i q pl => exact this.2

/-- the producer endpoint keeps its contract and only ever hands over legitimate messages -/
theorem react_ok {w : World} {m : Mon} (h : Inv w m) (m0 : PUMsg) :
    (∀ t i pl, (w.userP.react m0).1.answered = some (t, i, pl) → pl = payloadOf i) ∧
    (∀ pin, (w.userP.react m0).2 = some pin → PInW w pin) :=
  react_cases w.userP m0 (motive := fun r => (∀ t i pl, r.1.answered = some (t, i, pl) → pl = payloadOf i) ∧
      ∀ pin, r.2 = some pin → PInW w pin)
    (fun _ _ _ _ _ ha => ⟨h.user, fun _ e => by cases e; exact ⟨h.user _ _ _ ha, Nat.zero_le _⟩⟩)
    (fun _ _ _ _ => ⟨fun _ _ _ e => by cases e; rfl, fun _ e => by cases e; exact ⟨rfl, Nat.zero_le _⟩⟩)
    (fun _ _ _ _ _ => ⟨h.user, fun _ e => by cases e; exact ⟨trivial, Nat.zero_le _⟩⟩) fun _ _ _ _ => ⟨h.user, nofun⟩

/-- the endpoint's confirmation, which the monitor sees before the handler's outputs -/
def preObs (w : World) (s : Step) : List Obs :=
  match s, w.inboxC with
  | .userC true, d :: _ => [Obs.confirm d.seq]
  | _, _ => []

abbrev ranC (r : World × List COut) : World × StepOut := (r.1, { who := 2, couts := r.2 })
abbrev ranP (r : World × List POut) : World × StepOut := (r.1, { who := 1, pouts := r.2 })

/-- A step first loses messages (`Lost`; the invariant survives, `Inv.lost`) and then runs at most one handler, on an
    input the invariant vouches for: the cases get what it says about the call (`CPost`) or the input (`PInW`). -/
theorem Inv.step_cases {motive : Step → World × StepOut → Prop} {w : World} {m : Mon} (h : Inv w m)
    (lose : ∀ s w', Lost w w' → preObs w s = [] → motive s (w', {}))
    (stepC : ∀ s w' cin, Lost w w' → CPost w'.stored w'.p.session w'.c m cin (w'.c.handle cin w'.now).1 (w'.c.handle cin w'.now).2 →
      m.run (preObs w s) = preMon m cin → motive s (ranC (w'.stepC cin)))
    (stepNet : ∀ s w' x, Lost w w' → x ∈ w.netCP → PInW w' (.fromConsumer x) → preObs w s = [] →
      motive s (ranP (w'.stepP (.fromConsumer x))))
    (tickP : motive .tickP (ranP (w.stepP .tick)))
    (react : ∀ m0 rest pin w', w' = ({ w with inboxP := rest, userP := (w.userP.react m0).1 } : World) → Inv w' m → PInW w' pin →
      w.inboxP = m0 :: rest → (w.userP.react m0).2 = some pin → motive .userP (ranP (w'.stepP pin)))
    (s : Step) : motive s (w.step s) := by
  have same : ∀ s, preObs w s = [] → motive s (w, {}) := fun s => lose s w (.refl w)
  have keep : ∀ {α} (l : List α) (x : α), x ∈ l → x ∈ l := fun _ _ hx => hx
  cases s with
  | deliverPC i =>
    simp only [World.step]
    cases hx : w.netPC[i]? with
    | none => exact same (.deliverPC i) rfl
    | some x =>
      have l : Lost w { w with netPC := w.netPC.eraseIdx i } := ⟨rfl, rfl, rfl, rfl, fun _ => mem_eraseIdx, keep _, keep _, 0, rfl⟩
      exact stepC (.deliverPC i) _ _ l ((h.lost l).cpost _ (CInOK.ofNet h x (mem_of_getElem? hx))) rfl
  | dupPC i =>
    simp only [World.step]
    cases hx : w.netPC[i]? with
    | none => exact same (.dupPC i) rfl
    | some x => exact stepC (.dupPC i) w _ (.refl w) (h.cpost _ (CInOK.ofNet h x (mem_of_getElem? hx))) rfl
  | dropPC i => exact lose (.dropPC i) _ ⟨rfl, rfl, rfl, rfl, fun _ => mem_eraseIdx, keep _, keep _, 0, rfl⟩ rfl
  | deliverCP i =>
    simp only [World.step]
    cases hx : w.netCP[i]? with
    | none => exact same (.deliverCP i) rfl
    | some x =>
      exact stepNet (.deliverCP i) _ x ⟨rfl, rfl, rfl, rfl, keep _, fun _ => mem_eraseIdx, keep _, 0, rfl⟩
        (mem_of_getElem? hx) (PInW.ofNet h x (mem_of_getElem? hx)) rfl
  | dupCP i =>
    simp only [World.step]
    cases hx : w.netCP[i]? with
    | none => exact same (.dupCP i) rfl
    | some x => exact stepNet (.dupCP i) w x (.refl w) (mem_of_getElem? hx) (PInW.ofNet h x (mem_of_getElem? hx)) rfl
  | dropCP i => exact lose (.dropCP i) _ ⟨rfl, rfl, rfl, rfl, keep _, fun _ => mem_eraseIdx, keep _, 0, rfl⟩ rfl
  | tickP => exact tickP
  | tickC => exact stepC .tickC w .tick (.refl w) (h.cpost .tick trivial) rfl
  | userP =>
    simp only [World.step]
    cases hin : w.inboxP with
    | nil => exact same .userP rfl
    | cons m0 rest =>
      simp only []
      cases hr : (w.userP.react m0).2 with
      | some pin =>
        exact react m0 rest pin _ rfl (h.shrink _ rfl rfl rfl (react_ok h m0).1 (keep _) (keep _) (keep _)) ((react_ok h m0).2 pin hr) hin hr
      | none =>
        -- only a DeliveryConfirmed gets no answer, and the endpoint's memory ignores it
        have hu : (w.userP.react m0).1 = w.userP :=
          react_cases w.userP m0 (motive := fun r => r.2 = none → r.1 = w.userP) (fun _ _ _ _ _ _ => nofun)
            (fun _ _ _ _ => nofun) (fun _ _ _ _ _ => nofun) (fun _ _ _ _ _ => rfl) hr
        exact lose .userP _ ⟨rfl, rfl, rfl, hu, keep _, keep _, keep _, 1, by rw [hin]; rfl⟩ rfl
  | userPDrop => exact lose .userPDrop _ ⟨rfl, rfl, rfl, rfl, keep _, keep _, keep _, 1, rfl⟩ rfl
  | userC confirm =>
    simp only [World.step]
    cases hin : w.inboxC with
    | nil => exact same (.userC confirm) (by unfold preObs; rw [hin]; cases confirm <;> rfl)
    | cons d rest =>
      have hd := h.inboxC d (hin ▸ List.mem_cons_self ..)
      have hsub : ∀ x ∈ rest, x ∈ w.inboxC := fun x hx => hin ▸ List.mem_cons_of_mem _ hx
      cases confirm with
      | false => exact lose (.userC false) _ ⟨rfl, rfl, rfl, rfl, keep _, keep _, hsub, 0, rfl⟩ (by unfold preObs; rw [hin])
      | true =>
        have l : Lost w { w with inboxC := rest, confirmedByUser := w.confirmedByUser ++ [d.seq] } :=
          ⟨rfl, rfl, rfl, rfl, keep _, keep _, hsub, 0, rfl⟩
        exact stepC (.userC true) _ _ l ((h.lost l).cpost (.confirmed d.session d.id d.seq) ⟨⟨_, hd.1⟩, hd.2.1⟩)
          (by unfold preObs; rw [hin]; rfl)
  | userCDrop => exact lose .userCDrop _ ⟨rfl, rfl, rfl, rfl, keep _, keep _, fun _ => List.mem_of_mem_drop, 0, rfl⟩ rfl
  | time t => exact lose (.time t) _ ⟨rfl, rfl, rfl, rfl, keep _, keep _, keep _, 0, rfl⟩ rfl

/-- the invariant is inductive: every step of the world preserves it, and the monitor that watches the
    step's observations stays in agreement -/
theorem Inv.step {w : World} {m : Mon} (h : Inv w m) (s : Step) :
    Inv (w.step s).1 (m.run (w.obsOfStep s (w.step s).1 (w.step s).2)) := by
  have obsP : ∀ s (r : World × List POut), preObs w s = [] → w.obsOfStep s (ranP r).1 (ranP r).2 = obsOfP r.2 := fun s r hpre => by
    show preObs w s ++ obsOfP r.2 ++ [] ++ [] = _
    rw [hpre, List.append_nil, List.append_nil, List.nil_append]
  refine h.step_cases (motive := fun s r => Inv r.1 (m.run (w.obsOfStep s r.1 r.2)))
    (fun s w' l hpre => ?_) (fun s w' cin l hc hpre => ?_) (fun s w' x l _ hin hpre => ?_)
    ?_ (fun m0 rest pin w' _ h' hin _ _ => ?_) s
  · show Inv w' (m.run (preObs w s ++ [] ++ [] ++ []))
    rw [hpre]; exact h.lost l
  · show Inv _ (m.run (preObs w s ++ [] ++ obsOfC (w'.stepC cin).2 ++ [cstateOf (w'.stepC cin).1.c]))
    rw [List.append_nil, Mon.run_append, Mon.run_append, hpre]
    have h' := (h.lost l).stepC cin hc
    -- the state digest that closes the step's observations leaves the monitor alone
    rw [show Mon.run _ [cstateOf (w'.stepC cin).1.c] = _ from Mon.step_cstate _ h'.cl]
    exact h'
  · rw [obsP _ _ hpre]
    exact (h.lost l).stepP _ hin
  · rw [obsP _ _ rfl]
    exact h.stepP .tick ⟨trivial, Nat.zero_le _⟩
  · rw [obsP _ _ rfl]
    exact h'.stepP pin hin

theorem Inv.init (window interval : Nat) (dc : Bool) :
    Inv (World.init window interval dc) (Mon.run {} (World.init window interval dc).initObs) := by
  have hm : Mon.run {} (World.init window interval dc).initObs = {} := by
    simp [World.initObs, World.init, Consumer.register, cstateOf, Mon.run, Mon.step]
  rw [hm]
  exact ⟨⟨Nat.one_ne_zero, fun i m h => by simp [World.init] at h, rfl, nofun, nofun, nofun, nofun⟩,
    ⟨Nat.le_refl _, Nat.le_refl _, nofun⟩,
    ⟨.inl rfl, fun _ => ⟨rfl, rfl, rfl, rfl, rfl⟩, nofun, Nat.zero_le _, nofun, Nat.zero_le _, rfl, rfl, Nat.le_refl _⟩,
    ⟨rfl, nofun, fun _ => ⟨rfl, rfl⟩, rfl, rfl, rfl⟩, rfl, nofun, nofun,
    fun x hx => by cases List.mem_singleton.mp hx; trivial, nofun, fun _ => rfl⟩

theorem World.run_nil (w : World) : (w.run []).1 = w := rfl

theorem World.run_cons (w : World) (s : Step) (ss : List Step) : (w.run (s :: ss)).1 = ((w.step s).1.run ss).1 := rfl

/-- the invariant holds after every script, of any length, with any fault decisions, for the monitor that watched the run -/
theorem Inv.run_observe {w : World} {m : Mon} (h : Inv w m) (ss : List Step) : Inv (w.run ss).1 (m.run (w.observe ss)) := by
  induction ss generalizing w m with
  | nil => exact h
  | cons s ss ih =>
    rw [World.run_cons]
    simp only [World.observe, Mon.run_append]
    exact ih (h.step s)

theorem Inv.observe {w : World} {m : Mon} (h : Inv w m) (ss : List Step) :
    ∃ w', Inv w' (m.run (w.observe ss)) :=
  ⟨_, h.run_observe ss⟩

/-- the monitor over a whole run from the initial world -/
def monitorOf (window interval : Nat) (dc : Bool) (ss : List Step) : Mon :=
  Mon.run {} ((World.init window interval dc).initObs ++ (World.init window interval dc).observe ss)

theorem monitor_run (window interval : Nat) (dc : Bool) (ss : List Step) :
    Inv ((World.init window interval dc).run ss).1 (monitorOf window interval dc ss) := by
  unfold monitorOf
  rw [Mon.run_append]
  exact (Inv.init window interval dc).run_observe ss

theorem monitor_inv (window interval : Nat) (dc : Bool) (ss : List Step) :
    ∃ w', Inv w' (monitorOf window interval dc ss) :=
  ⟨_, monitor_run window interval dc ss⟩

theorem World.run_ind {P : World → Prop} (hstep : ∀ w s, P w → P (w.step s).1) {w : World} (h : P w) (ss : List Step) :
    P (w.run ss).1 :=
  Run.inv' (run := fun w ss => (World.run w ss).1) (fun _ => rfl) (fun _ _ _ => rfl) hstep ss w h

end GoaktVerif.C42
