/-
C11 — the invariant `Inv` of spawn-only executions (any interleaving of the phases of any number of Spawn /
SpawnNamedFromFunc / SpawnChild calls, no Shutdown in flight) and its preservation by the two phases of a spawn.
-/
import GoaktVerif.Model.C11
import GoaktVerif.Lemmas.ListFacts
import GoaktVerif.Lemmas.Assoc

namespace GoaktVerif.C11
open GoaktVerif.Model.C11

section assoc
variable {α β : Type} [DecidableEq α]

theorem lookup_cons (a : α) (b : β) (l : List (α × β)) (k : α) :
    lookup ((a, b) :: l) k = if a = k then some b else lookup l k := by
  unfold lookup
  simp only [List.find?_cons]
  by_cases h : a = k <;> simp [h]

theorem lookup_eq (l : List (α × β)) (k : α) : lookup l k = List.lookup k l :=
  Assoc.lookup_of_eqns lookup (fun _ => rfl) lookup_cons l k

theorem lookup_mem {l : List (α × β)} {k : α} {v : β} (h : lookup l k = some v) : (k, v) ∈ l :=
  Assoc.mem_of_lookup (lookup_eq l k ▸ h)

theorem lookup_none_of_not_mem {l : List (α × β)} {k : α} (h : ∀ v, (k, v) ∉ l) : lookup l k = none := by
  cases hl : lookup l k with
  | none => rfl
  | some v => exact absurd (lookup_mem hl) (h v)

theorem lookup_isSome_of_mem {l : List (α × β)} {k : α} {v : β} (h : (k, v) ∈ l) : (lookup l k).isSome = true := by
  rw [lookup_eq, Option.isSome_iff_ne_none, ne_eq, Assoc.lookup_eq_none_iff, Decidable.not_not]
  exact List.mem_map_of_mem (f := (·.1)) h

theorem lookup_filter_ne (n k : α) (h : k ≠ n) : ∀ (l : List (α × β)),
    lookup (l.filter (·.1 ≠ n)) k = lookup l k := fun l => by
  rw [lookup_eq, lookup_eq, Assoc.lookup_del n (fun _ => by simp) l k, if_neg h]
end assoc

theorem phaseOf_setPhase (s : St) (p q : ProcId) (ph : Phase) :
    phaseOf (setPhase s p ph) q = if q = p ∧ q < s.procs.length then ph else phaseOf s q := by
  unfold phaseOf setPhase
  simp only [List.getElem?_modify]
  by_cases h : p = q
  · subst h
    cases hq : s.procs[p]? with
    | none =>
      have : ¬ p < s.procs.length := by
        intro hlt
        rw [List.getElem?_eq_getElem hlt] at hq; cases hq
      simp [this]
    | some pr =>
      have : p < s.procs.length := by
        rcases Nat.lt_or_ge p s.procs.length with h1 | h1
        · exact h1
        · rw [List.getElem?_eq_none h1] at hq; cases hq
      simp [this]
  · have : ¬ (q = p ∧ q < s.procs.length) := fun x => h x.1.symm
    rw [if_neg this]
    cases s.procs[q]? <;> simp [h]

theorem pathOf_setPhase (s : St) (p q : ProcId) (ph : Phase) : pathOf (setPhase s p ph) q = pathOf s q := by
  unfold pathOf setPhase
  simp only [List.getElem?_modify]
  cases s.procs[q]? with
  | none => rfl
  | some pr => by_cases h : p = q <;> simp [h]

theorem length_setPhase (s : St) (p : ProcId) (ph : Phase) : (setPhase s p ph).procs.length = s.procs.length := by
  unfold setPhase; simp [List.length_modify]

theorem lt_of_phase {s : St} {p : ProcId} {ph : Phase} (h : phaseOf s p = ph) (hne : ph ≠ .stopped) :
    p < s.procs.length := by
  rcases Nat.lt_or_ge p s.procs.length with h1 | h1
  · exact h1
  · unfold phaseOf at h
    rw [List.getElem?_eq_none h1] at h
    exact absurd h.symm hne

theorem phaseOf_addProc (s : St) (path : Path) (kind : Kind) (q : ProcId) :
    phaseOf (addProc s path kind) q = if q = s.procs.length then .starting else phaseOf s q := by
  unfold phaseOf addProc
  simp only [getElem?_snoc_eq]
  by_cases h : q = s.procs.length <;> simp [h]

theorem pathOf_addProc (s : St) (path : Path) (kind : Kind) (q : ProcId) :
    pathOf (addProc s path kind) q = if q = s.procs.length then path else pathOf s q := by
  unfold pathOf addProc
  simp only [getElem?_snoc_eq]
  by_cases h : q = s.procs.length <;> simp [h]

theorem count_range_point (P Q : Nat → Bool) (p : Nat) : ∀ n, p < n → (∀ i, i ≠ p → P i = Q i) → P p = false →
    ((List.range n).filter Q).length = ((List.range n).filter P).length + (Q p).toNat
  | n + 1, h, hne, hp => by
    rw [List.range_succ, List.filter_append, List.filter_append, List.length_append, List.length_append]
    by_cases e : n = p
    · subst e
      rw [List.filter_congr (l := List.range n) fun i hi => hne i (Nat.ne_of_lt (List.mem_range.mp hi))]
      cases hq : Q n <;> simp [hp, hq]
    · rw [count_range_point P Q p n (by omega) hne hp]
      simp only [List.filter_cons, List.filter_nil, hne n e]
      omega

structure Inv (s : St) : Prop where
  /-- every tree node holds a running actor whose path is the node id -/
  treeRun : ∀ k p, (k, p) ∈ s.tree → phaseOf s p = .running ∧ pathOf s p = k
  /-- every running actor is THE node of its path (nothing runs outside the tree) -/
  runTree : ∀ p, phaseOf s p = .running → lookup s.tree (pathOf s p) = some p
  /-- the name index only resolves to running actors -/
  namesRun : ∀ n q, lookup s.names n = some q → phaseOf s q = .running
  /-- every node is reachable through the name index entry of its name -/
  treeNames : ∀ k p, lookup s.tree k = some p → ∃ q, lookup s.names (lastName k) = some q
  /-- an open flight holds a process inside PreStart whose path is free in the tree -/
  flights : ∀ k p kind, (k, p, kind) ∈ s.flights →
    phaseOf s p = .starting ∧ pathOf s p = k ∧ lookup s.tree k = none ∧
    (kind = .child → ∃ par x, k = [par, x] ∧ (lookup s.tree [par]).isSome = true)
  /-- one flight per path (single flight) -/
  keys : (s.flights.map (·.1)).Nodup
  count : s.counter = runningCount s
  noStops : s.stops = []

theorem inv_init : Inv St.init where
  treeRun := by intro k p h; cases h
  runTree := by intro p h; simp [phaseOf, St.init] at h
  namesRun := by intro n q h; simp [lookup, St.init] at h
  treeNames := by intro k p h; simp [lookup, St.init] at h
  flights := by intro k p kind h; cases h
  keys := by simp [St.init]
  count := by simp [St.init, runningCount]
  noStops := rfl

theorem flightOpen_false {s : St} {k : Path} (h : flightOpen s k = false) : k ∉ s.flights.map (·.1) := by
  intro hm
  obtain ⟨x, hx, e⟩ := List.mem_map.mp hm
  have : flightOpen s k = true := by
    unfold flightOpen
    exact List.any_eq_true.mpr ⟨x, hx, by simp [e]⟩
  rw [h] at this; cases this

theorem inv_addProc {s : St} (h : Inv s) (path : Path) (kind : Kind) (hopen : flightOpen s path = false)
    (hfree : lookup s.tree path = none)
    (hchild : kind = .child → ∃ par x, path = [par, x] ∧ (lookup s.tree [par]).isSome = true) :
    Inv (addProc s path kind) := by
  have hph : ∀ q, phaseOf s q = .running → phaseOf (addProc s path kind) q = .running := fun q hq => by
    rw [phaseOf_addProc, if_neg (Nat.ne_of_lt (lt_of_phase hq (by decide)))]; exact hq
  have hpa : ∀ q, q < s.procs.length → pathOf (addProc s path kind) q = pathOf s q := by
    intro q hq; rw [pathOf_addProc, if_neg (Nat.ne_of_lt hq)]
  have hrun : ∀ q, phaseOf (addProc s path kind) q = .running → phaseOf s q = .running ∧ q < s.procs.length := by
    intro q hq
    rw [phaseOf_addProc] at hq
    by_cases e : q = s.procs.length
    · rw [if_pos e] at hq; cases hq
    · rw [if_neg e] at hq
      exact ⟨hq, lt_of_phase hq (by decide)⟩
  refine ⟨?_, ?_, ?_, h.treeNames, ?_, ?_, ?_, h.noStops⟩
  · intro k p hm
    obtain ⟨a, b⟩ := h.treeRun k p hm
    refine ⟨hph p a, ?_⟩
    rw [hpa p (lt_of_phase a (by decide))]; exact b
  · intro p hp
    obtain ⟨a, b⟩ := hrun p hp
    show lookup s.tree (pathOf (addProc s path kind) p) = some p
    rw [hpa p b]; exact h.runTree p a
  · intro n q hq
    exact hph q (h.namesRun n q hq)
  · intro k p kd hm
    rcases List.mem_cons.mp hm with e | e
    · cases e
      exact ⟨by rw [phaseOf_addProc, if_pos rfl], by rw [pathOf_addProc, if_pos rfl], hfree, hchild⟩
    · obtain ⟨a, b, c, d⟩ := h.flights k p kd e
      exact ⟨by rw [phaseOf_addProc, if_neg (Nat.ne_of_lt (lt_of_phase a (by decide)))]; exact a, by rw [hpa p (lt_of_phase a (by decide))]; exact b,
        c, d⟩
  · show ((path, s.procs.length, kind) :: s.flights).map (·.1) |>.Nodup
    rw [List.map_cons, List.nodup_cons]
    exact ⟨flightOpen_false hopen, h.keys⟩
  · show s.counter = runningCount (addProc s path kind)
    rw [h.count]
    unfold runningCount
    rw [show (addProc s path kind).procs.length = s.procs.length + 1 by simp [addProc], List.range_succ, List.filter_append,
      List.length_append, List.filter_congr (p := fun p => isRunning (addProc s path kind) p) (q := fun p => isRunning s p) fun i hi => by
        unfold isRunning; rw [phaseOf_addProc, if_neg (Nat.ne_of_lt (List.mem_range.mp hi))]]
    have h2 : isRunning (addProc s path kind) s.procs.length = false := by
      unfold isRunning; rw [phaseOf_addProc, if_pos rfl]; rfl
    simp [h2]

/-- `bumpMax` only writes `maxLive`, which the invariant does not read -/
theorem bumpMax_eq (s : St) (k : Path) : ∃ m, bumpMax s k = { s with maxLive := m } := by
  -- `fun_cases f args` gives one goal per leaf of `f` in Model/C11.lean, numbered in the order of the leaves there,
  -- with the guard outcomes and pattern equations on the way as hypotheses
  fun_cases bumpMax s k
  -- a record for `k`: beaten (rewritten), not beaten (`s` itself); no record yet (added)
  case case1 | case2 | case3 => exact ⟨_, rfl⟩

theorem markRunning_eq (s : St) (k : Path) (p : ProcId) : ∃ m, markRunning s k p =
    { s with procs := (setPhase s p .running).procs, flights := s.flights.filter (·.1 ≠ k), started := s.started + 1,
             maxLive := m } :=
  bumpMax_eq _ k

/-- the state after the flight of `p` on `key` ended in the tree; `m` is whatever `bumpMax` left in `maxLive` -/
def ended (s : St) (key : Path) (p : ProcId) (m : List (Path × Nat)) : St :=
  { s with procs := (setPhase s p .running).procs, tree := (key, p) :: s.tree, names := (lastName key, p) :: s.names,
           counter := s.counter + 1, flights := s.flights.filter (·.1 ≠ key), started := s.started + 1, maxLive := m }

/-- under the invariant the path of an open flight is free and a child's parent is there, so `spawnEnd` takes the
    branch that inserts the new actor -/
theorem spawnEnd_eq {s : St} (h : Inv s) (key : Path) (p : ProcId) (kind : Kind) (hm : (key, p, kind) ∈ s.flights) :
    ∃ m, spawnEnd s key p kind = (ended s key p m, .pid p true) := by
  obtain ⟨-, -, hfree, hchild⟩ := h.flights key p kind hm
  obtain ⟨m, hmr⟩ := markRunning_eq s key p
  refine ⟨m, ?_⟩
  fun_cases spawnEnd s key p kind
  -- a node of that path is there (child; other kinds): impossible, the path of an open flight is free
  case case1 s' q hq | case2 s' q hq _ => rw [show s' = _ from hmr, hfree] at hq; cases hq
  case case3 s' _ _ => rw [show s' = _ from hmr]; rfl -- the path is free and the parent is there: `attach`
  case case4 s' _ hc => -- the path is free, `parentOK` fails: impossible, a child's parent is in the tree
    refine absurd ?_ hc
    rw [show s' = _ from hmr]
    unfold parentOK
    split
    · obtain ⟨par, y, e1, hs⟩ := hchild rfl
      cases e1
      exact hs
    · rfl

theorem inv_ended {s : St} (h : Inv s) (key : Path) (p : ProcId) (kind : Kind) (hm : (key, p, kind) ∈ s.flights)
    (m : List (Path × Nat)) :
    Inv (ended s key p m) ∧ phaseOf (ended s key p m) p = .running ∧
    (∀ q, phaseOf s q = .running → phaseOf (ended s key p m) q = .running) := by
  obtain ⟨hp, hpath, hfree, -⟩ := h.flights key p kind hm
  have hlt : p < s.procs.length := lt_of_phase hp (by decide)
  have ph1 : ∀ q, phaseOf (ended s key p m) q = if q = p ∧ q < s.procs.length then .running else phaseOf s q :=
    fun q => phaseOf_setPhase s p q .running
  have pa1 : ∀ q, pathOf (ended s key p m) q = pathOf s q := fun q => pathOf_setPhase s p q .running
  have hpp : phaseOf (ended s key p m) p = .running := by rw [ph1, if_pos ⟨rfl, hlt⟩]
  have keep : ∀ q, phaseOf s q = .running → phaseOf (ended s key p m) q = .running := by
    intro q hq
    rw [ph1]; split
    · rfl
    · exact hq
  refine ⟨⟨?_, ?_, ?_, ?_, ?_, ?_, ?_, h.noStops⟩, hpp, keep⟩
  · intro k q hq
    rcases List.mem_cons.mp hq with e | e
    · cases e
      exact ⟨hpp, by rw [pa1]; exact hpath⟩
    · obtain ⟨a, b⟩ := h.treeRun k q e
      exact ⟨keep q a, by rw [pa1]; exact b⟩
  · intro q hq
    show lookup ((key, p) :: s.tree) _ = _
    rw [pa1, lookup_cons]
    by_cases e : q = p
    · subst e; rw [hpath, if_pos rfl]
    · rw [ph1, if_neg (fun x => e x.1)] at hq
      have hl := h.runTree q hq
      rw [if_neg fun ek => by rw [← ek, hfree] at hl; cases hl]
      exact hl
  · intro n q hq
    change lookup ((lastName key, p) :: s.names) n = some q at hq
    rw [lookup_cons] at hq
    split at hq
    · cases hq; exact hpp
    · exact keep q (h.namesRun n q hq)
  · intro k q hq
    change lookup ((key, p) :: s.tree) k = some q at hq
    show ∃ q, lookup ((lastName key, p) :: s.names) (lastName k) = some q
    rw [lookup_cons] at hq ⊢
    split
    · exact ⟨p, rfl⟩
    · next e =>
      rw [if_neg fun ek => e (by rw [ek])] at hq
      exact h.treeNames k q hq
  · intro k q kd hq
    obtain ⟨hin, hne⟩ := List.mem_filter.mp hq
    have hne' : k ≠ key := by simpa using hne
    obtain ⟨a, b, c, d⟩ := h.flights k q kd hin
    have hqp : q ≠ p := fun e => hne' (by rw [← b, e, hpath])
    refine ⟨by rw [ph1, if_neg (fun x => hqp x.1)]; exact a, by rw [pa1]; exact b, ?_, fun hk => ?_⟩
    · show lookup ((key, p) :: s.tree) k = none
      rw [lookup_cons, if_neg (fun x => hne' x.symm)]; exact c
    · obtain ⟨par, x, e1, e2⟩ := d hk
      refine ⟨par, x, e1, ?_⟩
      show (lookup ((key, p) :: s.tree) [par]).isSome = true
      rw [lookup_cons]
      split
      · rfl
      · exact e2
  · exact List.Nodup.sublist (List.Sublist.map _ List.filter_sublist) h.keys
  · show s.counter + 1 = runningCount (ended s key p m)
    rw [h.count]
    unfold runningCount
    rw [show (ended s key p m).procs.length = s.procs.length from length_setPhase s p .running]
    rw [count_range_point (fun q => isRunning s q) (fun q => isRunning (ended s key p m) q) p _ hlt
      (fun i hi => by unfold isRunning; rw [ph1, if_neg (fun x => hi x.1)]) (by unfold isRunning; rw [hp]; rfl)]
    unfold isRunning
    rw [hpp]
    rfl

theorem inv_end {s : St} (h : Inv s) (key : Path) (p : ProcId) (kind : Kind) (hm : (key, p, kind) ∈ s.flights) :
    Inv (spawnEnd s key p kind).1 ∧ (spawnEnd s key p kind).2 = .pid p true ∧
    phaseOf (spawnEnd s key p kind).1 p = .running ∧
    (∀ q, phaseOf s q = .running → phaseOf (spawnEnd s key p kind).1 q = .running) := by
  obtain ⟨m, e⟩ := spawnEnd_eq h key p kind hm
  obtain ⟨a, b, c⟩ := inv_ended h key p kind hm m
  rw [e]
  exact ⟨a, rfl, b, c⟩

end GoaktVerif.C11
