import GoaktVerif.Lemmas.C20QueueBasic
import GoaktVerif.Lemmas.Run
import GoaktVerif.Lemmas.Pool

/-
C20 — the linearization log agrees with what the operations return (both modes, every schedule):
the events thread `tid` has in the log are exactly the events implied by the results of its completed
operations, preceded by those of its operation in progress: all lists here are LATEST FIRST, like `Cfg.lin` and
`Thread.hist`.
-/

namespace GoaktVerif.C20
open GoaktVerif.Model.C20.Queue

def evsOf (tid : Nat) (lin : List (Nat × Ev)) : List Ev := (lin.filter (·.1 == tid)).map (·.2)

/-- events of the dequeues an `Iterator` loop has already completed -/
def contEvs : Cont → List Ev
  | .plain => []
  | .iter _ acc => acc.map (fun v => Ev.deq (some v))

/-- events of the operation in progress -/
def pendEvs (t : Thread) : List Ev :=
  match t.pc with
  | some (.enqSwing ..) | some .enqAdd =>
    match t.cur with
    | some (.enq v) => [.enq v]
    | some (.sig v) => [.enq v]
    | _ => []
  | some (.deqLoadHead k) => contEvs k
  | some (.deqLoadNext k _) => contEvs k
  | some (.deqCas k _ _) => contEvs k
  | some (.deqAdd k r) => .deq r :: contEvs k
  | _ => []

/-- events implied by a completed operation and its result -/
def opEvs : Op × Res → List Ev
  | (.enq v, .ok) => [.enq v]
  | (.sig v, .ok) => [.enq v]
  | (_, .val r) => [.deq r]
  | (_, .items l sawNil) => (if sawNil then [Ev.deq none] else []) ++ l.reverse.map (fun v => Ev.deq (some v))
  | _ => []

def expected (t : Thread) : List Ev := pendEvs t ++ t.hist.flatMap opEvs

/-- the operation in progress is the one the program counter belongs to (as far as the events need it) -/
def CurOk (t : Thread) : Prop :=
  (t.pc.isSome → t.cur.isSome) ∧
  match t.pc with
  | some (.enqLoadTail _ v) => t.cur = some (.enq v) ∨ t.cur = some (.sig v)
  | some (.enqLoadNext _ v _) => t.cur = some (.enq v) ∨ t.cur = some (.sig v)
  | some (.enqHelp _ v _ _) => t.cur = some (.enq v) ∨ t.cur = some (.sig v)
  | some (.enqLink _ v _) => t.cur = some (.enq v) ∨ t.cur = some (.sig v)
  | some (.enqSwing ..) => ∃ v, t.cur = some (.enq v) ∨ t.cur = some (.sig v)
  | some .enqAdd => ∃ v, t.cur = some (.enq v) ∨ t.cur = some (.sig v)
  | some (.sigActive v) => t.cur = some (.sig v)
  | some .shut => t.cur = some .shut
  | _ => True

structure Agree (c : Cfg) : Prop where
  evs : ∀ (tid : Nat) t, c.threads[tid]? = some t → evsOf tid c.lin = expected t
  cur : ∀ (tid : Nat) t, c.threads[tid]? = some t → CurOk t

theorem startNext_spec (c : Cfg) (t : Thread) (pick : Option Nat) :
    pendEvs (startNext c t pick).2 = [] ∧ (startNext c t pick).2.hist = t.hist ∧ CurOk (startNext c t pick).2 := by
  unfold startNext
  cases t.prog with
  | nil => exact ⟨rfl, rfl, by simp [CurOk]⟩
  | cons op rest => cases op <;> exact ⟨rfl, rfl, by simp [CurOk]⟩

theorem finishOp_spec (c : Cfg) (t : Thread) (r : Res) (pick : Option Nat) (op : Op) (hc : t.cur = some op) :
    (finishOp c t r pick).1.threads = c.threads ∧ (finishOp c t r pick).1.lin = c.lin ∧
    expected (finishOp c t r pick).2 = opEvs (op, r) ++ t.hist.flatMap opEvs ∧ CurOk (finishOp c t r pick).2 := by
  have e : finishOp c t r pick = startNext c { t with hist := (op, r) :: t.hist } pick := by
    unfold finishOp
    split
    · rename_i op' heq; rw [hc] at heq; cases heq; rfl
    · rename_i heq; rw [hc] at heq; cases heq
  rw [e]
  obtain ⟨h1, h2⟩ := startNext_frame c { t with hist := (op, r) :: t.hist } pick
  obtain ⟨h3, h4, h5⟩ := startNext_spec c { t with hist := (op, r) :: t.hist } pick
  refine ⟨h1, h2, ?_, h5⟩
  unfold expected
  rw [h3, h4]
  simp [List.flatMap_cons]

theorem evsOf_append (j : Nat) (a b : List (Nat × Ev)) : evsOf j (a ++ b) = evsOf j a ++ evsOf j b := by
  simp [evsOf]

theorem evsOf_cons_self (tid : Nat) (e : Ev) (lin) : evsOf tid ((tid, e) :: lin) = e :: evsOf tid lin := by
  simp [evsOf]

theorem evsOf_cons_ne (tid j : Nat) (e : Ev) (lin) (h : j ≠ tid) : evsOf j ((tid, e) :: lin) = evsOf j lin := by
  have : ¬ tid = j := fun x => h x.symm
  simp [evsOf, this]

theorem evsOf_tagged (j tid : Nat) (es : List Ev) : evsOf j (es.map (tid, ·)) = if j = tid then es else [] := by
  induction es with
  | nil => split <;> rfl
  | cons e es ih =>
    rw [List.map_cons]
    by_cases h : j = tid
    · subst h; rw [evsOf_cons_self, ih, if_pos rfl, if_pos rfl]
    · rw [evsOf_cons_ne tid j e _ h, ih, if_neg h, if_neg h]

/-- what one step of thread `tid` (record `t` before, `t'` after) does to the log and to its own record -/
structure StepOut (c : Cfg) (tid : Nat) (t : Thread) (c' : Cfg) (t' : Thread) : Prop where
  threads : c'.threads = c.threads
  lin : ∃ es : List Ev, c'.lin = es.map (tid, ·) ++ c.lin ∧ expected t' = es ++ expected t
  cur : CurOk t'

theorem stepOut_same {c tid t t'} (he : expected t' = expected t) (hc : CurOk t') : StepOut c tid t c t' :=
  ⟨rfl, ⟨[], by simp, by simp [he]⟩, hc⟩

theorem agree_of_stepOut {c c' : Cfg} {tid : Nat} {t t' : Thread} (h : Agree c) (ht : c.threads[tid]? = some t)
    (o : StepOut c tid t c' t') : Agree (upd c' tid t') := by
  obtain ⟨es, hl, he⟩ := o.lin
  have key := Pool.forall_set (l := c.threads) (J := fun j tj => evsOf j c'.lin = expected tj ∧ CurOk tj)
    ⟨by rw [hl, evsOf_append, evsOf_tagged, if_pos rfl, he, h.evs tid t ht], o.cur⟩
    fun j tj hne hj => ⟨by rw [hl, evsOf_append, evsOf_tagged, if_neg hne, List.nil_append]; exact h.evs j tj hj, h.cur j tj hj⟩
  exact ⟨fun j tj hj => (key j tj (o.threads ▸ hj)).1, fun j tj hj => (key j tj (o.threads ▸ hj)).2⟩

theorem stepOut_finish {c ca : Cfg} {tid : Nat} {t : Thread} {r : Res} {pick : Option Nat} {op : Op} (es : List Ev)
    (hc : t.cur = some op) (hth : ca.threads = c.threads) (hl : ca.lin = es.map (tid, ·) ++ c.lin)
    (he : opEvs (op, r) = es ++ pendEvs t) :
    StepOut c tid t (finishOp ca t r pick).1 (finishOp ca t r pick).2 := by
  obtain ⟨h1, h2, h3, h4⟩ := finishOp_spec ca t r pick op hc
  refine ⟨by rw [h1, hth], ⟨es, by rw [h2, hl], ?_⟩, h4⟩
  rw [h3, he]
  simp [expected]

theorem stepOut_ret {c ca : Cfg} {tid : Nat} {t : Thread} {k : Cont} {r : Option Val} {pick : Option Nat} {op : Op} (es : List Ev)
    (hc : t.cur = some op) (hth : ca.threads = c.threads) (hl : ca.lin = es.map (tid, ·) ++ c.lin)
    (hp : Ev.deq r :: contEvs k = es ++ pendEvs t) :
    StepOut c tid t (ret ca t k r pick).1 (ret ca t k r pick).2 := by
  -- `fun_cases f args` yields one goal per leaf of the model's definition of `f`, with the matched arguments substituted and
  -- every branch condition and match equation as hypotheses; `case1`, … follow the leaves of `f` in Model/C20/Queue.lean.
  fun_cases ret ca t k r pick
  -- `.plain`: the dequeue returns its value
  case case1 =>
    apply stepOut_finish es hc hth hl
    simpa [opEvs, contEvs] using hp
  -- `.iter`, the queue ran empty; `.iter`, the last item asked for: the iteration returns what it collected
  case case2 | case3 =>
    apply stepOut_finish es hc hth hl
    rw [← hp]
    simp [opEvs, contEvs]
  -- `.iter`, more items asked for: on to the next dequeue
  case case4 rem acc v _ =>
    refine ⟨hth, ⟨es, hl, ?_⟩, ?_⟩
    · have e1 : pendEvs { t with pc := some (.deqLoadHead (.iter (rem - 1) (v :: acc))) } =
          Ev.deq (some v) :: contEvs (.iter rem acc) := rfl
      show pendEvs { t with pc := some (.deqLoadHead (.iter (rem - 1) (v :: acc))) } ++ t.hist.flatMap opEvs =
        es ++ (pendEvs t ++ t.hist.flatMap opEvs)
      rw [e1, hp, List.append_assoc]
    · refine ⟨by intro _; rw [hc]; rfl, by simp⟩

theorem agree_step {c : Cfg} (h : Agree c) (pick : Option Nat) (tid : Nat) : Agree (stepP pick c tid) := by
  cases ht : c.threads[tid]? with
  | none => exact (stepP_none ht).symm ▸ h
  | some t =>
    -- with the record spelled out, `pendEvs`, `expected` and `CurOk` of the stepping thread compute
    obtain ⟨pc, cur, prog, hist⟩ := t
    cases pc with
    | none => exact (stepP_done ht rfl).symm ▸ h
    | some pc =>
      have hcur := h.cur tid _ ht
      obtain ⟨op, rfl⟩ := Option.isSome_iff_exists.mp (hcur.1 rfl)
      have hcur2 := hcur.2
      rw [stepP_eq pick c tid _ pc ht rfl]
      apply agree_of_stepOut h ht
      fun_cases exec c tid _ pick pc
      -- `enqLoadTail`; `enqLoadNext`, whether `next` is set or not; `enqLink` lost: nothing logged, the same enqueue goes on
      case case1 | case2 | case3 | case6 => exact stepOut_same rfl ⟨fun _ => rfl, hcur2⟩
      -- `enqHelp`, `enqSwing`: the CAS on `tail`, won or lost, logs nothing
      case case4 | case7 => exact ⟨by split <;> rfl, ⟨[], by split <;> rfl, rfl⟩, ⟨fun _ => rfl, hcur2⟩⟩
      -- `enqLink` won: the enqueue is logged
      case case5 n v tl _ =>
        refine ⟨rfl, ⟨[.enq v], rfl, ?_⟩, ⟨fun _ => rfl, ⟨v, hcur2⟩⟩⟩
        rcases hcur2 with e | e <;> cases e <;> rfl
      -- `enqAdd`: the enqueue returns
      case case8 => obtain ⟨v, e | e⟩ := hcur2 <;> cases e <;> exact stepOut_finish [] rfl rfl rfl rfl
      -- `deqLoadHead`; `deqLoadNext` with a successor; `deqCas` lost; `itLen` on a positive length: nothing logged
      case case9 | case11 | case13 | case21 => exact stepOut_same rfl ⟨fun _ => rfl, trivial⟩
      -- `deqLoadNext` with no successor: the dequeue of nothing is logged and returns
      case case10 => exact stepOut_ret [.deq none] rfl rfl rfl rfl
      -- `deqCas` won: the dequeue is logged
      case case12 k x _ _ c2 =>
        dsimp only [c2]
        exact ⟨by cases c.mode <;> rfl, ⟨[.deq (valOf c x)], by cases c.mode <;> rfl, rfl⟩, ⟨fun _ => rfl, trivial⟩⟩
      -- `deqAdd`: the dequeue returns
      case case14 => exact stepOut_ret [] rfl rfl rfl rfl
      -- `len`, `emp`, `itLen` on a negative or zero length: the operation returns, nothing pending
      case case15 | case16 | case19 | case20 => exact stepOut_finish [] rfl rfl rfl (by cases op <;> rfl)
      -- `sigActive` on an active queue: an item is got, on to the enqueue
      case case17 v _ n c' hg =>
        have := getItem_frame c pick v
        rw [hg] at this
        exact ⟨this.1, ⟨[], this.2, rfl⟩, ⟨fun _ => rfl, Or.inr hcur2⟩⟩
      -- `sigActive` on a shut queue: dropped; `shut`
      case case18 | case22 => exact stepOut_finish [] rfl rfl rfl (by cases hcur2; rfl)

theorem agree_spawn (ps : List (List Op)) : ∀ (c : Cfg), c.lin = [] → Agree c →
    (spawn c ps).lin = [] ∧ Agree (spawn c ps) := by
  induction ps with
  | nil => exact fun c hl h => ⟨hl, h⟩
  | cons p ps ih =>
    intro c hl h
    rw [spawn_cons]
    obtain ⟨h1, h2⟩ := startNext_frame c (idle p) none
    obtain ⟨h3, h4, h5⟩ := startNext_spec c (idle p) none
    exact ih _ (h2.trans hl)
      ⟨h1 ▸ Pool.forall_snoc ((congrArg (evsOf _) (h2.trans hl)).trans (by rw [expected, h3, h4]; rfl))
          fun j tj hj => (congrArg (evsOf j) h2).trans (h.evs j tj hj),
        h1 ▸ Pool.forall_snoc h5 h.cur⟩

theorem agree_init (mode : Mode) (progs : List (List Op)) : Agree (init mode progs) := by
  have : Agree (empty mode) := ⟨by intro j tj hj; simp [empty] at hj, by intro j tj hj; simp [empty] at hj⟩
  exact (agree_spawn progs (empty mode) rfl this).2

theorem agree_runP (s : List (Nat × Option Nat)) (c : Cfg) (h : Agree c) : Agree (runP c s) :=
  Run.inv' (P := Agree) (step := fun c a => stepP a.2 c a.1) (fun _ => rfl) (fun _ _ _ => rfl)
    (fun _ a h => agree_step h a.2 a.1) s c h

end GoaktVerif.C20
