import GoaktVerif.Lemmas.C23
import GoaktVerif.Spec.C23
/-
Reading frames from a stream: what `readFrame` does on a stream that begins with a length field (closed form),
hence bounds, allocation limit and totality; concatenated frames are read back one by one.
-/
namespace GoaktVerif.C23
open GoaktVerif.Model.C23

theorem spec_be4 (n : Nat) : Spec.C23.be 4 n = be32 n := by
  simp [Spec.C23.be, be32]

theorem spec_be2 (n : Nat) : Spec.C23.be 2 n = be16 n := by
  simp [Spec.C23.be, be16]

theorem spec_be8 (n : Nat) : Spec.C23.be 8 n = be64 n := by
  simp [Spec.C23.be, be64, be32, Nat.div_div_eq_div_mul]

theorem readFrame_short {max : Nat} {s : Bytes} (h : s.length < 4) :
    readFrame max s = if s.length = 0 then .error .eof else .error .unexpectedEOF := by
  unfold readFrame readFull
  rw [if_neg (by omega)]
  by_cases h0 : s.length = 0
  · rw [if_pos h0, if_pos h0]
  · rw [if_neg h0, if_neg h0]

theorem ite_ne {α} {c : Prop} [Decidable c] {a b x : α} (ha : a ≠ x) (hb : b ≠ x) : (if c then a else b) ≠ x :=
  iteInduction (motive := (· ≠ x)) (fun _ => ha) fun _ => hb

theorem take4_be32 (n : Nat) (r : Bytes) : (be32 n ++ r).take 4 = be32 n := rfl
theorem drop4_be32 (n : Nat) (r : Bytes) : (be32 n ++ r).drop 4 = r := rfl

theorem u32At_be32_self {T : Nat} (hT : T < 2 ^ 32) : u32At (be32 T) 0 = .ok T :=
  u32At_hdr0 hT []

theorem readFrame_hdr {T : Nat} (hT : T < 2 ^ 32) (max : Nat) (r : Bytes) :
    readFrame max (be32 T ++ r) =
      if T < 8 then .error .invalidLength else if T > max then .error .frameTooLarge else
      if T - 4 ≤ r.length then .ok ⟨be32 T ++ r.take (T - 4), r.drop (T - 4), T⟩
      else if r.length = 0 then .error .eof else .error .unexpectedEOF := by
  unfold readFrame readFull
  rw [if_pos (by rw [List.length_append, be32_length]; omega), take4_be32, drop4_be32]; dsimp only
  rw [u32At_be32_self hT]; dsimp only
  by_cases h8 : T < 8
  · rw [if_pos h8, if_pos h8]
  by_cases hm : T > max
  · rw [if_neg h8, if_neg h8, if_pos hm, if_pos hm]
  rw [if_neg h8, if_neg h8, if_neg hm, if_neg hm, if_neg (by omega)]
  by_cases hr : T - 4 ≤ r.length
  · rw [if_pos hr, if_pos hr]
  · rw [if_neg hr, if_neg hr]
    by_cases h0 : r.length = 0
    · rw [if_pos h0, if_pos h0]
    · rw [if_neg h0, if_neg h0]

theorem allocRequest_hdr {T : Nat} (hT : T < 2 ^ 32) (max : Nat) (r : Bytes) :
    allocRequest max (be32 T ++ r) = if T < 8 ∨ T > max then none else some T := by
  unfold allocRequest readFull
  rw [if_pos (by rw [List.length_append, be32_length]; omega), take4_be32]; dsimp only
  rw [u32At_be32_self hT]

theorem allocRequest_short {max : Nat} {s : Bytes} (h : s.length < 4) : allocRequest max s = none := by
  unfold allocRequest readFull
  rw [if_neg (by omega)]
  by_cases h0 : s.length = 0
  · rw [if_pos h0]
  · rw [if_neg h0]

theorem readFrame_inv {max : Nat} {s : Bytes} {f : Frame} (h : readFrame max s = .ok f) :
    ∃ T r, T < 2 ^ 32 ∧ s = be32 T ++ r ∧ 8 ≤ T ∧ T ≤ max ∧ T - 4 ≤ r.length ∧
      f = ⟨be32 T ++ r.take (T - 4), r.drop (T - 4), T⟩ := by
  by_cases h4 : s.length < 4
  · rw [readFrame_short h4] at h; split at h <;> cases h
  obtain ⟨T, r, hT, rfl⟩ := exists_be32 (d := s) (by omega)
  rw [readFrame_hdr hT] at h
  by_cases h8 : T < 8
  · rw [if_pos h8] at h; cases h
  by_cases hm : T > max
  · rw [if_neg h8, if_pos hm] at h; cases h
  by_cases hr : T - 4 ≤ r.length
  · rw [if_neg h8, if_neg hm, if_pos hr] at h; cases h
    exact ⟨T, r, hT, rfl, Nat.le_of_not_lt h8, Nat.le_of_not_lt hm, hr, rfl⟩
  · rw [if_neg h8, if_neg hm, if_neg hr] at h; split at h <;> cases h

theorem readFrame_ok {max : Nat} {s : Bytes} {f : Frame} (h : readFrame max s = .ok f) :
    s = f.frame ++ f.rest ∧ f.frame.length = f.alloc ∧ 8 ≤ f.alloc ∧ f.alloc ≤ max := by
  obtain ⟨T, r, hT, rfl, h8, hmax, hr, rfl⟩ := readFrame_inv h
  refine ⟨by rw [List.append_assoc, List.take_append_drop], ?_, h8, hmax⟩
  show (be32 T ++ r.take (T - 4)).length = T
  rw [List.length_append, be32_length, List.length_take]; omega

theorem readFrame_nopanic (max : Nat) (s : Bytes) : readFrame max s ≠ .error .panic := by
  by_cases h4 : s.length < 4
  · rw [readFrame_short h4]; exact ite_ne nofun nofun
  obtain ⟨T, r, hT, rfl⟩ := exists_be32 (d := s) (by omega)
  rw [readFrame_hdr hT]
  exact ite_ne nofun (ite_ne nofun (ite_ne nofun (ite_ne nofun nofun)))

theorem allocRequest_le {max : Nat} {s : Bytes} {n : Nat} (h : allocRequest max s = some n) : 8 ≤ n ∧ n ≤ max := by
  by_cases h4 : s.length < 4
  · rw [allocRequest_short h4] at h; cases h
  obtain ⟨T, r, hT, rfl⟩ := exists_be32 (d := s) (by omega)
  rw [allocRequest_hdr hT] at h
  split at h <;> cases h
  omega

theorem readFrame_alloc {max : Nat} {s : Bytes} {f : Frame} (h : readFrame max s = .ok f) :
    allocRequest max s = some f.alloc := by
  obtain ⟨T, r, hT, rfl, h8, hmax, hr, rfl⟩ := readFrame_inv h
  rw [allocRequest_hdr hT]
  exact if_neg (by omega)

theorem wellFramed_iff {max : Nat} {f : Bytes} : Spec.C23.wellFramed max f = true ↔
    8 ≤ f.length ∧ f.length ≤ max ∧ f.length < 2 ^ 32 ∧ f.take 4 = be32 f.length := by
  simp only [Spec.C23.wellFramed, Bool.and_eq_true, decide_eq_true_eq, beq_iff_eq, spec_be4, and_assoc]

theorem readFrame_append {max : Nat} (f rest : Bytes) (hwf : Spec.C23.wellFramed max f = true) :
    readFrame max (f ++ rest) = .ok ⟨f, rest, f.length⟩ := by
  obtain ⟨h8, hmax, h32, htake⟩ := wellFramed_iff.mp hwf
  have hf : be32 f.length ++ f.drop 4 = f := by rw [← htake, List.take_append_drop]
  have hl : (f.drop 4).length = f.length - 4 := List.length_drop
  have key := readFrame_hdr h32 max (f.drop 4 ++ rest)
  rwa [if_neg (by omega), if_neg (by omega), if_pos (by rw [List.length_append]; omega),
    List.take_append_of_le_length (by omega), List.drop_append_of_le_length (by omega),
    List.take_of_length_le (Nat.le_of_eq hl), List.drop_of_length_le (Nat.le_of_eq hl), ← List.append_assoc, hf,
    List.nil_append] at key

theorem rest_lt {max : Nat} {f rest : Bytes} (h : Spec.C23.wellFramed max f = true) :
    rest.length < (f ++ rest).length := by
  have := (wellFramed_iff.mp h).1
  rw [List.length_append]; omega

theorem readAll_spec (max : Nat) (s : Bytes) :
    (readAll max s).2 ≠ .panic ∧ (∀ f ∈ (readAll max s).1, f.length ≤ max) ∧
    ∃ rest, s = (readAll max s).1.flatten ++ rest := by
  induction hn : s.length using Nat.strongRecOn generalizing s with
  | _ n ih =>
    rw [readAll]
    split
    · rename_i e he
      exact ⟨fun h => readFrame_nopanic max s (h ▸ he), nofun, s, rfl⟩
    · rename_i fr he
      obtain ⟨hs, hlen, h8, hmax⟩ := readFrame_ok he
      have hlt : fr.rest.length < s.length := by
        rw [hs, List.length_append]; omega
      obtain ⟨h0, h1, rest, h2⟩ := ih fr.rest.length (by omega) fr.rest rfl
      simp only [hlt, dite_true]
      refine ⟨h0, fun f hf => ?_, rest, ?_⟩
      · rcases List.mem_cons.mp hf with rfl | hf
        · omega
        · exact h1 f hf
      · rw [List.flatten_cons, List.append_assoc, ← h2]; exact hs

theorem serverLoop_map {α} (c : Codec) (max : Nat) (fr : α → Bytes) (out : α → Decoded) : ∀ (xs : List α),
    (∀ x ∈ xs, Spec.C23.wellFramed max (fr x) = true ∧ serverDecode c (fr x) = .ok (out x)) →
    serverLoop c max (xs.map fr).flatten = xs.map out := by
  intro xs
  induction xs with
  | nil => intro _; rw [serverLoop, List.map_nil, List.flatten_nil, readFrame_short (by decide)]; rfl
  | cons x rest ih =>
    intro h
    obtain ⟨hf, hd⟩ := h x (by simp)
    rw [serverLoop, List.map_cons, List.flatten_cons, readFrame_append _ _ hf]
    simp only [hd, rest_lt hf, dite_true, ih fun g hg => h g (by simp [hg]), List.map_cons]

theorem serverLoop_concat (c : Codec) (max : Nat) (dec : Bytes → Decoded) : ∀ (fs : List Bytes),
    (∀ f ∈ fs, Spec.C23.wellFramed max f = true ∧ serverDecode c f = .ok (dec f)) →
    serverLoop c max fs.flatten = fs.map dec := by
  intro fs h
  have := serverLoop_map c max id dec fs h
  rwa [List.map_id] at this

theorem serverEcho_map {α} (c : Codec) (max : Nat) (fr : α → Bytes) (out : α → Decoded) (resp : α → Bytes) :
    ∀ (xs : List α),
    (∀ x ∈ xs, Spec.C23.wellFramed max (fr x) = true ∧ serverDecode c (fr x) = .ok (out x) ∧
      marshal (out x).name (out x).payload = .ok (resp x)) →
    serverEcho c max (xs.map fr).flatten = (xs.map out, (xs.map resp).flatten) := by
  intro xs
  induction xs with
  | nil => intro _; rw [serverEcho, List.map_nil, List.flatten_nil, readFrame_short (by decide)]; rfl
  | cons x rest ih =>
    intro h
    obtain ⟨hf, hd, hm⟩ := h x (by simp)
    rw [serverEcho, List.map_cons, List.flatten_cons, readFrame_append _ _ hf]
    simp only [hd, hm, rest_lt hf, dite_true, ih fun g hg => h g (by simp [hg]), List.map_cons, List.flatten_cons]

theorem clientReadN_map {α} (c : Codec) (max : Nat) (fr : α → Bytes) (out : α → Decoded) : ∀ (xs : List α) (rest : Bytes),
    (∀ x ∈ xs, Spec.C23.wellFramed max (fr x) = true ∧ clientDecode c (fr x) = .ok (out x)) →
    clientReadN c max xs.length ((xs.map fr).flatten ++ rest) = .ok (xs.map out) := by
  intro xs
  induction xs with
  | nil => intro rest _; rfl
  | cons x tl ih =>
    intro rest h
    obtain ⟨hf, hd⟩ := h x (by simp)
    simp only [List.length_cons, clientReadN, List.map_cons, List.flatten_cons, List.append_assoc]
    rw [readFrame_append _ _ hf]
    simp only [hd, ih rest fun g hg => h g (by simp [hg])]

theorem clientReadN_concat (c : Codec) (max : Nat) (dec : Bytes → Decoded) : ∀ (fs : List Bytes) (rest : Bytes),
    (∀ f ∈ fs, Spec.C23.wellFramed max f = true ∧ clientDecode c f = .ok (dec f)) →
    clientReadN c max fs.length (fs.flatten ++ rest) = .ok (fs.map dec) := by
  intro fs rest h
  have := clientReadN_map c max id dec fs rest h
  rwa [List.map_id] at this

end GoaktVerif.C23
