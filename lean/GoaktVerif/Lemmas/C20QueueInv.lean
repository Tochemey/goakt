import GoaktVerif.Lemmas.C20QueueBasic
import GoaktVerif.Lemmas.C15C20List
import GoaktVerif.Lemmas.Pool

/-
C20 — the inductive invariant of the repaired queue (`Mode.fresh`: nodes are never recycled).

All nodes ever linked form ONE chain `pre ++ head :: post` (nothing is ever unlinked, `next` is written once);
`post` carries the abstract queue; a node an enqueuer has allocated and not linked yet is off the chain, has
`next = nil` and holds its value, and no two enqueuers own the same node.  The ghost log of linearization events replays to the values of `post`.
-/

namespace GoaktVerif.C20
open GoaktVerif.Model.C20 GoaktVerif.Model.C20.Queue
open GoaktVerif.Spec.C20 (replay)

/-- the node an enqueuer has allocated but not linked yet -/
def ownedBy (t : Thread) : Option (NodeId × Val) :=
  match t.pc with
  | some (.enqLoadTail n v) => some (n, v)
  | some (.enqLoadNext n v _) => some (n, v)
  | some (.enqHelp n v _ _) => some (n, v)
  | some (.enqLink n v _) => some (n, v)
  | _ => none

/-- what a thread knows about the pointers it has read (`chain` = all linked nodes, `front` = up to head) -/
def LocalOk (c : Cfg) (chain front : List NodeId) (t : Thread) : Prop :=
  match t.pc with
  | some (.enqLoadNext _ _ tl) => tl ∈ chain
  | some (.enqHelp _ _ tl x) => tl ∈ chain ∧ nextOf c tl = some x
  | some (.enqLink _ _ tl) => tl ∈ chain
  | some (.enqSwing n _) => n ∈ chain
  | some (.deqLoadNext _ h) => h ∈ front
  | some (.deqCas _ h x) => h ∈ front ∧ nextOf c h = some x
  | _ => True

theorem LocalOk.mono {c c1 : Cfg} {chain front chain' front' : List NodeId} {t : Thread}
    (h : LocalOk c chain front t) (m1 : ∀ i, i ∈ chain → i ∈ chain') (m2 : ∀ i, i ∈ front → i ∈ front')
    (m3 : ∀ i x, nextOf c i = some x → nextOf c1 i = some x) : LocalOk c1 chain' front' t := by
  obtain ⟨pc, _, _, _⟩ := t
  cases pc with
  | none => trivial
  | some pc =>
    cases pc with
    | enqLoadNext _ _ tl => exact m1 _ h
    | enqHelp _ _ tl x => exact ⟨m1 _ h.1, m3 _ _ h.2⟩
    | enqLink _ _ tl => exact m1 _ h
    | enqSwing n _ => exact m1 _ h
    | deqLoadNext _ hd => exact m2 _ h
    | deqCas _ hd x => exact ⟨m2 _ h.1, m3 _ _ h.2⟩
    | _ => trivial

structure ThreadOk (c : Cfg) (chain front : List NodeId) (t : Thread) : Prop where
  loc : LocalOk c chain front t
  own : ∀ n v, ownedBy t = some (n, v) →
    n < c.nodes.length ∧ n ∉ chain ∧ nextOf c n = none ∧ valOf c n = some v

structure HeapOk (c : Cfg) (pre post : List NodeId) : Prop where
  nodup : (pre ++ c.head :: post).Nodup
  bound : ∀ i ∈ pre ++ c.head :: post, i < c.nodes.length
  linked : Linked c (pre ++ c.head :: post)
  tailIn : c.tail ∈ pre ++ c.head :: post
  vals : ∀ i ∈ post, (valOf c i).isSome
  lin : replay (c.lin.reverse.map (·.2)) [] = some (post.filterMap (valOf c))

/-- the part of `HeapOk` that survives `seqDequeue`, which neither logs nor reads `tail`: `seqDrain_chain` inducts on it -/
structure ChainOk (c : Cfg) (pre post : List NodeId) : Prop where
  mode : c.mode = .fresh
  nodup : (pre ++ c.head :: post).Nodup
  bound : ∀ i ∈ pre ++ c.head :: post, i < c.nodes.length
  linked : Linked c (pre ++ c.head :: post)
  vals : ∀ i ∈ post, (valOf c i).isSome

theorem HeapOk.chainOk {c pre post} (h : HeapOk c pre post) (hm : c.mode = .fresh) : ChainOk c pre post :=
  ⟨hm, h.nodup, h.bound, h.linked, h.vals⟩

/-- `Dequeue` without recycling moves `head` to its successor `y` and clears `y`'s value: the chain stays as it
is, `y` passes from `post` to the front part -/
theorem ChainOk.deq {c c1 : Cfg} {pre l2 : List NodeId} {y : NodeId} (h : ChainOk c pre (y :: l2))
    (hm : c1.mode = c.mode) (hh : c1.head = y) (hn : c1.nodes = (setVal c y none).nodes) :
    ChainOk c1 (pre ++ [c.head]) l2 ∧ y ∉ l2 ∧ (∀ i, nextOf c1 i = nextOf c i) ∧
      ∀ i, i ≠ y → valOf c1 i = valOf c i := by
  have nx : ∀ i, nextOf c1 i = nextOf c i := fun i =>
    (show nextOf c1 i = nextOf (setVal c y none) i by simp only [nextOf, hn]).trans (nextOf_setVal c y i none)
  have vx : ∀ i, i ≠ y → valOf c1 i = valOf c i := fun i hi =>
    (show valOf c1 i = valOf (setVal c y none) i by simp only [valOf, hn]).trans (valOf_setVal_ne c y i none hi)
  have chain_eq : (pre ++ [c.head]) ++ c1.head :: l2 = pre ++ c.head :: y :: l2 := by rw [hh]; simp
  have hy : y ∉ l2 := by
    have := (List.nodup_append.mp h.nodup).2.1
    exact (List.nodup_cons.mp (List.nodup_cons.mp this).2).1
  refine ⟨⟨hm ▸ h.mode, chain_eq ▸ h.nodup, ?_, ?_, fun i hi => ?_⟩, hy, nx, vx⟩
  · rw [chain_eq, hn, length_setVal]; exact h.bound
  · rw [chain_eq]; exact h.linked.frame fun i _ => nx i
  · rw [vx i fun e => hy (e ▸ hi)]; exact h.vals i (List.mem_cons_of_mem _ hi)

def Distinct (ths : List Thread) : Prop :=
  ∀ (i j : Nat) ti tj ni vi nj vj, i ≠ j → ths[i]? = some ti → ths[j]? = some tj →
    ownedBy ti = some (ni, vi) → ownedBy tj = some (nj, vj) → ni ≠ nj

theorem distinct_iff (ths : List Thread) : Distinct ths ↔ C15C20.Inj (fun t => (ownedBy t).map (·.1)) ths := by
  constructor
  · intro h i j ti tj n hij hi hj ei ej
    obtain ⟨⟨ni, vi⟩, hoi, rfl⟩ := Option.map_eq_some_iff.mp ei
    obtain ⟨⟨nj, vj⟩, hoj, e⟩ := Option.map_eq_some_iff.mp ej
    exact h i j ti tj ni vi nj vj hij hi hj hoi hoj e.symm
  · intro h i j ti tj ni vi nj vj hij hi hj hoi hoj e
    exact h i j ti tj ni hij hi hj (congrArg (Option.map (·.1)) hoi) (e ▸ congrArg (Option.map (·.1)) hoj)

structure Inv (c : Cfg) : Prop where
  mode : c.mode = .fresh
  ex : ∃ pre post, HeapOk c pre post ∧
    (∀ (tid : Nat) t, c.threads[tid]? = some t → ThreadOk c (pre ++ c.head :: post) (pre ++ [c.head]) t) ∧
    Distinct c.threads

/-- what every step does that leaves the chain alone (it writes `len`, `active`, a thread record, moves `tail`, logs an empty
`Dequeue`, or allocates a node) -/
structure Grows (c c1 : Cfg) : Prop where
  len : c.nodes.length ≤ c1.nodes.length
  next : ∀ i, i < c.nodes.length → nextOf c1 i = nextOf c i
  val : ∀ i, i < c.nodes.length → valOf c1 i = valOf c i
  head : c1.head = c.head

theorem Grows.of_nodes {c c1 : Cfg} (hn : c1.nodes = c.nodes) (hh : c1.head = c.head) : Grows c c1 :=
  ⟨Nat.le_of_eq (congrArg List.length hn).symm, fun i _ => by simp only [nextOf, hn], fun i _ => by simp only [valOf, hn], hh⟩

theorem grows_alloc (c : Cfg) (nd : Node) : Grows c (alloc c nd) :=
  ⟨length_alloc c nd ▸ Nat.le_succ _, nextOf_alloc_old c nd, valOf_alloc_old c nd, rfl⟩

/-- the two clauses a frame cannot give, `tail` on the chain and the log's replay, are asked for -/
theorem Grows.heapOk {c c1 pre post} (g : Grows c c1) (h : HeapOk c pre post) (ht : c1.tail ∈ pre ++ c.head :: post)
    (hl : replay (c1.lin.reverse.map (·.2)) [] = some (post.filterMap (valOf c))) : HeapOk c1 pre post := by
  have hb := h.bound
  have hp : ∀ i ∈ post, i < c.nodes.length := fun i hi => hb i (by simp [hi])
  refine ⟨g.head ▸ h.nodup, fun i hi => Nat.lt_of_lt_of_le (hb i (g.head ▸ hi)) g.len, ?_, g.head ▸ ht,
    fun i hi => (g.val i (hp i hi)).symm ▸ h.vals i hi, ?_⟩
  · rw [g.head]; exact h.linked.frame fun i hi => g.next i (hb i hi)
  · rw [filterMap_congr _ _ post fun i hi => g.val i (hp i hi)]; exact hl

/-- One step seen from the other threads: the heap `c` became `c1` (same thread list), the chain grew from
`chain` to `chain'`, the front from `front` to `front'`; `special` is the node the stepping thread owned. -/
structure Mono (c c1 : Cfg) (chain front chain' front' : List NodeId) (special : Option NodeId) : Prop where
  mem : ∀ i, i ∈ chain → i ∈ chain'
  front : ∀ i, i ∈ front → i ∈ front'
  next : ∀ i x, nextOf c i = some x → nextOf c1 i = some x
  len : c.nodes.length ≤ c1.nodes.length
  frame : ∀ n, n ∉ chain → n < c.nodes.length → special ≠ some n →
    n ∉ chain' ∧ nextOf c1 n = nextOf c n ∧ valOf c1 n = valOf c n

theorem threadOk_mono {c c1 chain front chain' front' special} (m : Mono c c1 chain front chain' front' special)
    {t : Thread} (h : ThreadOk c chain front t) (hs : ∀ n v, ownedBy t = some (n, v) → special ≠ some n) :
    ThreadOk c1 chain' front' t := by
  refine ⟨h.loc.mono m.mem m.front m.next, fun n v ho => ?_⟩
  obtain ⟨h1, h2, h3, h4⟩ := h.own n v ho
  obtain ⟨g1, g2, g3⟩ := m.frame n h2 h1 (hs n v ho)
  exact ⟨Nat.lt_of_lt_of_le h1 m.len, g1, g2 ▸ h3, g3 ▸ h4⟩

theorem Mono.of_nodes {c c1 : Cfg} (hn : c1.nodes = c.nodes) {chain front : List NodeId} {special} :
    Mono c c1 chain front chain front special := by
  have e1 : ∀ i, nextOf c1 i = nextOf c i := fun i => by simp only [nextOf, hn]
  have e2 : ∀ i, valOf c1 i = valOf c i := fun i => by simp only [valOf, hn]
  exact ⟨fun _ h => h, fun _ h => h, fun i x h => e1 i ▸ h, Nat.le_of_eq (congrArg List.length hn).symm,
    fun n hn _ _ => ⟨hn, e1 n, e2 n⟩⟩

theorem threadOk_nodes {c c1 chain front} {t : Thread} (hn : c1.nodes = c.nodes) (h : ThreadOk c chain front t) :
    ThreadOk c1 chain front t :=
  threadOk_mono (Mono.of_nodes hn (special := none)) h (fun _ _ _ => nofun)

/-- the situation of one step: the invariant's pieces for `c`, and the stepping thread -/
structure Ctx (c : Cfg) (tid : Nat) (t : Thread) (pre post : List NodeId) : Prop where
  mode : c.mode = .fresh
  heap : HeapOk c pre post
  all : ∀ (tid : Nat) t, c.threads[tid]? = some t → ThreadOk c (pre ++ c.head :: post) (pre ++ [c.head]) t
  dist : Distinct c.threads
  ht : c.threads[tid]? = some t

theorem inv_update {c c1 : Cfg} {tid : Nat} {t t' : Thread} {pre post pre' post' : List NodeId}
    (x : Ctx c tid t pre post) (hmode : c1.mode = .fresh) (hth : c1.threads = c.threads) (hheap : HeapOk c1 pre' post')
    (m : Mono c c1 (pre ++ c.head :: post) (pre ++ [c.head]) (pre' ++ c1.head :: post') (pre' ++ [c1.head])
      ((ownedBy t).map (·.1)))
    (hnew : ThreadOk c1 (pre' ++ c1.head :: post') (pre' ++ [c1.head]) t')
    (hown : ∀ n v, ownedBy t' = some (n, v) → ownedBy t = some (n, v) ∨ c.nodes.length ≤ n) :
    Inv (upd c1 tid t') := by
  show Inv { c1 with threads := c1.threads.set tid t' }
  have sh : Grows c1 (upd c1 tid t') := .of_nodes rfl rfl
  have hinj := (distinct_iff _).mp x.dist
  refine ⟨hmode, pre', post', sh.heapOk hheap hheap.tailIn hheap.lin, hth ▸ Pool.forall_set (threadOk_nodes (c := c1) rfl hnew) fun j tj hjt hj => ?_,
    (distinct_iff _).mpr ?_⟩
  · -- the node the stepping thread owned is not one of `tj`'s
    exact threadOk_nodes (c := c1) rfl (threadOk_mono m (x.all j tj hj) fun n v ho =>
      hinj j tid tj t n hjt hj x.ht (congrArg (Option.map (·.1)) ho))
  · -- a node the stepping thread owns now is its old one or a fresh one, which nobody owns
    refine hth ▸ hinj.set x.ht fun n en => ?_
    obtain ⟨⟨n', v⟩, ho, rfl⟩ := Option.map_eq_some_iff.mp en
    refine (hown n' v ho).imp (fun h => congrArg (Option.map (·.1)) h) fun h j tj _ hj ej => ?_
    obtain ⟨⟨nj, vj⟩, hoj, e⟩ := Option.map_eq_some_iff.mp ej
    have e : nj = n' := e
    exact absurd ((x.all j tj hj).own nj vj hoj).1 (Nat.not_lt.mpr (e ▸ h))

theorem Grows.mono {c c1 : Cfg} (g : Grows c c1) (pre post : List NodeId) (special) :
    Mono c c1 (pre ++ c.head :: post) (pre ++ [c.head]) (pre ++ c1.head :: post) (pre ++ [c1.head]) special :=
  g.head ▸ ⟨fun _ h => h, fun _ h => h, fun i x h => (g.next i (nextOf_some_lt c i x h)).symm ▸ h, g.len,
    fun n hn hlt _ => ⟨hn, g.next n hlt, g.val n hlt⟩⟩

end GoaktVerif.C20
