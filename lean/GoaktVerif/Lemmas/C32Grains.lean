/-
C32 — Chunkify, allocateGrains and the grain round-robin.
-/
import GoaktVerif.Lemmas.C32

namespace GoaktVerif.C32
open GoaktVerif.Model.C32

theorem chunkifyAux_nil {α : Type} (fuel size : Nat) : chunkifyAux fuel ([] : List α) size = [] := by
  cases fuel <;> rfl

/-- a slice shorter than `size`: the adjusted size takes all of it, as `take size` does -/
theorem chunkifyAux_succ {α : Type} (fuel : Nat) (l : List α) (size : Nat) (hl : 0 < l.length) :
    chunkifyAux (fuel + 1) l size = l.take size :: chunkifyAux fuel (l.drop size) size := by
  rw [chunkifyAux, if_neg (by rw [List.isEmpty_iff]; exact List.ne_nil_of_length_pos hl)]
  split
  · rename_i h
    show List.take l.length l :: chunkifyAux fuel (List.drop l.length l) _ = _
    rw [List.take_length, List.drop_length, List.take_of_length_le (Nat.le_of_lt h),
      List.drop_of_length_le (Nat.le_of_lt h), chunkifyAux_nil, chunkifyAux_nil]
  · rfl

/-- `cs` cuts `l` into pieces of `size` from the front, the last one possibly shorter: what `Chunkify` computes for a
    positive size, without the fuel -/
inductive Chunks {α : Type} (size : Nat) : List α → List (List α) → Prop
  | nil : Chunks size [] []
  | cons {l cs} : 0 < l.length → Chunks size (l.drop size) cs → Chunks size l (l.take size :: cs)

theorem chunkifyAux_chunks {α : Type} (fuel : Nat) (l : List α) (size : Nat) (hs : 0 < size) (hf : l.length ≤ fuel) :
    Chunks size l (chunkifyAux fuel l size) := by
  induction fuel generalizing l with
  | zero => rw [List.eq_nil_of_length_eq_zero (Nat.le_zero.mp hf)]; exact .nil
  | succ fuel ih =>
    cases l with
    | nil => exact .nil
    | cons x xs =>
      rw [chunkifyAux_succ _ (x :: xs) _ (Nat.succ_pos _)]
      -- a positive size shortens the slice, so the remaining fuel suffices
      exact .cons (Nat.succ_pos _)
        (ih _ (List.length_drop ▸ Nat.sub_le_of_le_add (Nat.le_trans hf (Nat.add_le_add_left hs fuel))))

theorem chunkify_chunks {α : Type} (l : List α) (size : Nat) (hs : 0 < size) : Chunks size l (chunkify l size) :=
  chunkifyAux_chunks _ l size hs (Nat.le_refl _)

theorem Chunks.flatten {α : Type} {size : Nat} {l : List α} {cs : List (List α)} (h : Chunks size l cs) :
    cs.flatten = l := by
  induction h with
  | nil => rfl
  | cons _ _ ih => rw [List.flatten_cons, ih, List.take_append_drop]

theorem Chunks.bounds {α : Type} {size : Nat} {l : List α} {cs : List (List α)} (h : Chunks size l cs) (hs : 0 < size) :
    ∀ c ∈ cs, 0 < c.length ∧ c.length ≤ size := by
  induction h with
  | nil => exact fun c hc => nomatch hc
  | cons hl _ ih =>
    intro c hc
    rcases List.mem_cons.1 hc with rfl | hc
    · rw [List.length_take]
      exact ⟨Nat.lt_min.mpr ⟨hs, hl⟩, Nat.min_le_left ..⟩
    · exact ih c hc

theorem Chunks.exact {α : Type} {q : Nat} {l : List α} {cs : List (List α)} (h : Chunks q l cs) (hq : 0 < q) (t : Nat)
    (hl : l.length = t * q) : cs.length = t ∧ ∀ c ∈ cs, c.length = q := by
  induction h generalizing t with
  | nil =>
    rcases Nat.mul_eq_zero.mp hl.symm with rfl | rfl
    · exact ⟨rfl, fun c hc => nomatch hc⟩
    · exact absurd hq (Nat.lt_irrefl 0)
  | @cons l cs hpos _ ih =>
    cases t with
    | zero => rw [hl, Nat.zero_mul] at hpos; exact absurd hpos (Nat.lt_irrefl 0)
    | succ t =>
      rw [Nat.succ_mul] at hl
      obtain ⟨h1, h2⟩ := ih t (by rw [List.length_drop, hl, Nat.add_sub_cancel])
      refine ⟨by rw [List.length_cons, h1], fun c hc => ?_⟩
      rcases List.mem_cons.1 hc with rfl | hc
      · rw [List.length_take, hl]; exact Nat.min_eq_left (Nat.le_add_left q _)
      · exact h2 c hc

theorem chunkify_flatten {α : Type} (l : List α) (size : Nat) (hs : 0 < size) :
    (chunkify l size).flatten = l := (chunkify_chunks l size hs).flatten

theorem chunkify_bounds {α : Type} (l : List α) (size : Nat) (hs : 0 < size) :
    ∀ c ∈ chunkify l size, 0 < c.length ∧ c.length ≤ size := (chunkify_chunks l size hs).bounds hs

theorem chunkify_nil {α : Type} (size : Nat) : chunkify ([] : List α) size = [] := rfl

theorem allocateGrains_spec (t : Nat) (grains : List Grain) (ht : 0 < t) :
    (allocateGrains t grains).1 ++ ((allocateGrains t grains).2.drop 1).flatten = grains
    ∧ (allocateGrains t grains).2.length ≤ t
    ∧ (∀ c ∈ (allocateGrains t grains).2, c.length = grains.length / t)
    ∧ ((allocateGrains t grains).2.length = t ∨ (allocateGrains t grains).2 = []) := by
  simp only [allocateGrains]
  by_cases hq : grains.length / t = 0
  · -- fewer grains than targets: everything is "remainder" and stays on the leader
    have hlt : grains.length < t := (Nat.div_eq_zero_iff.1 hq).resolve_left (Nat.ne_of_gt ht)
    have hr : grains.length % t = grains.length := Nat.mod_eq_of_lt hlt
    have hd : grains.drop (grains.length % t) = [] := by rw [hr]; simp
    rw [hd, hq, hr, chunkify_nil]
    simp
  · have hq' : 0 < grains.length / t := Nat.pos_of_ne_zero hq
    have hdl : (grains.drop (grains.length % t)).length = t * (grains.length / t) := by
      rw [List.length_drop]
      exact Nat.sub_eq_of_eq_add (Nat.div_add_mod ..).symm
    obtain ⟨h1, h2⟩ := (chunkify_chunks (grains.drop (grains.length % t)) _ hq').exact hq' t hdl
    refine ⟨?_, ?_, ?_, ?_⟩
    · rw [List.append_assoc, headD_append_flatten_tail, chunkify_flatten _ _ hq']
      exact List.take_append_drop _ _
    · exact Nat.le_of_eq h1
    · exact h2
    · left; exact h1

/-! ### grain round-robin of relocateShare -/

theorem rrLoop_length (k : Nat) (gs : List Grain) (i : Nat) (sh : List (List Grain)) :
    (rrLoop k gs i sh).length = sh.length := by
  induction gs generalizing i sh with
  | nil => rfl
  | cons g gs ih => simp [rrLoop, ih, appendAt_length]

theorem rrLoop_perm (k : Nat) (hk : 0 < k) (gs : List Grain) (i : Nat) (sh : List (List Grain))
    (hl : sh.length = k) : (rrLoop k gs i sh).flatten.Perm (sh.flatten ++ gs) := by
  induction gs generalizing i sh with
  | nil => simp [rrLoop]
  | cons g gs ih =>
    simp only [rrLoop]
    have hlt : i % k < sh.length := by rw [hl]; exact Nat.mod_lt _ hk
    have h1 := ih (i + 1) (appendAt sh (i % k) g) (by rw [appendAt_length]; exact hl)
    have h2 := appendAt_flatten_perm sh (i % k) g hlt
    refine h1.trans ?_
    rw [List.append_cons]
    exact List.Perm.append_right gs h2

theorem rrLoop_mono (k : Nat) (gs : List Grain) (i : Nat) (sh : List (List Grain)) (b : Grain) (j : Nat)
    (h : b ∈ sh.getD j []) : b ∈ (rrLoop k gs i sh).getD j [] := by
  induction gs generalizing i sh with
  | nil => exact h
  | cons g gs ih => exact ih _ _ (mem_appendAt_getD h)

/-- the `j`-th grain (counting from the cursor `i`) lands on survivor `(i + j) % k` -/
theorem rrLoop_mem (k : Nat) (hk : 0 < k) (gs : List Grain) (i : Nat) (sh : List (List Grain))
    (hl : sh.length = k) (j : Nat) (hj : j < gs.length) :
    gs[j] ∈ (rrLoop k gs i sh).getD ((i + j) % k) [] := by
  induction gs generalizing i sh j with
  | nil => simp at hj
  | cons g gs ih =>
    simp only [rrLoop]
    cases j with
    | zero =>
      simp only [Nat.add_zero, List.getElem_cons_zero]
      have hlt : i % k < sh.length := by rw [hl]; exact Nat.mod_lt _ hk
      have hin : g ∈ (appendAt sh (i % k) g).getD (i % k) [] := by
        rw [appendAt_getD]; simp [hlt]
      exact rrLoop_mono k gs (i + 1) _ g _ hin
    | succ j =>
      have := ih (i + 1) (appendAt sh (i % k) g) (by rw [appendAt_length]; exact hl) j (by simpa using hj)
      simp only [List.getElem_cons_succ]
      rwa [Nat.add_right_comm, Nat.add_assoc] at this

end GoaktVerif.C32
