/-
Measures of the actor dispatch machine (Model/C01.lean) on program counters, and `exec_kind`: every step is one
kind of `DStep` (Lemmas/C01/Dispatch.lean) and one kind of step of the message flow, `MStep`.
-/
import GoaktVerif.Model.C01
import GoaktVerif.Lemmas.C01.Dispatch

namespace GoaktVerif.Lemmas.C01
open GoaktVerif.Model.C01 GoaktVerif.Lemmas.Dispatch

/-- threads that hold the (unique) "scheduled" token: they made, or popped, the ready-queue entry -/
def tok : Option PC → Nat
  | some .sPush | some .wTfp | some (.wRetake _) | some .wResched => 1
  | _ => 0

/-- threads that own the turn (between a successful TakeForProcessing and the releasing store) -/
def own : Option PC → Nat
  | some (.wSys1 _) | some (.wSys2 _) | some (.wDeq1 _) | some (.wDeq2 _) | some (.wDeq3 _ _)
  | some (.wDeq4 _ _) | some (.wRecv _ _) | some (.wReset _) | some .wYield => 1
  | _ => 0

def inRecvPc : Option PC → Nat
  | some (.wRecv _ _) => 1
  | _ => 0

/-- the restart thread before it turns into the sender of its PostStart message -/
def restartPc : Option PC → Nat
  | some .rLoad | some .rWait | some .rCount => 1
  | _ => 0

theorem inRecv_eq (t : Thread) : inRecv t = inRecvPc t.pc := rfl

theorem inRecvPc_le_own (p : Option PC) : inRecvPc p ≤ own p := by
  cases p with
  | none => exact Nat.le_refl _
  | some p =>
    cases p with
    | wRecv => exact Nat.le_refl _
    | _ => exact Nat.zero_le _

theorem inRecv_le_own (t : Thread) : inRecv t ≤ own t.pc := inRecvPc_le_own t.pc

theorem tok_none : tok none = 0 := rfl
theorem tok_sE0 (m : Nat) : tok (some (.sE0 m)) = 0 := rfl
theorem tok_sE1 (m : Nat) : tok (some (.sE1 m)) = 0 := rfl
theorem tok_sE2 (m : Nat) : tok (some (.sE2 m)) = 0 := rfl
theorem tok_sT1 : tok (some .sT1) = 0 := rfl
theorem tok_sT2 : tok (some .sT2) = 0 := rfl
theorem tok_sPush : tok (some .sPush) = 1 := rfl
theorem tok_wTake : tok (some .wTake) = 0 := rfl
theorem tok_wTfp : tok (some .wTfp) = 1 := rfl
theorem tok_wSys1 (b : Nat) : tok (some (.wSys1 b)) = 0 := rfl
theorem tok_wSys2 (b : Nat) : tok (some (.wSys2 b)) = 0 := rfl
theorem tok_wDeq1 (b : Nat) : tok (some (.wDeq1 b)) = 0 := rfl
theorem tok_wDeq2 (b : Nat) : tok (some (.wDeq2 b)) = 0 := rfl
theorem tok_wDeq3 (b m : Nat) : tok (some (.wDeq3 b m)) = 0 := rfl
theorem tok_wDeq4 (b m : Nat) : tok (some (.wDeq4 b m)) = 0 := rfl
theorem tok_wRecv (b m : Nat) : tok (some (.wRecv b m)) = 0 := rfl
theorem tok_wReset (b : Nat) : tok (some (.wReset b)) = 0 := rfl
theorem tok_wEmp1 (b : Nat) : tok (some (.wEmp1 b)) = 0 := rfl
theorem tok_wEmp2 (b : Nat) : tok (some (.wEmp2 b)) = 0 := rfl
theorem tok_wSEmp1 (b : Nat) : tok (some (.wSEmp1 b)) = 0 := rfl
theorem tok_wSEmp2 (b : Nat) : tok (some (.wSEmp2 b)) = 0 := rfl
theorem tok_wTs1 (b : Nat) : tok (some (.wTs1 b)) = 0 := rfl
theorem tok_wTs2 (b : Nat) : tok (some (.wTs2 b)) = 0 := rfl
theorem tok_wRetake (b : Nat) : tok (some (.wRetake b)) = 1 := rfl
theorem tok_wYield : tok (some .wYield) = 0 := rfl
theorem tok_wResched : tok (some .wResched) = 1 := rfl
theorem tok_rWait : tok (some .rWait) = 0 := rfl
theorem tok_rCount : tok (some .rCount) = 0 := rfl
theorem tok_rLoad : tok (some .rLoad) = 0 := rfl
theorem own_none : own none = 0 := rfl
theorem own_sE0 (m : Nat) : own (some (.sE0 m)) = 0 := rfl
theorem own_sE1 (m : Nat) : own (some (.sE1 m)) = 0 := rfl
theorem own_sE2 (m : Nat) : own (some (.sE2 m)) = 0 := rfl
theorem own_sT1 : own (some .sT1) = 0 := rfl
theorem own_sT2 : own (some .sT2) = 0 := rfl
theorem own_sPush : own (some .sPush) = 0 := rfl
theorem own_wTake : own (some .wTake) = 0 := rfl
theorem own_wTfp : own (some .wTfp) = 0 := rfl
theorem own_wSys1 (b : Nat) : own (some (.wSys1 b)) = 1 := rfl
theorem own_wSys2 (b : Nat) : own (some (.wSys2 b)) = 1 := rfl
theorem own_wDeq1 (b : Nat) : own (some (.wDeq1 b)) = 1 := rfl
theorem own_wDeq2 (b : Nat) : own (some (.wDeq2 b)) = 1 := rfl
theorem own_wDeq3 (b m : Nat) : own (some (.wDeq3 b m)) = 1 := rfl
theorem own_wDeq4 (b m : Nat) : own (some (.wDeq4 b m)) = 1 := rfl
theorem own_wRecv (b m : Nat) : own (some (.wRecv b m)) = 1 := rfl
theorem own_wReset (b : Nat) : own (some (.wReset b)) = 1 := rfl
theorem own_wEmp1 (b : Nat) : own (some (.wEmp1 b)) = 0 := rfl
theorem own_wEmp2 (b : Nat) : own (some (.wEmp2 b)) = 0 := rfl
theorem own_wSEmp1 (b : Nat) : own (some (.wSEmp1 b)) = 0 := rfl
theorem own_wSEmp2 (b : Nat) : own (some (.wSEmp2 b)) = 0 := rfl
theorem own_wTs1 (b : Nat) : own (some (.wTs1 b)) = 0 := rfl
theorem own_wTs2 (b : Nat) : own (some (.wTs2 b)) = 0 := rfl
theorem own_wRetake (b : Nat) : own (some (.wRetake b)) = 0 := rfl
theorem own_wYield : own (some .wYield) = 1 := rfl
theorem own_wResched : own (some .wResched) = 0 := rfl
theorem own_rWait : own (some .rWait) = 0 := rfl
theorem own_rCount : own (some .rCount) = 0 := rfl
theorem own_rLoad : own (some .rLoad) = 0 := rfl
theorem inRecvPc_none : inRecvPc none = 0 := rfl
theorem inRecvPc_sE0 (m : Nat) : inRecvPc (some (.sE0 m)) = 0 := rfl
theorem inRecvPc_sE1 (m : Nat) : inRecvPc (some (.sE1 m)) = 0 := rfl
theorem inRecvPc_sE2 (m : Nat) : inRecvPc (some (.sE2 m)) = 0 := rfl
theorem inRecvPc_sT1 : inRecvPc (some .sT1) = 0 := rfl
theorem inRecvPc_sT2 : inRecvPc (some .sT2) = 0 := rfl
theorem inRecvPc_sPush : inRecvPc (some .sPush) = 0 := rfl
theorem inRecvPc_wTake : inRecvPc (some .wTake) = 0 := rfl
theorem inRecvPc_wTfp : inRecvPc (some .wTfp) = 0 := rfl
theorem inRecvPc_wSys1 (b : Nat) : inRecvPc (some (.wSys1 b)) = 0 := rfl
theorem inRecvPc_wSys2 (b : Nat) : inRecvPc (some (.wSys2 b)) = 0 := rfl
theorem inRecvPc_wDeq1 (b : Nat) : inRecvPc (some (.wDeq1 b)) = 0 := rfl
theorem inRecvPc_wDeq2 (b : Nat) : inRecvPc (some (.wDeq2 b)) = 0 := rfl
theorem inRecvPc_wDeq3 (b m : Nat) : inRecvPc (some (.wDeq3 b m)) = 0 := rfl
theorem inRecvPc_wDeq4 (b m : Nat) : inRecvPc (some (.wDeq4 b m)) = 0 := rfl
theorem inRecvPc_wRecv (b m : Nat) : inRecvPc (some (.wRecv b m)) = 1 := rfl
theorem inRecvPc_wReset (b : Nat) : inRecvPc (some (.wReset b)) = 0 := rfl
theorem inRecvPc_wEmp1 (b : Nat) : inRecvPc (some (.wEmp1 b)) = 0 := rfl
theorem inRecvPc_wEmp2 (b : Nat) : inRecvPc (some (.wEmp2 b)) = 0 := rfl
theorem inRecvPc_wSEmp1 (b : Nat) : inRecvPc (some (.wSEmp1 b)) = 0 := rfl
theorem inRecvPc_wSEmp2 (b : Nat) : inRecvPc (some (.wSEmp2 b)) = 0 := rfl
theorem inRecvPc_wTs1 (b : Nat) : inRecvPc (some (.wTs1 b)) = 0 := rfl
theorem inRecvPc_wTs2 (b : Nat) : inRecvPc (some (.wTs2 b)) = 0 := rfl
theorem inRecvPc_wRetake (b : Nat) : inRecvPc (some (.wRetake b)) = 0 := rfl
theorem inRecvPc_wYield : inRecvPc (some .wYield) = 0 := rfl
theorem inRecvPc_wResched : inRecvPc (some .wResched) = 0 := rfl
theorem inRecvPc_rWait : inRecvPc (some .rWait) = 0 := rfl
theorem inRecvPc_rCount : inRecvPc (some .rCount) = 0 := rfl
theorem inRecvPc_rLoad : inRecvPc (some .rLoad) = 0 := rfl

end GoaktVerif.Lemmas.C01

-- `heldPc`, `inflightPc`, `reclaimPc`, `e2Pc`, the measures of C02, are defined in this file because `exec_kind` speaks of
-- them, and in the namespace of Props/C02.lean, whose statements name them

namespace GoaktVerif.C02
open GoaktVerif.Model.C01

/-- message a worker has dequeued and not yet finished handling -/
def heldPc : Option PC → List Nat
  | some (.wDeq3 _ m) | some (.wDeq4 _ m) | some (.wRecv _ m) => [m]
  | _ => []

/-- senders between their reservation and the outcome of their TrySchedule -/
def inflightPc : Option PC → Nat
  | some (.sE2 _) | some .sT1 | some .sT2 => 1
  | _ => 0

/-- workers inside finishOrReclaim, after the reset and before they leave or re-take the turn -/
def reclaimPc : Option PC → Nat
  | some (.wEmp1 _) | some (.wEmp2 _) | some (.wTs1 _) | some (.wTs2 _) => 1
  | _ => 0

/-- the message a sender has reserved but not yet published -/
def e2Pc : Option PC → List Nat
  | some (.sE2 m) => [m]
  | _ => []

theorem heldPc_sE0 (m : Nat) : heldPc (some (.sE0 m)) = [] := rfl
theorem heldPc_sE1 (m : Nat) : heldPc (some (.sE1 m)) = [] := rfl
theorem heldPc_sE2 (m : Nat) : heldPc (some (.sE2 m)) = [] := rfl
theorem heldPc_sT1 : heldPc (some .sT1) = [] := rfl
theorem heldPc_sT2 : heldPc (some .sT2) = [] := rfl
theorem heldPc_sPush : heldPc (some .sPush) = [] := rfl
theorem heldPc_wTake : heldPc (some .wTake) = [] := rfl
theorem heldPc_wTfp : heldPc (some .wTfp) = [] := rfl
theorem heldPc_wSys1 (b : Nat) : heldPc (some (.wSys1 b)) = [] := rfl
theorem heldPc_wSys2 (b : Nat) : heldPc (some (.wSys2 b)) = [] := rfl
theorem heldPc_wDeq1 (b : Nat) : heldPc (some (.wDeq1 b)) = [] := rfl
theorem heldPc_wDeq2 (b : Nat) : heldPc (some (.wDeq2 b)) = [] := rfl
theorem heldPc_wDeq3 (b m : Nat) : heldPc (some (.wDeq3 b m)) = [m] := rfl
theorem heldPc_wDeq4 (b m : Nat) : heldPc (some (.wDeq4 b m)) = [m] := rfl
theorem heldPc_wRecv (b m : Nat) : heldPc (some (.wRecv b m)) = [m] := rfl
theorem heldPc_wReset (b : Nat) : heldPc (some (.wReset b)) = [] := rfl
theorem heldPc_wEmp1 (b : Nat) : heldPc (some (.wEmp1 b)) = [] := rfl
theorem heldPc_wEmp2 (b : Nat) : heldPc (some (.wEmp2 b)) = [] := rfl
theorem heldPc_wSEmp1 (b : Nat) : heldPc (some (.wSEmp1 b)) = [] := rfl
theorem heldPc_wSEmp2 (b : Nat) : heldPc (some (.wSEmp2 b)) = [] := rfl
theorem heldPc_wTs1 (b : Nat) : heldPc (some (.wTs1 b)) = [] := rfl
theorem heldPc_wTs2 (b : Nat) : heldPc (some (.wTs2 b)) = [] := rfl
theorem heldPc_wRetake (b : Nat) : heldPc (some (.wRetake b)) = [] := rfl
theorem heldPc_wYield : heldPc (some .wYield) = [] := rfl
theorem heldPc_wResched : heldPc (some .wResched) = [] := rfl
theorem heldPc_rWait : heldPc (some .rWait) = [] := rfl
theorem heldPc_rCount : heldPc (some .rCount) = [] := rfl
theorem heldPc_rLoad : heldPc (some .rLoad) = [] := rfl

theorem inflightPc_sE0 (m : Nat) : inflightPc (some (.sE0 m)) = 0 := rfl
theorem inflightPc_sE1 (m : Nat) : inflightPc (some (.sE1 m)) = 0 := rfl
theorem inflightPc_sE2 (m : Nat) : inflightPc (some (.sE2 m)) = 1 := rfl
theorem inflightPc_sT1 : inflightPc (some .sT1) = 1 := rfl
theorem inflightPc_sT2 : inflightPc (some .sT2) = 1 := rfl
theorem inflightPc_sPush : inflightPc (some .sPush) = 0 := rfl
theorem inflightPc_wTake : inflightPc (some .wTake) = 0 := rfl
theorem inflightPc_wTfp : inflightPc (some .wTfp) = 0 := rfl
theorem inflightPc_wSys1 (b : Nat) : inflightPc (some (.wSys1 b)) = 0 := rfl
theorem inflightPc_wSys2 (b : Nat) : inflightPc (some (.wSys2 b)) = 0 := rfl
theorem inflightPc_wDeq1 (b : Nat) : inflightPc (some (.wDeq1 b)) = 0 := rfl
theorem inflightPc_wDeq2 (b : Nat) : inflightPc (some (.wDeq2 b)) = 0 := rfl
theorem inflightPc_wDeq3 (b m : Nat) : inflightPc (some (.wDeq3 b m)) = 0 := rfl
theorem inflightPc_wDeq4 (b m : Nat) : inflightPc (some (.wDeq4 b m)) = 0 := rfl
theorem inflightPc_wRecv (b m : Nat) : inflightPc (some (.wRecv b m)) = 0 := rfl
theorem inflightPc_wReset (b : Nat) : inflightPc (some (.wReset b)) = 0 := rfl
theorem inflightPc_wEmp1 (b : Nat) : inflightPc (some (.wEmp1 b)) = 0 := rfl
theorem inflightPc_wEmp2 (b : Nat) : inflightPc (some (.wEmp2 b)) = 0 := rfl
theorem inflightPc_wSEmp1 (b : Nat) : inflightPc (some (.wSEmp1 b)) = 0 := rfl
theorem inflightPc_wSEmp2 (b : Nat) : inflightPc (some (.wSEmp2 b)) = 0 := rfl
theorem inflightPc_wTs1 (b : Nat) : inflightPc (some (.wTs1 b)) = 0 := rfl
theorem inflightPc_wTs2 (b : Nat) : inflightPc (some (.wTs2 b)) = 0 := rfl
theorem inflightPc_wRetake (b : Nat) : inflightPc (some (.wRetake b)) = 0 := rfl
theorem inflightPc_wYield : inflightPc (some .wYield) = 0 := rfl
theorem inflightPc_wResched : inflightPc (some .wResched) = 0 := rfl
theorem inflightPc_rWait : inflightPc (some .rWait) = 0 := rfl
theorem inflightPc_rCount : inflightPc (some .rCount) = 0 := rfl
theorem inflightPc_rLoad : inflightPc (some .rLoad) = 0 := rfl
theorem reclaimPc_sE0 (m : Nat) : reclaimPc (some (.sE0 m)) = 0 := rfl
theorem reclaimPc_sE1 (m : Nat) : reclaimPc (some (.sE1 m)) = 0 := rfl
theorem reclaimPc_sE2 (m : Nat) : reclaimPc (some (.sE2 m)) = 0 := rfl
theorem reclaimPc_sT1 : reclaimPc (some .sT1) = 0 := rfl
theorem reclaimPc_sT2 : reclaimPc (some .sT2) = 0 := rfl
theorem reclaimPc_sPush : reclaimPc (some .sPush) = 0 := rfl
theorem reclaimPc_wTake : reclaimPc (some .wTake) = 0 := rfl
theorem reclaimPc_wTfp : reclaimPc (some .wTfp) = 0 := rfl
theorem reclaimPc_wSys1 (b : Nat) : reclaimPc (some (.wSys1 b)) = 0 := rfl
theorem reclaimPc_wSys2 (b : Nat) : reclaimPc (some (.wSys2 b)) = 0 := rfl
theorem reclaimPc_wDeq1 (b : Nat) : reclaimPc (some (.wDeq1 b)) = 0 := rfl
theorem reclaimPc_wDeq2 (b : Nat) : reclaimPc (some (.wDeq2 b)) = 0 := rfl
theorem reclaimPc_wDeq3 (b m : Nat) : reclaimPc (some (.wDeq3 b m)) = 0 := rfl
theorem reclaimPc_wDeq4 (b m : Nat) : reclaimPc (some (.wDeq4 b m)) = 0 := rfl
theorem reclaimPc_wRecv (b m : Nat) : reclaimPc (some (.wRecv b m)) = 0 := rfl
theorem reclaimPc_wReset (b : Nat) : reclaimPc (some (.wReset b)) = 0 := rfl
theorem reclaimPc_wEmp1 (b : Nat) : reclaimPc (some (.wEmp1 b)) = 1 := rfl
theorem reclaimPc_wEmp2 (b : Nat) : reclaimPc (some (.wEmp2 b)) = 1 := rfl
theorem reclaimPc_wSEmp1 (b : Nat) : reclaimPc (some (.wSEmp1 b)) = 0 := rfl
theorem reclaimPc_wSEmp2 (b : Nat) : reclaimPc (some (.wSEmp2 b)) = 0 := rfl
theorem reclaimPc_wTs1 (b : Nat) : reclaimPc (some (.wTs1 b)) = 1 := rfl
theorem reclaimPc_wTs2 (b : Nat) : reclaimPc (some (.wTs2 b)) = 1 := rfl
theorem reclaimPc_wRetake (b : Nat) : reclaimPc (some (.wRetake b)) = 0 := rfl
theorem reclaimPc_wYield : reclaimPc (some .wYield) = 0 := rfl
theorem reclaimPc_wResched : reclaimPc (some .wResched) = 0 := rfl
theorem reclaimPc_rWait : reclaimPc (some .rWait) = 0 := rfl
theorem reclaimPc_rCount : reclaimPc (some .rCount) = 0 := rfl
theorem reclaimPc_rLoad : reclaimPc (some .rLoad) = 0 := rfl
theorem e2Pc_sE0 (m : Nat) : e2Pc (some (.sE0 m)) = [] := rfl
theorem e2Pc_sE1 (m : Nat) : e2Pc (some (.sE1 m)) = [] := rfl
theorem e2Pc_sE2 (m : Nat) : e2Pc (some (.sE2 m)) = [m] := rfl
theorem e2Pc_sT1 : e2Pc (some .sT1) = [] := rfl
theorem e2Pc_sT2 : e2Pc (some .sT2) = [] := rfl
theorem e2Pc_sPush : e2Pc (some .sPush) = [] := rfl
theorem e2Pc_wTake : e2Pc (some .wTake) = [] := rfl
theorem e2Pc_wTfp : e2Pc (some .wTfp) = [] := rfl
theorem e2Pc_wSys1 (b : Nat) : e2Pc (some (.wSys1 b)) = [] := rfl
theorem e2Pc_wSys2 (b : Nat) : e2Pc (some (.wSys2 b)) = [] := rfl
theorem e2Pc_wDeq1 (b : Nat) : e2Pc (some (.wDeq1 b)) = [] := rfl
theorem e2Pc_wDeq2 (b : Nat) : e2Pc (some (.wDeq2 b)) = [] := rfl
theorem e2Pc_wDeq3 (b m : Nat) : e2Pc (some (.wDeq3 b m)) = [] := rfl
theorem e2Pc_wDeq4 (b m : Nat) : e2Pc (some (.wDeq4 b m)) = [] := rfl
theorem e2Pc_wRecv (b m : Nat) : e2Pc (some (.wRecv b m)) = [] := rfl
theorem e2Pc_wReset (b : Nat) : e2Pc (some (.wReset b)) = [] := rfl
theorem e2Pc_wEmp1 (b : Nat) : e2Pc (some (.wEmp1 b)) = [] := rfl
theorem e2Pc_wEmp2 (b : Nat) : e2Pc (some (.wEmp2 b)) = [] := rfl
theorem e2Pc_wSEmp1 (b : Nat) : e2Pc (some (.wSEmp1 b)) = [] := rfl
theorem e2Pc_wSEmp2 (b : Nat) : e2Pc (some (.wSEmp2 b)) = [] := rfl
theorem e2Pc_wTs1 (b : Nat) : e2Pc (some (.wTs1 b)) = [] := rfl
theorem e2Pc_wTs2 (b : Nat) : e2Pc (some (.wTs2 b)) = [] := rfl
theorem e2Pc_wRetake (b : Nat) : e2Pc (some (.wRetake b)) = [] := rfl
theorem e2Pc_wYield : e2Pc (some .wYield) = [] := rfl
theorem e2Pc_wResched : e2Pc (some .wResched) = [] := rfl
theorem e2Pc_rWait : e2Pc (some .rWait) = [] := rfl
theorem e2Pc_rCount : e2Pc (some .rCount) = [] := rfl
theorem e2Pc_rLoad : e2Pc (some .rLoad) = [] := rfl

theorem e2_le_inflight (p : Option PC) : (e2Pc p).length ≤ inflightPc p := by
  cases p with
  | none => exact Nat.le_refl _
  | some p =>
    cases p with
    | sE2 => exact Nat.le_refl _
    | _ => exact Nat.zero_le _

end GoaktVerif.C02

namespace GoaktVerif.Lemmas.C01
open GoaktVerif.Model.C01 GoaktVerif.Lemmas.Dispatch GoaktVerif.C02

theorem three : Three Sched.idle Sched.scheduled Sched.processing :=
  ⟨by decide, by decide, by decide, fun x => by cases x <;> simp⟩

theorem sumBy_isSum : IsSum sumBy := ⟨fun _ => rfl, fun _ _ _ => rfl⟩

theorem sumBy_append (f : Thread → Nat) (a b : List Thread) : sumBy f (a ++ b) = sumBy f a + sumBy f b := by
  simp only [sumBy_isSum.eq_sum_map, List.map_append, List.sum_append_nat]

def Blind (P : Cfg → Prop) : Prop := ∀ s l l', l.Perm l' → P ⟨s, l⟩ → P ⟨s, l'⟩

/-- `sumBy inRecv R`: the handlers in progress among the OTHER threads, as `step` hands them to `exec` -/
def Kept (P : Cfg → Prop) : Prop := ∀ s t R pc, t.pc = some pc → P ⟨s, t :: R⟩ →
  P ⟨(exec s t (sumBy inRecv R) pc).1, (exec s t (sumBy inRecv R) pc).2 :: R⟩

theorem step_ind {P : Cfg → Prop} (hperm : Blind P) (hexec : Kept P) (c : Cfg) (tid : Nat) (h : P c) :
    P (step c tid).2 := by
  -- `fun_cases step c tid` yields one goal per leaf of `step` (in the order of Model/C01.lean): the matches passed on the way as
  -- hypotheses, the leaf's result in the goal.
  fun_cases step c tid
  -- no such thread; the thread has finished: nothing happens
  case case1 | case2 => exact h
  -- thread `tid` executes the instruction at its `pc`
  case case3 t ht pc hpc _ s' t' hx =>
    obtain ⟨hlt, rfl⟩ := List.getElem?_eq_some_iff.mp ht
    have := hexec _ _ _ pc hpc (hperm _ _ _ (perm_cons_eraseIdx _ _ hlt) h)
    rw [← sumBy_isSum.sub_getElem inRecv _ _ hlt, show exec _ _ _ pc = (s', t') from hx] at this
    exact hperm _ _ _ (set_perm_cons_eraseIdx _ _ _ hlt).symm this

/-- `nextOp` leaves a thread finished, at `sE0` or at `wTake` -/
theorem nextOp_zero {α} (f : Option PC → α) (z : α) (h0 : f none = z) (h1 : ∀ m, f (some (.sE0 m)) = z)
    (h2 : f (some .wTake) = z) (s : Shared) (p : List Op) (r : List String) : f (nextOp s p r).pc = z := by
  induction p generalizing r with
  | nil => exact h0
  | cons op rest ih =>
    cases op with
    | tell m => simp only [nextOp, startOp]; cases s.running <;> first | exact h1 m | exact ih _
    | work => exact h2
    | _ => exact ih _

theorem nextOp_inRecv (s : Shared) (p : List Op) (r : List String) : inRecvPc (nextOp s p r).pc = 0 :=
  nextOp_zero inRecvPc 0 rfl (fun _ => rfl) rfl s p r

theorem nextIter_inRecv (b : Nat) : inRecvPc (some (nextIter b)) = 0 := by
  unfold nextIter; split <;> rfl

theorem spawn_sh (s : Shared) (progs : List (List Op)) : (spawn s progs).1 = s := by
  induction progs with
  | nil => rfl
  | cons p ps ih => simp only [spawn]; split <;> exact ih

theorem init_eq (budget : Nat) (progs : List (List Op)) :
    init budget progs = ⟨initShared budget, (spawn (initShared budget) progs).2⟩ := by
  show (⟨(spawn _ progs).1, (spawn _ progs).2⟩ : Cfg) = _; rw [spawn_sh]

/-- `spawn` parks a restart thread at `rLoad` and every other thread where `nextOp` leaves it -/
theorem spawn_zero {α} (f : Option PC → α) (z : α) (h0 : f none = z) (h1 : ∀ m, f (some (.sE0 m)) = z)
    (h2 : f (some .wTake) = z) {s : Shared} {progs : List (List Op)}
    (h3 : (∃ p ∈ progs, p.head? = some .restart) → f (some .rLoad) = z) : ∀ t ∈ (spawn s progs).2, f t.pc = z := by
  induction progs with
  | nil => simp [spawn]
  | cons p ps ih =>
    have ih := ih fun ⟨q, hq, e⟩ => h3 ⟨q, List.mem_cons_of_mem _ hq, e⟩
    simp only [spawn]
    split <;> intro t ht <;> rcases List.mem_cons.mp ht with rfl | ht
    · exact h3 ⟨_, List.mem_cons_self, rfl⟩
    · exact ih t ht
    · exact nextOp_zero f z h0 h1 h2 ..
    · exact ih t ht

def dview (s : Shared) (p : Option PC) : DView Sched Unit :=
  ⟨s.sched, s.rq, s.maxIn, tok p, own p, inflightPc p, fun _ => reclaimPc p⟩

/-- Of the stepping thread: the message it holds (`held`), the message it has reserved and not yet published
    (`e2`), whether it is the restart thread (`rst`). -/
structure MView where
  cells : List Cell
  accepted : List Nat
  handled : List Nat
  dropped : List Nat
  running : Bool
  held : List Nat
  e2 : List Nat
  rst : Nat

def mview (s : Shared) (p : Option PC) : MView :=
  ⟨s.cells, s.accepted, s.handled, s.dropped, s.running, heldPc p, e2Pc p, restartPc p⟩

/-- `reserve`: Swap:tail; `publish`: Store:next; `deq`: Load:next on a published head cell; `drop`: a stopped
    actor discards what it dequeued; `handle`: the handler returns; `stop` / `start`: the restart thread's Shutdown / init; `settle`: the restart
    thread becomes the sender of PostStart. -/
inductive MStep : MView → MView → Prop
  | skip {v} : MStep v v
  | reserve {v} (m : Nat) : v.e2 = [] →
      MStep v { v with cells := v.cells ++ [⟨m, false⟩], accepted := v.accepted ++ [m], e2 := [m] }
  | publish {v} (m : Nat) : v.e2 = [m] → MStep v { v with cells := publish m v.cells, e2 := [] }
  | deq {v} (m : Nat) : headReady v.cells = some m → v.held = [] →
      MStep v { v with cells := v.cells.tail, held := [m] }
  | drop {v} (m : Nat) : v.running = false → v.held = [m] →
      MStep v { v with dropped := m :: v.dropped, held := [] }
  | handle {v} (m : Nat) : v.held = [m] → MStep v { v with handled := m :: v.handled, held := [] }
  | stop {v} : v.rst = 1 → MStep v { v with running := false }
  | start {v} : v.rst = 1 → MStep v { v with running := true }
  | settle {v} : MStep v { v with rst := 0 }

variable {E : Unit → Prop} {n : Nat} {v : DView Sched Unit} {w : MView} {s : Shared}

theorem kind_done {s' : Shared} {p : List Op} {r : List String}
    (hd : DStep .idle .scheduled .processing E n v ⟨s.sched, s.rq, s.maxIn, 0, 0, 0, fun _ => 0⟩)
    (hm : MStep w ⟨s.cells, s.accepted, s.handled, s.dropped, s.running, [], [], 0⟩) :
    DStep .idle .scheduled .processing E n v (dview s (nextOp s' p r).pc) ∧ MStep w (mview s (nextOp s' p r).pc) := by
  rw [nextOp_zero (dview s) _ rfl (fun _ => rfl) rfl, nextOp_zero (mview s) _ rfl (fun _ => rfl) rfl]
  exact ⟨hd, hm⟩

theorem kind_iter {b : Nat}
    (hd : DStep .idle .scheduled .processing E n v ⟨s.sched, s.rq, s.maxIn, 0, 1, 0, fun _ => 0⟩)
    (hm : MStep w ⟨s.cells, s.accepted, s.handled, s.dropped, s.running, [], [], 0⟩) :
    DStep .idle .scheduled .processing E n v (dview s (some (nextIter b))) ∧ MStep w (mview s (some (nextIter b))) := by
  unfold nextIter; split <;> exact ⟨hd, hm⟩

/-- `giveUp`: the worker saw an empty or unpublished head.  Every `exact` is checked by unfolding `exec` and the
    measures at the concrete program counters. -/
theorem exec_kind (s : Shared) (t : Thread) (o : Nat) (pc : PC) (hpc : t.pc = some pc) :
    DStep .idle .scheduled .processing (fun _ => (headReady s.cells).isNone = true) o
      (dview s t.pc) (dview (exec s t o pc).1 (exec s t o pc).2.pc)
    ∧ MStep (mview s t.pc) (mview (exec s t o pc).1 (exec s t o pc).2.pc) := by
  rw [hpc]
  cases pc <;> simp only [exec, finishOp]
  case sE1 m => exact ⟨.arrive, .reserve m rfl⟩
  case sE2 m => exact ⟨.skip, .publish m rfl⟩
  case sT1 | wTs1 => split; exact ⟨.skip, .skip⟩; exact kind_done (.leave ‹_›) .skip
  case sT2 | wTs2 => split; exact ⟨.claim ‹_›, .skip⟩; exact kind_done (.leave ‹_›) .skip
  case sPush | wResched => exact kind_done (.push rfl) .skip
  case wTake => split; exact ⟨.pop ‹_› rfl, .skip⟩; exact kind_done .skip .skip
  case wTfp => split; exact ⟨.take ‹_› rfl, .skip⟩; exact kind_done (.lose ‹_› rfl) .skip
  case wDeq2 => split; exact ⟨.skip, .deq _ ‹_› rfl⟩; exact ⟨.skip, .skip⟩
  case wDeq4 b m =>
    split; exact ⟨.enter rfl, .skip⟩; exact kind_iter .skip (.drop m (Bool.eq_false_iff.mpr ‹_›) rfl)
  case wRecv b m => exact kind_iter .skip (.handle m rfl)
  case wReset => exact ⟨.release rfl, .skip⟩
  case wEmp2 => split; exact ⟨.giveUp fun _ => .inr ⟨rfl, ‹_›⟩, .skip⟩; exact ⟨.skip, .skip⟩
  case wSEmp2 => exact kind_done .skip .skip
  case wRetake => split; exact kind_iter (.take ‹_› rfl) .skip; exact kind_done (.lose ‹_› rfl) .skip
  case wYield => exact ⟨.yield rfl, .skip⟩
  case rLoad => exact ⟨.skip, .stop rfl⟩
  case rWait => split; exact ⟨.skip, .start rfl⟩; simp only [hpc]; exact ⟨.skip, .skip⟩
  case rCount => exact ⟨.skip, .settle⟩
  all_goals exact ⟨.skip, .skip⟩

end GoaktVerif.Lemmas.C01
