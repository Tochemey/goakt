/-
C28 helper lemmas: the pool invariant (every idle connection is clean) and the per-call stream
invariant, preserved by every step of every call, hence by every schedule.
-/
import GoaktVerif.Model.C28
import GoaktVerif.Lemmas.Pool

namespace GoaktVerif.C28
open GoaktVerif.Model.C28

/-- balance 0 (nothing written that was not answered and read) and no deadline armed -/
def Clean (cn : Conn) : Prop := cn.srv = [] ∧ cn.resp = [] ∧ cn.deadline = false

def PoolInv (p : Pool) : Prop := ∀ cn ∈ p.idle, Clean cn

/-- stream invariant of a call: what it has read, followed by what is waiting to be read, followed by
    what the server has not handled yet, is a subsequence of the request frames it has written, in
    order (equality unless the server swallowed a request without answering) -/
def CallInv (c : Call) : Prop :=
  c.written ≤ c.reqs.length ∧
  c.got.length ≤ c.reqs.length ∧
  (∀ cn, c.conn = some cn → List.Sublist (c.got ++ cn.resp ++ cn.srv) (c.reqs.take c.written)) ∧
  (c.pc = .putting → c.got.length = c.reqs.length) ∧
  (c.pc = .start → c.written = 0 ∧ c.got = []) ∧
  (c.pc = .needDeadline → c.written = 0 ∧ c.got = []) ∧
  (∀ l, c.result = some (some l) → l = c.reqs)

theorem PoolInv.tail {p : Pool} {cn : Conn} {rest : List Conn} (h : PoolInv p) (hi : p.idle = cn :: rest) :
    ∀ x ∈ rest, Clean x :=
  fun x hx => h x (hi ▸ List.mem_cons_of_mem _ hx)

theorem popIdle_inv (p : Pool) (stale : Nat) (h : PoolInv p) :
    PoolInv (popIdle p stale).1 ∧ ∀ cn, (popIdle p stale).2 = some cn → Clean cn := by
  -- `fun_cases f args` (`fun_induction` for the recursive `popIdle`) yields one goal per leaf of the model's definition of
  -- `f`, with every branch condition and match equation as hypotheses; `case1`, `case2`, … follow the leaves in Model/C28.lean.
  fun_induction popIdle p stale
  -- the idle stack is empty (whether or not stale connections were still to be popped)
  case case1 | case3 => exact ⟨h, nofun⟩
  -- no stale connection left: the top of the stack is returned
  case case2 p cn rest hi => exact ⟨h.tail hi, fun x hx => by cases hx; exact h cn (hi ▸ List.mem_cons_self)⟩
  -- the top is stale: it is closed, and on with the rest
  case case4 p _ cn rest hi ih => exact ih (h.tail hi)

theorem CallInv.done {c : Call} (hc : CallInv c) (conn : Option Conn) (res : Result)
    (hconn : ∀ cn, conn = some cn → c.conn = some cn) (hres : ∀ l, res = some l → l = c.reqs) :
    CallInv { c with conn := conn, pc := .done, result := some res } :=
  -- clause by clause; the third is the stream clause, read for the connection the call keeps
  ⟨hc.1, hc.2.1, fun cn h => hc.2.2.1 cn (hconn cn h), nofun, nofun, nofun,
   fun l h => hres l (Option.some.inj h)⟩

theorem sublist_full {α : Type} {a t l : List α} (h : (a ++ t).Sublist l) (hl : a.length = l.length) :
    t = [] ∧ a = l := by
  have hle := h.length_le
  rw [List.length_append] at hle
  have ht : t = [] := List.eq_nil_of_length_eq_zero (by omega)
  subst ht
  rw [List.append_nil] at h
  exact ⟨rfl, h.eq_of_length hl⟩

theorem ite_pc_ne {b : Prop} [Decidable b] {x y z : Pc} {Q : Prop} (h : (if b then x else y) = z)
    (hx : x ≠ z) (hy : y ≠ z) : Q :=
  absurd h (iteInduction (motive := (· ≠ z)) (fun _ => hx) fun _ => hy)

def Keeps (c : Call) (r : Pool × Call) : Prop := PoolInv r.1 ∧ CallInv r.2 ∧ r.2.reqs = c.reqs

theorem discard_keeps {p : Pool} {c : Call} (hp : PoolInv p) (hc : CallInv c) : Keeps c (discardConn p c) := by
  fun_cases discardConn p c
  -- the call holds a connection: it is closed
  case case1 => exact ⟨hp, hc.done none none nofun nofun, rfl⟩
  -- it holds none
  case case2 => exact ⟨hp, hc.done c.conn none (fun _ h => h) nofun, rfl⟩

theorem afterGet_inv {c : Call} (cn : Conn) (hcn : Clean cn) (hc : CallInv c) (hs : c.pc = .start) :
    CallInv (afterGet c cn) := by
  obtain ⟨h1, h2, -, -, h5, -, h7⟩ := hc
  obtain ⟨c1, c2, -⟩ := hcn
  have h0 := h5 hs
  refine ⟨h1, h2, ?_, ?_, ?_, fun _ => h0, h7⟩
  · intro x hx
    cases hx
    show List.Sublist (c.got ++ cn.resp ++ cn.srv) _
    rw [h0.2, c1, c2]
    exact List.nil_sublist _
  all_goals exact fun h => ite_pc_ne h nofun nofun

theorem callStep_inv (cfg : Cfg) (p : Pool) (c : Call) (a : CallAct) (hp : PoolInv p) (hc : CallInv c) :
    Keeps c (callStep cfg p c a) := by
  have same : Keeps c (p, c) := ⟨hp, hc, rfl⟩
  have discard := discard_keeps hp hc
  obtain ⟨h1, h2, h3, h4, h5, h6, h7⟩ := id hc
  have failed : ∀ p', PoolInv p' → Keeps c (p', { c with pc := .done, result := some none }) :=
    fun p' hp' => ⟨hp', hc.done c.conn none (fun _ h => h) nofun, rfl⟩
  -- all responses read: `got`, of the length of `reqs`, is followed by `resp ++ srv` inside `reqs`
  have put (cn : Conn) (hcn : c.conn = some cn) (hs : ¬c.pc ≠ .putting) :
      (cn.srv = [] ∧ cn.resp = []) ∧ CallInv { c with conn := none, pc := .done, result := some (some c.got) } := by
    obtain ⟨hnil, hgot⟩ := sublist_full
      (List.append_assoc .. ▸ (h3 cn hcn).trans (List.take_sublist _ _)) (h4 (Decidable.not_not.mp hs))
    obtain ⟨hr0, hs0⟩ := List.append_eq_nil_iff.mp hnil
    exact ⟨⟨hs0, hr0⟩, hc.done none (some c.got) nofun fun l hl => by cases hl; exact hgot⟩
  fun_cases callStep cfg p c a
  -- not at the pc of the action (get, deadline, write, read, put); cancel not honoured; serve with nothing unserved or no
  -- connection; read blocked on an empty socket or with no connection; put with no connection
  case case1 | case6 | case9 | case18 | case24 | case14 | case15 | case17 | case21 | case23 | case29 => exact same
  -- deadline, write, read failed; cancel honoured: `Discard`
  case case8 | case10 | case20 | case13 => exact discard
  -- get on a closed client: ErrClientClosed
  case case2 => exact failed p hp
  -- get: a pooled connection
  case case3 stale _ hs _ p' cn hr =>
    have hpop := popIdle_inv p stale hp
    rw [hr] at hpop
    exact ⟨hpop.1, afterGet_inv cn (hpop.2 cn rfl) hc (Decidable.not_not.mp hs), rfl⟩
  -- get: the stack is exhausted and the dial succeeds
  case case4 stale hs _ p' hr =>
    have hpop := popIdle_inv p stale hp
    rw [hr] at hpop
    exact ⟨hpop.1, afterGet_inv _ ⟨rfl, rfl, rfl⟩ hc (Decidable.not_not.mp hs), rfl⟩
  -- get: the dial fails
  case case5 stale _ _ _ p' hr _ =>
    have hpop := popIdle_inv p stale hp
    rw [hr] at hpop
    exact failed p' hpop.1
  -- deadline armed
  case case7 =>
    refine ⟨hp, ⟨h1, h2, ?_, nofun, nofun, nofun, h7⟩, rfl⟩
    intro x hx
    obtain ⟨cn, hcn, rfl⟩ := Option.map_eq_some_iff.mp hx
    exact h3 cn hcn
  -- write: the next request frame goes to the end of `srv`
  case case11 r cn hcn hr _ =>
    obtain ⟨hlt, hr'⟩ := List.getElem?_eq_some_iff.mp hr
    refine ⟨hp, ⟨Nat.succ_le_of_lt hlt, h2, ?_, ?_, ?_, ?_, h7⟩, rfl⟩
    · intro x hx
      cases hx
      show List.Sublist (c.got ++ cn.resp ++ (cn.srv ++ [r])) (c.reqs.take (c.written + 1))
      rw [← List.take_append_getElem hlt, hr', ← List.append_assoc]
      exact (h3 cn hcn).append (.refl _)
    all_goals exact fun h => ite_pc_ne h nofun nofun
  -- write: empty batch, nothing to write
  case case12 => exact ⟨hp, ⟨h1, h2, h3, nofun, nofun, nofun, h7⟩, rfl⟩
  -- serve: the oldest unserved request is answered or swallowed
  case case16 reply cn hcn r rest hsrv =>
    refine ⟨hp, ⟨h1, h2, ?_, h4, h5, h6, h7⟩, rfl⟩
    intro x hx
    cases hx
    have h3' := h3 cn hcn
    rw [hsrv] at h3'
    cases reply
    · -- swallowed: `r` disappears from the middle
      exact (List.Sublist.append (.refl _) (List.sublist_cons_self r rest)).trans h3'
    · -- answered: `r` moves from the head of `srv` to the end of `resp`
      show List.Sublist (c.got ++ (cn.resp ++ [r]) ++ rest) (c.reqs.take c.written)
      rw [← List.append_assoc c.got, List.append_assoc _ [r] rest]
      exact h3'
  -- read: every response is in (also the empty batch)
  case case19 hge => exact ⟨hp, ⟨h1, h2, h3, fun _ => Nat.le_antisymm h2 hge, nofun, nofun, h7⟩, rfl⟩
  -- read: the next response frame goes from the head of `resp` to the end of `got`
  case case22 hlt _ cn hcn r rest hresp g =>
    have hlen : (c.got ++ [r]).length = c.got.length + 1 := List.length_append
    refine ⟨hp, ⟨h1, ?_, ?_, ?_, ?_, ?_, h7⟩, rfl⟩
    · show (c.got ++ [r]).length ≤ c.reqs.length
      omega
    · intro x hx
      cases hx
      have h3' := h3 cn hcn
      rw [hresp] at h3'
      show List.Sublist (c.got ++ [r] ++ rest ++ cn.srv) _
      rwa [List.append_assoc c.got [r]]
    · intro hpc
      dsimp only [g] at hpc
      split at hpc
      · cases hpc
      · show (c.got ++ [r]).length = c.reqs.length
        omega
    all_goals exact fun h => ite_pc_ne h nofun nofun
  -- put on a closed client, after a failed deadline reset, on a full pool: the connection is closed
  case case25 hs cn hcn _ _ | case26 hs cn hcn _ _ _ | case28 hs cn hcn _ _ _ _ => exact ⟨hp, (put cn hcn hs).2, rfl⟩
  -- put: the connection, clean, goes on top of the idle stack
  case case27 hs cn hcn _ _ _ _ =>
    obtain ⟨⟨hs0, hr0⟩, hfin⟩ := put cn hcn hs
    refine ⟨?_, hfin, rfl⟩
    intro x hx
    rcases List.mem_cons.mp hx with hx | hx
    · subst hx; exact ⟨hs0, hr0, rfl⟩
    · exact hp x hx

def Inv (s : St) : Prop :=
  PoolInv s.pool ∧ (∀ c ∈ s.calls, CallInv c) ∧ (∀ k c, s.calls[k]? = some c → ∃ n, c.reqs = mkReqs k n)

theorem inv_init : Inv {} := by
  refine ⟨?_, ?_, ?_⟩
  · intro x hx; cases hx
  · intro c hc; cases hc
  · intro k c hc; simp at hc

theorem inv_step (cfg : Cfg) (s : St) (a : Act) (h : Inv s) : Inv (step cfg s a) := by
  obtain ⟨hp, hcs, hid⟩ := h
  cases a with
  | newCall n hd =>
    refine ⟨hp, fun c hc => ?_, fun k c hc => ?_⟩
    · rcases List.mem_append.mp hc with hc | hc
      · exact hcs c hc
      · cases List.mem_singleton.mp hc
        exact ⟨Nat.zero_le _, Nat.zero_le _, nofun, nofun, fun _ => ⟨rfl, rfl⟩, fun _ => ⟨rfl, rfl⟩, nofun⟩
    · rcases getElem?_snoc hc with hc | ⟨rfl, rfl⟩
      · exact hid k c hc
      · exact ⟨n, rfl⟩
  | call k act =>
    simp only [step]
    split
    · exact ⟨hp, hcs, hid⟩
    · rename_i c hk
      obtain ⟨hp', hc', hreqs⟩ := callStep_inv cfg s.pool c act hp (hcs c (List.mem_of_getElem? hk))
      exact ⟨hp', fun x hx => (List.mem_or_eq_of_mem_set hx).elim (hcs x) (· ▸ hc'),
        Pool.forall_set (hreqs ▸ hid _ c hk) fun j x _ hx => hid j x hx⟩
  | closeClient => exact ⟨nofun, hcs, hid⟩

theorem inv_run (cfg : Cfg) (acts : List Act) (s : St) (h : Inv s) : Inv (run cfg s acts) :=
  List.foldlRecOn acts (step cfg) h fun s hs a _ => inv_step cfg s a hs

end GoaktVerif.C28
