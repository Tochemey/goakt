/-
C38 for LWWRegister: on cores (value, timestamp, nodeID) Merge is the selection `lwJoin` (the larger
stamp, the RECEIVER on a tie) — associative and idempotent always, commutative when equal stamps carry
equal values.  In every reachable world a stamp names one write (Set orders a same-node same-timestamp
write right after the stored one), hence Merge is a join on the registers in existence.
-/
import GoaktVerif.Lemmas.C38.Counters
import GoaktVerif.Model.Crdt.LWWRegister

namespace GoaktVerif.C39

/- the replicated content of a register, (value, timestamp, nodeID), and Merge on it -/
abbrev LwCore := Option Nat × Int × Nat

def lwWins (a b : LwCore) : Bool :=
  decide (b.2.1 > a.2.1) || (decide (b.2.1 = a.2.1) && decide (b.2.2 > a.2.2))

def lwJoin (a b : LwCore) : LwCore := if lwWins a b then b else a

end GoaktVerif.C39

namespace GoaktVerif.C38
open GoaktVerif.Model.Crdt GoaktVerif.Spec.C38 GoaktVerif.C39

def eqvLWW (a b : LWWRegister) : Prop :=
  a.value = b.value ∧ a.timestamp = b.timestamp ∧ a.nodeID = b.nodeID

/-- a write stamp determines the written value (within a family of registers) -/
def StampsAgree (x y : LWWRegister) : Prop := x.stamp = y.stamp → x.value = y.value

/-- strict lexicographic order on write stamps: what `lwWins`, `otherWins` and the guard of `Set` test (`leLWW` tests its
    non-strict companion `lexLe`) -/
def lexLt (s t : Int × Nat) : Prop := s.1 < t.1 ∨ (s.1 = t.1 ∧ s.2 < t.2)

theorem lexLt_trans {a b c : Int × Nat} (h1 : lexLt a b) (h2 : lexLt b c) : lexLt a c := by
  unfold lexLt at *; omega

theorem lexLt_ntrans {a b c : Int × Nat} (h1 : ¬ lexLt a b) (h2 : ¬ lexLt b c) : ¬ lexLt a c := by
  unfold lexLt at *; omega

theorem lexLt_asymm {a b : Int × Nat} (h1 : lexLt a b) : ¬ lexLt b a := by
  unfold lexLt at *; omega

theorem eq_of_not_lexLt {a b : Int × Nat} (h1 : ¬ lexLt a b) (h2 : ¬ lexLt b a) : a = b := by
  unfold lexLt at *; exact Prod.ext (by omega) (by omega)

def lexLe (s t : Int × Nat) : Prop := s.1 < t.1 ∨ (s.1 = t.1 ∧ s.2 ≤ t.2)

theorem lexLe_trans {a b c : Int × Nat} (h1 : lexLe a b) (h2 : lexLe b c) : lexLe a c := by
  unfold lexLe at *; omega

theorem lexLe_iff {a b : Int × Nat} : lexLe a b ↔ ¬ lexLt b a := by
  unfold lexLe lexLt; omega

theorem leLWW_iff (a b : LWWRegister) : leLWW a b = true ↔ lexLe a.stamp b.stamp := by
  simp only [leLWW, lexLe, LWWRegister.stamp, Bool.or_eq_true, Bool.and_eq_true, decide_eq_true_eq]

def LWW.core (r : LWWRegister) : LwCore := (r.value, r.timestamp, r.nodeID)

namespace LWW

theorem wins_iff (a b : LwCore) : lwWins a b = true ↔ lexLt a.2 b.2 := by
  unfold lwWins lexLt
  rw [Bool.or_eq_true, Bool.and_eq_true, decide_eq_true_eq, decide_eq_true_eq, decide_eq_true_eq]
  exact or_congr Iff.rfl (and_congr eq_comm Iff.rfl)

theorem core_merge (r o : LWWRegister) : core (r.merge o) = lwJoin (core r) (core o) := by
  show core ⟨_, _, _, false⟩ = if LWWRegister.otherWins r o then core o else core r
  split <;> rfl

theorem eqv_iff (a b : LWWRegister) : eqvLWW a b ↔ core a = core b := by
  simp only [core, Prod.mk.injEq]; rfl

/-- the strict stamp order is transitive, and so is its negation: the selection is associative -/
theorem join_assoc (a b c : LwCore) : lwJoin (lwJoin a b) c = lwJoin a (lwJoin b c) := by
  unfold lwJoin
  by_cases h1 : lwWins a b = true <;> by_cases h2 : lwWins b c = true <;>
    simp only [h1, h2, if_true, if_false, Bool.false_eq_true]
  · rw [if_pos ((wins_iff a c).mpr (lexLt_trans ((wins_iff a b).mp h1) ((wins_iff b c).mp h2)))]
  · rw [if_neg fun h3 => lexLt_ntrans (mt (wins_iff a b).mpr h1) (mt (wins_iff b c).mpr h2) ((wins_iff a c).mp h3)]

theorem join_idem (a : LwCore) : lwJoin a a = a := ite_self _

theorem join_comm (a b : LwCore) (h : a.2 = b.2 → a = b) : lwJoin a b = lwJoin b a := by
  unfold lwJoin
  by_cases h1 : lwWins a b = true <;> by_cases h2 : lwWins b a = true <;>
    simp only [h1, h2, if_true, if_false, Bool.false_eq_true]
  · exact absurd ((wins_iff b a).mp h2) (lexLt_asymm ((wins_iff a b).mp h1))
  · exact h (eq_of_not_lexLt (mt (wins_iff a b).mpr h1) (mt (wins_iff b a).mpr h2))

theorem assoc (x y z : LWWRegister) : eqvLWW ((x.merge y).merge z) (x.merge (y.merge z)) := by
  rw [eqv_iff, core_merge, core_merge, core_merge, core_merge, join_assoc]

theorem idem (x : LWWRegister) : eqvLWW (x.merge x) x := by
  rw [eqv_iff, core_merge, join_idem]

theorem infl (x y : LWWRegister) : leLWW x (x.merge y) = true ∧ leLWW y (x.merge y) = true := by
  -- the merged stamp is that of the winner: not below the loser's, nor below itself
  rw [leLWW_iff, leLWW_iff, lexLe_iff, lexLe_iff]
  have hc : (x.merge y).stamp = (lwJoin (core x) (core y)).2 := congrArg Prod.snd (core_merge x y)
  rw [hc]
  unfold lwJoin
  by_cases h : lwWins (core x) (core y) = true
  · rw [if_pos h]; exact ⟨lexLt_asymm ((wins_iff (core x) (core y)).mp h), fun h' => lexLt_asymm h' h'⟩
  · rw [if_neg h]; exact ⟨fun h' => lexLt_asymm h' h', mt (wins_iff (core x) (core y)).mpr h⟩

theorem joinLaws (S : LWWRegister → Prop) (hS : ∀ x y, S x → S y → StampsAgree x y) :
    JoinLaws S LWWRegister.merge eqvLWW leLWW where
  comm x y hx hy := by
    rw [eqv_iff, core_merge, core_merge]
    exact join_comm _ _ fun e => Prod.ext (hS x y hx hy e) e
  assoc x y z _ _ _ := assoc x y z
  idem x _ := idem x
  infl x y _ _ := infl x y

end LWW

theorem LWW.set_stale {r : LWWRegister} {v : Nat} {ts : Int} {n : Nat}
    (h : ts < r.timestamp ∨ (ts = r.timestamp ∧ n < r.nodeID)) : r.set v ts n = r := if_pos h

theorem LWW.set_fresh {r : LWWRegister} {v : Nat} {ts : Int} {n : Nat}
    (h : ¬ (ts < r.timestamp ∨ (ts = r.timestamp ∧ n < r.nodeID))) (h2 : ¬ (ts = r.timestamp ∧ n = r.nodeID)) :
    r.set v ts n = ⟨some v, ts, n, true⟩ := by
  unfold LWWRegister.set
  rw [if_neg h, if_neg fun h' => h2 ⟨h'.1, h'.2.1⟩]

/-- witness of C38-F1: two reachable registers with one stamp and two values -/
def lwwA : LWWRegister := LWWRegister.new.set 2 9 1
def lwwB : LWWRegister := LWWRegister.new.set 3 9 1

/-- same replicated content (value and stamp) -/
def sameCore (a b : LWWRegister) : Prop :=
  a.value = b.value ∧ a.timestamp = b.timestamp ∧ a.nodeID = b.nodeID

theorem LWW.merge_core (r o : LWWRegister) : sameCore (r.merge o) r ∨ sameCore (r.merge o) o := by
  have h := LWW.core_merge r o
  unfold lwJoin at h
  split at h
  · exact Or.inr ((LWW.eqv_iff _ _).mpr h)
  · exact Or.inl ((LWW.eqv_iff _ _).mpr h)

theorem LWW.set_cases (r : LWWRegister) (v : Nat) (ts : Int) (n : Nat) (hts : ts < 9223372036854775807) :
    r.set v ts n = r ∨ ((r.set v ts n).nodeID = n ∧ lexLe r.stamp (r.set v ts n).stamp ∧
      ¬ lexLe (r.set v ts n).stamp r.stamp) := by
  unfold LWWRegister.set
  split
  · exact Or.inl rfl
  · rename_i h
    right
    split <;> refine ⟨rfl, ?_⟩ <;> simp only [lexLe, LWWRegister.stamp] <;> omega

/-- tag = write stamp, issued by its node; a register has seen the stamps up to its own -/
abbrev LWW.Inv (w : LWWRegister.World) : Prop :=
  OneWrite (fun _ => True) (fun (r : LWWRegister) t p => r.stamp = t ∧ r.value = p) Prod.snd
    (fun r t => lexLe t r.stamp) w.replica w.pool

theorem LWW.holds_of_sameCore {z x : LWWRegister} (h : sameCore z x) {t : Int × Nat} {p : Option Nat}
    (hz : z.stamp = t ∧ z.value = p) : x.stamp = t ∧ x.value = p := by
  unfold LWWRegister.stamp at *
  rw [← h.2.1, ← h.2.2, ← h.1]; exact hz

theorem LWW.inv_of_reachable {w : LWWRegister.World} (h : LWWRegister.World.Reachable w) : LWW.Inv w := by
  have held : ∀ {w : LWWRegister.World} {z x : LWWRegister}, w.has x → sameCore z x → ∀ t p,
      (z.stamp = t ∧ z.value = p) → ∃ x, Has w.replica w.pool x ∧ (x.stamp = t ∧ x.value = p) :=
    fun hx hc t p hz => ⟨_, hx, LWW.holds_of_sameCore hc hz⟩
  have one : ∀ (z : LWWRegister) t p q, z.stamp = t ∧ z.value = p → z.stamp = t ∧ z.value = q → p = q :=
    fun _ _ _ _ hp hq => hp.2.symm.trans hq.2
  induction h with
  | init =>
    refine ⟨fun _ _ => trivial, fun x y hx hy t p q hp hq => ?_, fun x hx t p hp => ?_⟩
    · rw [has_init hx] at hp; rw [has_init hy] at hq; exact hp.2.symm.trans hq.2
    · rw [has_init hx] at hp; rw [← hp.1]; exact Or.inr ⟨rfl, Nat.le_refl _⟩
  | @set w n v ts _ hts ih =>
    rcases LWW.set_cases (w.replica n) v ts n hts with he | ⟨hn, hle, hnle⟩
    · rw [he]
      exact OneWrite.setReplica ih n _ trivial (fun t h => h) (fun t p hz => Or.inl ⟨_, Or.inr ⟨n, rfl⟩, hz⟩) (one _)
    · exact OneWrite.setReplica ih n _ trivial (fun t h => lexLe_trans h hle)
        (fun t p hz => Or.inr (hz.1 ▸ ⟨hn, hnle, Or.inr ⟨rfl, Nat.le_refl _⟩⟩)) (one _)
  | @deliver w n m _ hm ih =>
    refine OneWrite.setReplica ih n _ trivial (fun t h => lexLe_trans h ((leLWW_iff ..).mp (LWW.infl (w.replica n) m).1))
      (fun t p hz => Or.inl ?_) (one _)
    rcases LWW.merge_core (w.replica n) m with h | h
    · exact held (Or.inr ⟨n, rfl⟩) h t p hz
    · exact held hm h t p hz
  | @resetDelta w n _ ih =>
    exact OneWrite.setReplica ih n (w.replica n).resetDelta trivial (fun t h => h)
      (fun t p hz => Or.inl ⟨_, Or.inr ⟨n, rfl⟩, hz⟩) (one _)
  | @snapshot w x _ hx ih => exact OneWrite.addPool ih _ trivial fun t p hz => ⟨x, hx, hz⟩
  | @delta w x d _ hx hd ih =>
    cases (Option.ite_none_right_eq_some.mp hd).2
    exact OneWrite.addPool ih _ trivial fun t p hz => ⟨x, hx, hz⟩
  | @mergeAny w x y _ hx hy ih =>
    refine OneWrite.addPool ih _ trivial fun t p hz => ?_
    rcases LWW.merge_core x y with h | h
    · exact held hx h t p hz
    · exact held hy h t p hz
  | @resetAny w x _ hx ih => exact OneWrite.addPool ih x.resetDelta trivial fun t p hz => ⟨x, hx, hz⟩

end GoaktVerif.C38
