/-
ORSet.Merge characterised on (element, dot) pairs and on the version vector, the join laws of C38 for all
states whose maps are maps (`ORSet.joinLaws_sorted`), and the invariant `ORSet.WF` (maps sorted, dots ≤ clock)
along every operation.
-/
import GoaktVerif.Lemmas.Crdt.Dots
import GoaktVerif.Lemmas.C38.Counters

namespace GoaktVerif.C38
open GoaktVerif.Model.Crdt GoaktVerif.Model.Crdt.AMap GoaktVerif.Spec.C38

/-- the version vector as a function -/
def ORSet.clockOf (s : ORSet) (n : Nat) : Nat := s.clock.getD n 0

theorem dotsOf_eq_nil_of_get?_none {s : ORSet} {e : Nat} (h : s.entries.get? e = none) : s.dotsOf e = [] :=
  getD_of_get?_none h []

theorem get?_isSome_of_mem_dotsOf {s : ORSet} {e : Nat} {d : Dot} (h : d ∈ s.dotsOf e) :
    (s.entries.get? e).isSome := by
  cases hg : s.entries.get? e with
  | none => rw [dotsOf_eq_nil_of_get?_none hg] at h; cases h
  | some _ => rfl

theorem mem_getD_of {m : AMap (List Dot)} {e : Nat} {d : Dot} (h : d ∈ m.getD e []) :
    ∃ l, (e, l) ∈ m ∧ d ∈ l := by
  unfold AMap.getD at h
  cases hg : m.get? e with
  | none => rw [hg] at h; cases h
  | some l => rw [hg] at h; exact ⟨l, mem_of_get? hg, h⟩

theorem mem_getD_iff {m : AMap (List Dot)} (hs : m.Sorted) {e : Nat} {d : Dot} :
    d ∈ m.getD e [] ↔ ∃ l, (e, l) ∈ m ∧ d ∈ l :=
  ⟨mem_getD_of, fun ⟨l, hl, hd⟩ => by unfold AMap.getD; rw [get?_of_mem hs hl]; exact hd⟩

theorem entries_merge (s o : ORSet) : (s.merge o).entries =
    (s.entries.keys ++ o.entries.keys).foldl (fun m e =>
      AMap.setOpt m e (if (ORSet.kept s o e).isEmpty then none else some (ORSet.kept s o e))) [] := by
  show List.foldl _ _ _ = _
  congr 1
  funext m e
  dsimp only
  split <;> rfl

theorem dotsOf_merge (s o : ORSet) (e : Nat) : (s.merge o).dotsOf e = ORSet.kept s o e := by
  unfold ORSet.dotsOf AMap.getD
  rw [entries_merge, get?_foldl_setOpt, get?_nil, Option.or_none]
  by_cases hk : (ORSet.kept s o e).isEmpty = true
  · rw [if_pos hk, ite_self]; exact (List.isEmpty_iff.mp hk).symm
  · rw [if_neg hk, if_pos]
    · rfl
    · -- a non-empty slice comes from an element that one side holds
      obtain ⟨x, hx⟩ := List.exists_mem_of_ne_nil _ (mt List.isEmpty_iff.mpr hk)
      rw [List.mem_append, mem_keys_iff, mem_keys_iff]
      exact (keeps_sub ((mem_kept s o e x).mp hx)).imp get?_isSome_of_mem_dotsOf get?_isSome_of_mem_dotsOf

theorem entries_sorted_merge (s o : ORSet) : (s.merge o).entries.Sorted := by
  rw [entries_merge]
  exact sorted_foldl_setOpt _ _ sorted_nil

theorem ORSet.mem_merge (s o : ORSet) (e : Nat) (d : Dot) :
    d ∈ (s.merge o).dotsOf e ↔
      keeps (d ∈ s.dotsOf e) (d ∈ o.dotsOf e) (ORSet.clockOf s d.nodeID) (ORSet.clockOf o d.nodeID) d.counter := by
  rw [dotsOf_merge]; exact mem_kept s o e d

theorem ORSet.clockOf_merge (s o : ORSet) (ho : o.clock.Sorted) (n : Nat) :
    ORSet.clockOf (s.merge o) n = max (ORSet.clockOf s n) (ORSet.clockOf o n) :=
  getD_mergeClock _ ho n

theorem ORSet.le_clockOf {s : ORSet} (h : s.WF) {e : Nat} {d : Dot} (hd : d ∈ s.dotsOf e) :
    d.counter ≤ ORSet.clockOf s d.nodeID := h.dots_le e d hd

theorem ORSet.wf_merge {s o : ORSet} (hs : s.WF) (ho : o.WF) : (s.merge o).WF where
  entries_sorted := entries_sorted_merge s o
  clock_sorted := sorted_mergeClock hs.clock_sorted _
  dots_le e d hd := by
    show _ ≤ ORSet.clockOf (s.merge o) d.nodeID
    rw [ORSet.clockOf_merge s o ho.clock_sorted]
    rcases keeps_sub ((ORSet.mem_merge s o e d).mp hd) with h | h
    · exact Nat.le_trans (ORSet.le_clockOf hs h) (Nat.le_max_left ..)
    · exact Nat.le_trans (ORSet.le_clockOf ho h) (Nat.le_max_right ..)
  added_sorted := sorted_nil
  added_le _ _ hd := (nomatch hd)

theorem elements_sorted {s : ORSet} (h : s.entries.Sorted) : s.elements.Pairwise (· < ·) :=
  List.pairwise_map.mpr (List.Pairwise.filter _ h)

theorem mem_elements {s : ORSet} (h : s.entries.Sorted) (e : Nat) : e ∈ s.elements ↔ ∃ d, d ∈ s.dotsOf e := by
  unfold ORSet.elements
  rw [List.mem_map]
  constructor
  · rintro ⟨p, hp, rfl⟩
    rw [List.mem_filter] at hp
    cases hp2 : p.2 with
    | nil => rw [hp2] at hp; exact nomatch hp.2
    | cons d _ => exact ⟨d, (mem_getD_iff h).mpr ⟨p.2, hp.1, hp2 ▸ List.mem_cons_self⟩⟩
  · rintro ⟨d, hd⟩
    obtain ⟨l, hl, hdl⟩ := mem_getD_of hd
    refine ⟨(e, l), List.mem_filter.mpr ⟨hl, ?_⟩, rfl⟩
    cases l with
    | nil => cases hdl
    | cons _ _ => rfl

theorem contains_iff_mem_elements {s : ORSet} (h : s.entries.Sorted) (e : Nat) :
    s.contains e = true ↔ e ∈ s.elements := by
  rw [mem_elements h]
  unfold ORSet.contains ORSet.dotsOf AMap.getD
  cases s.entries.get? e with
  | none => exact ⟨fun h => (nomatch h), fun ⟨_, h⟩ => (nomatch h)⟩
  | some dots =>
    cases dots with
    | nil => exact ⟨fun h => (nomatch h), fun ⟨_, h⟩ => (nomatch h)⟩
    | cons d _ => exact ⟨fun _ => ⟨d, List.mem_cons_self⟩, fun _ => rfl⟩

theorem mem_elements_merge {s o : ORSet} (hs : s.entries.Sorted) (ho : o.entries.Sorted) {k : Nat}
    (h : k ∈ (s.merge o).elements) : k ∈ s.elements ∨ k ∈ o.elements := by
  obtain ⟨d, hd⟩ := (mem_elements (entries_sorted_merge s o) k).mp h
  exact (keeps_sub ((ORSet.mem_merge s o k d).mp hd)).imp
    (fun h1 => (mem_elements hs k).mpr ⟨d, h1⟩) fun h1 => (mem_elements ho k).mpr ⟨d, h1⟩

/-- observation: the version vector as a function, the (element, dot) pairs as a set, and `Elements()` -/
def eqvOS (a b : ORSet) : Prop :=
  (∀ n, ORSet.clockOf a n = ORSet.clockOf b n) ∧ (∀ e d, d ∈ a.dotsOf e ↔ d ∈ b.dotsOf e) ∧ a.elements = b.elements

theorem eqvOS_of {a b : ORSet} (ha : a.entries.Sorted) (hb : b.entries.Sorted)
    (hc : ∀ n, ORSet.clockOf a n = ORSet.clockOf b n) (hd : ∀ e d, d ∈ a.dotsOf e ↔ d ∈ b.dotsOf e) : eqvOS a b := by
  refine ⟨hc, hd, sortedNat_ext (elements_sorted ha) (elements_sorted hb) fun e => ?_⟩
  rw [mem_elements ha, mem_elements hb]
  exact exists_congr (hd e)

end GoaktVerif.C38

namespace GoaktVerif.C39
open GoaktVerif.Model.Crdt GoaktVerif.C38

def osCoreOf (s : ORSet) : OsCore := (fun n => ORSet.clockOf s n, fun e d => d ∈ s.dotsOf e)

theorem osCoreOf_merge (s o : ORSet) (ho : o.clock.Sorted) :
    osCoreOf (s.merge o) = osJoin (osCoreOf s) (osCoreOf o) :=
  Prod.ext (funext fun n => ORSet.clockOf_merge s o ho n) (funext fun e => funext fun d => propext (ORSet.mem_merge s o e d))

end GoaktVerif.C39

namespace GoaktVerif.C38
open GoaktVerif.Model.Crdt GoaktVerif.Model.Crdt.AMap GoaktVerif.Spec.C38 GoaktVerif.C39

theorem eqvOS_of_core {a b : ORSet} (ha : a.entries.Sorted) (hb : b.entries.Sorted)
    (h : osCoreOf a = osCoreOf b) : eqvOS a b :=
  eqvOS_of ha hb (fun n => congrFun (congrArg Prod.fst h) n)
    fun e d => iff_of_eq (congrFun (congrFun (congrArg Prod.snd h) e) d)

theorem leOS_iff (a b : ORSet) : leOS a b = true ↔
    leClock a.clock b.clock = true ∧
    ∀ p ∈ b.entries, ∀ d ∈ p.2, (¬ d.counter ≤ ORSet.clockOf a d.nodeID) ∨ d ∈ a.dotsOf p.1 := by
  unfold leOS
  rw [Bool.and_eq_true, List.all_eq_true]
  refine and_congr_right fun _ => forall_congr' fun p => forall_congr' fun _ => ?_
  rw [List.all_eq_true]
  exact forall_congr' fun d => forall_congr' fun _ => (keepTest_iff ..).trans (or_congr_right (containsDot_iff ..))

theorem leOS_of {x m : ORSet} (hx : x.clock.Sorted) (hm : m.entries.Sorted) (h : osLe (osCoreOf x) (osCoreOf m)) :
    leOS x m = true :=
  (leOS_iff x m).mpr ⟨leClock_of hx h.1, fun p hp d hd' => h.2 p.1 d ((mem_getD_iff hm).mpr ⟨p.2, hp, hd'⟩)⟩

/-- Merge is a join on any two values whose maps are maps, reachable or not (e.g. decoded from a peer) -/
theorem ORSet.joinLaws_sorted :
    JoinLaws (fun s : ORSet => s.clock.Sorted ∧ s.entries.Sorted) ORSet.merge eqvOS leOS where
  comm x y hx hy := eqvOS_of_core (entries_sorted_merge x y) (entries_sorted_merge y x) (by
    rw [osCoreOf_merge _ _ hy.1, osCoreOf_merge _ _ hx.1, osJoin_comm])
  assoc x y z _ hy hz := eqvOS_of_core (entries_sorted_merge _ z) (entries_sorted_merge x _) (by
    rw [osCoreOf_merge _ _ hz.1, osCoreOf_merge _ _ hy.1, osCoreOf_merge _ _ (sorted_mergeClock hy.1 _),
      osCoreOf_merge _ _ hz.1, osJoin_assoc])
  idem x hx := eqvOS_of_core (entries_sorted_merge x x) hx.2 (by rw [osCoreOf_merge _ _ hx.1, osJoin_idem])
  infl x y hx hy :=
    have hm := entries_sorted_merge x y
    have e := osCoreOf_merge x y hy.1
    ⟨leOS_of hx.1 hm (e ▸ osLe_join_left ..), leOS_of hy.1 hm (e ▸ osLe_join_right ..)⟩

theorem ORSet.joinLaws_wf : JoinLaws ORSet.WF ORSet.merge eqvOS leOS :=
  ORSet.joinLaws_sorted.mono fun _ h => ⟨h.clock_sorted, h.entries_sorted⟩

theorem clockOf_add (s : ORSet) (n e k : Nat) :
    ORSet.clockOf (s.add n e) k = if k = n then ORSet.clockOf s n + 1 else ORSet.clockOf s k := AMap.getD_set ..

theorem clockOf_le_add (s : ORSet) (n e k : Nat) : ORSet.clockOf s k ≤ ORSet.clockOf (s.add n e) k := by
  rw [clockOf_add]
  split
  · rw [‹k = n›]; exact Nat.le_succ _
  · exact Nat.le_refl _

/-- appending a dot to one slice of a dot map (Add on `entries` and on `delta.added`) -/
theorem mem_getD_set_append (m : AMap (List Dot)) (e e' : Nat) (d x : Dot) :
    x ∈ (m.set e (m.getD e [] ++ [d])).getD e' [] ↔ x ∈ m.getD e' [] ∨ (e' = e ∧ x = d) := by
  rw [AMap.getD_set]
  split
  · rename_i h; rw [List.mem_append, List.mem_singleton, h]; exact or_congr_right (and_iff_right rfl).symm
  · rename_i h; exact (or_iff_left fun h' => h h'.1).symm

theorem dotsOf_add (s : ORSet) (n e e' : Nat) (d : Dot) : d ∈ (s.add n e).dotsOf e' ↔
    (d ∈ s.dotsOf e' ∨ (e' = e ∧ d = ⟨n, ORSet.clockOf s n + 1⟩)) := mem_getD_set_append ..

theorem dotsOf_remove {s : ORSet} (h : s.entries.Sorted) (e e' : Nat) (d : Dot) :
    d ∈ (s.remove e).dotsOf e' ↔ (d ∈ s.dotsOf e' ∧ e' ≠ e) := by
  -- `fun_cases f args` yields one goal per leaf of the model's definition of `f`, with every branch condition and match
  -- equation as hypotheses; `case1`, `case2`, … follow the order of the leaves in Model/Crdt/ORSet.lean.
  fun_cases ORSet.remove s e
  -- the element has no entry: the set itself
  case case1 hnone =>
    refine ⟨fun hx => ⟨hx, ?_⟩, And.left⟩
    rintro rfl
    rw [dotsOf_eq_nil_of_get?_none hnone] at hx
    cases hx
  -- its entry is erased
  case case2 =>
    unfold ORSet.dotsOf AMap.getD
    rw [get?_erase h]
    split
    · rename_i he; exact ⟨fun hx => (nomatch hx), fun hx => absurd he hx.2⟩
    · rename_i he; exact (and_iff_left he).symm

theorem ORSet.wf_add {s : ORSet} (h : s.WF) (n e : Nat) : (s.add n e).WF := by
  -- old dots are covered by the old clock, the new dot is the new clock entry of `n`
  have key : ∀ (m : AMap (List Dot)), (∀ e d, d ∈ m.getD e [] → d.counter ≤ ORSet.clockOf s d.nodeID) →
      ∀ e' d, d ∈ (m.set e (m.getD e [] ++ [⟨n, ORSet.clockOf s n + 1⟩])).getD e' [] →
        d.counter ≤ ORSet.clockOf (s.add n e) d.nodeID := by
    intro m hm e' d hd
    rcases (mem_getD_set_append ..).mp hd with hd | ⟨_, rfl⟩
    · exact Nat.le_trans (hm e' d hd) (clockOf_le_add ..)
    · rw [clockOf_add, if_pos rfl]; exact Nat.le_refl _
  exact ⟨sorted_set h.entries_sorted _ _, sorted_set h.clock_sorted _ _, key _ h.dots_le,
    sorted_set h.added_sorted _ _, key _ h.added_le⟩

theorem ORSet.wf_remove {s : ORSet} (h : s.WF) (e : Nat) : (s.remove e).WF := by
  have hd := dotsOf_remove h.entries_sorted e
  unfold ORSet.remove at hd ⊢
  split
  · exact h
  · rename_i hsome
    rw [hsome] at hd
    exact ⟨sorted_erase h.entries_sorted _, h.clock_sorted, fun e' d hx => h.dots_le e' d ((hd e' d).mp hx).1,
      h.added_sorted, h.added_le⟩

theorem mem_elements_add {s : ORSet} (h : s.WF) (n e k : Nat) :
    k ∈ (s.add n e).elements ↔ k = e ∨ k ∈ s.elements := by
  rw [mem_elements (ORSet.wf_add h n e).entries_sorted, mem_elements h.entries_sorted]
  simp only [dotsOf_add]
  constructor
  · rintro ⟨d, hd | ⟨he, _⟩⟩
    · exact Or.inr ⟨d, hd⟩
    · exact Or.inl he
  · rintro (he | ⟨d, hd⟩)
    · exact ⟨_, Or.inr ⟨he, rfl⟩⟩
    · exact ⟨d, Or.inl hd⟩

theorem mem_elements_remove {s : ORSet} (h : s.WF) (e k : Nat) :
    k ∈ (s.remove e).elements ↔ k ≠ e ∧ k ∈ s.elements := by
  rw [mem_elements (ORSet.wf_remove h e).entries_sorted, mem_elements h.entries_sorted]
  simp only [dotsOf_remove h.entries_sorted]
  exact ⟨fun ⟨d, hd, hk⟩ => ⟨hk, d, hd⟩, fun ⟨hk, d, hd⟩ => ⟨d, hd, hk⟩⟩

theorem mem_compactDots {dots : List Dot} {x : Dot} (h : x ∈ ORSet.compactDots dots) : x ∈ dots := by
  obtain ⟨p, hp, rfl⟩ := List.mem_map.mp h
  -- `compactStep h d` is `maxStep h (d.nodeID, d.counter)`: every pair of the fold comes from a dot
  refine List.foldlRecOn (motive := fun r => ∀ q ∈ r, (⟨q.1, q.2⟩ : Dot) ∈ dots) dots ORSet.compactStep
    (fun _ hq => (List.not_mem_nil hq).elim) (fun r hr d hd q hq => ?_) p hp
  rcases mem_maxStep (p := (d.nodeID, d.counter)) hq with rfl | hq
  · exact hd
  · exact hr q hq

theorem compactDots_ne_nil {dots : List Dot} (h : dots ≠ []) : ORSet.compactDots dots ≠ [] := by
  cases dots with
  | nil => exact absurd rfl h
  | cons d l =>
    exact fun hnil => List.foldlRecOn (motive := (· ≠ [])) l ORSet.compactStep (maxStep_ne_nil [] (d.nodeID, d.counter))
      (fun _ _ x _ => maxStep_ne_nil _ (x.nodeID, x.counter)) (List.map_eq_nil_iff.mp hnil)

theorem ORSet.wf_compact {s : ORSet} (h : s.WF) : s.compact.WF := by
  refine ⟨sorted_map_val (List.Pairwise.filter _ h.entries_sorted) _, h.clock_sorted, ?_, sorted_nil,
    fun _ _ hd => (nomatch hd)⟩
  intro e d hd
  obtain ⟨l, hl, hdl⟩ := mem_getD_of hd
  obtain ⟨p, hp, heq⟩ := List.mem_map.mp hl
  cases heq
  exact h.dots_le p.1 d ((mem_getD_iff h.entries_sorted).mpr ⟨p.2, (List.mem_filter.mp hp).1, mem_compactDots hdl⟩)

theorem elements_compact (s : ORSet) : s.compact.elements = s.elements := by
  unfold ORSet.elements ORSet.compact
  dsimp only
  rw [List.filter_map, List.map_map, List.filter_eq_self.mpr]
  · rfl
  · intro p hp
    have hne : p.2 ≠ [] := fun h => by rw [List.mem_filter, h] at hp; exact (nomatch hp.2)
    show (!(ORSet.compactDots p.2).isEmpty) = true
    cases hc : ORSet.compactDots p.2 with
    | nil => exact absurd hc (compactDots_ne_nil hne)
    | cons _ _ => rfl

theorem raise_foldl (g : Dot → Nat) (l : List Dot) (clk : AMap Nat) (h : clk.Sorted) :
    (l.foldl (fun c dt => raise c dt.nodeID (g dt)) clk).Sorted ∧
    (∀ n, clk.getD n 0 ≤ (l.foldl (fun c dt => raise c dt.nodeID (g dt)) clk).getD n 0) ∧
    (∀ dt ∈ l, g dt ≤ (l.foldl (fun c dt => raise c dt.nodeID (g dt)) clk).getD dt.nodeID 0) := by
  induction l generalizing clk with
  | nil => exact ⟨h, fun n => Nat.le_refl _, fun _ hd => (nomatch hd)⟩
  | cons d l ih =>
    obtain ⟨i1, i2, i3⟩ := ih (raise clk d.nodeID (g d)) (sorted_raise h ..)
    refine ⟨i1, fun n => Nat.le_trans (raise_mono ..) (i2 n), fun dt hdt => ?_⟩
    rcases List.mem_cons.mp hdt with rfl | hdt
    · exact Nat.le_trans (raise_ge ..) (i2 _)
    · exact i3 dt hdt

theorem deltaAddedStep_eq (sc : AMap Nat) :
    ORSet.deltaAddedStep sc = fun clk dt => raise clk dt.nodeID (sc.getD dt.nodeID 0) := by
  funext clk dt
  unfold ORSet.deltaAddedStep raise AMap.getD
  cases sc.get? dt.nodeID with
  | none => exact (if_neg (Nat.not_lt_zero _)).symm
  | some c => rfl

theorem ORSet.wf_delta {s d : ORSet} (h : s.WF) (hd : s.delta? = some d) : d.WF := by
  unfold ORSet.delta? at hd
  split at hd
  · cases hd
  · cases hd
    -- each loop over a dot map is one fold over all its dots
    rw [deltaAddedStep_eq, ← List.foldl_flatMap (f := Prod.snd), ← List.foldl_flatMap (f := Prod.snd)]
    have c1 := raise_foldl (fun dt => s.clock.getD dt.nodeID 0) (s.delta.added.flatMap Prod.snd) [] sorted_nil
    have c2 := raise_foldl (fun dt => dt.counter) (s.delta.removed.flatMap Prod.snd) _ c1.1
    refine ⟨h.added_sorted, c2.1, fun e x hx => ?_, sorted_nil, fun _ _ hx => (nomatch hx)⟩
    obtain ⟨l, hl, hxl⟩ := mem_getD_of hx
    exact Nat.le_trans (h.added_le e x hx)
      (Nat.le_trans (c1.2.2 x (List.mem_flatMap.mpr ⟨(e, l), hl, hxl⟩)) (c2.2.1 x.nodeID))

theorem ORSet.wf_new : ORSet.new.WF :=
  ⟨sorted_nil, sorted_nil, fun _ _ hd => (nomatch hd), sorted_nil, fun _ _ hd => (nomatch hd)⟩

theorem ORSet.wf_resetDelta {s : ORSet} (h : s.WF) : s.resetDelta.WF :=
  ⟨h.entries_sorted, h.clock_sorted, h.dots_le, sorted_nil, fun _ _ hd => (nomatch hd)⟩

theorem ORSet.wf_of_reachable {s : ORSet} (h : ORSet.Reachable s) : s.WF := by
  induction h with
  | new => exact ORSet.wf_new
  | add n e _ ih => exact ORSet.wf_add ih n e
  | remove e _ ih => exact ORSet.wf_remove ih e
  | merge _ _ ih1 ih2 => exact ORSet.wf_merge ih1 ih2
  | delta _ hd ih => exact ORSet.wf_delta ih hd
  | resetDelta _ ih => exact ORSet.wf_resetDelta ih
  | clone _ ih => exact ih
  | compact _ ih => exact ORSet.wf_compact ih

end GoaktVerif.C38
