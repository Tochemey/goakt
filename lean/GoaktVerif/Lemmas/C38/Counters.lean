/-
The join laws of C38 for GCounter and PNCounter with the invariants of their reachable states, the observation `eqvFlag`
of Flag, and what the other types share: `JoinLaws.mono`, the invariant `OneWrite` of the register worlds, the
information orders `leMap` / `leClock` of Spec/C38.
-/
import GoaktVerif.Lemmas.Crdt.Merge
import GoaktVerif.Lemmas.Pool
import GoaktVerif.Lemmas.C38.Laws
import GoaktVerif.Model.Crdt.PNCounter
import GoaktVerif.Model.Crdt.Flag
import GoaktVerif.Spec.C38

namespace GoaktVerif.C38
open GoaktVerif.Model.Crdt GoaktVerif.Model.Crdt.AMap GoaktVerif.Spec.C38

theorem JoinLaws.mono {σ : Type} {S S' : σ → Prop} {merge : σ → σ → σ} {eqv : σ → σ → Prop} {le : σ → σ → Bool}
    (L : JoinLaws S merge eqv le) (h : ∀ x, S' x → S x) : JoinLaws S' merge eqv le where
  comm x y hx hy := L.comm x y (h x hx) (h y hy)
  assoc x y z hx hy hz := L.assoc x y z (h x hx) (h y hy) (h z hz)
  idem x hx := L.idem x (h x hx)
  infl x y hx hy := L.infl x y (h x hx) (h y hy)

/-! A system of replicas whose values hold payloads under tags (LWW: the value under the write stamp;
MV: the values under their dots).  `owner t` is the node that issues tag `t`, `covers r t` says that
register `r` has seen `t`. -/
section Tagged
variable {R T P : Type}

/-- the models' `World.has w x` unfolds to `Has w.replica w.pool x`, `w.setReplica n z` to the update of `w.replica` at `n` -/
def Has (replica : Nat → R) (pool : List R) (x : R) : Prop := x ∈ pool ∨ ∃ n, x = replica n

/-- a tag names one write, and the owner's replica has seen every tag it issued, wherever it is held -/
structure OneWrite (G : R → Prop) (holds : R → T → P → Prop) (owner : T → Nat) (covers : R → T → Prop)
    (replica : Nat → R) (pool : List R) : Prop where
  good : ∀ x, Has replica pool x → G x
  agree : ∀ x y, Has replica pool x → Has replica pool y → ∀ t p q, holds x t p → holds y t q → p = q
  seen : ∀ x, Has replica pool x → ∀ t p, holds x t p → covers (replica (owner t)) t

variable {G : R → Prop} {holds : R → T → P → Prop} {owner : T → Nat} {covers : R → T → Prop}
  {replica : Nat → R} {pool : List R}

theorem has_cons {z x : R} (h : Has replica (z :: pool) x) : x = z ∨ Has replica pool x :=
  h.elim (fun h => (List.mem_cons.mp h).imp_right Or.inl) fun h => Or.inr (Or.inr h)

theorem has_init {z x : R} (h : Has (fun _ => z) [] x) : x = z :=
  h.elim (fun h => nomatch h) fun ⟨_, hn⟩ => hn

theorem has_update {n : Nat} {z x : R} (h : Has (fun k => if k = n then z else replica k) pool x) :
    x = z ∨ Has replica pool x := by
  rcases h with h | ⟨k, hk⟩
  · exact Or.inr (Or.inl h)
  · dsimp only at hk
    split at hk
    · exact Or.inl hk
    · exact Or.inr (Or.inr ⟨k, hk⟩)

/-- what both kinds of step share: every value of the new system is `z` or an old one, everything `z` holds
    is held by an old value or is fresh (`F t`: no old value holds `t`), and the replicas only see more -/
theorem OneWrite.insert (I : OneWrite G holds owner covers replica pool) {replica' : Nat → R} {pool' : List R}
    (z : R) (F : T → Prop) (hz : G z)
    (hhas : ∀ x, Has replica' pool' x → x = z ∨ Has replica pool x)
    (hsub : ∀ t p, holds z t p → (∃ x, Has replica pool x ∧ holds x t p) ∨ F t)
    (hF : ∀ t, F t → (∀ y q, Has replica pool y → ¬ holds y t q) ∧ covers (replica' (owner t)) t)
    (hzz : ∀ t p q, F t → holds z t p → holds z t q → p = q)
    (hmono : ∀ k t, covers (replica k) t → covers (replica' k) t) :
    OneWrite G holds owner covers replica' pool' := by
  have az : ∀ y, Has replica pool y → ∀ t p q, holds z t p → holds y t q → p = q := by
    intro y hy t p q hp hq
    rcases hsub t p hp with ⟨x, hx, hxp⟩ | hf
    · exact I.agree x y hx hy t p q hxp hq
    · exact absurd hq ((hF t hf).1 y q hy)
  refine ⟨fun x hx => (hhas x hx).elim (fun e => e ▸ hz) (I.good x), fun x y hx hy t p q hp hq => ?_,
    fun x hx t p hp => ?_⟩
  · rcases hhas x hx with rfl | hx <;> rcases hhas y hy with rfl | hy
    · rcases hsub t p hp with ⟨x', hx', hxp⟩ | hf
      · exact (az x' hx' t q p hq hxp).symm
      · exact hzz t p q hf hp hq
    · exact az y hy t p q hp hq
    · exact (az x hx t q p hq hp).symm
    · exact I.agree x y hx hy t p q hp hq
  · rcases hhas x hx with rfl | hx
    · rcases hsub t p hp with ⟨x', hx', hxp⟩ | hf
      · exact hmono _ t (I.seen x' hx' t p hxp)
      · exact (hF t hf).2
    · exact hmono _ t (I.seen x hx t p hp)

theorem OneWrite.addPool (I : OneWrite G holds owner covers replica pool) (z : R) (hz : G z)
    (hsub : ∀ t p, holds z t p → ∃ x, Has replica pool x ∧ holds x t p) :
    OneWrite G holds owner covers replica (z :: pool) :=
  I.insert z (fun _ => False) hz (fun _ => has_cons) (fun t p h => Or.inl (hsub t p h)) (fun _ h => h.elim)
    (fun _ _ _ h => h.elim) fun _ _ h => h

/-- replacing replica `n` by a value that has seen at least as much and holds, besides what exists, only
    tags of its own that `n` had not seen before -/
theorem OneWrite.setReplica (I : OneWrite G holds owner covers replica pool) (n : Nat) (z : R) (hz : G z)
    (hmono : ∀ t, covers (replica n) t → covers z t)
    (hsub : ∀ t p, holds z t p → (∃ x, Has replica pool x ∧ holds x t p) ∨
      (owner t = n ∧ ¬ covers (replica n) t ∧ covers z t))
    (hzz : ∀ t p q, holds z t p → holds z t q → p = q) :
    OneWrite G holds owner covers (fun k => if k = n then z else replica k) pool := by
  refine I.insert z (fun t => owner t = n ∧ ¬ covers (replica n) t ∧ covers z t) hz (fun _ => has_update) hsub
    (fun t hf => ⟨fun y q hy hq => hf.2.1 (hf.1 ▸ I.seen y hy t q hq), ?_⟩) (fun t p q _ => hzz t p q) fun k t h => ?_
  · show covers (if owner t = n then z else _) t
    rw [if_pos hf.1]; exact hf.2.2
  · exact Pool.refl_upd (R := fun x y => covers x t → covers y t) (fun _ h => h) (hmono t) k h

end Tagged

theorem mergeMax_comm {a b : AMap Nat} (ha : Sorted a) (hb : Sorted b) : mergeMax a b = mergeMax b a :=
  AMap.ext (sorted_mergeMax ha b) (sorted_mergeMax hb a) fun k => by
    rw [get?_mergeMax a hb, get?_mergeMax b ha, optMax_comm]

theorem mergeMax_assoc {a b c : AMap Nat} (ha : Sorted a) (hb : Sorted b) (hc : Sorted c) :
    mergeMax (mergeMax a b) c = mergeMax a (mergeMax b c) :=
  AMap.ext (sorted_mergeMax (sorted_mergeMax ha b) c) (sorted_mergeMax ha _) fun k => by
    rw [get?_mergeMax _ hc, get?_mergeMax _ hb, get?_mergeMax _ (sorted_mergeMax hb c), get?_mergeMax _ hc,
      optMax_assoc]

theorem mergeMax_idem {a : AMap Nat} (ha : Sorted a) : mergeMax a a = a :=
  AMap.ext (sorted_mergeMax ha a) ha fun k => by rw [get?_mergeMax _ ha, optMax_idem]

theorem leMap_iff (a b : AMap Nat) :
    leMap a b = true ↔ ∀ p ∈ a, ∃ v, get? b p.1 = some v ∧ p.2 ≤ v := by
  unfold leMap
  rw [List.all_eq_true]
  refine forall_congr' fun p => forall_congr' fun _ => ?_
  cases get? b p.1 with
  | none => exact ⟨fun h => (nomatch h), fun ⟨_, h, _⟩ => (nomatch h)⟩
  | some v => exact ⟨fun h => ⟨v, rfl, of_decide_eq_true h⟩, fun ⟨_, h, hle⟩ => decide_eq_true (Option.some.inj h ▸ hle)⟩

theorem leMap_mergeMax_left {a b : AMap Nat} (ha : Sorted a) (hb : Sorted b) : leMap a (mergeMax a b) = true := by
  rw [leMap_iff]
  intro p hp
  rw [get?_mergeMax _ hb, get?_of_mem ha (show (p.1, p.2) ∈ a from hp)]
  cases get? b p.1 with
  | none => exact ⟨p.2, rfl, Nat.le_refl _⟩
  | some y => exact ⟨max p.2 y, rfl, Nat.le_max_left _ _⟩

theorem leMap_mergeMax_right {a b : AMap Nat} (ha : Sorted a) (hb : Sorted b) : leMap b (mergeMax a b) = true :=
  mergeMax_comm hb ha ▸ leMap_mergeMax_left hb ha

theorem leMap_refl {a : AMap Nat} (ha : Sorted a) : leMap a a = true := by
  have := leMap_mergeMax_left ha ha
  rwa [mergeMax_idem ha] at this

theorem leClock_iff (a b : AMap Nat) : leClock a b = true ↔ ∀ p ∈ a, p.2 ≤ b.getD p.1 0 := by
  unfold leClock
  rw [List.all_eq_true]
  exact forall_congr' fun p => forall_congr' fun _ => decide_eq_true_iff

theorem leClock_of {a b : AMap Nat} (ha : a.Sorted) (h : ∀ n, a.getD n 0 ≤ b.getD n 0) : leClock a b = true := by
  rw [leClock_iff]
  intro p hp
  have := h p.1
  rwa [AMap.getD, get?_of_mem ha (show (p.1, p.2) ∈ a from hp)] at this

theorem GCounter.wf_of_reachable {c : GCounter} (h : GCounter.Reachable c) : c.WF := by
  induction h with
  | new => exact ⟨sorted_nil, sorted_nil⟩
  | increment n v _ ih => exact ⟨sorted_set ih.1 _ _, sorted_set ih.2 _ _⟩
  | merge _ _ ih1 ih2 => exact ⟨sorted_mergeMax ih1.1 _, ih1.2⟩
  | @delta c d _ hd ih =>
    unfold GCounter.delta? at hd
    split at hd
    · cases hd
    · cases hd; exact ⟨sorted_map_val ih.2 _, sorted_nil⟩
  | resetDelta _ ih => exact ⟨ih.1, sorted_nil⟩
  | clone _ ih => exact ih

/-- observation: the replicated slots (and hence `Value()`); the delta bookkeeping is taken from the receiver -/
def eqvGC (a b : GCounter) : Prop := a.state = b.state ∧ a.value = b.value

theorem eqvGC_of_state {a b : GCounter} (h : a.state = b.state) : eqvGC a b :=
  ⟨h, by unfold GCounter.value; rw [h]⟩

theorem GCounter.joinLaws_wf : JoinLaws GCounter.WF GCounter.merge eqvGC leGC where
  comm _ _ hx hy := eqvGC_of_state (mergeMax_comm hx.1 hy.1)
  assoc _ _ _ hx hy hz := eqvGC_of_state (mergeMax_assoc hx.1 hy.1 hz.1)
  idem _ hx := eqvGC_of_state (mergeMax_idem hx.1)
  infl _ _ hx hy := ⟨leMap_mergeMax_left hx.1 hy.1, leMap_mergeMax_right hx.1 hy.1⟩

theorem PNCounter.reachable_parts {c : PNCounter} (h : PNCounter.Reachable c) :
    GCounter.Reachable c.increments ∧ GCounter.Reachable c.decrements := by
  induction h with
  | new => exact ⟨.new, .new⟩
  | increment n v _ ih => exact ⟨.increment n v ih.1, .clone ih.2⟩
  | decrement n v _ ih => exact ⟨.clone ih.1, .increment n v ih.2⟩
  | merge _ _ ih1 ih2 => exact ⟨.merge ih1.1 ih2.1, .merge ih1.2 ih2.2⟩
  | @delta c d _ hd ih =>
    unfold PNCounter.delta? at hd
    split at hd
    · cases hd
    · cases hd
      constructor
      · cases hi : c.increments.delta? with
        | none => exact .new
        | some x => exact .delta ih.1 hi
      · cases hi : c.decrements.delta? with
        | none => exact .new
        | some x => exact .delta ih.2 hi
  | resetDelta _ ih => exact ⟨.resetDelta ih.1, .resetDelta ih.2⟩
  | clone _ ih => exact ih

def eqvPN (a b : PNCounter) : Prop :=
  a.increments.state = b.increments.state ∧ a.decrements.state = b.decrements.state ∧ a.value = b.value

theorem eqvPN_of_state {a b : PNCounter} (h1 : a.increments.state = b.increments.state)
    (h2 : a.decrements.state = b.decrements.state) : eqvPN a b :=
  ⟨h1, h2, by unfold PNCounter.value GCounter.value; rw [h1, h2]⟩

theorem PNCounter.joinLaws_wf : JoinLaws PNCounter.WF PNCounter.merge eqvPN lePN where
  comm _ _ hx hy := eqvPN_of_state (mergeMax_comm hx.1.1 hy.1.1) (mergeMax_comm hx.2.1 hy.2.1)
  assoc _ _ _ hx hy hz := eqvPN_of_state (mergeMax_assoc hx.1.1 hy.1.1 hz.1.1) (mergeMax_assoc hx.2.1 hy.2.1 hz.2.1)
  idem _ hx := eqvPN_of_state (mergeMax_idem hx.1.1) (mergeMax_idem hx.2.1)
  infl _ _ hx hy :=
    ⟨(Bool.and_eq_true _ _).mpr ⟨leMap_mergeMax_left hx.1.1 hy.1.1, leMap_mergeMax_left hx.2.1 hy.2.1⟩,
     (Bool.and_eq_true _ _).mpr ⟨leMap_mergeMax_right hx.1.1 hy.1.1, leMap_mergeMax_right hx.2.1 hy.2.1⟩⟩

theorem PNCounter.wf_of_reachable {c : PNCounter} (h : PNCounter.Reachable c) : c.WF :=
  ⟨GCounter.wf_of_reachable (reachable_parts h).1, GCounter.wf_of_reachable (reachable_parts h).2⟩

def eqvFlag (a b : Flag) : Prop := a.value = b.value

end GoaktVerif.C38
