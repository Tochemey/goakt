/-
C38 for ORMap: characterisation of Merge on the value map, the invariant `ORMap.WF`, and the join
laws.  The value type is a parameter with its own join laws (`ValueLaws`).  Commutativity,
idempotence and inflation hold for all well-formed maps; associativity on VALUES holds under the
decidable guard `ORMap.noResurrect` (and on the key set always).
-/
import GoaktVerif.Lemmas.C38.ORSet
import GoaktVerif.Model.Crdt.ORMap

namespace GoaktVerif.C38
open GoaktVerif.Model.Crdt GoaktVerif.Model.Crdt.AMap GoaktVerif.Spec.C38

variable {V : Type} [CrdtValue V]

open GoaktVerif.Model.Crdt.ORMap (optMerge)

def optRel (r : V → V → Prop) : Option V → Option V → Prop
  | none, none => True
  | some a, some b => r a b
  | _, _ => False

/-- what the ORMap laws assume of the value CRDT -/
structure ValueLaws (RV : V → Prop) (eqvV : V → V → Prop) (leV : V → V → Bool) : Prop where
  closed : ∀ a b, RV a → RV b → RV (CrdtValue.merge a b)
  refl : ∀ a, RV a → eqvV a a
  le_refl : ∀ a, RV a → leV a a = true
  join : JoinLaws RV CrdtValue.merge eqvV leV

def OptRV (RV : V → Prop) (o : Option V) : Prop := ∀ v, o = some v → RV v

variable {RV : V → Prop} {eqvV : V → V → Prop} {leV : V → V → Bool}

theorem get?_merge_values (m o : ORMap V) (k : Nat) :
    (m.merge o).values.get? k =
      if k ∈ (m.keys.merge o.keys).elements then optMerge (m.values.get? k) (o.values.get? k) else none := by
  show get? (List.foldl _ _ _) k = _
  rw [get?_foldl_setOpt, get?_nil, Option.or_none]

theorem optMerge_isSome (a b : Option V) : (optMerge a b).isSome = (a.isSome || b.isSome) := by
  cases a <;> cases b <;> rfl

theorem optMerge_none_left (b : Option V) : optMerge none b = b := by cases b <;> rfl

theorem optMerge_none_right (a : Option V) : optMerge a none = a := by cases a <;> rfl

theorem optMerge_RV (hcl : ∀ a b, RV a → RV b → RV (CrdtValue.merge a b))
    {a b : Option V} (ha : OptRV RV a) (hb : OptRV RV b) : OptRV RV (optMerge a b) := by
  intro v hv
  cases a <;> cases b <;> cases hv
  · exact hb _ rfl
  · exact ha _ rfl
  · exact hcl _ _ (ha _ rfl) (hb _ rfl)

omit [CrdtValue V] in
theorem ORMap.optRV {m : ORMap V} (hm : m.WF RV) (k : Nat) : OptRV RV (m.values.get? k) :=
  fun v hv => hm.vals k v hv

omit [CrdtValue V] in
theorem ORMap.none_of_not_mem {m : ORMap V} (hm : m.WF RV) {k : Nat} (h : k ∉ m.keys.elements) :
    m.values.get? k = none :=
  Option.not_isSome_iff_eq_none.mp (mt (hm.dom k).mp h)

theorem ORMap.wf_merge (hcl : ∀ a b, RV a → RV b → RV (CrdtValue.merge a b))
    {m o : ORMap V} (hm : m.WF RV) (ho : o.WF RV) : (m.merge o).WF RV where
  keys_wf := ORSet.wf_merge hm.keys_wf ho.keys_wf
  values_sorted := sorted_foldl_setOpt _ _ sorted_nil
  dom k := by
    rw [get?_merge_values]
    show _ ↔ k ∈ (m.keys.merge o.keys).elements
    refine ⟨fun h => Decidable.byContradiction fun hn => ?_, fun h => ?_⟩
    · rw [if_neg hn] at h; cases h
    · rw [if_pos h, optMerge_isSome, Bool.or_eq_true, hm.dom, ho.dom]
      exact mem_elements_merge hm.keys_wf.entries_sorted ho.keys_wf.entries_sorted h
  vals k v hv := by
    rw [get?_merge_values] at hv
    split at hv
    · exact optMerge_RV hcl (ORMap.optRV hm k) (ORMap.optRV ho k) v hv
    · cases hv

/-- observation: the key ORSet's observation, and the stored value of every key up to the value
    type's own observation -/
def eqvOM (eqvV : V → V → Prop) (a b : ORMap V) : Prop :=
  eqvOS a.keys b.keys ∧ ∀ k, optRel eqvV (a.values.get? k) (b.values.get? k)

theorem optRel_refl {RV : V → Prop} {eqvV : V → V → Prop} {leV : V → V → Bool} (VL : ValueLaws RV eqvV leV)
    {a : Option V} (ha : OptRV RV a) : optRel eqvV a a := by
  cases a with
  | none => trivial
  | some x => exact VL.refl x (ha x rfl)

theorem optRel_comm (VL : ValueLaws RV eqvV leV)
    {a b : Option V} (ha : OptRV RV a) (hb : OptRV RV b) : optRel eqvV (optMerge a b) (optMerge b a) := by
  cases a with
  | none => rw [optMerge_none_left, optMerge_none_right]; exact optRel_refl VL hb
  | some x => cases b with
    | none => exact VL.refl x (ha x rfl)
    | some y => exact VL.join.comm x y (ha x rfl) (hb y rfl)

theorem optRel_idem (VL : ValueLaws RV eqvV leV)
    {a : Option V} (ha : OptRV RV a) : optRel eqvV (optMerge a a) a := by
  cases a with
  | none => trivial
  | some x => exact VL.join.idem x (ha x rfl)

/-- with an operand missing both groupings are the same merge -/
theorem optRel_assoc (VL : ValueLaws RV eqvV leV)
    {a b c : Option V} (ha : OptRV RV a) (hb : OptRV RV b) (hc : OptRV RV c) :
    optRel eqvV (optMerge (optMerge a b) c) (optMerge a (optMerge b c)) := by
  cases a with
  | none => rw [optMerge_none_left, optMerge_none_left]; exact optRel_refl VL (optMerge_RV VL.closed hb hc)
  | some x => cases b with
    | none => rw [optMerge_none_left, optMerge_none_right]; exact optRel_refl VL (optMerge_RV VL.closed ha hc)
    | some y => cases c with
      | none => rw [optMerge_none_right, optMerge_none_right]; exact optRel_refl VL (optMerge_RV VL.closed ha hb)
      | some z => exact VL.join.assoc x y z (ha x rfl) (hb y rfl) (hc z rfl)

theorem ORMap.comm (VL : ValueLaws RV eqvV leV)
    {x y : ORMap V} (hx : x.WF RV) (hy : y.WF RV) : eqvOM eqvV (x.merge y) (y.merge x) := by
  have hk := ORSet.joinLaws_wf.comm _ _ hx.keys_wf hy.keys_wf
  refine ⟨hk, fun k => ?_⟩
  rw [get?_merge_values, get?_merge_values, ← hk.2.2]
  split
  · exact optRel_comm VL (ORMap.optRV hx k) (ORMap.optRV hy k)
  · trivial

theorem ORMap.idem (VL : ValueLaws RV eqvV leV)
    {x : ORMap V} (hx : x.WF RV) : eqvOM eqvV (x.merge x) x := by
  have hk := ORSet.joinLaws_wf.idem _ hx.keys_wf
  refine ⟨hk, fun k => ?_⟩
  rw [get?_merge_values, hk.2.2]
  split
  · exact optRel_idem VL (ORMap.optRV hx k)
  · rw [ORMap.none_of_not_mem hx ‹_›]; trivial

theorem not_or_or_iff_imp (a b c : Bool) : ((!(a || b)) || c) = true ↔ (a = true ∨ b = true → c = true) := by
  cases a <;> cases b <;> cases c <;> decide

omit [CrdtValue V] in
theorem noResurrect_iff (x y z : ORMap V) (hx : x.keys.entries.Sorted) (hy : y.keys.entries.Sorted)
    (hz : z.keys.entries.Sorted) : ORMap.noResurrect x y z = true ↔
    ∀ k ∈ (x.keys.merge (y.keys.merge z.keys)).elements,
      ((k ∈ x.keys.elements ∨ k ∈ y.keys.elements) → k ∈ (x.keys.merge y.keys).elements) ∧
      ((k ∈ y.keys.elements ∨ k ∈ z.keys.elements) → k ∈ (y.keys.merge z.keys).elements) := by
  unfold ORMap.noResurrect
  rw [List.all_eq_true]
  refine forall_congr' fun k => forall_congr' fun _ => ?_
  rw [Bool.and_eq_true, not_or_or_iff_imp, not_or_or_iff_imp, contains_iff_mem_elements hx, contains_iff_mem_elements hy,
    contains_iff_mem_elements hz, contains_iff_mem_elements (entries_sorted_merge x.keys y.keys),
    contains_iff_mem_elements (entries_sorted_merge y.keys z.keys)]

/-- associativity: always on the key set; on values under the guard -/
theorem ORMap.assoc (VL : ValueLaws RV eqvV leV)
    {x y z : ORMap V} (hx : x.WF RV) (hy : y.WF RV) (hz : z.WF RV) (hg : ORMap.noResurrect x y z = true) :
    eqvOM eqvV ((x.merge y).merge z) (x.merge (y.merge z)) := by
  have hk := ORSet.joinLaws_wf.assoc _ _ _ hx.keys_wf hy.keys_wf hz.keys_wf
  rw [noResurrect_iff x y z hx.keys_wf.entries_sorted hy.keys_wf.entries_sorted hz.keys_wf.entries_sorted] at hg
  refine ⟨hk, fun k => ?_⟩
  have hk' : ((x.merge y).merge z).keys.elements = (x.merge (y.merge z)).keys.elements := hk.2.2
  rw [get?_merge_values (x.merge y) z, get?_merge_values x (y.merge z)]
  show optRel eqvV (if k ∈ ((x.merge y).merge z).keys.elements then _ else _)
    (if k ∈ (x.merge (y.merge z)).keys.elements then _ else _)
  rw [hk']
  split
  · rename_i hmem
    obtain ⟨g1, g2⟩ := hg k hmem
    -- an inner merge that drops `k` had no value for it on either side
    have inner : ∀ {a b : ORMap V}, a.WF RV → b.WF RV →
        (k ∈ a.keys.elements ∨ k ∈ b.keys.elements → k ∈ (a.keys.merge b.keys).elements) →
        (a.merge b).values.get? k = optMerge (a.values.get? k) (b.values.get? k) := by
      intro a b ha hb g
      rw [get?_merge_values]
      split
      · rfl
      · rename_i hn
        rw [ORMap.none_of_not_mem ha fun h => hn (g (Or.inl h)), ORMap.none_of_not_mem hb fun h => hn (g (Or.inr h))]
        rfl
    rw [inner hx hy g1, inner hy hz g2]
    exact optRel_assoc VL (ORMap.optRV hx k) (ORMap.optRV hy k) (ORMap.optRV hz k)
  · trivial

/-- the key-set part of associativity needs no guard -/
theorem ORMap.assoc_keys {x y z : ORMap V} (hx : x.WF RV) (hy : y.WF RV) (hz : z.WF RV) :
    eqvOS ((x.merge y).merge z).keys (x.merge (y.merge z)).keys :=
  ORSet.joinLaws_wf.assoc _ _ _ hx.keys_wf hy.keys_wf hz.keys_wf

omit [CrdtValue V] in
theorem leOM_iff (leV : V → V → Bool) (a b : ORMap V) : leOM leV a b = true ↔
    leOS a.keys b.keys = true ∧ ∀ p ∈ a.values, ∀ w, b.values.get? p.1 = some w → leV p.2 w = true := by
  unfold leOM
  rw [Bool.and_eq_true, List.all_eq_true]
  refine and_congr_right fun _ => forall_congr' fun p => forall_congr' fun _ => ?_
  cases b.values.get? p.1 with
  | none => exact ⟨fun _ _ h => (nomatch h), fun _ => rfl⟩
  | some w => exact ⟨fun h _ e => Option.some.inj e ▸ h, fun h => h w rfl⟩

theorem ORMap.infl (VL : ValueLaws RV eqvV leV)
    {x y : ORMap V} (hx : x.WF RV) (hy : y.WF RV) :
    leOM leV x (x.merge y) = true ∧ leOM leV y (x.merge y) = true := by
  have hk := ORSet.joinLaws_wf.infl _ _ hx.keys_wf hy.keys_wf
  constructor
  · refine (leOM_iff ..).mpr ⟨hk.1, fun p hp w hw => ?_⟩
    rw [get?_merge_values] at hw
    have hpx : x.values.get? p.1 = some p.2 := get?_of_mem hx.values_sorted hp
    have rp := hx.vals _ _ hpx
    split at hw
    · rw [hpx] at hw
      cases hb : y.values.get? p.1 with
      | none => rw [hb] at hw; cases hw; exact VL.le_refl _ rp
      | some b => rw [hb] at hw; cases hw; exact (VL.join.infl _ _ rp (hy.vals _ _ hb)).1
    · cases hw
  · refine (leOM_iff ..).mpr ⟨hk.2, fun p hp w hw => ?_⟩
    rw [get?_merge_values] at hw
    have hpy : y.values.get? p.1 = some p.2 := get?_of_mem hy.values_sorted hp
    have rp := hy.vals _ _ hpy
    split at hw
    · rw [hpy] at hw
      cases ha : x.values.get? p.1 with
      | none => rw [ha] at hw; cases hw; exact VL.le_refl _ rp
      | some a => rw [ha] at hw; cases hw; exact (VL.join.infl _ _ (hx.vals _ _ ha) rp).2
    · cases hw

omit [CrdtValue V] in
theorem ORMap.wf_new : (ORMap.new : ORMap V).WF RV where
  keys_wf := ORSet.wf_new
  values_sorted := sorted_nil
  dom _ := ⟨fun h => (nomatch h), fun h => (nomatch h)⟩
  vals _ _ h := nomatch h

theorem ORMap.wf_set (hcl : ∀ a b, RV a → RV b → RV (CrdtValue.merge a b))
    {m : ORMap V} (hm : m.WF RV) (n k : Nat) (v : V) (hv : RV v) : (m.set n k v).WF RV := by
  -- Set stores under `k` the merge with the old value, if any
  have hval : (m.set n k v).values = m.values.set k ((optMerge (m.values.get? k) (some v)).getD v) := by
    unfold ORMap.set
    dsimp only
    cases m.values.get? k <;> rfl
  refine ⟨ORSet.wf_add hm.keys_wf n k, hval ▸ sorted_set hm.values_sorted _ _, fun k' => ?_, fun k' w hw => ?_⟩
  · rw [hval, get?_set]
    show _ ↔ k' ∈ (m.keys.add n k).elements
    rw [mem_elements_add hm.keys_wf]
    by_cases hk : k' = k
    · rw [if_pos hk]; exact ⟨fun _ => Or.inl hk, fun _ => rfl⟩
    · rw [if_neg hk, hm.dom]; exact (or_iff_right hk).symm
  · rw [hval, get?_set] at hw
    split at hw
    · cases hw
      exact optMerge_RV hcl (ORMap.optRV hm k) (fun _ e => Option.some.inj e ▸ hv) _
        (by cases m.values.get? k <;> rfl)
    · exact hm.vals k' w hw

omit [CrdtValue V] in
theorem ORMap.wf_remove {m : ORMap V} (hm : m.WF RV) (k : Nat) : (m.remove k).WF RV := by
  unfold ORMap.remove
  split
  · exact hm
  · refine ⟨ORSet.wf_remove hm.keys_wf k, sorted_erase hm.values_sorted k, fun k' => ?_, fun k' w hw => ?_⟩
    · show (get? (m.values.erase k) k').isSome ↔ k' ∈ (m.keys.remove k).elements
      rw [get?_erase hm.values_sorted, mem_elements_remove hm.keys_wf]
      by_cases hk : k' = k
      · rw [if_pos hk]; exact ⟨fun h => (nomatch h), fun h => absurd hk h.1⟩
      · rw [if_neg hk, hm.dom]; exact (and_iff_right hk).symm
    · change get? (m.values.erase k) k' = some w at hw
      rw [get?_erase hm.values_sorted] at hw
      split at hw
      · cases hw
      · exact hm.vals k' w hw

omit [CrdtValue V] in
theorem ORMap.wf_resetDelta {m : ORMap V} (hm : m.WF RV) : m.resetDelta.WF RV :=
  ⟨ORSet.wf_resetDelta hm.keys_wf, hm.values_sorted, hm.dom, hm.vals⟩

omit [CrdtValue V] in
theorem ORMap.wf_compact {m : ORMap V} (hm : m.WF RV) : m.compact.WF RV := by
  have hget : ∀ k, m.compact.values.get? k = if k ∈ m.keys.elements then m.values.get? k else none := by
    intro k
    show get? (List.foldl _ _ _) k = _
    rw [get?_foldl_setOpt, get?_nil, Option.or_none, elements_compact]
  refine ⟨ORSet.wf_compact hm.keys_wf, sorted_foldl_setOpt _ _ sorted_nil, fun k => ?_, fun k v hv => ?_⟩
  · rw [hget]
    show _ ↔ k ∈ m.keys.compact.elements
    rw [elements_compact]
    refine ⟨fun h => Decidable.byContradiction fun hn => ?_, fun h => ?_⟩
    · rw [if_neg hn] at h; cases h
    · rw [if_pos h]; exact (hm.dom k).mpr h
  · rw [hget] at hv
    split at hv
    · exact hm.vals k v hv
    · cases hv

theorem ORMap.wf_of_reachable (hcl : ∀ a b, RV a → RV b → RV (CrdtValue.merge a b))
    {m : ORMap V} (h : ORMap.Reachable RV m) : m.WF RV := by
  induction h with
  | new => exact ORMap.wf_new
  | set n k v _ hv ih => exact ORMap.wf_set hcl ih n k v hv
  | remove k _ ih => exact ORMap.wf_remove ih k
  | merge _ _ ih1 ih2 => exact ORMap.wf_merge hcl ih1 ih2
  | @delta m d _ hd ih => cases (Option.ite_none_right_eq_some.mp hd).2; exact ih
  | resetDelta _ ih => exact ORMap.wf_resetDelta ih
  | clone _ ih => exact ih
  | compact _ ih => exact ORMap.wf_compact ih

theorem GCounter.valueLaws : ValueLaws GCounter.WF eqvGC leGC where
  closed _ b ha _ := ⟨sorted_mergeMax ha.1 b.state, ha.2⟩
  refl _ _ := ⟨rfl, rfl⟩
  le_refl _ ha := leMap_refl ha.1
  join := GCounter.joinLaws_wf

end GoaktVerif.C38
