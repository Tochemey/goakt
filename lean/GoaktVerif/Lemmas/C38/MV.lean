/-
MVRegister.Merge characterised on entries and clock, the join laws of C38 on the well-formed registers that hold only
writes of a relation in which a dot names one write (`MV.Good`), and the proof that the registers of every reachable
world (replicas writing under their own node id) are such registers.
-/
import GoaktVerif.Lemmas.Crdt.Dots
import GoaktVerif.Lemmas.C38.Counters
import GoaktVerif.Model.Crdt.MVRegister

namespace GoaktVerif.C38
open GoaktVerif.Model.Crdt GoaktVerif.Model.Crdt.AMap GoaktVerif.Spec.C38

theorem containsMVDot_iff (es : List MvEntry) (d : Dot) : containsMVDot es d = true ↔ ∃ e ∈ es, e.dot = d :=
  hasDot_iff MvEntry.dot es d

theorem nodup_appendMVEntryUnique {acc : List MvEntry} (h : acc.Nodup) (d : MvEntry) :
    (appendMVEntryUnique acc d).Nodup := by
  unfold appendMVEntryUnique
  split
  · exact h
  · rename_i hc
    refine List.nodup_append.mpr ⟨h, List.pairwise_singleton _ d, fun a ha b hb hab => hc ?_⟩
    rw [List.mem_singleton.mp hb] at hab
    exact (containsMVDot_iff _ _).mpr ⟨a, ha, congrArg MvEntry.dot hab⟩

theorem nodup_keepLoop {acc mine : List MvEntry} {oc : AMap Nat} {oe : List MvEntry} (h : acc.Nodup) :
    (MVRegister.keepLoop acc mine oc oe).Nodup :=
  List.foldlRecOn mine _ h fun b hb e _ => by
    split
    · exact nodup_appendMVEntryUnique hb e
    · exact hb

theorem mem_keepLoop (acc mine : List MvEntry) (oc : AMap Nat) (oe : List MvEntry)
    (hf : ∀ a ∈ acc ++ mine, ∀ b ∈ acc ++ mine, a.dot = b.dot → a = b) (x : MvEntry) :
    x ∈ MVRegister.keepLoop acc mine oc oe ↔
      x ∈ acc ∨ (x ∈ mine ∧ (¬ x.dot.counter ≤ oc.getD x.dot.nodeID 0 ∨ ∃ f ∈ oe, f.dot = x.dot)) :=
  mem_keepLoopG MvEntry.dot acc mine oc oe hf x

def MV.clockOf (r : MVRegister) (n : Nat) : Nat := r.clock.getD n 0

theorem MV.dotfun_of_sub {r o : MVRegister} (hr : r.WF) (ho : o.WF) (hc : MVRegister.Compat r o) {a b : MvEntry}
    (ha : a ∈ r.entries ∨ a ∈ o.entries) (hb : b ∈ r.entries ∨ b ∈ o.entries) (hab : a.dot = b.dot) : a = b := by
  rcases ha with ha | ha <;> rcases hb with hb | hb
  · exact hr.dotfun a ha b hb hab
  · exact hc a ha b hb hab
  · exact (hc b hb a ha hab.symm).symm
  · exact ho.dotfun a ha b hb hab

theorem MV.mem_merge {r o : MVRegister} (hr : r.WF) (ho : o.WF) (hc : MVRegister.Compat r o) (x : MvEntry) :
    x ∈ (r.merge o).entries ↔
      keeps (x ∈ r.entries) (x ∈ o.entries) (MV.clockOf r x.dot.nodeID) (MV.clockOf o x.dot.nodeID) x.dot.counter := by
  -- holding the dot of `x` is holding `x`, by compatibility
  have eo : x ∈ r.entries → ((∃ f ∈ o.entries, f.dot = x.dot) ↔ x ∈ o.entries) := fun h =>
    ⟨fun ⟨f, hf, hfd⟩ => hc x h f hf hfd.symm ▸ hf, fun h2 => ⟨x, h2, rfl⟩⟩
  have er : x ∈ o.entries → ((∃ f ∈ r.entries, f.dot = x.dot) ↔ x ∈ r.entries) := fun h =>
    ⟨fun ⟨f, hf, hfd⟩ => (hc f hf x h hfd).symm ▸ hf, fun h2 => ⟨x, h2, rfl⟩⟩
  have h1 := mem_keepLoop [] r.entries o.clock o.entries hr.dotfun
  have hsub : ∀ z ∈ MVRegister.keepLoop [] r.entries o.clock o.entries, z ∈ r.entries := fun z hz =>
    ((h1 z).mp hz).elim (fun h => nomatch h) And.left
  show x ∈ MVRegister.keepLoop _ o.entries r.clock r.entries ↔ _
  rw [mem_keepLoop, h1]
  · simp only [List.not_mem_nil, false_or]
    exact or_congr (and_congr_right fun h => or_congr_right (eo h)) (and_congr_right fun h => or_congr_right (er h))
  · exact fun a ha b hb => MV.dotfun_of_sub hr ho hc ((List.mem_append.mp ha).imp_left (hsub a))
      ((List.mem_append.mp hb).imp_left (hsub b))

theorem MV.clockOf_merge (r o : MVRegister) (ho : o.clock.Sorted) (n : Nat) :
    MV.clockOf (r.merge o) n = max (MV.clockOf r n) (MV.clockOf o n) :=
  getD_mergeClock _ ho n

theorem MV.sub_merge {r o : MVRegister} (hr : r.WF) (ho : o.WF) (hc : MVRegister.Compat r o) {x : MvEntry}
    (h : x ∈ (r.merge o).entries) : x ∈ r.entries ∨ x ∈ o.entries :=
  keeps_sub ((MV.mem_merge hr ho hc x).mp h)

theorem MV.wf_merge {r o : MVRegister} (hr : r.WF) (ho : o.WF) (hc : MVRegister.Compat r o) : (r.merge o).WF where
  clock_sorted := sorted_mergeClock hr.clock_sorted _
  dots_le e he := by
    show _ ≤ MV.clockOf (r.merge o) e.dot.nodeID
    rw [MV.clockOf_merge r o ho.clock_sorted]
    rcases MV.sub_merge hr ho hc he with h | h
    · exact Nat.le_trans (hr.dots_le e h) (Nat.le_max_left ..)
    · exact Nat.le_trans (ho.dots_le e h) (Nat.le_max_right ..)
  nodup := nodup_keepLoop (nodup_keepLoop List.nodup_nil)
  dotfun a ha b hb := MV.dotfun_of_sub hr ho hc (MV.sub_merge hr ho hc ha) (MV.sub_merge hr ho hc hb)

/-- observation: the version vector as a function, the entries as a multiset (slice order depends on the
    merge order), and hence `Values()` as a multiset -/
def eqvMV (a b : MVRegister) : Prop :=
  (∀ n, MV.clockOf a n = MV.clockOf b n) ∧ a.entries.Perm b.entries ∧ a.values.Perm b.values

theorem eqvMV_of {a b : MVRegister} (ha : a.entries.Nodup) (hb : b.entries.Nodup)
    (hc : ∀ n, MV.clockOf a n = MV.clockOf b n) (hm : ∀ x, x ∈ a.entries ↔ x ∈ b.entries) : eqvMV a b :=
  have hp : a.entries.Perm b.entries := (List.perm_ext_iff_of_nodup ha hb).mpr hm
  ⟨hc, hp, hp.map _⟩

theorem leMV_iff (a b : MVRegister) : leMV a b = true ↔
    leClock a.clock b.clock = true ∧
    ∀ e ∈ b.entries, (¬ e.dot.counter ≤ MV.clockOf a e.dot.nodeID) ∨ e ∈ a.entries := by
  unfold leMV
  rw [Bool.and_eq_true, List.all_eq_true]
  exact and_congr_right fun _ => forall_congr' fun e => forall_congr' fun _ =>
    (keepTest_iff ..).trans (or_congr_right List.contains_iff_mem)

end GoaktVerif.C38

namespace GoaktVerif.C39
open GoaktVerif.Model.Crdt GoaktVerif.C38

def mvCoreOf (r : MVRegister) : OsCore := (fun n => MV.clockOf r n, fun v d => (⟨v, d⟩ : MvEntry) ∈ r.entries)

theorem mvCoreOf_merge {r o : MVRegister} (hr : r.WF) (ho : o.WF) (hc : MVRegister.Compat r o) :
    mvCoreOf (r.merge o) = osJoin (mvCoreOf r) (mvCoreOf o) :=
  Prod.ext (funext fun n => MV.clockOf_merge r o ho.clock_sorted n)
    (funext fun v => funext fun d => propext (MV.mem_merge hr ho hc ⟨v, d⟩))

end GoaktVerif.C39

namespace GoaktVerif.C38
open GoaktVerif.Model.Crdt GoaktVerif.Model.Crdt.AMap GoaktVerif.Spec.C38 GoaktVerif.C39

theorem leMV_of {x m : MVRegister} (hx : x.clock.Sorted) (h : osLe (mvCoreOf x) (mvCoreOf m)) : leMV x m = true :=
  (leMV_iff x m).mpr ⟨leClock_of hx h.1, fun e he => h.2 e.value e.dot he⟩

theorem eqvMV_of_core {a b : MVRegister} (ha : a.entries.Nodup) (hb : b.entries.Nodup)
    (h : mvCoreOf a = mvCoreOf b) : eqvMV a b :=
  eqvMV_of ha hb (fun n => congrFun (congrArg Prod.fst h) n)
    fun x => iff_of_eq (congrFun (congrFun (congrArg Prod.snd h) x.value) x.dot)

theorem MV.compat_of_agree {a b : MVRegister}
    (h : ∀ (t : Dot) (p q : Nat), (⟨p, t⟩ : MvEntry) ∈ a.entries → (⟨q, t⟩ : MvEntry) ∈ b.entries → p = q) :
    MVRegister.Compat a b := by
  rintro ⟨p, t⟩ he ⟨q, t'⟩ hf (rfl : t = t')
  rw [h t p q he hf]

/-- `r` is well formed and holds only writes of `W` ("value `v` was written under dot `d`").  When `W` is functional (a dot
    names one write) any two such registers are compatible and their merge is one again, so Merge is a join on them. -/
structure MV.Good (W : Dot → Nat → Prop) (r : MVRegister) : Prop where
  wf : r.WF
  writes : ∀ e ∈ r.entries, W e.dot e.value

section Good
variable {W : Dot → Nat → Prop} (hW : ∀ d p q, W d p → W d q → p = q) {a b : MVRegister}
include hW

theorem MV.Good.compat (ga : MV.Good W a) (gb : MV.Good W b) : MVRegister.Compat a b :=
  MV.compat_of_agree fun t p q hp hq => hW t p q (ga.writes _ hp) (gb.writes _ hq)

theorem MV.Good.merge (ga : MV.Good W a) (gb : MV.Good W b) : MV.Good W (a.merge b) :=
  ⟨MV.wf_merge ga.wf gb.wf (ga.compat hW gb),
   fun e he => (MV.sub_merge ga.wf gb.wf (ga.compat hW gb) he).elim (ga.writes e) (gb.writes e)⟩

theorem MV.Good.core_merge (ga : MV.Good W a) (gb : MV.Good W b) :
    mvCoreOf (a.merge b) = osJoin (mvCoreOf a) (mvCoreOf b) := mvCoreOf_merge ga.wf gb.wf (ga.compat hW gb)

theorem MV.joinLaws_good : JoinLaws (MV.Good W) MVRegister.merge eqvMV leMV where
  comm x y gx gy := eqvMV_of_core (gx.merge hW gy).wf.nodup (gy.merge hW gx).wf.nodup (by
    rw [gx.core_merge hW gy, gy.core_merge hW gx, osJoin_comm])
  idem x gx := eqvMV_of_core (gx.merge hW gx).wf.nodup gx.wf.nodup (by rw [gx.core_merge hW gx, osJoin_idem])
  assoc x y z gx gy gz :=
    eqvMV_of_core ((gx.merge hW gy).merge hW gz).wf.nodup (gx.merge hW (gy.merge hW gz)).wf.nodup (by
      rw [(gx.merge hW gy).core_merge hW gz, gx.core_merge hW (gy.merge hW gz), gx.core_merge hW gy,
        gy.core_merge hW gz, osJoin_assoc])
  infl x y gx gy :=
    have e := gx.core_merge hW gy
    ⟨leMV_of gx.wf.clock_sorted (e ▸ osLe_join_left ..), leMV_of gy.wf.clock_sorted (e ▸ osLe_join_right ..)⟩

end Good

/-- tag = dot, issued by its node; a register has seen the dots its clock covers -/
abbrev MV.Inv (w : MVRegister.World) : Prop :=
  OneWrite MVRegister.WF (fun (r : MVRegister) d v => (⟨v, d⟩ : MvEntry) ∈ r.entries) Dot.nodeID
    (fun r d => d.counter ≤ MV.clockOf r d.nodeID) w.replica w.pool

def MV.written (w : MVRegister.World) (d : Dot) (p : Nat) : Prop := ∃ y, w.has y ∧ (⟨p, d⟩ : MvEntry) ∈ y.entries

theorem MV.Inv.isGood {w : MVRegister.World} (I : MV.Inv w) {x : MVRegister} (hx : w.has x) : MV.Good (MV.written w) x :=
  ⟨I.good x hx, fun _ he => ⟨x, hx, he⟩⟩

theorem MV.Inv.functional {w : MVRegister.World} (I : MV.Inv w) (d : Dot) (p q : Nat) :
    MV.written w d p → MV.written w d q → p = q :=
  fun ⟨x, hx, hp⟩ ⟨y, hy, hq⟩ => I.agree x y hx hy d p q hp hq

theorem MV.wf_new : MVRegister.new.WF :=
  ⟨sorted_nil, fun _ h => (nomatch h), List.nodup_nil, fun _ h => (nomatch h)⟩

theorem MV.clockOf_set (r : MVRegister) (n v : Nat) : MV.clockOf (r.set n v) n = MV.clockOf r n + 1 :=
  (AMap.getD_set ..).trans (if_pos rfl)

theorem MV.wf_set {r : MVRegister} (h : r.WF) (n v : Nat) : (r.set n v).WF := by
  refine ⟨sorted_set h.clock_sorted _ _, fun e he => ?_, List.pairwise_singleton _ _, fun a ha b hb _ => ?_⟩
  · rw [List.mem_singleton.mp he]
    exact Nat.le_of_eq (MV.clockOf_set r n v).symm
  · rw [List.mem_singleton.mp ha, List.mem_singleton.mp hb]

theorem MV.wf_resetDelta {r : MVRegister} (h : r.WF) : r.resetDelta.WF :=
  ⟨h.clock_sorted, h.dots_le, h.nodup, h.dotfun⟩

theorem MV.clockOf_le_set (r : MVRegister) (n v k : Nat) : MV.clockOf r k ≤ MV.clockOf (r.set n v) k := by
  show _ ≤ AMap.getD (AMap.set _ _ _) k 0
  rw [AMap.getD_set]
  split
  · rename_i e; rw [e]; exact Nat.le_succ _
  · exact Nat.le_refl _

theorem MV.inv_of_reachable {w : MVRegister.World} (h : MVRegister.World.Reachable w) : MV.Inv w := by
  induction h with
  | init =>
    refine ⟨fun x hx => has_init hx ▸ MV.wf_new, fun x y hx hy t p q hp hq => ?_, fun x hx t p hp => ?_⟩
    · rw [has_init hx] at hp; cases hp
    · rw [has_init hx] at hp; cases hp
  | @set w n v _ ih =>
    have hc := MV.clockOf_set (w.replica n) n v
    refine OneWrite.setReplica ih n _ (MV.wf_set (ih.good _ (Or.inr ⟨n, rfl⟩)) n v)
      (fun t h => Nat.le_trans h (MV.clockOf_le_set ..)) (fun t p hz => Or.inr ?_)
      fun t p q hp hq => by cases List.mem_singleton.mp hp; cases List.mem_singleton.mp hq; rfl
    cases List.mem_singleton.mp hz
    exact ⟨rfl, Nat.not_succ_le_self _, Nat.le_of_eq hc.symm⟩
  | @deliver w n m _ hm ih =>
    have g := (ih.isGood (Or.inr ⟨n, rfl⟩)).merge ih.functional (ih.isGood hm)
    exact OneWrite.setReplica ih n _ g.wf
      (fun t h => Nat.le_trans h (MV.clockOf_merge _ _ (ih.good m hm).clock_sorted _ ▸ Nat.le_max_left ..))
      (fun t p hz => Or.inl (g.writes ⟨p, t⟩ hz)) fun t p q hp hq => congrArg MvEntry.value (g.wf.dotfun _ hp _ hq rfl)
  | @resetDelta w n _ ih =>
    have hr := ih.good (w.replica n) (Or.inr ⟨n, rfl⟩)
    exact OneWrite.setReplica ih n (w.replica n).resetDelta (MV.wf_resetDelta hr) (fun t h => h)
      (fun t p hz => Or.inl ⟨_, Or.inr ⟨n, rfl⟩, hz⟩) fun t p q hp hq => congrArg MvEntry.value (hr.dotfun _ hp _ hq rfl)
  | @snapshot w x _ hx ih => exact OneWrite.addPool ih _ (ih.good x hx) fun t p hz => ⟨x, hx, hz⟩
  | @delta w x d _ hx hd ih =>
    cases (Option.ite_none_right_eq_some.mp hd).2
    exact OneWrite.addPool ih _ (ih.good x hx) fun t p hz => ⟨x, hx, hz⟩
  | @mergeAny w x y _ hx hy ih =>
    have g := (ih.isGood hx).merge ih.functional (ih.isGood hy)
    exact OneWrite.addPool ih _ g.wf fun t p hz => g.writes ⟨p, t⟩ hz
  | @resetAny w x _ hx ih =>
    exact OneWrite.addPool ih x.resetDelta (MV.wf_resetDelta (ih.good x hx)) fun t p hz => ⟨x, hx, hz⟩

end GoaktVerif.C38
