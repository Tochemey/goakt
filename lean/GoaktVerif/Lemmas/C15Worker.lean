import GoaktVerif.Lemmas.C15Step

/-
C15 — `Mode.fixed`: the worker's steps (`Deq`, `CAS:responseClosed`, `Send`).
-/
namespace GoaktVerif.C15
open GoaktVerif.Model.C15

theorem no_other_worker {c : Cfg} {own} (h : FInv c own) {tid : Nat} {t : Thread} (ht : c.threads[tid]? = some t)
    (hcur : t.cur = some .handle) {j : Nat} {tj : Thread} (hne : j ≠ tid) (hj : c.threads[j]? = some tj) {i k}
    (hpc : tj.pc = some (.hCas i k) ∨ tj.pc = some (.hSend i k)) : False := by
  have hoj := (h.thr j tj hj).1
  obtain ⟨pc, _, _, _, _⟩ := tj
  rcases hpc with e | e <;> cases e <;> exact hne (h.single j tid _ t hj ht (Or.inl hoj.1) (Or.inl hcur))

/-- While thread `tid` is the worker no other thread is at `CAS:responseClosed` or `Send`, so what another thread
knows survives a step of `tid` as soon as its context facts (`hb`) and channel facts (`hs`) do. -/
theorem transfer_other {c c1 : Cfg} {own own1} (h : FInv c own) {tid : Nat} {t : Thread} (ht : c.threads[tid]? = some t)
    (hcur : t.cur = some .handle) {j : Nat} {tj : Thread} (hne : j ≠ tid) (hj : c.threads[j]? = some tj)
    (hb : ∀ i, i < c.ctxs.length → i ∉ c.ctxPool → i ∉ c.mbox → i ≠ c.sentinel → buildCtx tj = some i →
      i < c1.ctxs.length ∧ i ∉ c1.ctxPool ∧ i ∉ c1.mbox ∧ i ≠ c1.sentinel)
    (hs : ∀ ch, ch < c.chans.length → ch ∉ c.chanPool → selChan tj = some ch →
      own1 ch = own ch ∧ ch < c1.chans.length ∧ ch ∉ c1.chanPool) : ThreadOk c1 own1 tj :=
  (h.thr j tj hj).1.transfer hb hs fun _ _ _ _ hor _ _ _ => (no_other_worker h ht hcur hne hj hor).elim

theorem GInv.sent_notin {c own} (g : GInv c own) : c.sentinel ∉ c.mbox := fun hm =>
  (List.nodup_append.mp g.lin).2.2 _ (List.mem_append_right _ hm) _ (List.mem_singleton.mpr rfl) rfl

theorem finv_deqNil {c : Cfg} {own : ChanId → ReqId} {tid : Nat} {t : Thread} (h : FInv c own) (ht : c.threads[tid]? = some t) :
    FInv (upd c tid (done t .handle .empty)) own :=
  finv_same h ht (done_ok (h.thr tid t ht).2 fun _ _ e => nomatch e) (Or.inr rfl) (Or.inr rfl) id

theorem finv_deqCons {c : Cfg} {own : ChanId → ReqId} {tid : Nat} {t : Thread} {i : CtxId} {rest : List CtxId} {ch : ChanId} {k : ReqId}
    (h : FInv c own) (ht : c.threads[tid]? = some t) (hpc : t.pc = some .hDeq) (hmb : c.mbox = i :: rest)
    (hp : Pending c own i false ch k) :
    FInv (upd { modCtx c c.sentinel (fun x => { x with response := none, msg := none }) with
                ctxPool := c.ctxPool ++ [c.sentinel], sentinel := i, mbox := rest } tid { t with pc := some (.hCas i k) }) own := by
  obtain ⟨pc, cur, prog, hist, dl⟩ := t
  cases hpc
  have g := h.g
  have hok := h.thr tid _ ht
  have hcur : cur = some .handle := hok.1
  have hi_mem : i ∈ c.mbox := hmb ▸ List.mem_cons_self ..
  obtain ⟨hi_notin, hnd'⟩ := nodup_dequeue (hmb ▸ g.lin)
  simp only [List.mem_append, List.mem_singleton, not_or] at hi_notin
  obtain ⟨hi_pool, hi_rest, hi_sent⟩ := hi_notin
  have hs_rest : c.sentinel ∉ rest := fun hx => g.sent_notin (hmb ▸ List.mem_cons_of_mem _ hx)
  let c2 : Cfg := { modCtx c c.sentinel (fun x => { x with response := none, msg := none }) with
    ctxPool := c.ctxPool ++ [c.sentinel], sentinel := i, mbox := rest }
  have hlen : c2.ctxs.length = c.ctxs.length := length_modCtx ..
  have ectx : ∀ j, j ≠ c.sentinel → ctxOf c2 j = ctxOf c j := fun j hj => ctxOf_modCtx_ne c c.sentinel j _ hj
  have esent : (ctxOf c2 c.sentinel).response = none := by
    show (ctxOf (modCtx c c.sentinel _) c.sentinel).response = none
    rw [ctxOf_modCtx_self c c.sentinel _ g.b_sent]
  have rest_ne : ∀ j ∈ rest, j ≠ c.sentinel := fun j hj e => hs_rest (e ▸ hj)
  have rest_mem : ∀ j ∈ rest, j ∈ c.mbox := fun j hj => hmb ▸ List.mem_cons_of_mem _ hj
  have mem_pool : ∀ j, j ∈ c2.ctxPool ↔ j ∈ c.ctxPool ∨ j = c.sentinel := fun j => by
    show j ∈ c.ctxPool ++ [c.sentinel] ↔ _
    rw [List.mem_append, List.mem_singleton]
  refine finv_update (c1 := c2) h rfl ht ?_ (fun j tj hne hj => transfer_other h ht hcur hne hj ?_ ?_) ⟨?_, hok.2⟩
    (fun _ hb => nomatch hb) (fun _ hs => nomatch hs) id
  · refine ⟨g.mode, hlen ▸ g.b_mbox i hi_mem, fun j hj => hlen ▸ g.b_mbox j (rest_mem j hj), ?_, g.b_hpool, ?_, hnd',
      g.val, g.pool_empty, g.pool_nodup, ?_, ?_⟩
    · rw [hlen]; exact fun j hj => ((mem_pool j).mp hj).elim (g.b_cpool j) (· ▸ g.b_sent)
    · intro j x hx
      by_cases hjs : j = c.sentinel
      · rw [hjs, esent] at hx; cases hx
      · rw [ectx j hjs] at hx; exact g.b_resp j x hx
    · intro j hj
      obtain ⟨x, k', hp'⟩ := g.mbox_ok j (rest_mem j hj)
      exact ⟨x, k', hp'.transfer (ectx j (rest_ne j hj)) rfl rfl hp'.2.2.2⟩
    · intro a b ha hb hab
      rw [ectx a (rest_ne a ha), ectx b (rest_ne b hb)]
      exact g.mbox_dist a b (rest_mem a ha) (rest_mem b hb) hab
  · exact fun i' h1 h2 h3 h4 _ => ⟨hlen ▸ h1, fun hx => ((mem_pool i').mp hx).elim h2 h4,
      fun hx => h3 (rest_mem i' hx), fun e => h3 (e ▸ hi_mem)⟩
  · exact fun x h1 h2 _ => ⟨rfl, h1, h2⟩
  · refine ⟨hcur, rfl, ch, hp.transfer (ectx i hi_sent) rfl rfl hp.2.2.2, fun j hj => ?_⟩
    rw [ectx j (rest_ne j hj)]
    have := g.mbox_dist j i (rest_mem j hj) hi_mem fun e => hi_rest (e ▸ hj)
    rwa [hp.1] at this

theorem finv_cas {c : Cfg} {own : ChanId → ReqId} {tid : Nat} {t : Thread} {i : CtxId} {k : ReqId}
    (h : FInv c own) (ht : c.threads[tid]? = some t) (hpc : t.pc = some (.hCas i k)) :
    FInv (upd (modCtx c i (fun x => { x with closed := true })) tid { t with pc := some (.hSend i k) }) own := by
  obtain ⟨pc, cur, prog, hist, dl⟩ := t
  cases hpc
  have g := h.g
  have hok := h.thr tid _ ht
  obtain ⟨hcur, hsent, ch, hp, hdist⟩ := hok.1
  have hilt : i < c.ctxs.length := hsent ▸ g.b_sent
  let c1 := modCtx c i (fun x => { x with closed := true })
  have hlen : c1.ctxs.length = c.ctxs.length := length_modCtx ..
  have ectx : ∀ j, j ≠ i → ctxOf c1 j = ctxOf c j := fun j hj => ctxOf_modCtx_ne c i j _ hj
  have ei : ctxOf c1 i = { closed := true, response := some ch, msg := some k } := by
    rw [ctxOf_modCtx_self c i _ hilt, hp.1]
  have mb_ne : ∀ j ∈ c.mbox, j ≠ i := fun j hj e => g.sent_notin (hsent ▸ e ▸ hj)
  refine finv_update (c1 := c1) h rfl ht ?_ (fun j tj hne hj => transfer_other h ht hcur hne hj ?_ ?_) ⟨?_, hok.2⟩
    (fun _ hb => nomatch hb) (fun _ hs => nomatch hs) id
  · refine ⟨g.mode, hlen ▸ g.b_sent, hlen ▸ g.b_mbox, hlen ▸ g.b_cpool, g.b_hpool, ?_, g.lin, g.val, g.pool_empty,
      g.pool_nodup, ?_, ?_⟩
    · intro j x hx
      by_cases hji : j = i
      · rw [hji, ei] at hx; cases hx; exact g.b_resp i ch (by rw [hp.1])
      · rw [ectx j hji] at hx; exact g.b_resp j x hx
    · intro j hj
      obtain ⟨x, k', hp'⟩ := g.mbox_ok j hj
      exact ⟨x, k', hp'.transfer (ectx j (mb_ne j hj)) rfl rfl hp'.2.2.2⟩
    · intro a b ha hb hab
      rw [ectx a (mb_ne a ha), ectx b (mb_ne b hb)]; exact g.mbox_dist a b ha hb hab
  · exact fun i' h1 h2 h3 h4 _ => ⟨hlen ▸ h1, h2, h3, h4⟩
  · exact fun x h1 h2 _ => ⟨rfl, h1, h2⟩
  · exact ⟨hcur, hsent, ch, ⟨ei, hp.2.1, hp.2.2.1, hp.2.2.2⟩, fun j hj => ectx j (mb_ne j hj) ▸ hdist j hj⟩

theorem finv_send {c : Cfg} {own : ChanId → ReqId} {tid : Nat} {t : Thread} {i : CtxId} {k : ReqId} {ch : ChanId}
    (h : FInv c own) (ht : c.threads[tid]? = some t) (hpc : t.pc = some (.hSend i k)) (hp : Pending c own i true ch k) :
    FInv (upd { setChan c ch (some k) with log := .respDone k :: c.log } tid (done t .handle (.handled k))) own := by
  obtain ⟨pc, cur, prog, hist, dl⟩ := t
  cases hpc
  have g := h.g
  have hok := h.thr tid _ ht
  obtain ⟨hcur, hsent, ch', hp', hdist⟩ := hok.1
  cases hp.1.symm.trans hp'.1
  have hchlt : ch < c.chans.length := g.b_resp i ch (by rw [hp.1])
  let ca : Cfg := { setChan c ch (some k) with log := Ev.respDone k :: c.log }
  have hca : ∀ x, chanOf ca x = if x = ch then some k else chanOf c x := fun x => chanOf_setChan c ch x _ hchlt
  have hlen : ca.chans.length = c.chans.length := length_setChan ..
  refine finv_update (c1 := ca) h rfl ht ?_ (fun j tj hne hj => transfer_other h ht hcur hne hj ?_ ?_)
    (done_ok (op := .handle) hok.2 fun _ _ e => nomatch e) (fun _ hb => nomatch hb) (fun _ hs => nomatch hs) id
  · refine ⟨g.mode, g.b_sent, g.b_mbox, g.b_cpool, hlen ▸ g.b_hpool, hlen ▸ g.b_resp, g.lin, ?_, ?_, g.pool_nodup, ?_,
      g.mbox_dist⟩
    · intro x w hx
      rw [hca] at hx
      split at hx
      · next e => cases hx; rw [e]; exact hp.2.1
      · exact g.val x w hx
    · intro x hx
      rw [hca, if_neg fun (e : x = ch) => hp.2.2.2 (e ▸ hx)]
      exact g.pool_empty x hx
    · intro j hj
      obtain ⟨x, k', hp'⟩ := g.mbox_ok j hj
      -- the contexts still enqueued point to other channels
      have hx : x ≠ ch := fun e => hdist j hj (by rw [hp'.1, e])
      exact ⟨x, k', hp'.transfer rfl rfl (by rw [hca, if_neg hx]) hp'.2.2.2⟩
  · exact fun i' h1 h2 h3 h4 _ => ⟨h1, h2, h3, h4⟩
  · exact fun x h1 h2 _ => ⟨rfl, hlen ▸ h1, h2⟩

end GoaktVerif.C15
