import GoaktVerif.Lemmas.C15Basic

/-
C15 — every action preserves the invariant of the repaired protocol (`Mode.fixed`), the caller's side: starting an
operation, building a request, the two ways out of the select.
-/
namespace GoaktVerif.C15
open GoaktVerif.Model.C15

theorem finv_start {c : Cfg} {own : ChanId → ReqId} {tid : Nat} {t : Thread}
    (h : FInv c own) (ht : c.threads[tid]? = some t) (hpc : t.pc = none) :
    FInv (upd (startNext c t).1 tid (startNext c t).2) own := by
  obtain ⟨pc, cur, prog, hist, dl⟩ := t
  cases hpc
  have hok := h.thr tid _ ht
  cases prog with
  | nil =>
    exact finv_same h ht ⟨trivial, hok.2⟩ (Or.inr rfl) (Or.inr rfl) fun hr => hr.elim (nomatch ·) (nomatch ·)
  | cons op rest =>
    cases op with
    | handle =>
      exact finv_same h ht ⟨rfl, hok.2⟩ (Or.inr rfl) (Or.inr rfl) fun _ => Or.inr (List.mem_cons_self ..)
    | ask k =>
      obtain ⟨i, c1, e, o⟩ := getContext_spec h.g
      simp only [startNext, e]
      have g := h.g
      -- a thread that is about to build does not hold the context handed out now
      have hbd : ∀ (j : Nat) tj, c.threads[j]? = some tj → buildCtx tj ≠ some i := fun j tj hj hb =>
        have hT := (h.thr j tj hj).1.of_build hb
        o.new.elim hT.2.1 fun hle => Nat.lt_irrefl _ (Nat.lt_of_lt_of_le hT.1 hle)
      refine finv_update h o.thr ht ?_ (fun j tj _ hj => (h.thr j tj hj).1.transfer ?_ ?_ ?_) ⟨?_, hok.2⟩ ?_
        (fun _ hs => nomatch hs) (fun hr => hr.elim (nomatch ·) fun hm => Or.inr (List.mem_cons_of_mem _ hm))
      · refine ⟨o.mode.trans g.mode, ?_, ?_, ?_, ?_, ?_, ?_, ?_, ?_, o.hpool ▸ g.pool_nodup, ?_, ?_⟩
        · rw [o.sent]; exact Nat.lt_of_lt_of_le g.b_sent o.len
        · rw [o.mbox]; exact fun j hj => Nat.lt_of_lt_of_le (g.b_mbox j hj) o.len
        · exact fun j hj => Nat.lt_of_lt_of_le (g.b_cpool j (o.sub.subset hj)) o.len
        · rw [o.hpool, o.chans]; exact g.b_hpool
        · intro j ch hj; rw [o.ctx] at hj; rw [o.chans]; exact g.b_resp j ch hj
        · rw [o.mbox, o.sent]
          exact ((o.sub.append_right _).append_right _).nodup g.lin
        · intro ch v hv; rw [o.chan] at hv; exact g.val ch v hv
        · rw [o.hpool]; intro ch hch; rw [o.chan]; exact g.pool_empty ch hch
        · rw [o.mbox]
          intro j hj
          obtain ⟨ch, k', hp⟩ := g.mbox_ok j hj
          exact ⟨ch, k', hp.transfer (o.ctx j) rfl (o.chan ch) (o.hpool ▸ hp.2.2.2)⟩
        · rw [o.mbox]; intro a b ha hb hab; rw [o.ctx, o.ctx]; exact g.mbox_dist a b ha hb hab
      · exact fun i' h1 h2 h3 h4 _ =>
          ⟨Nat.lt_of_lt_of_le h1 o.len, fun hx => h2 (o.sub.subset hx), o.mbox ▸ h3, o.sent ▸ h4⟩
      · exact fun ch h1 h2 _ => ⟨rfl, o.chans ▸ h1, o.hpool ▸ h2⟩
      · intro i' k' cl ch _ h1 h2 h3
        refine ⟨o.sent ▸ h1, h2.transfer (o.ctx i') rfl (o.chan ch) (o.hpool ▸ h2.2.2.2), ?_⟩
        rw [o.mbox]; intro j hj; rw [o.ctx]; exact h3 j hj
      · exact ⟨rfl, o.lt, o.npool, o.mbox ▸ o.nmbox, o.sent ▸ o.nsent⟩
      · intro i' hb
        cases hb
        exact Or.inr fun j tj _ hj => hbd j tj hj

theorem done_ok {c own} {t : Thread} {op : Op} {r : Res} (hh : histOk t) (hr : ∀ k v, op = .ask k → r = .reply v → v = k) :
    ThreadOk c own (done t op r) ∧ histOk (done t op r) := by
  refine ⟨trivial, fun k v hmem => ?_⟩
  rcases List.mem_cons.mp hmem with e | e
  · cases e; exact hr k v rfl rfl
  · exact hh k v e

theorem finv_build {c c4 : Cfg} {own : ChanId → ReqId} {tid : Nat} {t : Thread} {i : CtxId} {k : ReqId} {ch : ChanId}
    (h : FInv c own) (ht : c.threads[tid]? = some t) (hpc : t.pc = some (.askBuild i k)) (b : BuildOut c i k ch c4) :
    FInv (upd c4 tid { t with pc := some (.askSelect i ch k) }) (ownSet own ch k) := by
  obtain ⟨pc, cur, prog, hist, dl⟩ := t
  cases hpc
  have hok := h.thr tid _ ht
  obtain ⟨hcur, hi_lt, hi_pool, hi_mbox, hi_sent⟩ := hok.1
  have g := h.g
  -- a channel that is in use (not pooled, allocated) is not the new one
  have used_ne : ∀ x, x < c.chans.length → x ∉ c.chanPool → x ≠ ch := fun x h1 h2 e =>
    b.new.elim (fun h3 => h2 (e ▸ h3)) fun h3 => Nat.lt_irrefl _ (Nat.lt_of_lt_of_le (e ▸ h1) h3)
  have pend_ne : ∀ j cl x k', Pending c own j cl x k' → x ≠ ch := fun j cl x k' hp =>
    used_ne x (g.b_resp j x (by rw [hp.1])) hp.2.2.2
  have pend_tr : ∀ j cl x k', j ≠ i → Pending c own j cl x k' → Pending c4 (ownSet own ch k) j cl x k' :=
    fun j cl x k' hji hp => hp.transfer (b.ctx j hji) (ownSet_ne _ _ _ _ (pend_ne j cl x k' hp)) (b.chan x)
      fun hm => hp.2.2.2 (b.pool x hm).1
  have mem_mbox : ∀ j, j ∈ c4.mbox ↔ j ∈ c.mbox ∨ j = i := fun j => by
    rw [b.mbox, List.mem_append, List.mem_singleton]
  have old_ne : ∀ j, j ∈ c.mbox → j ≠ i := fun j hj e => hi_mbox (e ▸ hj)
  -- the contexts already enqueued do not point to the new channel
  have old_resp : ∀ j, j ∈ c.mbox → (ctxOf c4 j).response ≠ some ch := fun j hj => by
    obtain ⟨x, k', hp⟩ := g.mbox_ok j hj
    rw [b.ctx j (old_ne j hj), hp.1]
    exact fun e => pend_ne j false x k' hp (Option.some.inj e)
  refine finv_update h b.thr ht ?_ (fun j tj hne hj => (h.thr j tj hj).1.transfer ?_ ?_ ?_) ⟨?_, hok.2⟩
    (fun _ hb => nomatch hb) ?_ id
  · refine ⟨b.mode.trans g.mode, ?_, ?_, ?_, ?_, ?_, ?_, ?_, ?_, b.pnd, ?_, ?_⟩
    · rw [b.sent, b.len]; exact g.b_sent
    · rw [b.len]; exact fun j hj => ((mem_mbox j).mp hj).elim (g.b_mbox j) (· ▸ hi_lt)
    · rw [b.cpool, b.len]; exact g.b_cpool
    · exact fun x hx => Nat.lt_of_lt_of_le (g.b_hpool x (b.pool x hx).1) b.clen
    · intro j x hj
      by_cases hji : j = i
      · rw [hji, b.ctx_i] at hj; cases hj; exact b.chlt
      · rw [b.ctx j hji] at hj; exact Nat.lt_of_lt_of_le (g.b_resp j x hj) b.clen
    · rw [b.cpool, b.mbox, b.sent]
      exact nodup_enqueue g.lin (by simp [hi_pool, hi_mbox, hi_sent])
    · intro x v hx
      rw [b.chan] at hx
      rw [ownSet_ne _ _ _ _ fun e => nomatch (e ▸ b.empty).symm.trans hx]
      exact g.val x v hx
    · exact fun x hx => (b.chan x).trans (g.pool_empty x (b.pool x hx).1)
    · intro j hj
      rcases (mem_mbox j).mp hj with hj | rfl
      · obtain ⟨x, k', hp⟩ := g.mbox_ok j hj
        exact ⟨x, k', pend_tr j false x k' (old_ne j hj) hp⟩
      · exact ⟨ch, k, b.ctx_i, ownSet_self _ _ _, (b.chan ch).trans b.empty, fun hm => (b.pool ch hm).2 rfl⟩
    · intro x y hx hy hxy
      rcases (mem_mbox x).mp hx with hx | rfl <;> rcases (mem_mbox y).mp hy with hy | rfl
      · rw [b.ctx x (old_ne x hx), b.ctx y (old_ne y hy)]; exact g.mbox_dist x y hx hy hxy
      · rw [b.ctx_i]; exact old_resp x hx
      · rw [b.ctx_i]; exact fun e => old_resp y hy e.symm
      · exact absurd rfl hxy
  · intro i' h1 h2 h3 h4 hb
    have hne' : i' ≠ i := fun e => h.build_dist tid j _ tj i (Ne.symm hne) ht hj rfl (e ▸ hb)
    exact ⟨b.len ▸ h1, b.cpool ▸ h2, fun hm => ((mem_mbox i').mp hm).elim h3 hne', b.sent ▸ h4⟩
  · exact fun x h1 h2 _ =>
      ⟨ownSet_ne _ _ _ _ (used_ne x h1 h2), Nat.lt_of_lt_of_le h1 b.clen, fun hm => h2 (b.pool x hm).1⟩
  · intro i' k' cl x _ h1 h2 h3
    have hne' : i' ≠ i := fun e => hi_sent (e ▸ h1)
    refine ⟨b.sent ▸ h1, pend_tr i' cl x k' hne' h2, fun j hj => ?_⟩
    rcases (mem_mbox j).mp hj with hj | rfl
    · rw [b.ctx j (old_ne j hj)]; exact h3 j hj
    · rw [b.ctx_i]; exact fun e => pend_ne i' cl x k' h2 (Option.some.inj e).symm
  · exact ⟨hcur, ownSet_self _ _ _, b.chlt, fun hm => (b.pool ch hm).2 rfl⟩
  · intro x hs
    cases hs
    exact Or.inr fun j tj _ hj hsj =>
      have hT := (h.thr j tj hj).1.of_sel hsj
      used_ne _ hT.1 hT.2 rfl

theorem finv_reply {c : Cfg} {own : ChanId → ReqId} {tid : Nat} {t : Thread} {i : CtxId} {ch : ChanId} {k v : ReqId}
    (h : FInv c own) (ht : c.threads[tid]? = some t) (hpc : t.pc = some (.askSelect i ch k)) (hv : chanOf c ch = some v) :
    FInv (upd { setChan c ch none with chanPool := c.chanPool ++ [ch] } tid (done t (.ask k) (.reply v))) own := by
  obtain ⟨pc, cur, prog, hist, dl⟩ := t
  cases hpc
  have g := h.g
  have hok := h.thr tid _ ht
  obtain ⟨hcur, hown, hchlt, hchpool⟩ := hok.1
  -- the heap after draining and pooling the channel
  let ca : Cfg := { setChan c ch none with chanPool := c.chanPool ++ [ch] }
  have hca : ∀ x, chanOf ca x = if x = ch then none else chanOf c x := fun x => chanOf_setChan c ch x _ hchlt
  have hlen : ca.chans.length = c.chans.length := length_setChan ..
  have mem_pool : ∀ x, x ∈ ca.chanPool ↔ x ∈ c.chanPool ∨ x = ch := fun x => by
    show x ∈ c.chanPool ++ [ch] ↔ _
    rw [List.mem_append, List.mem_singleton]
  have pend_tr : ∀ j cl x k', Pending c own j cl x k' → Pending ca own j cl x k' := fun j cl x k' hp =>
    have hx : x ≠ ch := fun e => nomatch (e ▸ hp.2.2.1).symm.trans hv
    hp.transfer rfl rfl (by rw [hca, if_neg hx]) fun hm => ((mem_pool x).mp hm).elim hp.2.2.2 hx
  refine finv_update (c1 := ca) h rfl ht ?_ (fun j tj hne hj => (h.thr j tj hj).1.transfer ?_ ?_ ?_)
    (done_ok hok.2 fun k' v' e1 e2 => ?_) (fun _ hb => nomatch hb) (fun _ hs => nomatch hs) id
  · refine ⟨g.mode, g.b_sent, g.b_mbox, g.b_cpool, ?_, ?_, g.lin, ?_, ?_, ?_, ?_, g.mbox_dist⟩
    · rw [hlen]; exact fun x hx => ((mem_pool x).mp hx).elim (g.b_hpool x) (· ▸ hchlt)
    · rw [hlen]; exact g.b_resp
    · intro x w hx
      rw [hca] at hx
      split at hx
      · cases hx
      · exact g.val x w hx
    · intro x hx
      rw [hca]
      split
      · rfl
      · next hxc => exact g.pool_empty x (((mem_pool x).mp hx).resolve_right hxc)
    · exact List.nodup_append.mpr ⟨g.pool_nodup, by simp,
        fun a ha b hb => List.mem_singleton.mp hb ▸ fun e => hchpool (e ▸ ha)⟩
    · intro j hj
      obtain ⟨x, k', hp⟩ := g.mbox_ok j hj
      exact ⟨x, k', pend_tr j false x k' hp⟩
  · exact fun i' h1 h2 h3 h4 _ => ⟨h1, h2, h3, h4⟩
  · intro x h1 h2 hs
    have hxc : x ≠ ch := fun e => h.sel_dist j tid tj _ x hne hj ht hs (e ▸ rfl)
    exact ⟨rfl, hlen ▸ h1, fun hm => ((mem_pool x).mp hm).elim h2 hxc⟩
  · exact fun i' k' cl x _ h1 h2 h3 => ⟨h1, pend_tr i' cl x k' h2, h3⟩
  · -- the value taken from the channel is the one the channel was handed out for
    cases e1; cases e2
    exact (g.val ch v hv).symm.trans hown

theorem finv_timedOut {c : Cfg} {own : ChanId → ReqId} {tid : Nat} {t : Thread} {k : ReqId}
    (h : FInv c own) (ht : c.threads[tid]? = some t) :
    FInv (upd { c with log := .timedOut k :: c.log } tid (done t (.ask k) .timeout)) own :=
  finv_update (c1 := { c with log := Ev.timedOut k :: c.log }) h rfl ht (h.g.frame _ _)
    (fun j tj _ hj => (h.thr j tj hj).1) (done_ok (h.thr tid t ht).2 fun _ _ _ e => nomatch e)
    (fun _ hb => nomatch hb) (fun _ hs => nomatch hs) id

end GoaktVerif.C15
