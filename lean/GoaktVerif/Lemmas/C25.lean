/-
Fixed-width big-endian integers read back what was written, and so does the frame `[totalLen|nameLen|name|payload]` shared
by the three built-in serializers; `frameTypeName` agrees with `unframe`.
-/
import GoaktVerif.Model.C25

namespace GoaktVerif.C25
open GoaktVerif.Model.C25

theorem be32_length (n : Nat) : (be32 n).length = 4 := rfl

theorem be32_wf (n : Nat) : ∀ b ∈ be32 n, b < 256 := by
  intro b hb
  simp only [be32, List.mem_cons, List.not_mem_nil, or_false] at hb
  omega

theorem rd32_be32_append (n : Nat) (rest : Bytes) : rd32 (be32 n ++ rest) = n % 4294967296 := by
  -- n mod 2^32 digit by digit (`x % (256 * b) = x % 256 + 256 * (x / 256 % b)`), which leaves a linear identity
  have h1 := Nat.mod_mul (x := n) (a := 256) (b := 16777216)
  have h2 := Nat.mod_mul (x := n / 256) (a := 256) (b := 65536)
  have h3 := Nat.mod_mul (x := n / 256 / 256) (a := 256) (b := 256)
  simp only [Nat.div_div_eq_div_mul, Nat.reduceMul] at h1 h2 h3
  simp only [be32, List.cons_append, List.nil_append, rd32, h1, h2, h3]
  omega

theorem rd32_be32 {n : Nat} (h : n < 4294967296) (rest : Bytes) : rd32 (be32 n ++ rest) = n := by
  rw [rd32_be32_append, Nat.mod_eq_of_lt h]

theorem drop4_be32 (n : Nat) (rest : Bytes) : (be32 n ++ rest).drop 4 = rest := rfl

theorem be64_length (n : Nat) : (be64 n).length = 8 := rfl

theorem rd64_be64 (n : Nat) (rest : Bytes) : rd64 (be64 n ++ rest) = n % 18446744073709551616 := by
  unfold rd64 be64
  rw [List.append_assoc, rd32_be32_append, drop4_be32, rd32_be32_append,
    show 18446744073709551616 = 4294967296 * 4294967296 from rfl, Nat.mod_mul, Nat.mul_comm, Nat.add_comm]

theorem toI64_toU64 (i : Int) (h1 : -9223372036854775808 ≤ i) (h2 : i < 9223372036854775808) :
    toI64 (toU64 i) = i := by
  unfold toI64 toU64
  simp only
  split <;> omega

theorem frame_length (n p : Bytes) : (frame n p).length = 8 + n.length + p.length := by
  simp only [frame, List.length_append, be32_length]

theorem frame_drop8 (n p : Bytes) : (frame n p).drop 8 = n ++ p := rfl

theorem frame_drop4 (n p : Bytes) : (frame n p).drop 4 = be32 n.length ++ (n ++ p) := rfl

theorem frame_rd32 (n p : Bytes) (h : 8 + n.length + p.length < 4294967296) :
    rd32 (frame n p) = 8 + n.length + p.length := by
  unfold frame
  rw [List.append_assoc, List.append_assoc, rd32_be32 h]

theorem frame_nameLen (n p : Bytes) (h : 8 + n.length + p.length < 4294967296) :
    rd32 ((frame n p).drop 4) = n.length := by
  rw [frame_drop4, rd32_be32 (by omega)]

/-- decoding a frame gives back exactly the name and the payload (sizes that fit the uint32 header) -/
theorem unframe_frame (n p : Bytes) (h : 8 + n.length + p.length < 4294967296) :
    unframe (frame n p) = some (n, p) := by
  unfold unframe
  simp only [frame_length, frame_rd32 n p h, frame_nameLen n p h, frame_drop8]
  have h1 : ¬ (8 + n.length + p.length < 8) := by omega
  have h3 : ¬ (8 + n.length > 8 + n.length + p.length) := by omega
  have h4 : (frame n p).drop (8 + n.length) = p := by
    rw [← List.drop_drop, frame_drop8]; simp
  simp [h1, h3, h4]

/-- `frameTypeName` succeeds exactly on frames `unframe` accepts with a non-empty name, with the same name -/
theorem frameTypeName_eq_unframe (d : Bytes) :
    frameTypeName d = (match unframe d with
      | some (n, _) => if rd32 (d.drop 4) = 0 then none else some n
      | none => none) := by
  unfold frameTypeName unframe
  by_cases h8 : d.length < 8
  · simp [h8]
  · simp only [h8, if_false]
    by_cases ht : d.length < rd32 d ∨ rd32 d < 8
    · rcases ht with ht | ht <;> simp [ht]
    · have : ¬ d.length < rd32 d := fun h => ht (Or.inl h)
      have : ¬ rd32 d < 8 := fun h => ht (Or.inr h)
      by_cases hz : rd32 (d.drop 4) = 0 <;> by_cases hn : 8 + rd32 (d.drop 4) > rd32 d <;> simp [*]

theorem frameTypeName_frame (n p : Bytes) (h : 8 + n.length + p.length < 4294967296) (hn : n ≠ []) :
    frameTypeName (frame n p) = some n := by
  rw [frameTypeName_eq_unframe, unframe_frame n p h, frame_nameLen n p h]
  exact if_neg fun h0 => hn (List.eq_nil_of_length_eq_zero h0)

end GoaktVerif.C25
