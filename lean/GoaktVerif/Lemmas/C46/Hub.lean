/-
C46 lemmas: the fan-out hubs Broadcast, Partition and Balance send every element where their junction says.
Broadcast and Partition send it to the live slots that want it: one invariant, parameterised by "slot i wants v",
slot cancellation anywhere.  Balance hands every element to exactly one slot, in arrival order.
-/
import GoaktVerif.Model.C46
import GoaktVerif.Lemmas.C46.Interleave

namespace GoaktVerif.C46
open GoaktVerif.Model.C45 (Val Down)
open GoaktVerif.Model.C46

/-- ghost record of a hub run: elements handled, (slot, element) pairs sent, and whether streamComplete was sent to a slot -/
structure HTrace where
  ins : List Val := []
  sent : List (Nat × Val) := []
  completed : Bool := false

def elemsTo (l : List (Nat × Down)) : List (Nat × Val) :=
  l.filterMap fun p => match p.2 with | .elem v => some (p.1, v) | _ => none

def HTrace.add (t : HTrace) (ev : HEv) (o : HOut) : HTrace :=
  { ins := match ev with | .elem v => t.ins ++ [v] | _ => t.ins,
    sent := t.sent ++ elemsTo o.toSlots,
    completed := t.completed || o.toSlots.any (fun p => p.2 == Down.complete) }

def hubRun (k : HubKind) : HubSt × HTrace → List HEv → HubSt × HTrace
  | st, [] => st
  | (s, t), ev :: evs =>
    if s.alive then let r := hubStep k s ev; hubRun k (r.1, t.add ev r.2) evs
    else hubRun k (s, t) evs

def noCancel (evs : List HEv) : Prop := ∀ ev ∈ evs, ∀ slot, ev = .slotCancel slot → False

theorem elemsTo_map (l : List Nat) (d : Down) :
    elemsTo (l.map fun i => (i, d)) = match d with | .elem v => l.map fun i => (i, v) | _ => [] := by
  cases d with
  | elem v =>
    induction l with
    | nil => rfl
    | cons a l ih => exact congrArg (List.cons (a, v)) ih
  | complete =>
    induction l with
    | nil => rfl
    | cons a l ih => exact ih
  | error e =>
    induction l with
    | nil => rfl
    | cons a l ih => exact ih

/-- terminal messages carry no element -/
theorem elemsTo_append_map (a : List (Nat × Down)) (l : List Nat) (d : Down) (hd : ∀ v, d ≠ .elem v) :
    elemsTo (a ++ l.map fun i => (i, d)) = elemsTo a := by
  rw [elemsTo, List.filterMap_append, ← elemsTo, ← elemsTo, elemsTo_map]
  cases d with
  | elem v => exact absurd rfl (hd v)
  | _ => exact List.append_nil _

theorem maybePull_shape (k : HubKind) (s : HubSt) : ∃ p u, s.maybePull k = ({ s with pending := p }, u) := by
  -- `fun_cases f args` / `fun_induction f args`: one goal per leaf of `f` (numbered as in Model/C46.lean), guards and matches
  -- as hypotheses, the leaf's result in place of the call (and the statement for the recursive call)
  fun_cases HubSt.maybePull k s
  case case1 | case2 => exact ⟨s.pending, [], rfl⟩   -- a pull is pending; no demand: `s` as it is
  case case3 => exact ⟨_, _, rfl⟩   -- pulls `m`

theorem maybePull_keeps (k : HubKind) (s : HubSt) :
    (s.maybePull k).1.live = s.live ∧ (s.maybePull k).1.n = s.n ∧ (s.maybePull k).1.buf = s.buf := by
  obtain ⟨p, u, h⟩ := maybePull_shape k s
  rw [h]; exact ⟨rfl, rfl, rfl⟩

theorem drain_keeps (f : Nat) (s : HubSt) : (drain f s).1.live = s.live ∧ (drain f s).1.n = s.n := by
  fun_induction drain f s
  case case1 | case2 | case3 => exact ⟨rfl, rfl⟩   -- no fuel; buffer empty; no live slot with demand: `s` as it is
  case case4 ih => exact ih   -- one element routed: `live` and `n` untouched

@[simp] theorem maybePull_live (k : HubKind) (s : HubSt) : (s.maybePull k).1.live = s.live := (maybePull_keeps k s).1
@[simp] theorem maybePull_n (k : HubKind) (s : HubSt) : (s.maybePull k).1.n = s.n := (maybePull_keeps k s).2.1
@[simp] theorem maybePull_buf (k : HubKind) (s : HubSt) : (s.maybePull k).1.buf = s.buf := (maybePull_keeps k s).2.2
@[simp] theorem drain_live (s : HubSt) : s.drain.1.live = s.live := (drain_keeps _ s).1
@[simp] theorem drain_n (s : HubSt) : s.drain.1.n = s.n := (drain_keeps _ s).2

theorem hubStep_keeps (k : HubKind) (s : HubSt) (ev : HEv) :
    (hubStep k s ev).1.n = s.n ∧
    (hubStep k s ev).1.live = match ev with | .slotCancel slot => s.live.set slot false | _ => s.live := by
  let K (l : List Bool) (r : HubSt × HOut) : Prop := r.1.n = s.n ∧ r.1.live = l
  have pull : ∀ s0 : HubSt, s0.n = s.n → ∀ u, K s0.live ((s0.maybePull k).1, u) := fun s0 h0 _ =>
    ⟨(maybePull_n k s0).trans h0, maybePull_live k s0⟩
  cases ev with
  | wire => exact ⟨rfl, rfl⟩
  | slotDemand slot n =>
    exact iteInduction (motive := K s.live)
      (fun _ => iteInduction (motive := K s.live) (fun _ => ⟨drain_n _, drain_live _⟩)
        fun _ => ⟨(maybePull_n _ _).trans (drain_n _), (maybePull_live _ _).trans (drain_live _)⟩)
      fun _ => pull _ (by rfl) _
  | elem v =>
    cases k with
    | broadcast => exact pull _ (by rfl) _
    | balance => exact ⟨(maybePull_n _ _).trans (drain_n _), (maybePull_live _ _).trans (drain_live _)⟩
    | partition m => exact iteInduction (motive := K s.live) (fun _ => pull _ (by rfl) _) fun _ => pull _ (by rfl) _
  | complete => exact iteInduction (motive := K s.live) (fun _ => ⟨rfl, rfl⟩) fun _ => ⟨rfl, rfl⟩
  | error e => exact ⟨rfl, rfl⟩
  | slotCancel slot =>
    exact iteInduction (motive := K (s.live.set slot false)) (fun _ => ⟨rfl, rfl⟩) fun _ => pull _ (by rfl) _

theorem live_of_step {k : HubKind} {s : HubSt} {ev : HEv} {i : Nat}
    (h : (hubStep k s ev).1.live.getD i false = true) : s.live.getD i false = true := by
  rw [(hubStep_keeps k s ev).2] at h
  split at h
  · simp only [List.getD_eq_getElem?_getD, List.getElem?_set] at h ⊢
    split at h
    · split at h <;> simp at h
    · exact h
  · exact h

theorem add_other (k : HubKind) (hk : k ≠ .balance) (s : HubSt) (t : HTrace) (ev : HEv)
    (he : ∀ v, ev ≠ .elem v) :
    (t.add ev (hubStep k s ev).2).sent = t.sent ∧ (t.add ev (hubStep k s ev).2).ins = t.ins := by
  -- nothing, or only terminal messages, goes to the slots
  have none : ∀ o : HOut, elemsTo o.toSlots = [] → (∀ v, ev ≠ .elem v) →
      (t.add ev o).sent = t.sent ∧ (t.add ev o).ins = t.ins := fun o ho he =>
    ⟨by show t.sent ++ elemsTo o.toSlots = t.sent; rw [ho, List.append_nil],
      by cases ev with | elem v => exact absurd rfl (he v) | _ => rfl⟩
  cases ev with
  | elem v => exact absurd rfl (he v)
  | wire => exact none _ rfl he
  | slotDemand slot n => rw [hubStep, if_neg hk]; exact none _ rfl he
  | complete =>
    rw [hubStep, if_neg (by simp [hk])]
    exact none _ (elemsTo_map _ .complete) he
  | error e => exact none _ (elemsTo_map _ (.error e)) he
  | slotCancel slot =>
    exact iteInduction (motive := fun r : HubSt × HOut => (t.add (.slotCancel slot) r.2).sent = t.sent ∧
      (t.add (.slotCancel slot) r.2).ins = t.ins) (fun _ => none _ rfl he) fun _ => none _ rfl he

/-- Slot `i` is sent the handled elements it wants (`want i`): all of them while it is live, a prefix once it
    has cancelled.  Broadcast: every slot wants everything; Partition: slot `i` wants `v` when the selector says `i`. -/
structure RouteInv (want : Nat → Val → Bool) (n : Nat) (s : HubSt) (t : HTrace) : Prop where
  size : s.n = n
  slots : ∀ i, i < n →
    (s.live.getD i false = true → proj t.sent i = t.ins.filter (want i)) ∧ proj t.sent i <+: t.ins.filter (want i)

theorem RouteInv.init (want : Nat → Val → Bool) (n : Nat) : RouteInv want n (HubSt.init n) {} :=
  ⟨rfl, fun _ _ => ⟨fun _ => rfl, List.prefix_refl _⟩⟩

theorem RouteInv.step {want : Nat → Val → Bool} {n : Nat} {k : HubKind} {s : HubSt} {t : HTrace} (hk : k ≠ .balance)
    (h : RouteInv want n s t) (ev : HEv)
    (helem : ∀ v, ev = .elem v → ∀ i, i < n →
      proj (elemsTo (hubStep k s ev).2.toSlots) i = if s.live.getD i false && want i v then [v] else []) :
    RouteInv want n (hubStep k s ev).1 (t.add ev (hubStep k s ev).2) := by
  refine ⟨by rw [(hubStep_keeps k s ev).1]; exact h.size, fun i hi => ?_⟩
  obtain ⟨h1, h2⟩ := h.slots i hi
  by_cases he : ∃ v, ev = .elem v
  · obtain ⟨v, rfl⟩ := he
    have hsent : proj (t.add (.elem v) (hubStep k s (.elem v)).2).sent i =
        proj t.sent i ++ if s.live.getD i false && want i v then [v] else [] := by
      rw [← helem v rfl i hi]; exact proj_append _ _ _
    have hins : (t.add (.elem v) (hubStep k s (.elem v)).2).ins = t.ins ++ [v] := rfl
    rw [hsent, hins, (hubStep_keeps k s (.elem v)).2, List.filter_append]
    by_cases hl : s.live.getD i false = true
    · rw [h1 hl, hl]
      cases hw : want i v <;> simp [hw]
    · -- a slot that has cancelled is sent nothing more
      have hl' : s.live.getD i false = false := by simpa using hl
      simp only [hl', Bool.false_and, Bool.false_eq_true, if_false, List.append_nil]
      exact ⟨fun hh => (by cases hh), h2.trans (List.prefix_append _ _)⟩
  · obtain ⟨a, b⟩ := add_other k hk s t ev fun v hv => he ⟨v, hv⟩
    rw [a, b]
    exact ⟨fun hl => h1 (live_of_step hl), h2⟩

theorem range_filter_eq (n i : Nat) (p : Nat → Bool) :
    (List.range n).filter (fun j => decide (j = i) && p j) = if i < n ∧ p i = true then [i] else [] := by
  induction n with
  | zero => simp
  | succ n ih =>
    rw [List.range_succ, List.filter_append, ih]
    by_cases hin : i = n
    · subst hin; cases hp : p i <;> simp [hp]
    · have : ¬ n = i := fun hh => hin hh.symm
      by_cases hlt : i < n
      · simp [hlt, this, Nat.lt_succ_of_lt hlt]
      · simp [hlt, this, show ¬ i < n + 1 by omega]

theorem proj_liveSlots (s : HubSt) (v : Val) (i : Nat) (hi : i < s.n) :
    proj (elemsTo ((liveSlots s).map fun j => (j, Down.elem v))) i = if s.live.getD i false then [v] else [] := by
  rw [elemsTo_map]
  simp only [proj, liveSlots, List.filter_map, List.filter_filter, Function.comp_def, List.map_map]
  rw [range_filter_eq s.n i fun j => s.live.getD j false]
  cases hl : s.live.getD i false <;> simp [hi]

/-- Partition's selector.  Off the ints the value `0` is junk: the hub drops a non-int (`slot := n` in `hubStep`), which
    is why the Partition clauses assume `intsOnly`. -/
def sel (m : Nat) : Val → Nat
  | .int x => (x.emod m).toNat
  | _ => 0

theorem proj_partition (m : Nat) (s : HubSt) (x : Int) (i : Nat) (hi : i < s.n) :
    proj (elemsTo (hubStep (.partition m) s (.elem (.int x))).2.toSlots) i =
      if s.live.getD i false && decide (sel m (.int x) = i) then [Val.int x] else [] := by
  simp only [hubStep, sel]
  by_cases hxi : (x.emod m).toNat = i
  · subst hxi
    cases hl : s.live.getD (x.emod m).toNat false <;> simp [hi, elemsTo, proj]
  · split <;> simp [elemsTo, proj, hxi]

theorem chooseSlot_lt {s : HubSt} {c : Nat} (h : chooseSlot s = some c) : c < s.n := by
  unfold chooseSlot at h
  have hm := List.mem_of_find?_eq_some h
  simp only [List.mem_map, List.mem_range] at hm
  obtain ⟨i, hi, rfl⟩ := hm
  exact Nat.mod_lt _ (by omega)

theorem drain_spec (f : Nat) (s : HubSt) :
    (elemsTo (drain f s).2).map (·.2) ++ (drain f s).1.buf = s.buf ∧
    (∀ p ∈ elemsTo (drain f s).2, p.1 < s.n) ∧
    ((drain f s).2.any (fun p => p.2 == Down.complete) = false) := by
  fun_induction drain f s
  case case1 s => simp [elemsTo]   -- no fuel
  case case2 f s hb => simp [elemsTo, hb]   -- buffer empty
  case case3 f s v rest hb hch => simp [elemsTo, hb]   -- no live slot with demand
  case case4 f s v rest hb c hch r ih =>   -- `v` heads the buffer (`hb`) and goes to slot `c` (`hch`)
    obtain ⟨h1, h2, h3⟩ := ih
    refine ⟨hb ▸ congrArg (List.cons v) h1, fun p hp => ?_, by rw [List.any_cons, h3]; rfl⟩
    rcases List.mem_cons.mp hp with rfl | hp
    · exact chooseSlot_lt hch
    · exact h2 p hp

structure BlInv (n : Nat) (s : HubSt) (t : HTrace) : Prop where
  size : s.n = n
  tags : ∀ p ∈ t.sent, p.1 < n
  order : t.sent.map (·.2) ++ s.buf = t.ins
  done : t.completed = true → s.buf = []
  live : s.alive = true → t.completed = false

theorem any_complete_map_elem (l : List (Nat × Down)) (h : l.any (fun p => p.2 == Down.complete) = false)
    (m : List Nat) : (l ++ m.map fun i => (i, Down.complete)).any (fun p => p.2 == Down.complete) = !m.isEmpty := by
  rw [List.any_append, h]
  cases m <;> simp

/-- The invariant after a step described by what it sends: elements `es` to slots in range, cut off the front of
    the buffer (grown by `extra`, what arrived); streamComplete only with an empty buffer, stopping the hub. -/
theorem BlInv.of_out {n : Nat} {s s' : HubSt} {t : HTrace} (h : BlInv n s t) (hc : t.completed = false)
    (ev : HEv) (o : HOut) (extra : List Val)
    (hins : (t.add ev o).ins = t.ins ++ extra) (hn : s'.n = n)
    (htags : ∀ p ∈ elemsTo o.toSlots, p.1 < n)
    (hord : (elemsTo o.toSlots).map (·.2) ++ s'.buf = s.buf ++ extra)
    (hfin : o.toSlots.any (fun p => p.2 == Down.complete) = true → s'.buf = [] ∧ s'.alive = false) :
    BlInv n s' (t.add ev o) := by
  have hcomp : (t.add ev o).completed = o.toSlots.any (fun p => p.2 == Down.complete) := by
    simp [HTrace.add, hc]
  refine ⟨hn, fun p hp => ?_, ?_, fun hd => (hfin (hcomp ▸ hd)).1, fun hal => ?_⟩
  · rcases List.mem_append.mp hp with hp | hp
    · exact h.tags p hp
    · exact htags p hp
  · rw [hins, ← h.order]
    simp only [HTrace.add, List.map_append, List.append_assoc, hord]
  · rw [hcomp]
    cases hf : o.toSlots.any (fun p => p.2 == Down.complete) with
    | false => rfl
    | true => rw [(hfin hf).2] at hal; cases hal

theorem BlInv.step {n : Nat} {s : HubSt} {t : HTrace} (h : BlInv n s t) (hal : s.alive = true) (ev : HEv) :
    BlInv n (hubStep .balance s ev).1 (t.add ev (hubStep .balance s ev).2) := by
  have ha := h.live hal
  have quiet : ∀ (s' : HubSt) (o : HOut), (∀ v, ev ≠ .elem v) → s'.n = s.n → s'.buf = s.buf → o.toSlots = [] →
      BlInv n s' (t.add ev o) := fun s' o he hn hb ho =>
    h.of_out ha ev o [] (by cases ev with | elem v => exact (he v rfl).elim | _ => exact (List.append_nil _).symm) (hn.trans h.size)
      (by simp [ho, elemsTo]) (by simp [ho, elemsTo, hb]) (by simp [ho])
  have drained : ∀ (s0 : HubSt) (extra : List Val), s0.n = s.n → s0.buf = s.buf ++ extra →
      (∀ p ∈ elemsTo s0.drain.2, p.1 < n) ∧ (elemsTo s0.drain.2).map (·.2) ++ s0.drain.1.buf = s.buf ++ extra ∧
      s0.drain.2.any (fun p => p.2 == Down.complete) = false := fun s0 extra hn hb => by
    obtain ⟨h1, h2, h3⟩ := drain_spec s0.buf.length s0
    exact ⟨fun p hp => by rw [← h.size, ← hn]; exact h2 p hp, hb ▸ h1, h3⟩
  cases ev with
  | wire => exact quiet _ _ (by simp) rfl rfl rfl
  | slotDemand slot k =>
    obtain ⟨d1, d2, d3⟩ := drained { s with demand := s.demand.modify slot (· + k) } [] rfl (List.append_nil _).symm
    simp only [hubStep, if_true]
    split
    · rename_i hfin
      exact h.of_out ha _ _ [] (List.append_nil _).symm (by simp [h.size])
        (by rw [elemsTo_append_map _ _ .complete nofun]; exact d1) (by rw [elemsTo_append_map _ _ .complete nofun]; exact d2)
        fun _ => ⟨List.isEmpty_iff.mp (Bool.and_eq_true_iff.mp hfin).2, rfl⟩
    · exact h.of_out ha _ _ [] (List.append_nil _).symm (by simp [h.size]) d1 (by simpa using d2)
        fun hf => by rw [d3] at hf; cases hf
  | elem v =>
    obtain ⟨d1, d2, d3⟩ := drained { s with pending := s.pending - 1, buf := s.buf ++ [v] } [v] rfl rfl
    simp only [hubStep]
    exact h.of_out ha _ _ [v] rfl (by simp [h.size]) d1 (by simpa using d2) fun hf => by rw [d3] at hf; cases hf
  | complete =>
    simp only [hubStep]
    split
    · exact quiet _ _ (by simp) rfl rfl rfl
    · rename_i hne
      have hbe : s.buf = [] := by
        cases hb : s.buf with
        | nil => rfl
        | cons a l => simp [hb] at hne
      exact h.of_out ha _ _ [] (List.append_nil _).symm h.size (by simp [elemsTo_map]) (by simp [elemsTo_map, hbe])
        fun _ => ⟨hbe, rfl⟩
  | error e =>
    exact h.of_out ha _ _ [] (List.append_nil _).symm h.size (by simp [hubStep, elemsTo_map])
      (by simp [hubStep, elemsTo_map]) fun hf => by simp [hubStep] at hf
  | slotCancel slot =>
    simp only [hubStep]
    split
    · exact quiet _ _ (by simp) rfl rfl rfl
    · exact quiet _ _ (by simp) (by simp) (by simp) rfl

end GoaktVerif.C46
