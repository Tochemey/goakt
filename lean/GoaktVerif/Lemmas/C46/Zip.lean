/-
C46 lemmas: Zip pairs positionally — the i-th components of the tuples sent so far, followed by
what slot i still buffers, are exactly the values that arrived on slot i, in order.
-/
import GoaktVerif.Model.C46
import GoaktVerif.Lemmas.C46.Interleave

namespace GoaktVerif.C46
open GoaktVerif.Model.C45 (Val)
open GoaktVerif.Model.C46

/-- the i-th component of an emitted tuple -/
def tupAt (i : Nat) : Val → Option Val
  | .list l => (l[i]?).map Val.int
  | _ => none

/-- every buffered value is an int -/
def IntBufs (bufs : List (List Val)) : Prop := ∀ b ∈ bufs, ∀ v ∈ b, ∃ x, v = Val.int x

theorem heads_get (bufs : List (List Val)) (hi : IntBufs bufs) (hr : allReady bufs = true) :
    ∀ i, i < bufs.length → ∃ x tl, bufs[i]? = some (Val.int x :: tl) ∧ tupAt i (headsTuple bufs) = some (Val.int x) := by
  suffices h : ∀ i, i < bufs.length → ∃ x tl, bufs[i]? = some (Val.int x :: tl) ∧
      (bufs.filterMap headInt)[i]? = some x by
    intro i hlt
    obtain ⟨x, tl, h1, h2⟩ := h i hlt
    exact ⟨x, tl, h1, by simp [tupAt, headsTuple, h2]⟩
  induction bufs with
  | nil => intro i hlt; cases hlt
  | cons b bs ih =>
    intro i hlt
    obtain ⟨x, tl, rfl⟩ : ∃ x tl, b = Val.int x :: tl := by
      cases b with
      | nil => simp [allReady] at hr
      | cons v tl =>
        obtain ⟨x, rfl⟩ := hi (v :: tl) (by simp) v (by simp)
        exact ⟨x, tl, rfl⟩
    cases i with
    | zero => exact ⟨x, tl, rfl, rfl⟩
    | succ i =>
      exact ih (fun b hb v hv => hi b (by simp [hb]) v hv) (by simp [allReady] at hr ⊢; exact hr) i
        (by simpa using hlt)

theorem zipEmit_spec (n : Nat) : ∀ (fuel : Nat) (d : Int) (bufs : List (List Val)), bufs.length = n → IntBufs bufs →
    (zipEmit fuel d bufs).2.1.length = n ∧ IntBufs (zipEmit fuel d bufs).2.1 ∧
    ∀ i, i < n → (zipEmit fuel d bufs).2.2.filterMap (tupAt i) ++ (zipEmit fuel d bufs).2.1.getD i [] = bufs.getD i [] := by
  intro fuel
  induction fuel with
  | zero => intro d bufs hl hi; exact ⟨hl, hi, fun i _ => by simp [zipEmit]⟩
  | succ fuel ih =>
    intro d bufs hl hi
    simp only [zipEmit]
    split
    · rename_i hc
      simp only [Bool.and_eq_true, decide_eq_true_eq] at hc
      have hr := hc.1.2
      have hl' : (bufs.map List.tail).length = n := by simpa using hl
      have hi' : IntBufs (bufs.map List.tail) := by
        intro b hb v hv
        obtain ⟨b0, hb0, rfl⟩ := List.mem_map.mp hb
        exact hi b0 hb0 v (List.mem_of_mem_tail hv)
      obtain ⟨r1, r2, r3⟩ := ih (d - 1) (bufs.map List.tail) hl' hi'
      refine ⟨r1, r2, fun i hlt => ?_⟩
      obtain ⟨x, tl, hb, ht⟩ := heads_get bufs hi hr i (by omega)
      have := r3 i hlt
      simp only [List.filterMap_cons, ht, List.cons_append]
      rw [this]
      simp [List.getD_eq_getElem?_getD, hb]
    · exact ⟨hl, hi, fun i _ => by simp⟩

theorem mem_modify {α : Type} {l : List α} {i : Nat} {f : α → α} {b : α} (h : b ∈ l.modify i f) :
    b ∈ l ∨ ∃ b0 ∈ l, b = f b0 := by
  obtain ⟨j, hj⟩ := List.getElem?_of_mem h
  by_cases hij : i = j
  · subst hij
    rw [List.getElem?_modify_eq] at hj
    cases hb0 : l[i]? with
    | none => simp [hb0] at hj
    | some b0 => exact Or.inr ⟨b0, List.mem_of_getElem? hb0, by simpa [hb0] using hj.symm⟩
  · rw [List.getElem?_modify_ne _ _ hij] at hj
    exact Or.inl (List.mem_of_getElem? hj)

/-- ghost record: arrivals (slot, value) and tuples sent -/
structure ZTrace where
  arr : List (Nat × Val) := []
  sent : List Val := []

def ZTrace.add (t : ZTrace) (ev : JEv) (o : ZOut) : ZTrace :=
  { arr := match ev with | .value slot v => t.arr ++ [(slot, v)] | _ => t.arr, sent := t.sent ++ o.elems }

def zipRun (n : Nat) : ZipSt × ZTrace → List JEv → ZipSt × ZTrace
  | st, [] => st
  | (s, t), ev :: evs =>
    if s.alive then let r := zipStep n s ev; zipRun n (r.1, t.add ev r.2) evs
    else zipRun n (s, t) evs

structure ZInv (n : Nat) (s : ZipSt) (t : ZTrace) : Prop where
  len : s.bufs.length = n
  ints : IntBufs s.bufs
  cols : ∀ i, i < n → t.sent.filterMap (tupAt i) ++ s.bufs.getD i [] = proj t.arr i

theorem tryEmit_spec {n : Nat} {s : ZipSt} (hl : s.bufs.length = n) (hi : IntBufs s.bufs) :
    (s.tryEmit).1.bufs.length = n ∧ IntBufs (s.tryEmit).1.bufs ∧
    ∀ i, i < n → (s.tryEmit).2.1.filterMap (tupAt i) ++ (s.tryEmit).1.bufs.getD i [] = s.bufs.getD i [] := by
  obtain ⟨r1, r2, r3⟩ := zipEmit_spec n (zipFuel s.bufs) s.demand s.bufs hl hi
  unfold ZipSt.tryEmit
  dsimp only
  split <;> exact ⟨r1, r2, r3⟩

/-- events the theorem covers: int values on existing slots, no second wire -/
def zipOK (n : Nat) (evs : List JEv) : Prop :=
  ∀ ev ∈ evs, (∀ (_ : ev = .wire), False) ∧ ∀ slot v, ev = .value slot v → slot < n ∧ ∃ x, v = Val.int x

theorem getD_modify_snoc (l : List (List Val)) (slot i : Nat) (v : Val) (hi : i < l.length) :
    (l.modify slot (· ++ [v])).getD i [] = l.getD i [] ++ proj [(slot, v)] i := by
  rw [List.getD_eq_getElem?_getD, List.getD_eq_getElem?_getD]
  by_cases hs : slot = i
  · subst hs; rw [List.getElem?_modify_eq, List.getElem?_eq_getElem hi]; simp [proj]
  · rw [List.getElem?_modify_ne _ _ hs]; simp [proj, hs]

theorem ZInv.emit {n : Nat} {s0 : ZipSt} {t : ZTrace} {arr' : List (Nat × Val)} (hl : s0.bufs.length = n)
    (hi : IntBufs s0.bufs) (hc : ∀ i, i < n → t.sent.filterMap (tupAt i) ++ s0.bufs.getD i [] = proj arr' i) :
    ZInv n s0.tryEmit.1 { arr := arr', sent := t.sent ++ s0.tryEmit.2.1 } := by
  obtain ⟨r1, r2, r3⟩ := tryEmit_spec hl hi
  exact ⟨r1, r2, fun i hlt => by rw [List.filterMap_append, List.append_assoc, r3 i hlt]; exact hc i hlt⟩

theorem ZInv.step {n : Nat} {s : ZipSt} {t : ZTrace} (h : ZInv n s t) (ev : JEv)
    (hw : ev ≠ .wire) (hv : ∀ slot v, ev = .value slot v → slot < n ∧ ∃ x, v = Val.int x) :
    ZInv n (zipStep n s ev).1 (t.add ev (zipStep n s ev).2) := by
  cases ev with
  | wire => exact absurd rfl hw
  | cancel =>
    simp only [zipStep, ZTrace.add, List.append_nil]
    exact ⟨h.len, h.ints, h.cols⟩
  | req k => simp only [zipStep, ZTrace.add]; exact ZInv.emit h.len h.ints h.cols
  | done slot => simp only [zipStep, ZTrace.add]; exact ZInv.emit h.len h.ints h.cols
  | value slot v =>
    obtain ⟨hs, x, rfl⟩ := hv slot v rfl
    simp only [zipStep, ZTrace.add]
    refine ZInv.emit (by rw [List.length_modify]; exact h.len) (fun b hb w hw' => ?_) fun i hlt => ?_
    · rcases mem_modify hb with hb | ⟨b0, hb0, rfl⟩
      · exact h.ints b hb w hw'
      · rcases List.mem_append.mp hw' with hw' | hw'
        · exact h.ints b0 hb0 w hw'
        · exact ⟨x, List.mem_singleton.mp hw'⟩
    · rw [proj_append, ← h.cols i hlt, List.append_assoc]
      exact congrArg _ (getD_modify_snoc _ _ _ _ (h.len ▸ hlt))

/-- the Zip source after its stageWire (n ≥ 1 sub-sources) -/
def zipInit (n : Nat) : ZipSt × ZTrace :=
  ((zipStep n { bufs := [], done := [] } .wire).1, {})

theorem ZInv.init (n : Nat) (hn : 0 < n) : ZInv n (zipInit n).1 (zipInit n).2 := by
  have : ¬ n = 0 := by omega
  simp only [zipInit, zipStep, this, if_false]
  refine ⟨by simp, ?_, fun i hi => ?_⟩
  · intro b hb v hv; rw [(List.mem_replicate.mp hb).2] at hv; cases hv
  · simp [proj, List.getD_eq_getElem?_getD, hi]

/-- ZIP, for every sequence of requests / int sub-values / sub-dones / cancels after the wire: for every slot i,
    the i-th components of the tuples sent so far followed by what slot i still buffers are the values that
    arrived on slot i, in order — the j-th tuple pairs the j-th arrivals of all slots. -/
theorem zip_correct (n : Nat) (hn : 0 < n) (evs : List JEv) (hok : zipOK n evs) :
    let r := zipRun n (zipInit n) evs
    ∀ i, i < n → r.2.sent.filterMap (tupAt i) ++ r.1.bufs.getD i [] = proj r.2.arr i :=
  (run_inv (run := zipRun n) (Inv := ZInv n) (fun _ => rfl) (fun _ _ _ _ => rfl)
    (fun _ _ ev h _ hev => h.step ev hev.1 hev.2) (ZInv.init n hn) evs hok).cols

end GoaktVerif.C46
