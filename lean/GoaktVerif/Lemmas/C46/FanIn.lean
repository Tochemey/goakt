/-
C46 lemmas: Merge and Concat forward the sub-values in arrival order, whatever the demand pattern, and signal
completion only after everything that arrived has been delivered.
-/
import GoaktVerif.Model.C46
import GoaktVerif.Lemmas.C46.Interleave

namespace GoaktVerif.C46
open GoaktVerif.Model.C45 (Val)
open GoaktVerif.Model.C46

/-- ghost record of a run: sub-values handled, elements sent, streamComplete sent, cancel handled -/
structure Trace where
  arr : List Tagged := []
  sent : List Tagged := []
  completed : Bool := false
  cancelled : Bool := false

def Trace.add (t : Trace) (ev : JEv) (o : JOut) : Trace :=
  { arr := match ev with | .value slot v => t.arr ++ [(slot, v)] | _ => t.arr,
    sent := t.sent ++ o.elems,
    completed := t.completed || o.complete,
    cancelled := t.cancelled || (match ev with | .cancel => true | _ => false) }

def noWire (evs : List JEv) : Prop := ∀ ev ∈ evs, ∀ (_ : ev = .wire), False

/-- A flush, in terms of the invariant Merge and Concat share: `sent` is cut off the front of the buffer (grown
    by what arrived, `extra`); completion is signalled only with an empty buffer and stops the actor. -/
theorem flush_keeps {t : Trace} {buf buf' sent extra : List Tagged} {c alive' : Bool} (ev : JEv)
    (ho : t.sent ++ buf = t.arr) (hc : t.completed = false)
    (hs : sent ++ buf' = buf ++ extra) (hfin : c = true → buf' = [] ∧ alive' = false)
    (harr : (t.add ev ⟨sent, c⟩).arr = t.arr ++ extra) :
    (t.add ev ⟨sent, c⟩).sent ++ buf' = (t.add ev ⟨sent, c⟩).arr ∧
    (alive' = true → (t.add ev ⟨sent, c⟩).completed = false) ∧
    ((t.add ev ⟨sent, c⟩).completed = true → buf' = []) := by
  refine ⟨by rw [harr, ← ho]; simp only [Trace.add, List.append_assoc, hs], fun ha => ?_, fun h => ?_⟩
  · cases c with
    | true => rw [(hfin rfl).2] at ha; cases ha
    | false => simp [Trace.add, hc]
  · cases c with
    | true => exact (hfin rfl).1
    | false => simp [Trace.add, hc] at h

def mergeRun : MergeSt × Trace → List JEv → MergeSt × Trace
  | st, [] => st
  | (s, t), ev :: evs =>
    if s.alive then let r := mergeStep s ev; mergeRun (r.1, t.add ev r.2) evs
    else mergeRun (s, t) evs

theorem merge_tryFlush_spec (s : MergeSt) :
    (s.tryFlush).2.1 ++ (s.tryFlush).1.buf = s.buf ∧
    ((s.tryFlush).2.2 = true → (s.tryFlush).1.buf = [] ∧ (s.tryFlush).1.alive = false) := by
  -- `fun_cases f args`: one goal per leaf of `f` (numbered as in Model/C46.lean), the guard as hypothesis and the leaf's
  -- result in place of the call
  fun_cases MergeSt.tryFlush s
  case case1 k s1 h =>   -- all sub-sources done and the buffer drained: completes and stops
    simp only [Bool.and_eq_true] at h
    exact ⟨List.take_append_drop _ _, fun _ => ⟨List.isEmpty_iff.mp h.2, rfl⟩⟩
  case case2 => exact ⟨List.take_append_drop _ _, fun h2 => by cases h2⟩   -- goes on: no completion

structure MergeInv (s : MergeSt) (t : Trace) : Prop where
  order : t.sent ++ s.buf = t.arr
  alive : s.alive = true → t.completed = false
  drained : t.completed = true → t.cancelled = false → s.buf = []

/-- the initial configuration of a Merge over `n` sub-sources: the stageWire has been handled -/
def mergeInit (n : Nat) : MergeSt × Trace :=
  ((mergeStep { n := n } .wire).1, ({} : Trace).add .wire (mergeStep { n := n } .wire).2)

theorem MergeInv.init (n : Nat) : MergeInv (mergeInit n).1 (mergeInit n).2 := by
  simp only [mergeInit, mergeStep]
  split
  · exact ⟨rfl, fun h1 => (by cases h1), fun _ _ => rfl⟩
  · exact ⟨rfl, fun _ => rfl, fun h1 => (by cases h1)⟩

theorem MergeInv.flushed {s s0 : MergeSt} {t : Trace} (h : MergeInv s t) (ha : s.alive = true)
    (ev : JEv) (extra : List Tagged) (hb : s0.buf = s.buf ++ extra)
    (harr : (t.add ev ⟨s0.tryFlush.2.1, s0.tryFlush.2.2⟩).arr = t.arr ++ extra) :
    MergeInv s0.tryFlush.1 (t.add ev ⟨s0.tryFlush.2.1, s0.tryFlush.2.2⟩) := by
  obtain ⟨h1, h2⟩ := merge_tryFlush_spec s0
  obtain ⟨a, b, c⟩ := flush_keeps ev h.order (h.alive ha) (hb ▸ h1) h2 harr
  exact ⟨a, b, fun hc _ => c hc⟩

theorem MergeInv.step {s : MergeSt} {t : Trace} (h : MergeInv s t) (ha : s.alive = true) (ev : JEv)
    (hw : ev ≠ .wire) :
    MergeInv (mergeStep s ev).1 (t.add ev (mergeStep s ev).2) := by
  cases ev with
  | wire => exact absurd rfl hw
  | req k => exact h.flushed ha (.req k) [] (List.append_nil _).symm (List.append_nil _).symm
  | value slot v => exact h.flushed ha (.value slot v) [(slot, v)] rfl rfl
  | done slot => exact h.flushed ha (.done slot) [] (List.append_nil _).symm (List.append_nil _).symm
  | cancel => exact ⟨by simpa [Trace.add, mergeStep] using h.order, fun h1 => (by cases h1), fun _ h2 => (by simp [Trace.add] at h2)⟩

/-- MERGE, for every sequence of requests / sub-values / sub-dones / cancels after the wire:
    what was sent is a prefix of the arrival order; a completion not caused by a cancel comes only after
    every arrived element was sent, and the output is then an interleaving of the per-source arrival sequences. -/
theorem merge_correct (n : Nat) (evs : List JEv) (hw : noWire evs) :
    let r := mergeRun (mergeInit n) evs
    r.2.sent <+: r.2.arr ∧
    (r.2.completed = true → r.2.cancelled = false → r.2.sent = r.2.arr) ∧
    ((∀ p ∈ r.2.arr, p.1 < n) → r.2.completed = true → r.2.cancelled = false →
      Spec.C46.Interleave (projs n r.2.arr) (r.2.sent.map (·.2))) := by
  have h : MergeInv (mergeRun (mergeInit n) evs).1 (mergeRun (mergeInit n) evs).2 :=
    run_inv (fun _ => rfl) (fun _ _ _ _ => rfl) (fun _ _ ev h ha => h.step ha ev) (MergeInv.init n) evs hw
  have hall : (mergeRun (mergeInit n) evs).2.completed = true → (mergeRun (mergeInit n) evs).2.cancelled = false →
      (mergeRun (mergeInit n) evs).2.sent = (mergeRun (mergeInit n) evs).2.arr := fun hc hk => by
    rw [← h.order, h.drained hc hk, List.append_nil]
  refine ⟨by rw [← h.order]; exact List.prefix_append _ _, hall, fun htags hc hk => ?_⟩
  rw [hall hc hk]
  exact interleave_projs n _ htags

def concatRun : ConcatSt × Trace → List JEv → ConcatSt × Trace
  | st, [] => st
  | (s, t), ev :: evs =>
    if s.alive then let r := concatStep s ev; concatRun (r.1, t.add ev r.2) evs
    else concatRun (s, t) evs

theorem concat_tryFlush_spec (s : ConcatSt) :
    (s.tryFlush).2.1 ++ (s.tryFlush).1.buf = s.buf ∧
    ((s.tryFlush).2.2 = true → (s.tryFlush).1.buf = [] ∧ (s.tryFlush).1.alive = false) := by
  fun_cases ConcatSt.tryFlush s
  case case1 k s1 h =>   -- all sub-sources done and the buffer drained: completes and stops
    simp only [Bool.and_eq_true] at h
    exact ⟨List.take_append_drop _ _, fun _ => ⟨List.isEmpty_iff.mp h.2, rfl⟩⟩
  case case2 => exact ⟨List.take_append_drop _ _, fun h2 => by cases h2⟩   -- goes on: no completion

structure ConcatInv (s : ConcatSt) (t : Trace) : Prop where
  order : t.sent ++ s.buf = t.arr
  alive : s.alive = true → t.completed = false
  drained : t.completed = true → t.cancelled = false → s.buf = []

def concatInit (n : Nat) : ConcatSt × Trace :=
  ((concatStep { n := n } .wire).1, ({} : Trace).add .wire (concatStep { n := n } .wire).2)

theorem ConcatInv.init (n : Nat) : ConcatInv (concatInit n).1 (concatInit n).2 := by
  simp only [concatInit, concatStep]
  split
  · exact ⟨rfl, fun h1 => (by cases h1), fun _ _ => rfl⟩
  · exact ⟨rfl, fun _ => rfl, fun h1 => (by cases h1)⟩

theorem ConcatInv.flushed {s s0 : ConcatSt} {t : Trace} (h : ConcatInv s t) (ha : s.alive = true)
    (ev : JEv) (extra : List Tagged)
    (hb : s0.buf = s.buf ++ extra) (_hal : s0.alive = s.alive)
    (harr : (t.add ev ⟨s0.tryFlush.2.1, s0.tryFlush.2.2⟩).arr = t.arr ++ extra)
    (_hcan : (t.add ev ⟨s0.tryFlush.2.1, s0.tryFlush.2.2⟩).cancelled = t.cancelled) :
    ConcatInv s0.tryFlush.1 (t.add ev ⟨s0.tryFlush.2.1, s0.tryFlush.2.2⟩) := by
  obtain ⟨h1, h2⟩ := concat_tryFlush_spec s0
  obtain ⟨a, b, c⟩ := flush_keeps ev h.order (h.alive ha) (hb ▸ h1) h2 harr
  exact ⟨a, b, fun hc _ => c hc⟩

theorem ConcatInv.step {s : ConcatSt} {t : Trace} (h : ConcatInv s t) (ha : s.alive = true) (ev : JEv)
    (hw : ev ≠ .wire) :
    ConcatInv (concatStep s ev).1 (t.add ev (concatStep s ev).2) := by
  have hc := h.alive ha
  cases ev with
  | wire => exact absurd rfl hw
  | req k => exact h.flushed ha (.req k) [] (List.append_nil _).symm rfl (List.append_nil _).symm (Bool.or_false _)
  | value slot v => exact h.flushed ha (.value slot v) [(slot, v)] rfl rfl rfl (Bool.or_false _)
  | done slot =>
    simp only [concatStep]
    split
    · -- the next sub-source is spawned; nothing is flushed
      exact ⟨by simpa [Trace.add] using h.order, fun _ => by simpa [Trace.add] using hc,
        fun h1 => by simp [Trace.add, hc] at h1⟩
    · exact h.flushed ha (.done slot) [] (List.append_nil _).symm rfl (List.append_nil _).symm (Bool.or_false _)
  | cancel => exact ⟨by simpa [Trace.add, concatStep] using h.order, fun h1 => (by cases h1), fun _ h2 => (by simp [Trace.add] at h2)⟩

/-- CONCAT, for every message sequence after the wire: elements are forwarded in arrival order and a
    completion not caused by a cancel comes only after all of them were sent.  (Sub-source i+1 is
    materialized only when sub-source i has reported done, so arrivals come source by source: the
    arrival order IS the sources one after another.) -/
theorem concat_correct (n : Nat) (evs : List JEv) (hw : noWire evs) :
    let r := concatRun (concatInit n) evs
    r.2.sent <+: r.2.arr ∧ (r.2.completed = true → r.2.cancelled = false → r.2.sent = r.2.arr) := by
  have h : ConcatInv (concatRun (concatInit n) evs).1 (concatRun (concatInit n) evs).2 :=
    run_inv (fun _ => rfl) (fun _ _ _ _ => rfl) (fun _ _ ev h ha => h.step ha ev) (ConcatInv.init n) evs hw
  exact ⟨by rw [← h.order]; exact List.prefix_append _ _,
    fun hc hk => by rw [← h.order, h.drained hc hk, List.append_nil]⟩

end GoaktVerif.C46
