/-
Interleavings: the certificate checker is sound, and a list of tagged values is an interleaving of its per-tag
projections; also the induction along a run that all junction files share.
-/
import GoaktVerif.Spec.C46

namespace GoaktVerif.C46
open GoaktVerif.Spec.C46

theorem checkWitness_sound {α : Type} [DecidableEq α] (srcs : List (List α)) (out : List α) (w : List Nat)
    (h : checkWitness srcs out w = true) : Interleave srcs out := by
  induction out generalizing srcs w with
  | nil =>
    cases w with
    | nil =>
      simp only [checkWitness, List.all_eq_true] at h
      exact .nil (fun s hs => List.isEmpty_iff.mp (h s hs))
    | cons i w => simp [checkWitness] at h
  | cons x out ih =>
    cases w with
    | nil => simp [checkWitness] at h
    | cons i w =>
      simp only [checkWitness] at h
      cases hs : srcs[i]? with
      | none => simp [hs] at h
      | some l =>
        cases l with
        | nil => simp [hs] at h
        | cons y rest =>
          simp only [hs, Bool.and_eq_true, beq_iff_eq] at h
          obtain ⟨hxy, hrest⟩ := h
          subst hxy
          exact .cons i x rest hs (ih _ _ hrest)

/-- the decision procedure only answers `true` with a checked certificate -/
theorem isInterleaving_sound {α : Type} [DecidableEq α] (srcs : List (List α)) (out : List α)
    (h : isInterleaving srcs out = true) : Interleave srcs out := by
  unfold isInterleaving at h
  cases hw : findWitness srcs out with
  | none => simp [hw] at h
  | some w => rw [hw] at h; exact checkWitness_sound srcs out w h

def proj {α : Type} (l : List (Nat × α)) (i : Nat) : List α := (l.filter (·.1 = i)).map (·.2)

def projs {α : Type} (n : Nat) (l : List (Nat × α)) : List (List α) := (List.range n).map (proj l)

theorem projs_getElem? {α : Type} (n : Nat) (l : List (Nat × α)) (i : Nat) (hi : i < n) :
    (projs n l)[i]? = some (proj l i) := by
  simp [projs, hi]

theorem projs_cons_set {α : Type} (n : Nat) (t : Nat) (x : α) (l : List (Nat × α)) (ht : t < n) :
    (projs n ((t, x) :: l)).set t (proj l t) = projs n l := by
  apply List.ext_getElem?
  intro j
  by_cases hj : j < n
  · by_cases hjt : j = t
    · subst hjt; simp [projs, hj]
    · have : ¬ t = j := fun h => hjt h.symm
      simp [projs, hj, this, proj]
  · simp [projs, hj]

theorem interleave_projs {α : Type} (n : Nat) (l : List (Nat × α)) (h : ∀ p ∈ l, p.1 < n) :
    Interleave (projs n l) (l.map (·.2)) := by
  induction l with
  | nil =>
    apply Interleave.nil
    intro s hs
    simp [projs, proj] at hs
    obtain ⟨_, _, rfl⟩ := hs
    rfl
  | cons p l ih =>
    obtain ⟨t, x⟩ := p
    have ht : t < n := h (t, x) (by simp)
    have hl : ∀ p ∈ l, p.1 < n := fun p hp => h p (by simp [hp])
    simp only [List.map_cons]
    apply Interleave.cons t x (proj l t)
    · rw [projs_getElem? n _ t ht]; simp [proj]
    · rw [projs_cons_set n t x l ht]; exact ih hl

theorem proj_append {α : Type} (a b : List (Nat × α)) (i : Nat) : proj (a ++ b) i = proj a i ++ proj b i := by
  simp [proj]

theorem proj_prefix {α : Type} {l1 l2 : List (Nat × α)} (h : l1 <+: l2) (i : Nat) : proj l1 i <+: proj l2 i := by
  obtain ⟨t, rfl⟩ := h
  rw [proj_append]; exact List.prefix_append _ _

/-- Every `…Run` of the junction models hands the messages to the step function while the actor is alive and
    skips them once it has stopped (`hnil`, `hcons` hold by `rfl`): an invariant of the steps taken on the
    messages allowed (`ok`) holds after the run. -/
theorem run_inv {σ τ ε : Type} {run : σ × τ → List ε → σ × τ} {alive : σ → Bool} {next : σ → τ → ε → σ × τ}
    (hnil : ∀ st, run st [] = st)
    (hcons : ∀ s t ev evs, run (s, t) (ev :: evs) = if alive s then run (next s t ev) evs else run (s, t) evs)
    {Inv : σ → τ → Prop} {ok : ε → Prop}
    (hstep : ∀ s t ev, Inv s t → alive s = true → ok ev → Inv (next s t ev).1 (next s t ev).2)
    {s : σ} {t : τ} (h : Inv s t) (evs : List ε) (hok : ∀ ev ∈ evs, ok ev) :
    Inv (run (s, t) evs).1 (run (s, t) evs).2 := by
  induction evs generalizing s t with
  | nil => rw [hnil]; exact h
  | cons ev evs ih =>
    have hok' : ∀ e ∈ evs, ok e := fun e he => hok e (List.mem_cons_of_mem _ he)
    rw [hcons]
    split
    · rename_i ha; exact ih (hstep s t ev h ha (hok ev List.mem_cons_self)) hok'
    · exact ih h hok'

end GoaktVerif.C46
