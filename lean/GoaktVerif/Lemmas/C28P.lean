/-
The payload buffer pool of `RemoteAsk` (`Model.C28.Payload`): no backing array is referenced by the pool and owned by a
call, or owned twice (`PInv`), kept by every legal pool operation, hence by every run of them.
-/
import GoaktVerif.Model.C28
namespace GoaktVerif.C28
open GoaktVerif.Model.C28.Payload

def arrays (s : PSt) : List Nat := s.pool ++ s.owned.map (·.2)

def PInv (s : PSt) : Prop := (arrays s).Nodup ∧ ∀ b ∈ arrays s, b < s.next

/-- for a step that only moves arrays between pool and calls, and may lose some -/
theorem PInv.of_subperm {s s' : PSt} (h : PInv s) (l : List Nat) (hsub : (arrays s').Sublist l)
    (hperm : l.Perm (arrays s)) (hn : s'.next = s.next) : PInv s' :=
  ⟨(hperm.nodup_iff.mpr h.1).sublist hsub, fun b hb => hn ▸ h.2 b (hperm.subset (hsub.subset hb))⟩

theorem pinv_init : PInv {} := ⟨.nil, nofun⟩

theorem pinv_step (s : PSt) (a : PAct) (ha : a.legal = true) (h : PInv s) : PInv (pstep s a) := by
  -- `fun_cases pstep s a` yields one goal per leaf of the model's definition, with every branch condition and match equation
  -- as hypotheses; `case1`, `case2`, … follow the order of the leaves of `pstep` in Model/C28.lean.
  fun_cases pstep s a
  -- `get` by a call that owns a buffer already; `put` by a call that owns none
  case case1 | case5 => exact h
  -- `get`: a pooled box
  case case2 call _ b rest hp =>
    refine h.of_subperm _ (.refl _) ?_ rfl
    simp only [arrays, hp, List.map_cons, List.cons_append]
    exact List.perm_middle
  -- `get` on an empty pool: a fresh array
  case case3 call _ hp =>
    obtain ⟨h1, h2⟩ := h
    simp only [arrays, hp, List.nil_append] at h1 h2 ⊢
    refine ⟨List.nodup_cons.mpr ⟨fun hm => Nat.lt_irrefl _ (h2 _ hm), h1⟩, fun x hx => ?_⟩
    rcases List.mem_cons.mp hx with rfl | hx
    · exact Nat.lt_succ_self _
    · exact Nat.lt_succ_of_lt (h2 x hx)
  -- `put`: `e` leaves `owned` (with every other entry of the same call, if there were any) and its array joins the pool
  case case4 call e he =>
    obtain ⟨l1, l2, ho⟩ := List.append_of_mem (List.mem_of_find?_eq_some he)
    have hcall : (!(e.1 == call)) = false := by rw [List.find?_some he]; rfl
    refine h.of_subperm (e.2 :: (s.pool ++ (l1 ++ l2).map (·.2))) ?_ ?_ rfl
    · simp only [arrays, ho, List.filter_append, List.filter_cons, hcall, List.cons_append]
      exact (((List.filter_sublist.append List.filter_sublist).map _).append_left _).cons_cons _
    · simp only [arrays, ho, List.map_append, List.map_cons]
      rw [← List.append_assoc, ← List.append_assoc]
      exact List.perm_middle.symm
  -- `putAgain` is not legal
  case case6 => cases ha

theorem pinv_run (acts : List PAct) (s : PSt) (hl : ∀ a ∈ acts, a.legal = true) (h : PInv s) : PInv (prun s acts) :=
  List.foldlRecOn acts pstep h fun s hs a ha => pinv_step s a (hl a ha) hs

end GoaktVerif.C28
