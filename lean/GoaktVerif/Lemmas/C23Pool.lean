import GoaktVerif.Model.C23
/-
Frame pool sizing (frame_pool.go): bucketIndex picks the smallest power-of-two bucket that holds
the request, Get never slices beyond the pooled buffer, Put finds the bucket Get used.
-/
namespace GoaktVerif.C23
open GoaktVerif.Model.C23

theorem bitLen_zero : bitLen 0 = 0 := by rw [bitLen]; simp

theorem bitLen_pos {v : Nat} (h : v ≠ 0) : bitLen v = bitLen (v / 2) + 1 := by
  rw [bitLen]; simp [h]

/-- the shift loop of `bucketIndex` counts the binary digits: core's `Nat.log2`, plus one -/
theorem bitLen_eq {v : Nat} (h : v ≠ 0) : bitLen v = v.log2 + 1 := by
  induction v using Nat.strongRecOn with
  | ind v ih =>
    rw [bitLen_pos h, Nat.log2_def v]
    by_cases h2 : v / 2 = 0
    · rw [h2, bitLen_zero, if_neg (by omega)]
    · rw [ih _ (by omega) h2, if_pos (by omega)]

theorem lt_two_pow_bitLen (v : Nat) : v < 2 ^ bitLen v := by
  by_cases h : v = 0
  · subst h; exact Nat.two_pow_pos _
  · rw [bitLen_eq h]; exact Nat.lt_log2_self

theorem two_pow_bitLen_le {v : Nat} (h : v ≠ 0) : 2 ^ (bitLen v - 1) ≤ v := by
  rw [bitLen_eq h]; exact Nat.log2_self_le h

theorem bitLen_two_pow (k : Nat) : bitLen (2 ^ k) = k + 1 := by
  rw [bitLen_eq (Nat.ne_of_gt (Nat.two_pow_pos k)), Nat.log2_two_pow]

/-- `bucketIndex` of a non-negative request, without the detour through `Int` -/
theorem bucketIndex_nat (p : PoolCfg) (n : Nat) : bucketIndex p n =
    if n ≤ 2 ^ p.minBucketShift then 0 else min (bitLen (n - 1) - p.minBucketShift) p.numBuckets := by
  unfold bucketIndex
  have hc : ((n : Int) ≤ 2 ^ p.minBucketShift) ↔ n ≤ 2 ^ p.minBucketShift := by
    norm_cast
  by_cases h : n ≤ 2 ^ p.minBucketShift
  · rw [if_pos h, if_pos (hc.mpr h)]
  · rw [if_neg h, if_neg (mt hc.mp h), show ((n : Int) - 1).toNat = n - 1 by omega]
    dsimp only
    split <;> omega

theorem bitLen_bounds {s n : Nat} (h : 2 ^ s < n) :
    s < bitLen (n - 1) ∧ 2 ^ (bitLen (n - 1) - 1) < n ∧ n ≤ 2 ^ bitLen (n - 1) := by
  have hpos := Nat.two_pow_pos s
  have h1 := lt_two_pow_bitLen (n - 1)
  have h2 := two_pow_bitLen_le (v := n - 1) (by omega)
  refine ⟨?_, by omega, by omega⟩
  apply Nat.lt_of_not_le fun hge => ?_
  have := Nat.pow_le_pow_right (n := 2) (by decide) hge
  omega

theorem bucketIndex_le (p : PoolCfg) (n : Int) : bucketIndex p n ≤ p.numBuckets := by
  -- `fun_cases f args` gives one goal per leaf of `f` in Model/C23.lean, numbered in the order of the leaves there,
  -- with the pattern equations and guard outcomes on the way as hypotheses and a `let` of `f` as a local definition
  fun_cases bucketIndex p n
  case case1 | case2 | case3 => omega -- bucket 0; capped at `numBuckets`; below it by the guard

/-- a pooled request fits in its bucket: `(*bp)[:n]` is in range -/
theorem bucketIndex_fits (p : PoolCfg) (n : Nat) (h : bucketIndex p n < p.numBuckets) :
    n ≤ 2 ^ (p.minBucketShift + bucketIndex p n) := by
  rw [bucketIndex_nat] at h ⊢
  split at h
  · rw [if_pos ‹_›]; assumption
  · rename_i hgt
    obtain ⟨hs, _, hle⟩ := bitLen_bounds (Nat.lt_of_not_le hgt)
    rw [if_neg hgt, show p.minBucketShift + min (bitLen (n - 1) - p.minBucketShift) p.numBuckets = bitLen (n - 1) by omega]
    exact hle

/-- it is the SMALLEST bucket: the next smaller one does not hold `n` -/
theorem bucketIndex_smallest (p : PoolCfg) (n : Nat) (h0 : 0 < bucketIndex p n) :
    2 ^ (p.minBucketShift + bucketIndex p n - 1) < n := by
  rw [bucketIndex_nat] at h0 ⊢
  split at h0
  · omega
  · rename_i hgt
    obtain ⟨hs, hlt, _⟩ := bitLen_bounds (Nat.lt_of_not_le hgt)
    rw [if_neg hgt]
    exact Nat.lt_of_le_of_lt (Nat.pow_le_pow_right (by decide) (by omega)) hlt

/-- `FramePool.Get(n)` never panics for `n ≥ 0` and returns exactly `n` bytes in a buffer of capacity ≥ n -/
theorem poolGet_ok (p : PoolCfg) (n : Nat) : poolGet p n = .ok (n, poolCap p n) ∧ n ≤ poolCap p n := by
  have hfit : n ≤ poolCap p n := by
    fun_cases poolCap p n
    case case1 => omega -- oversized: exactly `n`
    case case2 _ h => exact bucketIndex_fits p n (Nat.lt_of_not_le h) -- a bucket
  unfold poolGet
  rw [if_neg (by omega), Int.toNat_natCast, if_pos hfit]
  exact ⟨rfl, hfit⟩

/-- pooled buffers waste less than half: for requests above the smallest bucket `cap < 2n` -/
theorem poolCap_lt_double (p : PoolCfg) (n : Nat) (h : 2 ^ p.minBucketShift < n) : poolCap p n < 2 * n := by
  obtain ⟨hs, hlt, _⟩ := bitLen_bounds h
  have hpos := Nat.two_pow_pos p.minBucketShift
  unfold poolCap
  rw [bucketIndex_nat, if_neg (Nat.not_le_of_lt h)]
  dsimp only
  by_cases hb : min (bitLen (n - 1) - p.minBucketShift) p.numBuckets ≥ p.numBuckets
  · rw [if_pos hb]; omega
  · rw [if_neg hb, show p.minBucketShift + min (bitLen (n - 1) - p.minBucketShift) p.numBuckets
      = (bitLen (n - 1) - 1) + 1 by omega, Nat.pow_succ]
    omega

/-- `Put` files a buffer obtained from bucket `i` back under bucket `i` -/
theorem bucketIndexExact_bucket (p : PoolCfg) (i : Nat) (h : i < p.numBuckets) :
    bucketIndexExact p (2 ^ (p.minBucketShift + i)) = i := by
  unfold bucketIndexExact
  have hpos := Nat.two_pow_pos (p.minBucketShift + i)
  have hand : 2 ^ (p.minBucketShift + i) &&& (2 ^ (p.minBucketShift + i) - 1) = 0 := by
    rw [Nat.and_two_pow_sub_one_eq_mod]; simp
  rw [if_neg (by simp only [hand]; omega)]
  simp only [bitLen_two_pow, Nat.add_sub_cancel]
  rw [if_neg (by omega)]
  omega

/-- `Put` never files a buffer under a bucket index outside the pool array -/
theorem bucketIndexExact_range (p : PoolCfg) (c : Nat) :
    bucketIndexExact p c = -1 ∨ (0 ≤ bucketIndexExact p c ∧ bucketIndexExact p c < p.numBuckets) := by
  fun_cases bucketIndexExact p c
  case case1 | case2 => exact Or.inl rfl -- not a power of two; a power outside the pool's range
  case case3 => right; omega -- in range by the guard

end GoaktVerif.C23
