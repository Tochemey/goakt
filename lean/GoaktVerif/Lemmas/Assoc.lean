/-
Association lists `List (κ × ν)` read by first match, as core `List.lookup` does.  The models spell the same map
several ways (their own lookup by recursion or `find?`; delete as a filter on `e.1 != k`, `decide (e.1 ≠ k)`, …; put as
cons after delete, or update in place): each is tied to `List.lookup` by one equation (`lookup_of_eqns`, `upsert_of_eqns` for those
written by recursion) and takes its facts from here; both puts keep distinct keys distinct (`nodup_keys_put`, `nodup_keys_upsert`).
The hypothesis `hq` of `lookup_del`, `lookup_put`, `nodup_keys_put` stands for whichever spelling of "key ≠ k" a model uses.
Last, a fold of any `set` that appends absent keys, over entries whose keys are distinct and absent: it appends them all.
-/
namespace GoaktVerif.Assoc

variable {κ ν : Type}

abbrev keys (l : List (κ × ν)) : List κ := l.map (·.1)

theorem nodup_keys_filter {l : List (κ × ν)} (p : κ × ν → Bool) (h : (keys l).Nodup) : (keys (l.filter p)).Nodup :=
  h.sublist (List.filter_sublist.map _)

section
variable [BEq κ] [LawfulBEq κ]

theorem lookup_eq_none_iff (l : List (κ × ν)) (k : κ) : List.lookup k l = none ↔ k ∉ keys l := by
  rw [List.lookup_eq_none_iff]
  simp only [keys, List.mem_map, not_exists, not_and, bne_iff_ne, ne_eq]
  exact ⟨fun h p hp e => h p hp e.symm, fun h p hp e => h p hp e.symm⟩

theorem mem_of_lookup {l : List (κ × ν)} {k : κ} {v : ν} (h : List.lookup k l = some v) : (k, v) ∈ l := by
  obtain ⟨l₁, l₂, rfl, _⟩ := List.lookup_eq_some_iff.mp h
  exact List.mem_append_right _ List.mem_cons_self

variable [DecidableEq κ]

theorem lookup_cons_ite (a : κ) (b : ν) (l : List (κ × ν)) (k : κ) :
    List.lookup k ((a, b) :: l) = if k = a then some b else List.lookup k l := by
  rw [List.lookup_cons]
  by_cases h : k = a
  · rw [if_pos h, beq_iff_eq.mpr h]
  · rw [if_neg h, beq_eq_false_iff_ne.mpr h]

theorem lookup_of_mem {l : List (κ × ν)} (hn : (keys l).Nodup) {k : κ} {v : ν} (h : (k, v) ∈ l) :
    List.lookup k l = some v := by
  induction l with
  | nil => cases h
  | cons p l ih =>
    obtain ⟨a, b⟩ := p
    rw [keys, List.map_cons, List.nodup_cons] at hn
    rw [lookup_cons_ite]
    rcases List.mem_cons.mp h with e | h'
    · cases e; exact if_pos rfl
    · rw [if_neg fun e : k = a => hn.1 (e ▸ List.mem_map_of_mem (f := (·.1)) h'), ih hn.2 h']

theorem lookup_eq_some_iff {l : List (κ × ν)} (hn : (keys l).Nodup) {k : κ} {v : ν} :
    List.lookup k l = some v ↔ (k, v) ∈ l := ⟨mem_of_lookup, lookup_of_mem hn⟩

theorem lookup_del {q : κ × ν → Bool} (k : κ) (hq : ∀ e, q e = true ↔ e.1 ≠ k) (l : List (κ × ν)) (k' : κ) :
    List.lookup k' (l.filter q) = if k' = k then none else List.lookup k' l := by
  induction l with
  | nil => exact (ite_self none).symm
  | cons p l ih =>
    obtain ⟨a, b⟩ := p
    by_cases ha : a = k
    · rw [List.filter_cons_of_neg (fun h => (hq (a, b)).mp h ha), ih, lookup_cons_ite, ha]
      split <;> rfl
    · rw [List.filter_cons_of_pos ((hq (a, b)).mpr ha), lookup_cons_ite, lookup_cons_ite, ih]
      by_cases h : k' = a
      · rw [if_pos h, if_pos h, if_neg (h ▸ ha)]
      · rw [if_neg h, if_neg h]

theorem lookup_put {q : κ × ν → Bool} (k : κ) (hq : ∀ e, q e = true ↔ e.1 ≠ k) (v : ν) (l : List (κ × ν)) (k' : κ) :
    List.lookup k' ((k, v) :: l.filter q) = if k' = k then some v else List.lookup k' l := by
  rw [lookup_cons_ite, lookup_del k hq]
  split <;> rfl

theorem nodup_keys_put {l : List (κ × ν)} {q : κ × ν → Bool} (k : κ) (hq : ∀ e, q e = true ↔ e.1 ≠ k) (v : ν)
    (h : (keys l).Nodup) : (keys ((k, v) :: l.filter q)).Nodup := by
  rw [keys, List.map_cons, List.nodup_cons]
  exact ⟨(lookup_eq_none_iff _ _).mp (by rw [lookup_del k hq, if_pos rfl]), nodup_keys_filter q h⟩

theorem lookup_map_val {ν' : Type} (f : ν → ν') (l : List (κ × ν)) (k : κ) :
    List.lookup k (l.map fun p => (p.1, f p.2)) = (List.lookup k l).map f := by
  induction l with
  | nil => rfl
  | cons p l ih =>
    obtain ⟨a, b⟩ := p
    rw [List.map_cons, lookup_cons_ite, lookup_cons_ite, ih]; split <;> rfl

/-- update in place: overwrite the first entry under `k`, or append -/
def upsert : List (κ × ν) → κ → ν → List (κ × ν)
  | [], k, v => [(k, v)]
  | (a, b) :: l, k, v => if a = k then (k, v) :: l else (a, b) :: upsert l k v

theorem lookup_upsert (l : List (κ × ν)) (k : κ) (v : ν) (k' : κ) :
    List.lookup k' (upsert l k v) = if k' = k then some v else List.lookup k' l := by
  induction l with
  | nil => rw [upsert, lookup_cons_ite]
  | cons p l ih =>
    obtain ⟨a, b⟩ := p
    rw [upsert]
    by_cases ha : a = k
    · subst ha; rw [if_pos rfl, lookup_cons_ite, lookup_cons_ite]; split <;> rfl
    · rw [if_neg ha, lookup_cons_ite, lookup_cons_ite, ih]
      by_cases h : k' = a
      · rw [if_pos h, if_pos h, if_neg (h ▸ ha)]
      · rw [if_neg h, if_neg h]

/-- a model's own lookup, given by its two equations (they hold by `rfl`), is `List.lookup` -/
theorem lookup_of_eqns (get : List (κ × ν) → κ → Option ν) (h0 : ∀ k, get [] k = none)
    (h1 : ∀ a b l k, get ((a, b) :: l) k = if a = k then some b else get l k) (l : List (κ × ν)) (k : κ) :
    get l k = List.lookup k l := by
  induction l with
  | nil => exact h0 k
  | cons p l ih => obtain ⟨a, b⟩ := p; rw [h1, ih, lookup_cons_ite]; simp only [eq_comm]

omit [BEq κ] [LawfulBEq κ] in
/-- likewise a model's own update in place is `upsert` -/
theorem upsert_of_eqns (set : List (κ × ν) → κ → ν → List (κ × ν)) (h0 : ∀ k v, set [] k v = [(k, v)])
    (h1 : ∀ a b l k v, set ((a, b) :: l) k v = if a = k then (k, v) :: l else (a, b) :: set l k v)
    (l : List (κ × ν)) (k : κ) (v : ν) : set l k v = upsert l k v := by
  induction l with
  | nil => exact h0 k v
  | cons p l ih => obtain ⟨a, b⟩ := p; rw [h1, upsert, ih]

theorem nodup_keys_upsert {l : List (κ × ν)} (k : κ) (v : ν) (h : (keys l).Nodup) : (keys (upsert l k v)).Nodup := by
  induction l with
  | nil => simp [upsert]
  | cons p rest ih =>
    obtain ⟨a, b⟩ := p
    rw [keys, List.map_cons, List.nodup_cons] at h
    by_cases h0 : a = k
    · subst h0; simpa [upsert] using h
    · have hk : a ∉ keys (upsert rest k v) :=
        (lookup_eq_none_iff _ _).mp (by rw [lookup_upsert, if_neg h0]; exact (lookup_eq_none_iff _ _).mpr h.1)
      simp only [upsert, h0, if_false, keys, List.map_cons, List.nodup_cons]
      exact ⟨hk, ih h.2⟩

end

/-- `set` is left open: an update in place (`upsert`) and one that overwrites every match both append a key that is absent;
    `f` renames the keys on the way in -/
theorem foldl_set_fresh (set : List (κ × ν) → κ → ν → List (κ × ν))
    (hset : ∀ m k v, (∀ e ∈ m, e.1 ≠ k) → set m k v = m ++ [(k, v)]) (f : κ → κ) (md acc : List (κ × ν))
    (hnd : (md.map fun e => f e.1).Nodup) (hdis : ∀ e ∈ acc, ∀ e' ∈ md, e.1 ≠ f e'.1) :
    md.foldl (fun a e => set a (f e.1) e.2) acc = acc ++ md.map (fun e => (f e.1, e.2)) := by
  induction md generalizing acc with
  | nil => exact (List.append_nil _).symm
  | cons e rest ih =>
    rw [List.map_cons, List.nodup_cons] at hnd
    rw [List.foldl_cons, hset acc _ _ fun x hx => hdis x hx e List.mem_cons_self, ih _ hnd.2, List.map_cons,
      List.append_assoc]; rfl
    -- what is left is `hdis` for the accumulator that has taken `e`, which `ih` asked for
    intro x hx e' he'
    rcases List.mem_append.mp hx with hx | hx
    · exact hdis x hx e' (List.mem_cons_of_mem _ he')
    · cases List.mem_singleton.mp hx
      exact fun heq => hnd.1 (List.mem_map.mpr ⟨e', he', heq.symm⟩)

end GoaktVerif.Assoc
