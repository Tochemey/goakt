import GoaktVerif.Model.C44

/-!
What one input confirms (`confOf`) and accepts (`accOf`), and the decision tree of `WP.handle`.
-/
namespace GoaktVerif.C44
open GoaktVerif.Model.C44
open GoaktVerif.Model.C42 (HS maxWindow)

/-- jobs confirmed when worker binding `b` reports the cumulative watermark `c` -/
def cutOf (b : Binding) (c : Nat) : List Job :=
  if c ≤ b.confirmedSeq then [] else (b.unconfirmed.takeWhile (fun d => d.workerSeq ≤ c)).map Disp.job

/-- jobs confirmed by one input (a worker's Request / Ack that the controller accepts) -/
def confOf (x : WP) (m : WIn) : List Job :=
  if x.failed then [] else
  match m with
  | .request n c s k cf u _ =>
    match x.bindingFrom n c s k with
    | some b => if cf > b.currentSeq || u < cf || u > cf + maxWindow then [] else cutOf b cf
    | none => []
  | .ack n c s k cf =>
    match x.bindingFrom n c s k with
    | some b => if cf > b.currentSeq then [] else cutOf b cf
    | none => []
  | _ => []

/-- the job accepted into the pool by one input (the StoredAck that completes a handshake) -/
def accOf (x : WP) (m : WIn) : List Job :=
  if x.failed then [] else
  match m with
  | .storedAck s t i =>
    if s == x.session && x.handshake == .storedAck && t == x.token && i == x.pendingId && !x.owns x.pendingId
    then [⟨x.pendingId, x.pendingStoreSeq, x.pendingPayload⟩] else []
  | _ => []

theorem bindingFrom_mem {x : WP} {n c s k : Nat} {b : Binding} (h : x.bindingFrom n c s k = some b) : b ∈ x.bindings := by
  unfold WP.bindingFrom at h
  split at h
  · cases h
  · exact List.mem_of_find?_eq_some h

theorem find_mem {x : WP} {n : Nat} {b : Binding} (h : x.find n = some b) : b ∈ x.bindings ∧ b.name = n :=
  ⟨List.mem_of_find?_eq_some h, by simpa using List.find?_some h⟩

theorem find_none {x : WP} {n : Nat} (h : x.find n = none) : n ∉ x.bindings.map (·.name) := fun hm => by
  obtain ⟨b, hb, rfl⟩ := List.mem_map.mp hm
  simpa using List.find?_eq_none.mp h b hb

theorem registerBinding_find (x : WP) (n c k : Nat) : (x.registerBinding n c k).find n ≠ none := by
  have hnew : ∀ bs : List Binding, (bs ++ [WP.newBinding n c k]).find? (fun b => b.name == n) ≠ none := fun bs h => by
    simpa [WP.newBinding] using List.find?_eq_none.mp h (WP.newBinding n c k) (by simp)
  unfold WP.registerBinding
  cases hf : x.find n with
  | none => exact hnew _
  | some b =>
    refine iteInduction (motive := fun y : WP => y.find n ≠ none) (fun _ => hnew _) fun _ =>
      iteInduction (motive := fun y : WP => y.find n ≠ none) (fun _ h => ?_) fun _ => by rw [hf]; exact nofun
    obtain ⟨hb, hbn⟩ := find_mem hf
    have := List.find?_eq_none.mp h (if b.name == n then { b with nonce := k } else b) (List.mem_map_of_mem hb)
    simp [hbn] at this

/-- most handlers end with `progress`, after sending `o` from the state `x'` -/
def progressAfter (x' : WP) (o : List WOut) : WP × List WOut := (x'.progress.1, o ++ x'.progress.2)

/-- the state in which `completeAccept` calls `progress`: the pending job is in the pool, the handshake closed -/
def accepted (x : WP) : WP :=
  let x1 := WP.acceptPending { x with handshake := .accept, storedMessage := none }
  WP.resetHandshake { x1 with lastToken := x1.token, lastId := x1.pendingId }

theorem progressAfter_nil (x' : WP) : progressAfter x' [] = x'.progress := rfl

theorem handle_cases {motive : List Job → List Job → WP × List WOut → Prop} (x : WP)
    (skip : motive [] [] (x, []))
    (fail : motive [] [] x.terminate)
    (register : ∀ n c k b, (x.registerBinding n c k).find n = some b → motive [] []
      (progressAfter (x.registerBinding n c k)
        [.toWorker b.name b.comp (.regAck (x.registerBinding n c k).session (b.confirmedSeq + 1) b.nonce)]))
    (drop : ∀ b, b ∈ x.bindings → motive [] [] (progressAfter (x.endBinding b.name) []))
    (request : ∀ b cf u v, b ∈ x.bindings → motive (cutOf b cf) []
      (progressAfter ((x.advanceConfirmed b cf).1.updateBinding b.name (fun b0 => { b0 with demandUpTo := u }))
        ((x.advanceConfirmed b cf).2 ++
          if v = true then ((x.advanceConfirmed b cf).1.updateBinding b.name (fun b0 => { b0 with demandUpTo := u })).resendFor b.name else [])))
    (ack : ∀ b cf, b ∈ x.bindings → motive (cutOf b cf) []
      (progressAfter (x.advanceConfirmed b cf).1 (x.advanceConfirmed b cf).2))
    (store : ∀ i pl, motive [] [] (x.completeStore i pl))
    (accept : motive [] (if !x.owns x.pendingId then [⟨x.pendingId, x.pendingStoreSeq, x.pendingPayload⟩] else [])
      (progressAfter (accepted x) []))
    (tick : motive [] [] x.handleTick)
    (m : WIn) : motive (confOf x m) (accOf x m) (x.handle m) := by
  unfold WP.handle confOf accOf
  by_cases hf : x.failed = true
  · rw [if_pos hf, if_pos hf, if_pos hf]; exact skip
  rw [if_neg hf, if_neg hf, if_neg hf]
  cases m with
  | register n c k =>
    show motive [] [] (x.handleRegister n c k)
    unfold WP.handleRegister
    dsimp only
    cases hb : (x.registerBinding n c k).find n with
    | none => exact absurd hb (registerBinding_find x n c k)
    | some b => exact register n c k b hb
  | request n c s k cf u v =>
    show motive (match x.bindingFrom n c s k with | some b => _ | none => _) [] (x.handleRequest n c s k cf u v)
    unfold WP.handleRequest
    cases hb : x.bindingFrom n c s k with
    | none => exact skip
    | some b =>
      by_cases hill : (decide (cf > b.currentSeq) || decide (u < cf) || decide (u > cf + maxWindow)) = true
      · simp only [if_pos hill]; rw [← progressAfter_nil]; exact drop b (bindingFrom_mem hb)
      · simp only [if_neg hill]; exact request b cf u v (bindingFrom_mem hb)
  | ack n c s k cf =>
    show motive (match x.bindingFrom n c s k with | some b => _ | none => _) [] (x.handleAck n c s k cf)
    unfold WP.handleAck
    cases hb : x.bindingFrom n c s k with
    | none => exact skip
    | some b =>
      by_cases hill : cf > b.currentSeq
      · simp only [if_pos hill]; rw [← progressAfter_nil]; exact drop b (bindingFrom_mem hb)
      · simp only [if_neg hill]; exact ack b cf (bindingFrom_mem hb)
  | terminated n c =>
    show motive [] [] (x.handleTerminated n c)
    unfold WP.handleTerminated
    cases hb : x.bindings.find? (fun b => b.name == n && b.comp == c) with
    | none => exact skip
    | some b =>
      show motive [] [] (x.endBinding b.name).progress
      rw [← progressAfter_nil]; exact drop b (List.mem_of_find?_eq_some hb)
  | produced s t i pl =>
    show motive [] [] (x.handleProduced s t i pl)
    unfold WP.handleProduced
    exact iteInduction (motive := motive [] []) (fun _ => skip) fun _ => iteInduction (fun _ => skip) fun _ =>
      iteInduction (fun _ => skip) fun _ => iteInduction (fun _ => fail) fun _ => iteInduction (fun _ => fail) fun _ => store i pl
  | storedAck s t i =>
    show motive [] (if _ then _ else _) (x.handleStoredAck s t i)
    unfold WP.handleStoredAck
    by_cases h1 : (s != x.session) = true
    · have e : (s == x.session) = false := by simpa using h1
      simp only [e, Bool.false_and, Bool.false_eq_true, if_false, if_pos h1]; exact skip
    have e1 : (s == x.session) = true := by simpa using h1
    rw [if_neg h1, e1, Bool.true_and]
    by_cases h2 : (x.handshake == HS.storedAck && t == x.token && i == x.pendingId) = true
    · rw [if_pos h2, h2, Bool.true_and, show WP.completeAccept _ = (accepted x).progress from rfl, ← progressAfter_nil]
      exact accept
    · have e2 : (x.handshake == HS.storedAck && t == x.token && i == x.pendingId) = false := by simpa using h2
      rw [if_neg h2, e2, Bool.false_and, if_neg Bool.false_ne_true]
      exact iteInduction (motive := motive [] []) (fun _ => skip) fun _ => iteInduction (fun _ => skip) fun _ => fail
  | tick => exact tick

end GoaktVerif.C44
