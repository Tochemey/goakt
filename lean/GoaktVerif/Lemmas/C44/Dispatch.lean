import GoaktVerif.Lemmas.C44.Conserve
import GoaktVerif.Lemmas.Run

/-!
`dispatchPending` never leaves a job in the pool while some registered worker still has
free demand ("every produced job is handed to a worker as soon as one can take it").
-/
namespace GoaktVerif.C44
open GoaktVerif.Model.C44
open GoaktVerif.Model.C42 (HS maxWindow)

def norm (len nw : Nat) : Nat := if nw ≥ len then 0 else nw

/-- the positions a round-robin probe of `k` steps from cursor `nw` reads, in order -/
def probes (len : Nat) : Nat → Nat → List Nat
  | 0, _ => []
  | k + 1, nw => norm len nw :: probes len k (norm len nw + 1)

theorem nextEligible_sound (bs : List Binding) (k nw : Nat) :
    (∀ i, (WP.nextEligible bs k nw).1 = some i → ∃ b, bs[i]? = some b) ∧
    ((WP.nextEligible bs k nw).1 = none → ∀ i ∈ probes bs.length k nw, ∀ b, bs[i]? = some b → b.freeDemand = 0) := by
  induction k generalizing nw with
  | zero => exact ⟨nofun, fun _ _ h => nomatch h⟩
  | succ k ih =>
    have ih := ih (norm bs.length nw + 1)
    unfold WP.nextEligible probes
    dsimp only
    rw [show (if nw ≥ bs.length then 0 else nw) = norm bs.length nw from rfl]
    cases hb : bs[norm bs.length nw]? with
    | none =>
      refine ⟨ih.1, fun h i hi b hib => ?_⟩
      rcases List.mem_cons.mp hi with rfl | hi
      · rw [hb] at hib; cases hib
      · exact ih.2 h i hi b hib
    | some b0 =>
      refine iteInduction (motive := fun r : Option Nat × Nat => (∀ i, r.1 = some i → ∃ b, bs[i]? = some b) ∧
        (r.1 = none → ∀ i ∈ _ :: probes bs.length k _, ∀ b, bs[i]? = some b → b.freeDemand = 0))
        (fun _ => ⟨fun i e => by cases e; exact ⟨b0, hb⟩, nofun⟩) fun hfree => ⟨ih.1, fun h i hi b hib => ?_⟩
      rcases List.mem_cons.mp hi with rfl | hi
      · rw [hb] at hib; cases hib; exact Nat.eq_zero_of_not_pos hfree
      · exact ih.2 h i hi b hib

theorem probes_range (len k a : Nat) (h : a + k ≤ len) : probes len k a = List.range' a k := by
  induction k generalizing a with
  | zero => rfl
  | succ k ih =>
    have : norm len a = a := if_neg (by omega)
    rw [probes, this, ih (a + 1) (by omega), List.range'_succ]

theorem probes_top (len k a : Nat) (hk : k ≤ len) (ha : len ≤ a) : probes len k a = List.range' 0 k := by
  cases k with
  | zero => rfl
  | succ k => rw [probes, show norm len a = 0 from if_pos ha, probes_range len k 1 (by omega), List.range'_succ]

theorem probes_wrap (len j k a : Nat) (h : a + j = len) (hk : k ≤ len) :
    probes len (j + k) a = List.range' a j ++ List.range' 0 k := by
  induction j generalizing a with
  | zero => rw [Nat.zero_add, probes_top len k a hk (by omega)]; rfl
  | succ j ih =>
    rw [Nat.add_right_comm, probes, show norm len a = a from if_neg (by omega), ih (a + 1) (by omega), List.range'_succ,
      List.cons_append]

theorem mem_probes_full (len nw i : Nat) (hi : i < len) : i ∈ probes len len nw := by
  by_cases h : len ≤ nw
  · rw [probes_top len len nw (Nat.le_refl _) h]; exact List.mem_range'_1.mpr ⟨Nat.zero_le _, by omega⟩
  · have w := probes_wrap len (len - nw) nw nw (by omega) (by omega)
    rw [show len - nw + nw = len by omega] at w
    rw [w, List.mem_append, List.mem_range'_1, List.mem_range'_1]
    omega

theorem nextEligible_none_all (bs : List Binding) (nw nw' : Nat) (h : WP.nextEligible bs bs.length nw = (none, nw')) :
    ∀ b ∈ bs, b.freeDemand = 0 := fun b hb =>
  have ⟨i, hi⟩ := List.getElem?_of_mem hb
  (nextEligible_sound bs bs.length nw).2 (congrArg Prod.fst h) i
    (mem_probes_full _ nw i (List.getElem?_eq_some_iff.mp hi).1) b hi

/-- the pool is empty, or no binding has free demand -/
def Saturated (pend : List Job) (bs : List Binding) : Prop := pend ≠ [] → ∀ b ∈ bs, b.freeDemand = 0

theorem dispatchLoop_saturated (s : Nat) (pend : List Job) (bs : List Binding) (nw : Nat) :
    Saturated (WP.dispatchLoop s pend bs nw).1 (WP.dispatchLoop s pend bs nw).2.1 := by
  induction pend generalizing bs nw with
  | nil => intro h; simp [WP.dispatchLoop] at h
  | cons j rest ih =>
    unfold WP.dispatchLoop
    split
    · rename_i he
      intro _ b hb
      have : bs = [] := by simpa using he
      subst this; cases hb
    · split
      · rename_i nw' hne
        exact fun _ => nextEligible_none_all bs nw nw' hne
      · rename_i i nw' hne
        split
        · rename_i hnone
          -- unreachable: the probe only returns positions it has read
          obtain ⟨b1, hb1⟩ := (nextEligible_sound bs bs.length nw).1 i (congrArg Prod.fst hne)
          rw [hnone] at hb1; cases hb1
        · exact ih _ _

theorem progress_saturated (x : WP) (o : List WOut) : Saturated (progressAfter x o).1.pending (progressAfter x o).1.bindings := by
  show Saturated x.progress.1.pending x.progress.1.bindings
  rw [(progress_eq x).1, (progress_eq x).2]
  exact dispatchLoop_saturated x.session x.pending x.bindings x.nextWorker

/-- every handler call re-establishes saturation: a job stays in the pool only while no worker can take it -/
theorem handle_saturated (x : WP) (m : WIn) (h : Saturated x.pending x.bindings) :
    Saturated (x.handle m).1.pending (x.handle m).1.bindings :=
  handle_cases x (motive := fun _ _ r => Saturated r.1.pending r.1.bindings) h h (fun _ _ _ _ _ => progress_saturated _ _)
    (fun _ _ => progress_saturated _ _) (fun _ _ _ _ _ => progress_saturated _ _) (fun _ _ _ => progress_saturated _ _)
    (fun _ _ => h) (progress_saturated _ _) (by rw [tick_same]; exact h) m

theorem run_saturated (x : WP) (ms : List WIn) (h : Saturated x.pending x.bindings) :
    Saturated (runG x ms).1.pending (runG x ms).1.bindings :=
  Run.inv' (run := fun x ms => (runG x ms).1) (P := fun x => Saturated x.pending x.bindings) (fun _ => rfl) (fun _ _ _ => rfl)
    handle_saturated ms x h

end GoaktVerif.C44
