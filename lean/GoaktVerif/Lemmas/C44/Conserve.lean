import GoaktVerif.Lemmas.C44.Cases

/-!
The multiset of jobs the work-pulling controller holds (`held`), and conservation:
`held x' ++ confirmed-by-this-input  ~  held x ++ accepted-by-this-input` (as multisets), for ANY input.
-/
namespace GoaktVerif.C44
open GoaktVerif.Model.C44
open GoaktVerif.Model.C42 (HS maxWindow)

/-- the jobs dispatched to workers and not yet confirmed -/
def heldB (bs : List Binding) : List Job := bs.flatMap (fun b => b.unconfirmed.map Disp.job)

/-- every job the controller is responsible for: the pending pool plus every worker's unconfirmed list -/
def held (x : WP) : List Job := x.pending ++ heldB x.bindings

/-- binding names are unique (the Go `bindings` map is keyed by endpoint name) -/
def NodupNames (bs : List Binding) : Prop := (bs.map (·.name)).Nodup

theorem heldB_cons (b : Binding) (bs : List Binding) : heldB (b :: bs) = b.unconfirmed.map Disp.job ++ heldB bs :=
  List.flatMap_cons

theorem heldB_append (a b : List Binding) : heldB (a ++ b) = heldB a ++ heldB b :=
  List.flatMap_append

theorem filter_ne_of_not_mem (bs : List Binding) (n : Nat) (h : n ∉ bs.map (·.name)) :
    bs.filter (fun b' => b'.name != n) = bs :=
  List.filter_eq_self.mpr fun _ hb => bne_iff_ne.mpr fun e => h (e ▸ List.mem_map_of_mem (f := (·.name)) hb)

theorem map_repl_of_not_mem (bs : List Binding) (n : Nat) (f : Binding → Binding) (h : n ∉ bs.map (·.name)) :
    bs.map (fun b => if b.name == n then f b else b) = bs := by
  refine (List.map_congr_left fun b hb => ?_).trans (List.map_id' bs)
  have : b.name ≠ n := fun e => h (e ▸ List.mem_map_of_mem (f := (·.name)) hb)
  simp [this]

theorem heldB_repl (bs : List Binding) (b : Binding) (f : Binding → Binding) (hn : NodupNames bs) (hb : b ∈ bs) :
    (heldB (bs.map (fun b0 => if b0.name == b.name then f b0 else b0))).Perm
      ((f b).unconfirmed.map Disp.job ++ heldB (bs.filter (fun b' => b'.name != b.name))) := by
  induction bs with
  | nil => cases hb
  | cons h t ih =>
    have hn' : h.name ∉ t.map (·.name) ∧ NodupNames t := List.nodup_cons.mp hn
    rcases List.mem_cons.mp hb with rfl | hb
    · rw [List.map_cons, if_pos (beq_self_eq_true _), List.filter_cons_of_neg (by simp), heldB_cons,
        filter_ne_of_not_mem t b.name hn'.1, map_repl_of_not_mem t b.name f hn'.1]
    · have hne : h.name ≠ b.name := fun e => hn'.1 (e ▸ List.mem_map_of_mem hb)
      rw [List.map_cons, if_neg (by simpa using hne), List.filter_cons_of_pos (by simpa using hne), heldB_cons, heldB_cons]
      exact ((ih hn'.2 hb).append_left _).trans (by
        rw [← List.append_assoc, ← List.append_assoc]; exact List.perm_append_comm.append_right _)

theorem heldB_split (bs : List Binding) (b : Binding) (hn : NodupNames bs) (hb : b ∈ bs) :
    (heldB bs).Perm (b.unconfirmed.map Disp.job ++ heldB (bs.filter (fun b' => b'.name != b.name))) := by
  have := heldB_repl bs b id hn hb
  rwa [show (fun b0 : Binding => if b0.name == b.name then id b0 else b0) = id from funext fun _ => ite_self _, List.map_id] at this

theorem heldB_update (bs : List Binding) (n : Nat) (f : Binding → Binding) (hf : ∀ b, (f b).unconfirmed = b.unconfirmed) :
    heldB (bs.map (fun b0 => if b0.name == n then f b0 else b0)) = heldB bs := by
  unfold heldB
  rw [List.flatMap_map]
  exact congrArg (fun g => bs.flatMap g) (funext fun b => by split <;> simp only [hf])

theorem names_repl (bs : List Binding) (n : Nat) (f : Binding → Binding) (hf : ∀ b, b.name = n → (f b).name = b.name) :
    (bs.map (fun b0 => if b0.name == n then f b0 else b0)).map (·.name) = bs.map (·.name) := by
  rw [List.map_map]
  exact List.map_congr_left fun b _ => by
    show (if b.name == n then f b else b).name = b.name
    split
    · rename_i e; exact hf b (by simpa using e)
    · rfl

theorem heldB_set (bs : List Binding) (i : Nat) (b : Binding) (d : Disp) (hb : bs[i]? = some b) :
    (heldB (bs.set i { b with currentSeq := b.currentSeq + 1, unconfirmed := b.unconfirmed ++ [d] })).Perm (d.job :: heldB bs) := by
  induction bs generalizing i with
  | nil => cases hb
  | cons h t ih =>
    cases i with
    | zero =>
      cases hb
      rw [List.set_cons_zero, heldB_cons, heldB_cons, List.map_append, List.append_assoc]
      exact List.perm_middle
    | succ i =>
      rw [List.set_cons_succ, heldB_cons, heldB_cons]
      exact ((ih i hb).append_left _).trans List.perm_middle

theorem names_set (bs : List Binding) (i : Nat) (b b' : Binding) (hb : bs[i]? = some b) (hn : b'.name = b.name) :
    (bs.set i b').map (·.name) = bs.map (·.name) := by
  induction bs generalizing i with
  | nil => rfl
  | cons h t ih =>
    cases i with
    | zero => cases hb; rw [List.set_cons_zero, List.map_cons, List.map_cons, hn]
    | succ i => rw [List.set_cons_succ, List.map_cons, List.map_cons, ih i hb]

theorem updateBinding_names (x : WP) (n : Nat) (f : Binding → Binding) (hf : ∀ b, b.name = n → (f b).name = b.name) :
    (x.updateBinding n f).bindings.map (·.name) = x.bindings.map (·.name) := names_repl _ _ _ hf

/-- `dispatchPending` only moves jobs from the pool into bindings -/
theorem dispatchLoop_conserve (s : Nat) (pend : List Job) (bs : List Binding) (nw : Nat) :
    ((WP.dispatchLoop s pend bs nw).1 ++ heldB (WP.dispatchLoop s pend bs nw).2.1).Perm (pend ++ heldB bs) ∧
    (WP.dispatchLoop s pend bs nw).2.1.map (·.name) = bs.map (·.name) := by
  -- `fun_induction` yields one goal per leaf of the model's definition of `dispatchLoop`, with every branch condition and match
  -- equation as hypotheses and the induction hypothesis of the recursive call; `case1`, … follow the leaves in Model/C44.lean.
  fun_induction WP.dispatchLoop s pend bs nw
  -- the pool is empty; there is no binding; no binding is eligible; the eligible index is out of range: nothing moves
  case case1 | case2 | case3 | case4 => exact ⟨.refl _, rfl⟩
  -- the job `j` goes to the eligible binding `b` as dispatch `d`, on with the rest
  case case5 j rest bs _ _ i _ _ b hb d _ _ _ _ _ heq ih =>
    rw [heq] at ih
    exact ⟨ih.1.trans (((heldB_set bs i b d hb).append_left rest).trans List.perm_middle),
      ih.2.trans (names_set bs i b _ hb rfl)⟩

theorem progress_eq (x : WP) :
    x.progress.1.pending = (WP.dispatchLoop x.session x.pending x.bindings x.nextWorker).1 ∧
    x.progress.1.bindings = (WP.dispatchLoop x.session x.pending x.bindings x.nextWorker).2.1 :=
  iteInduction (motive := fun r : WP × List WOut => r.1.pending = _ ∧ r.1.bindings = _) (fun _ => ⟨rfl, rfl⟩) fun _ =>
    iteInduction (motive := fun r : WP × List WOut => r.1.pending = _ ∧ r.1.bindings = _) (fun _ => ⟨rfl, rfl⟩) fun _ => ⟨rfl, rfl⟩

theorem progress_conserve (x : WP) :
    (held x.progress.1).Perm (held x) ∧ x.progress.1.bindings.map (·.name) = x.bindings.map (·.name) := by
  unfold held
  rw [(progress_eq x).1, (progress_eq x).2]
  exact dispatchLoop_conserve x.session x.pending x.bindings x.nextWorker

theorem endBinding_conserve (x : WP) (n : Nat) (hn : NodupNames x.bindings) :
    (held (x.endBinding n)).Perm (held x) ∧ NodupNames (x.endBinding n).bindings ∧ n ∉ (x.endBinding n).bindings.map (·.name) := by
  unfold WP.endBinding
  cases h : x.find n with
  | none => exact ⟨.refl _, hn, find_none h⟩
  | some b =>
    obtain ⟨hb, rfl⟩ := find_mem h
    refine ⟨?_, (List.filter_sublist.map _).nodup hn, by simp [List.mem_map]⟩
    show ((b.unconfirmed.map Disp.job ++ x.pending) ++ heldB _).Perm (x.pending ++ heldB x.bindings)
    rw [List.append_assoc]
    exact (List.perm_append_comm_assoc ..).trans ((heldB_split x.bindings b hn hb).symm.append_left x.pending)

structure Conserves (x x' : WP) (conf acc : List Job) : Prop where
  perm : (held x' ++ conf).Perm (held x ++ acc)
  names : NodupNames x'.bindings

theorem Conserves.refl (x : WP) (hn : NodupNames x.bindings) : Conserves x x [] [] := ⟨List.Perm.refl _, hn⟩

theorem Conserves.progress {x x1 : WP} {conf acc : List Job} (h : Conserves x x1 conf acc) :
    Conserves x x1.progress.1 conf acc :=
  have hp := progress_conserve x1
  ⟨(hp.1.append_right conf).trans h.perm, by unfold NodupNames; rw [hp.2]; exact h.names⟩

/-- with `progressAfter` (`o` unused) the unifier finds `x1` without unfolding `progress` -/
theorem Conserves.after {x x1 : WP} {conf acc : List Job} (h : Conserves x x1 conf acc) (o : List WOut) :
    Conserves x (progressAfter x1 o).1 conf acc := h.progress

theorem Conserves.update {x x1 : WP} {conf acc : List Job} (h : Conserves x x1 conf acc) (n : Nat) (f : Binding → Binding)
    (hu : ∀ b, (f b).unconfirmed = b.unconfirmed) (hf : ∀ b, (f b).name = b.name) :
    Conserves x (x1.updateBinding n f) conf acc := by
  refine ⟨?_, by unfold NodupNames; rw [updateBinding_names x1 n f fun b _ => hf b]; exact h.names⟩
  rw [show held (x1.updateBinding n f) = held x1 from congrArg (x1.pending ++ ·) (heldB_update x1.bindings n f hu)]
  exact h.perm

theorem advanceConfirmed_conserve (x : WP) (b : Binding) (c : Nat) (hn : NodupNames x.bindings) (hb : b ∈ x.bindings) :
    Conserves x (x.advanceConfirmed b c).1 (cutOf b c) [] := by
  by_cases h : c ≤ b.confirmedSeq
  · rw [show x.advanceConfirmed b c = (x, []) from if_pos h, show cutOf b c = [] from if_pos h]; exact .refl x hn
  · -- the binding named like `b` is `b` itself: its confirmed prefix leaves, the rest stays
    have e : (x.advanceConfirmed b c).1 = x.updateBinding b.name fun _ =>
        { b with confirmedSeq := c, unconfirmed := b.unconfirmed.dropWhile fun d => d.workerSeq ≤ c } :=
      congrArg Prod.fst (if_neg h)
    rw [show cutOf b c = _ from if_neg h, e]
    refine ⟨?_, by unfold NodupNames; rw [updateBinding_names _ _ _ fun _ e => by exact e.symm]; exact hn⟩
    show ((x.pending ++ heldB (x.bindings.map _)) ++ _).Perm ((x.pending ++ heldB x.bindings) ++ [])
    rw [List.append_nil, List.append_assoc]
    refine List.Perm.append_left _ (((heldB_repl x.bindings b _ hn hb).append_right _).trans
      (.trans ?_ (heldB_split x.bindings b hn hb).symm))
    refine List.perm_append_comm.trans ?_
    rw [← List.append_assoc, ← List.map_append, List.takeWhile_append_dropWhile]

theorem registerBinding_conserve (x : WP) (n c k : Nat) (hn : NodupNames x.bindings) :
    Conserves x (x.registerBinding n c k) [] [] := by
  have add : ∀ y : WP, Conserves x y [] [] → n ∉ y.bindings.map (·.name) →
      Conserves x { y with bindings := y.bindings ++ [WP.newBinding n c k] } [] [] := fun y h hnot =>
    ⟨by unfold held; rw [heldB_append]; exact (show heldB [WP.newBinding n c k] = [] from rfl) ▸ (List.append_nil (heldB _)).symm ▸ h.perm,
      by show ((y.bindings ++ [WP.newBinding n c k]).map (·.name)).Nodup
         rw [List.map_append]
         exact List.nodup_append.mpr ⟨h.names, List.pairwise_singleton _ _, fun a ha b hb e =>
           hnot (by cases List.mem_singleton.mp hb; subst e; exact ha)⟩⟩
  unfold WP.registerBinding
  cases hf : x.find n with
  | none => exact add x (.refl x hn) (find_none hf)
  | some b =>
    obtain ⟨hb, rfl⟩ := find_mem hf
    refine iteInduction (motive := fun y : WP => Conserves x y [] []) (fun _ => ?_) fun _ =>
      iteInduction (motive := fun y : WP => Conserves x y [] []) (fun _ => (Conserves.refl x hn).update _ _ (fun _ => rfl) fun _ => rfl)
        fun _ => .refl x hn
    obtain ⟨hp, hn2, hnot⟩ := endBinding_conserve x b.name hn
    exact add _ ⟨hp.append_right [], hn2⟩ hnot

theorem tick_same (x : WP) : x.handleTick.1 = x := by
  unfold WP.handleTick
  cases x.handshake <;> rfl

theorem acceptPending_conserve (y : WP) (hn : NodupNames y.bindings) :
    Conserves y y.acceptPending [] (if !y.owns y.pendingId then [⟨y.pendingId, y.pendingStoreSeq, y.pendingPayload⟩] else []) := by
  unfold WP.acceptPending
  cases y.owns y.pendingId
  · refine ⟨?_, hn⟩
    show ((y.pending ++ [_]) ++ heldB y.bindings ++ []).Perm ((y.pending ++ heldB y.bindings) ++ [_])
    rw [List.append_nil, List.append_assoc, List.append_assoc]
    exact List.Perm.append_left _ List.perm_append_comm
  · exact ⟨.refl _, hn⟩

theorem accepted_conserve (x : WP) (hn : NodupNames x.bindings) :
    Conserves x (accepted x) [] (if !x.owns x.pendingId then [⟨x.pendingId, x.pendingStoreSeq, x.pendingPayload⟩] else []) :=
  have h := acceptPending_conserve { x with handshake := .accept, storedMessage := none } hn
  ⟨h.perm, h.names⟩

/-- every handler call of the work-pulling controller conserves jobs, for ANY input -/
theorem handle_conserve (x : WP) (m : WIn) (hn : NodupNames x.bindings) :
    Conserves x (x.handle m).1 (confOf x m) (accOf x m) :=
  handle_cases x (motive := fun conf acc r => Conserves x r.1 conf acc) (.refl x hn) ⟨.refl _, hn⟩
    (fun n c k _ _ => (registerBinding_conserve x n c k hn).after _)
    (fun b _ => have ⟨hp, hn2, _⟩ := endBinding_conserve x b.name hn; Conserves.after ⟨hp.append_right [], hn2⟩ _)
    (fun b cf u v hb => ((advanceConfirmed_conserve x b cf hn hb).update b.name (fun b0 => { b0 with demandUpTo := u })
      (fun _ => rfl) fun _ => rfl).after _)
    (fun b cf hb => (advanceConfirmed_conserve x b cf hn hb).after _) (fun _ _ => ⟨.refl _, hn⟩)
    ((accepted_conserve x hn).after _) (by rw [tick_same]; exact .refl x hn) m

/-- a run with its history: the controller after the inputs, all jobs accepted, all jobs confirmed -/
def runG : WP → List WIn → WP × List Job × List Job
  | x, [] => (x, [], [])
  | x, m :: ms =>
    let (x', acc, conf) := runG (x.handle m).1 ms
    (x', accOf x m ++ acc, confOf x m ++ conf)

theorem run_conserve (x : WP) (ms : List WIn) (hn : NodupNames x.bindings) :
    (held (runG x ms).1 ++ (runG x ms).2.2).Perm (held x ++ (runG x ms).2.1) ∧ NodupNames (runG x ms).1.bindings := by
  induction ms generalizing x with
  | nil => exact ⟨.refl _, hn⟩
  | cons m ms ih =>
    have h1 := handle_conserve x m hn
    have h2 := ih (x.handle m).1 h1.names
    refine ⟨?_, h2.2⟩
    -- held x'' ++ (conf1 ++ conf2) ~ conf1 ++ (held x' ++ acc2) ~ held x ++ (acc1 ++ acc2)
    show (held (runG (x.handle m).1 ms).1 ++ (confOf x m ++ (runG (x.handle m).1 ms).2.2)).Perm
      (held x ++ (accOf x m ++ (runG (x.handle m).1 ms).2.1))
    refine (List.perm_append_comm_assoc ..).trans ((h2.1.append_left (confOf x m)).trans ?_)
    rw [← List.append_assoc, ← List.append_assoc]
    exact (List.perm_append_comm.trans h1.perm).append_right _

end GoaktVerif.C44
