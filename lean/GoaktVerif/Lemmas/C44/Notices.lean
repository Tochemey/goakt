import GoaktVerif.Lemmas.C44.Conserve

/-!
The producer endpoint is told `DeliveryConfirmed` exactly for the jobs an input confirms
(when the endpoint asked for the notices), in order — "confirmed exactly once from the producer's point of view".
-/
namespace GoaktVerif.C44
open GoaktVerif.Model.C44
open GoaktVerif.Model.C42 (HS maxWindow PUMsg)

/-- the (MessageID, store sequence) pairs of the DeliveryConfirmed notices among the outputs -/
def noticesOf : List WOut → List (Nat × Nat)
  | [] => []
  | .toUser (.deliveryConfirmed _ i q) :: r => (i, q) :: noticesOf r
  | _ :: r => noticesOf r

theorem noticesOf_append (a b : List WOut) : noticesOf (a ++ b) = noticesOf a ++ noticesOf b := by
  induction a with
  | nil => rfl
  | cons x xs ih =>
    cases x with
    | toWorker n c m => simp [noticesOf, ih]
    | toUser m => cases m <;> simp [noticesOf, ih]

theorem emit_notices (s : Nat) (b : Binding) (d : Disp) : noticesOf (WP.emit s b d) = [] := by
  unfold WP.emit; split <;> rfl

theorem dispatchLoop_notices (s : Nat) (pend : List Job) (bs : List Binding) (nw : Nat) :
    noticesOf (WP.dispatchLoop s pend bs nw).2.2.2 = [] := by
  induction pend generalizing bs nw with
  | nil => rfl
  | cons j rest ih =>
    unfold WP.dispatchLoop
    split; · rfl
    split; · rfl
    split; · rfl
    simp only [noticesOf_append, emit_notices, ih, List.append_nil]

theorem progress_notices (x : WP) : noticesOf x.progress.2 = [] := by
  unfold WP.progress WP.dispatchPending
  have := dispatchLoop_notices x.session x.pending x.bindings x.nextWorker
  refine iteInduction (motive := fun r : WP × List WOut => noticesOf (_ ++ r.2) = []) (fun _ => ?_) fun _ =>
    iteInduction (motive := fun r : WP × List WOut => noticesOf (_ ++ r.2) = []) (fun _ => ?_) fun _ => ?_ <;>
    rw [noticesOf_append, this] <;> rfl

theorem progressAfter_notices (x : WP) (o : List WOut) : noticesOf (progressAfter x o).2 = noticesOf o := by
  show noticesOf (o ++ x.progress.2) = _
  rw [noticesOf_append, progress_notices, List.append_nil]

theorem resend_notices (s : Nat) (b : Binding) : noticesOf (WP.resend s b) = [] := by
  unfold WP.resend
  generalize (b.unconfirmed.takeWhile _) = l
  induction l with
  | nil => rfl
  | cons d r ih => simp [List.flatMap_cons, noticesOf_append, emit_notices, ih]

def noticePairs (dc : Bool) (jobs : List Job) : List (Nat × Nat) :=
  if dc then jobs.map (fun j => (j.id, j.storeSeq)) else []

theorem noticesOf_confirmed (s : Nat) (l : List Disp) :
    noticesOf (l.map fun d => .toUser (.deliveryConfirmed s d.id d.storeSeq)) = (l.map Disp.job).map fun j => (j.id, j.storeSeq) := by
  induction l with
  | nil => rfl
  | cons d r ih => exact congrArg (_ :: ·) ih

theorem advanceConfirmed_notices (x : WP) (b : Binding) (c : Nat) :
    noticesOf (x.advanceConfirmed b c).2 = noticePairs x.deliveryConfirmation (cutOf b c) := by
  unfold WP.advanceConfirmed cutOf noticePairs WP.confirmations
  split
  · split <;> rfl
  · simp only []
    generalize (b.unconfirmed.takeWhile _) = l
    cases x.deliveryConfirmation
    · cases l <;> rfl
    · cases l with
      | nil => rfl
      | cons d r => exact noticesOf_confirmed x.session (d :: r)

/-- the message the tick re-sends is a `Stored` (never a notice) -/
def WFStored (x : WP) : Prop := ∀ m, x.storedMessage = some m → ∃ s t i q, m = PUMsg.stored s t i q

theorem noticePairs_nil (dc : Bool) : noticePairs dc [] = [] := by cases dc <;> rfl

/-- the notices of one handler call are exactly the jobs that call confirmed -/
theorem handle_notices (x : WP) (m : WIn) (hsm : WFStored x) :
    noticesOf (x.handle m).2 = noticePairs x.deliveryConfirmation (confOf x m) := by
  have hres : ∀ (y : WP) (n : Nat) (v : Bool), noticesOf (if v = true then y.resendFor n else []) = [] := fun y n v => by
    cases v
    · rfl
    · unfold WP.resendFor; cases y.find n
      · rfl
      · exact resend_notices _ _
  refine handle_cases x (motive := fun conf _ r => noticesOf r.2 = noticePairs x.deliveryConfirmation conf)
    (noticePairs_nil _).symm (noticePairs_nil _).symm (fun _ _ _ _ _ => ?_) (fun _ _ => ?_) (fun b cf u v _ => ?_)
    (fun b cf _ => ?_) (fun _ _ => (noticePairs_nil _).symm) ?_ ?_ m
  · rw [progressAfter_notices, noticePairs_nil]; rfl
  · rw [progressAfter_notices, noticePairs_nil]; rfl
  · rw [progressAfter_notices, noticesOf_append, hres, List.append_nil, advanceConfirmed_notices]
  · rw [progressAfter_notices, advanceConfirmed_notices]
  · rw [progressAfter_notices, noticePairs_nil]; rfl
  · rw [noticePairs_nil]
    unfold WP.handleTick
    cases x.handshake
    case storedAck =>
      cases hm : x.storedMessage with
      | none => rfl
      | some m => obtain ⟨_, _, _, _, rfl⟩ := hsm m hm; rfl
    all_goals rfl

/-- the fields that only the producer handshake writes -/
structure SameCfg (x x' : WP) : Prop where
  dc : x'.deliveryConfirmation = x.deliveryConfirmation
  sm : x'.storedMessage = x.storedMessage

theorem SameCfg.refl (x : WP) : SameCfg x x := ⟨rfl, rfl⟩
theorem SameCfg.trans {a b c : WP} (h1 : SameCfg a b) (h2 : SameCfg b c) : SameCfg a c :=
  ⟨h2.dc.trans h1.dc, h2.sm.trans h1.sm⟩

theorem SameCfg.after {x x' : WP} (h : SameCfg x x') (o : List WOut) : SameCfg x (progressAfter x' o).1 :=
  iteInduction (motive := fun r : WP × List WOut => SameCfg x r.1) (fun _ => ⟨h.dc, h.sm⟩) fun _ =>
    iteInduction (motive := fun r : WP × List WOut => SameCfg x r.1) (fun _ => ⟨h.dc, h.sm⟩) fun _ => ⟨h.dc, h.sm⟩

theorem endBinding_cfg (x : WP) (n : Nat) : SameCfg x (x.endBinding n) := by
  unfold WP.endBinding; cases x.find n <;> exact ⟨rfl, rfl⟩

theorem advanceConfirmed_cfg (x : WP) (b : Binding) (c : Nat) : SameCfg x (x.advanceConfirmed b c).1 :=
  iteInduction (motive := fun r : WP × List WOut => SameCfg x r.1) (fun _ => ⟨rfl, rfl⟩) fun _ => ⟨rfl, rfl⟩

theorem registerBinding_cfg (x : WP) (n c k : Nat) : SameCfg x (x.registerBinding n c k) := by
  unfold WP.registerBinding
  cases x.find n with
  | none => exact ⟨rfl, rfl⟩
  | some b =>
    exact iteInduction (motive := SameCfg x) (fun _ => ⟨(endBinding_cfg x n).dc, (endBinding_cfg x n).sm⟩) fun _ =>
      iteInduction (motive := SameCfg x) (fun _ => ⟨rfl, rfl⟩) fun _ => ⟨rfl, rfl⟩

theorem handle_cfg (x : WP) (m : WIn) (hsm : WFStored x) :
    (x.handle m).1.deliveryConfirmation = x.deliveryConfirmation ∧ WFStored (x.handle m).1 := by
  have wf : ∀ {x' : WP}, SameCfg x x' → x'.deliveryConfirmation = x.deliveryConfirmation ∧ WFStored x' :=
    fun h => ⟨h.dc, fun m hm => hsm m (h.sm ▸ hm)⟩
  refine handle_cases x (motive := fun _ _ r => r.1.deliveryConfirmation = x.deliveryConfirmation ∧ WFStored r.1)
    ⟨rfl, hsm⟩ ⟨rfl, hsm⟩ (fun n c k _ _ => wf ((registerBinding_cfg x n c k).after _))
    (fun b _ => wf ((endBinding_cfg x b.name).after _))
    (fun b cf u v _ => wf (SameCfg.after (x' := (x.advanceConfirmed b cf).1.updateBinding _ _)
      ⟨(advanceConfirmed_cfg x b cf).dc, (advanceConfirmed_cfg x b cf).sm⟩ _))
    (fun b cf _ => wf ((advanceConfirmed_cfg x b cf).after _))
    (fun _ _ => ⟨rfl, fun m hm => ⟨_, _, _, _, (Option.some.inj hm).symm⟩⟩) ?_ (by rw [tick_same]; exact ⟨rfl, hsm⟩) m
  -- the accepted handshake forgets its `Stored`
  have h : SameCfg { x with storedMessage := none } (accepted x) :=
    ⟨iteInduction (motive := fun y : WP => y.deliveryConfirmation = x.deliveryConfirmation) (fun _ => rfl) fun _ => rfl, rfl⟩
  exact ⟨(h.after _).dc, fun m hm => nomatch (h.after []).sm ▸ hm⟩

/-- all DeliveryConfirmed notices of a run, oldest first -/
def runNotices : WP → List WIn → List (Nat × Nat)
  | _, [] => []
  | x, m :: ms => noticesOf (x.handle m).2 ++ runNotices (x.handle m).1 ms

theorem noticePairs_append (dc : Bool) (a b : List Job) : noticePairs dc (a ++ b) = noticePairs dc a ++ noticePairs dc b := by
  unfold noticePairs; split <;> simp

/-- along every input sequence: the notices sent are exactly the jobs confirmed, in order -/
theorem run_notices (x : WP) (ms : List WIn) (hsm : WFStored x) :
    runNotices x ms = noticePairs x.deliveryConfirmation (runG x ms).2.2 := by
  induction ms generalizing x with
  | nil => simp [runNotices, runG, noticePairs]
  | cons m ms ih =>
    have hc := handle_cfg x m hsm
    simp only [runNotices, runG, noticePairs_append, handle_notices x m hsm, ih _ hc.2, hc.1]

end GoaktVerif.C44
