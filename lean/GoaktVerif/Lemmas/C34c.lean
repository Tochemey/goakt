/-
C34, the judge: its predicate (`Spec.C34.verdict`, the oracle that is evaluated on the implementation's
output) never flags the MODEL's run on a history that satisfies the guard.
The monitor's blocked sets are simulated by the model's two filters.
-/
import GoaktVerif.Lemmas.C34b

namespace GoaktVerif.C34
open GoaktVerif.Model.C34 GoaktVerif.Spec.C34

theorem mem_renderNode (x : Obs) (n : Node) (e : Ev) :
    x ∈ renderNode n e ↔
      (x.node = n ∧ ((x.isLeft = true ∧ e.left = some x.ts) ∨ (x.isLeft = false ∧ e.join = some x.ts))) := by
  obtain ⟨il, nd, ts⟩ := x
  cases hl : e.left <;> cases hj : e.join <;> simp [renderNode, hl, hj] <;> grind

theorem mem_renderStep (x : Obs) (U : List Node) (o : Node → Ev) :
    x ∈ renderStep U o ↔
      (x.node ∈ U ∧ ((x.isLeft = true ∧ (o x.node).left = some x.ts) ∨ (x.isLeft = false ∧ (o x.node).join = some x.ts))) := by
  simp only [renderStep, List.mem_flatMap, mem_renderNode]
  constructor
  · rintro ⟨n, hn, rfl, h⟩; exact ⟨hn, h⟩
  · rintro ⟨hn, h⟩; exact ⟨x.node, hn, rfl, h⟩

theorem nodes_render (b : Bool) (U : List Node) (o : Node → Ev) :
    ((renderStep U o).filter (·.isLeft == b)).map (·.node) =
      U.filter (fun n => (if b then (o n).left else (o n).join).isSome) := by
  induction U with
  | nil => simp [renderStep]
  | cons a U ih =>
    simp only [renderStep, List.flatMap_cons, List.filter_append, List.map_append] at ih ⊢
    rw [ih]
    cases b <;> cases hl : (o a).left <;> cases hj : (o a).join <;> simp [renderNode, hl, hj]

theorem lefts_render (U : List Node) (o : Node → Ev) :
    leftsOf (renderStep U o) = U.filter (fun n => (o n).left.isSome) := by
  simpa [leftsOf] using nodes_render true U o

theorem joins_render (U : List Node) (o : Node → Ev) :
    joinsOf (renderStep U o) = U.filter (fun n => (o n).join.isSome) := by
  simpa [joinsOf] using nodes_render false U o

theorem mem_lefts (U : List Node) (o : Node → Ev) (n : Node) :
    n ∈ leftsOf (renderStep U o) ↔ n ∈ U ∧ (o n).left.isSome = true := by
  rw [lefts_render]; simp

theorem mem_joins (U : List Node) (o : Node → Ev) (n : Node) :
    n ∈ joinsOf (renderStep U o) ↔ n ∈ U ∧ (o n).join.isSome = true := by
  rw [joins_render]; simp

theorem gateOK_prefix {pre : List Op} {op : Op} {rest : List Op} {n : Node} {t : Nat}
    (ht : t ≤ pre.length + 1) :
    gateOK (pre ++ op :: rest) pre.length n t = gateOK (pre ++ [op]) pre.length n t := by
  have e : pre ++ op :: rest = (pre ++ [op]) ++ rest := by simp
  have h1 : (pre ++ op :: rest)[pre.length]? = (pre ++ [op])[pre.length]? := by simp
  have h2 : covAt (pre ++ op :: rest) n t = covAt (pre ++ [op]) n t := by
    rw [e]; exact covAt_append (by simpa using ht)
  have h3 : ∀ c, coveredBy (pre ++ op :: rest) pre.length c = coveredBy (pre ++ [op]) pre.length c := by
    intro c
    simp only [coveredBy]
    rw [e, List.take_append_of_le_length (by simp), List.take_of_length_le (by simp)]
  simp only [gateOK, h1, h2, h3]

structure Sim (U : List Node) (b : Blocked) (s : St) : Prop where
  l : ∀ n ∈ b.l, (s.loc n).leftF = true
  j : ∀ n ∈ b.j, (s.loc n).joinF = true ∧ n ∈ U

theorem unblock_l_sub (b : Blocked) (op : Op) (n : Node) (h : n ∈ (unblock b op).l) : n ∈ b.l := by
  cases op with
  | join m => exact (List.mem_filter.mp h).1
  | _ => exact h

theorem unblock_j_sub (b : Blocked) (op : Op) (n : Node) (h : n ∈ (unblock b op).j) :
    n ∈ b.j ∧ isLeftOf op n = false := by
  cases op with
  | left m c =>
    obtain ⟨h1, h2⟩ := List.mem_filter.mp h
    exact ⟨h1, beq_eq_false_iff_ne.mpr fun e => bne_iff_ne.mp h2 e.symm⟩
  | _ => exact ⟨h, rfl⟩

theorem step_ok (U : List Node) (hU : U.Nodup) (pre : List Op) (op : Op) (rest : List Op)
    (hg : guard (pre ++ op :: rest) = true) (b : Blocked) (hs : Sim U b (after pre)) :
    stepVerdict (pre ++ op :: rest) pre.length b op
        (renderStep U (step (after pre) (pre.length + 1) op).2) = none ∧
    Sim U (stepBlocked b op (renderStep U (step (after pre) (pre.length + 1) op).2)) (after (pre ++ [op])) := by
  have hi := Inv_after pre
  rw [after_snoc]
  -- `o n` is what node `n` reports in this call (`evAt pre op n`), `s'` the state after it
  generalize ho : (step (after pre) (pre.length + 1) op).2 = o
  generalize hs' : (step (after pre) (pre.length + 1) op).1 = s'
  have emitL : ∀ n, (o n).left.isSome = true → ((after pre).loc n).leftF = false ∧ (s'.loc n).leftF = true := by
    intro n h; subst ho hs'
    exact stepL_left_emit h
  -- a blocked NodeJoined(n) stays blocked and unreported unless NodeLeft(n) is reported
  have keepJ : ∀ n ∈ (unblock b op).j, (leftsOf (renderStep U o)).contains n = false →
      ((s'.loc n).joinF = true ∧ n ∈ U) ∧ (o n).join = none := by
    intro n hn hnl; subst ho hs'
    obtain ⟨hbj, hop⟩ := unblock_j_sub b op n hn
    obtain ⟨hjf, hnU⟩ := hs.j n hbj
    have hl : ((step (after pre) (pre.length + 1) op).2 n).left = none := by
      simpa [mem_lefts, hnU] using hnl
    have := stepL_joinF_keep (hi.linv n) hjf hop hl
    exact ⟨⟨this.1, hnU⟩, this.2⟩
  have h1 : (renderStep U o).any (·.node == self) = false := by
    rw [List.any_eq_false]
    intro x hx hn
    rw [mem_renderStep, show x.node = self by simpa using hn, ← ho] at hx
    rcases hx.2 with ⟨_, h⟩ | ⟨_, h⟩
    · cases h.symm.trans (self_never_left pre op)
    · cases h.symm.trans (self_never_joined pre op)
  have h2 : (leftsOf (renderStep U o)).Nodup := by rw [lefts_render]; exact hU.filter _
  have h3 : (joinsOf (renderStep U o)).Nodup := by rw [joins_render]; exact hU.filter _
  have h4 : (leftsOf (renderStep U o)).any
      (fun n => (unblock b op).l.contains n && !(joinsOf (renderStep U o)).contains n) = false := by
    rw [List.any_eq_false]
    intro n hn hc
    simp only [Bool.and_eq_true, List.contains_iff_mem] at hc
    have := hs.l n (unblock_l_sub b op n hc.1)
    rw [(emitL n ((mem_lefts U o n).mp hn).2).1] at this; cases this
  have h5 : (joinsOf (renderStep U o)).any
      (fun n => (unblock b op).j.contains n && !(leftsOf (renderStep U o)).contains n) = false := by
    rw [List.any_eq_false]
    intro n hn hc
    simp only [Bool.and_eq_true, Bool.not_eq_true', List.contains_iff_mem] at hc
    rw [mem_joins, (keepJ n hc.1 hc.2).2] at hn; simp at hn
  have h6 : ((renderStep U o).filter (·.isLeft)).find?
      (fun e => !gateOK (pre ++ op :: rest) pre.length e.node e.ts) = none := by
    rw [List.find?_eq_none]
    intro x hx
    rw [List.mem_filter, mem_renderStep] at hx
    rcases hx.1.2 with ⟨_, hl⟩ | ⟨hf, _⟩
    · have hev : (evAt pre op x.node).left = some x.ts := by rw [← ho] at hl; exact hl
      rw [gateOK_prefix (emitted_left_ts pre op x.node x.ts hev).2.1]
      have hgp : guard pre = true := guard_prefix pre (op :: rest) hg
      simp [gate_step hi (CovInv_after pre hgp) op (guard_split pre op rest hg) x.node x.ts hev]
    · rw [hf] at hx; simp at hx
  refine ⟨by simp only [stepVerdict, h1, h2, h3, h4, h5, h6]; simp, ?_, ?_⟩
  · intro n hn
    simp only [stepBlocked, List.mem_filter, List.mem_append] at hn
    rcases hn.1 with h | h
    · subst hs'; exact stepL_leftF_mono (hs.l n (unblock_l_sub b op n h))
    · exact (emitL n ((mem_lefts U o n).mp h).2).2
  · intro n hn
    simp only [stepBlocked, List.mem_filter, List.mem_append, Bool.not_eq_true'] at hn
    rcases hn.1 with h | h
    · exact (keepJ n h hn.2).1
    · rw [mem_joins] at h
      subst ho hs'
      exact ⟨stepL_join_emit h.2, h.1⟩

theorem verdictFrom_ok (U : List Node) (hU : U.Nodup) (h : List Op) (hg : guard h = true) :
    ∀ (ops pre : List Op) (b : Blocked), h = pre ++ ops → Sim U b (after pre) →
      verdictFrom h pre.length b ops ((runFrom pre.length (after pre) ops).1.map (renderStep U)) = none := by
  intro ops
  induction ops with
  | nil => intro pre b _ _; simp [verdictFrom]
  | cons op ops ih =>
    intro pre b hh hs
    subst hh
    obtain ⟨hv, hs'⟩ := step_ok U hU pre op ops hg b hs
    simp only [runFrom, List.map_cons, verdictFrom, hv]
    have := ih (pre ++ [op]) _ (by simp) hs'
    rw [after_snoc] at this
    simpa using this

end GoaktVerif.C34
