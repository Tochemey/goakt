/-
C18 helper lemmas: the inductive invariant of the dead-letter machine.
-/
import GoaktVerif.Model.C18
import GoaktVerif.Spec.C18

namespace GoaktVerif.C18
open GoaktVerif.Model.C18 GoaktVerif.Spec.C18

/-- dead letters sitting in a mailbox of the dead-letter actor -/
def pendBox (b : List Cmd) : List DL := b.filterMap (fun c => match c with | .send d => some d | _ => none)

/-- dead letters the queued failed batches will produce -/
def pendFq (fq : List (List BatchMsg)) : List DL := fq.flatMap (fun b => b.filterMap batchDL)

/-- the events of the property's universe: drops of every cause, drain-goroutine and dead-letter-actor steps, count
    requests.  Excluded are only the two dead-letter-actor commands that are no traffic: `PublishDeadletters`
    (nothing in goakt sends it) and a restart of the dead-letter actor (re-runs `handlePostStart`).
    A hand-off to a full fan-out queue is not excluded: it is dead-lettered inline (goakt f8d2f6b). -/
def okEv (_s : Sys) : Ev → Bool
  | .publishAll => false
  | .restartDL => false
  | _ => true

def guarded : Sys → List Ev → Bool
  | _, [] => true
  | s, e :: es => okEv s e && guarded (step s e) es

structure Inv (s : Sys) (exp : List DL) : Prop where
  up1 : s.dlRunning = true
  up2 : s.guardianRunning = true
  up3 : s.shuttingDown = false
  owed : ∀ d, (s.published ++ pendBox s.sysBox ++ pendFq s.fq).count d = exp.count d
  cnt : s.counter = s.published.length
  per : ∀ r, lookupN s.per r = tally s.published r
  sysOnlySend : ∀ c ∈ s.sysBox, ∃ d, c = .send d
  userOnlyCount : ∀ c ∈ s.userBox, ∃ a, c = .count a

theorem pendBox_append (a b : List Cmd) : pendBox (a ++ b) = pendBox a ++ pendBox b := by
  simp [pendBox, List.filterMap_append]

theorem pendBox_sends (l : List DL) : pendBox (l.map Cmd.send) = l := by
  rw [pendBox, List.filterMap_map]
  exact List.filterMap_some

theorem pendFq_append (a b : List (List BatchMsg)) : pendFq (a ++ b) = pendFq a ++ pendFq b := by
  simp [pendFq, List.flatMap_append]

theorem lookupN_bump (l : List (Addr × Nat)) (a r : Addr) :
    lookupN (bump l a) r = lookupN l r + (if a = r then 1 else 0) := by
  induction l with
  | nil => exact (Nat.zero_add _).symm
  | cons x l ih =>
    obtain ⟨b, n⟩ := x
    rw [bump]
    by_cases hb : b = a
    · rw [if_pos hb, lookupN, lookupN, hb]
      by_cases h : a = r
      · rw [if_pos h, if_pos h, if_pos h]
      · rw [if_neg h, if_neg h, if_neg h]; rfl
    · rw [if_neg hb, lookupN, lookupN, ih]
      by_cases h : b = r
      · rw [if_pos h, if_pos h, if_neg (fun e => hb (h.trans e.symm)), Nat.add_zero]
      · rw [if_neg h, if_neg h]

theorem tally_append (p : List DL) (d : DL) (r : Addr) :
    tally (p ++ [d]) r = tally p r + (if d.receiver = r then 1 else 0) := by
  rw [tally, tally, List.filter_append, List.length_append, List.filter_cons]
  by_cases h : d.receiver = r
  · rw [if_pos (beq_iff_eq.mpr h), if_pos h]; rfl
  · rw [if_neg (fun e => h (beq_iff_eq.mp e)), if_neg h]; rfl

theorem remoteDL_eq (s : Sys) (sd : Option Addr) (r : Addr) (m : Nat) (c : Cause)
    (h1 : s.dlRunning = true) (h2 : s.guardianRunning = true) :
    remoteDL s sd r m c = { s with sysBox := s.sysBox ++ [Cmd.send ⟨m, senderOf sd, r, c⟩] } := by
  cases sd <;> simp [remoteDL, tellDL, h1, h2, senderOf]

theorem foldl_drainMsg (b : List BatchMsg) (s : Sys) (h1 : s.dlRunning = true) (h2 : s.guardianRunning = true) :
    b.foldl drainMsg s = { s with sysBox := s.sysBox ++ (b.filterMap batchDL).map Cmd.send } := by
  induction b generalizing s with
  | nil => simp
  | cons m b ih =>
    obtain ⟨rcv, pl, sd⟩ := m
    rw [List.foldl_cons]
    cases rcv with
    | none => exact ih s h1 h2
    | some r =>
      cases pl with
      | none => exact ih s h1 h2
      | some p =>
        have hd : drainMsg s ⟨some r, some p, sd⟩ = _ := remoteDL_eq s sd r p .batch h1 h2
        rw [hd, ih { s with sysBox := s.sysBox ++ [Cmd.send ⟨p, senderOf sd, r, .batch⟩] } h1 h2]
        simp [batchDL]

theorem drain_nil {s : Sys} (h : s.fq = []) : drain s = s := by
  rw [drain, h]

theorem drain_cons {s : Sys} {b : List BatchMsg} {rest : List (List BatchMsg)} (h1 : s.dlRunning = true)
    (h2 : s.guardianRunning = true) (h : s.fq = b :: rest) :
    drain s = { s with fq := rest, sysBox := s.sysBox ++ (b.filterMap batchDL).map Cmd.send } := by
  rw [drain, h]
  exact foldl_drainMsg b { s with fq := rest } h1 h2

theorem dlStep_of_sys {s : Sys} {c : Cmd} {rest : List Cmd} (h : s.sysBox = c :: rest) :
    dlStep s = handle { s with sysBox := rest } c := by
  simp only [dlStep, h]

theorem dlStep_of_user {s : Sys} {c : Cmd} {rest : List Cmd} (h1 : s.sysBox = []) (h2 : s.userBox = c :: rest) :
    dlStep s = handle { s with userBox := rest } c := by
  simp only [dlStep, h1, h2]

theorem dlStep_idle {s : Sys} (h1 : s.sysBox = []) (h2 : s.userBox = []) : dlStep s = s := by
  simp only [dlStep, h1, h2]

/-- `L` = published ++ pending: a step keeps the accounting if it permutes `L` and adds what it owes -/
theorem owed_of_perm {L L' exp X : List DL} (h : ∀ d, L.count d = exp.count d) (hp : L'.Perm (L ++ X)) (d : DL) :
    L'.count d = (exp ++ X).count d := by
  rw [hp.count_eq, List.count_append, List.count_append, h d]

theorem Inv.post {s : Sys} {exp : List DL} (hi : Inv s exp) (l : List DL) :
    Inv { s with sysBox := s.sysBox ++ l.map Cmd.send } (exp ++ l) := by
  obtain ⟨u1, u2, u3, owed, cnt, per, hs, hu⟩ := hi
  refine ⟨u1, u2, u3, owed_of_perm owed ?_, cnt, per, fun c hc => ?_, hu⟩
  · simp only [pendBox_append, pendBox_sends, List.append_assoc]
    exact (List.perm_append_comm.append_left _).append_left _
  · rcases List.mem_append.mp hc with hc | hc
    · exact hs c hc
    · obtain ⟨d, _, hd⟩ := List.mem_map.mp hc
      exact ⟨d, hd.symm⟩

theorem Inv.idle {s : Sys} {exp : List DL} (hi : Inv s exp) : Inv s (exp ++ []) := by
  rwa [List.append_nil]

/-- a hand-off that finds the queue full (or the system shutting down) is published inline, message by message -/
theorem full_queue_inline (s : Sys) (ms : List BatchMsg) (h1 : s.dlRunning = true) (h2 : s.guardianRunning = true)
    (hfull : s.shuttingDown = true ∨ s.fqCap ≤ s.fq.length) :
    batchFail s ms = { s with sysBox := s.sysBox ++ (ms.filterMap batchDL).map Cmd.send } := by
  rw [← foldl_drainMsg ms s h1 h2, batchFail]
  rcases hfull with h | h
  · rw [if_pos h]
  · rw [if_pos h, ite_self]

theorem inv_step (s : Sys) (exp : List DL) (e : Ev) (hi : Inv s exp) (hok : okEv s e = true) :
    Inv (step s e) (exp ++ expectedOf e) := by
  have ⟨u1, u2, u3, owed, cnt, per, hs, hu⟩ := hi
  cases e with
  | localDrop h k sd r m c =>
    cases h with
    | false => exact hi.idle
    | true =>
      cases k with
      | user =>
        rw [show step s (.localDrop true .user sd r m c) = tellDL s ⟨m, senderOf sd, r, c⟩ by cases sd <;> rfl,
          tellDL, if_pos u1]
        exact hi.post [_]
      | _ => exact hi.idle
  | remoteDrop sd r p c =>
    cases r with
    | none => cases p <;> exact hi.idle
    | some r =>
      cases p with
      | none => exact hi.idle
      | some m =>
        rw [show step s (.remoteDrop sd (some r) (some m) c) = _ from remoteDL_eq s sd r m c u1 u2]
        exact hi.post [_]
  | batchFail ms =>
    by_cases hfull : s.fqCap ≤ s.fq.length
    · rw [show step s (.batchFail ms) = _ from full_queue_inline s ms u1 u2 (.inr hfull)]
      exact hi.post _
    · rw [show step s (.batchFail ms) = { s with fq := s.fq ++ [ms] } by
        rw [step, batchFail, u3, if_neg Bool.false_ne_true, if_neg hfull]]
      refine ⟨u1, u2, u3, owed_of_perm owed (.of_eq ?_), cnt, per, hs, hu⟩
      simp only [pendFq, List.flatMap_append, List.flatMap_cons, List.flatMap_nil, List.append_nil,
        expectedOf, List.append_assoc]
  | drain =>
    show Inv (drain s) (exp ++ [])
    cases hfq : s.fq with
    | nil =>
      rw [drain_nil hfq]
      exact hi.idle
    | cons b rest =>
      rw [drain_cons u1 u2 hfq]
      refine ⟨u1, u2, u3, owed_of_perm owed (.of_eq ?_), cnt, per, (hi.post _).sysOnlySend, hu⟩
      simp only [hfq, pendFq, List.flatMap_cons, pendBox_append, pendBox_sends, List.append_assoc,
        List.append_nil]
  | dlStep =>
    show Inv (dlStep s) (exp ++ [])
    cases hsb : s.sysBox with
    | cons c rest =>
      obtain ⟨d0, rfl⟩ := hs c (by rw [hsb]; exact List.mem_cons_self)
      rw [dlStep_of_sys hsb]
      refine ⟨u1, u2, u3, owed_of_perm owed (.of_eq ?_), ?_, fun r => ?_,
        fun c' hc' => hs c' (by rw [hsb]; exact List.mem_cons_of_mem _ hc'), hu⟩
      · -- `d0` moves from the mailbox to the stream
        simp only [hsb, pendBox, List.filterMap_cons, handle, List.append_assoc, List.cons_append,
          List.nil_append, List.append_nil]
      · simp only [handle, List.length_append, List.length_singleton, cnt]
      · simp only [handle, lookupN_bump, tally_append, per r]
    | nil =>
      cases hub : s.userBox with
      | nil =>
        rw [dlStep_idle hsb hub]
        exact hi.idle
      | cons c rest =>
        obtain ⟨a, rfl⟩ := hu c (by rw [hub]; exact List.mem_cons_self)
        rw [dlStep_of_user hsb hub, List.append_nil]
        cases a <;>
          exact ⟨u1, u2, u3, owed, cnt, per, hs, fun c' hc' => hu c' (by rw [hub]; exact List.mem_cons_of_mem _ hc')⟩
  | askCount a =>
    rw [show step s (.askCount a) = { s with userBox := s.userBox ++ [.count a] } from if_pos u1]
    refine ⟨u1, u2, u3, owed_of_perm owed (.of_eq (List.append_nil _).symm), cnt, per, hs, fun c hc => ?_⟩
    rcases List.mem_append.mp hc with hc | hc
    · exact hu c hc
    · exact ⟨a, List.mem_singleton.mp hc⟩
  | publishAll => cases hok
  | restartDL => cases hok

theorem inv_run (evs : List Ev) (s : Sys) (exp : List DL) (hi : Inv s exp) (hg : guarded s evs = true) :
    Inv (run s evs) (exp ++ expected evs) := by
  induction evs generalizing s exp with
  | nil => exact hi.idle
  | cons e es ih =>
    simp only [guarded, Bool.and_eq_true] at hg
    have h2 := ih (step s e) (exp ++ expectedOf e) (inv_step s exp e hi hg.1) hg.2
    simpa [run, expected, List.append_assoc] using h2

end GoaktVerif.C18
