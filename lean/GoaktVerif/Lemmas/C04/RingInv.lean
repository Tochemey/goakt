/-
C04 — `NonBlockingBoundedMailbox` (Vyukov bounded ring): its structural invariants and their Owicki–Gries
obligations (`ring_step`, `ring_frame`; all schedules are in RingMain).

Positions are never reused; slot `p % size` serves position `p`.  With `rel` the number of RELEASED
positions (below `dequeuePos`, minus the one the consumer has claimed but not yet released):
`rel ≤ dequeuePos ≤ enqueuePos ≤ rel + size`; the slots of the positions in `[enqueuePos, rel+size)`
are free (`seq = p`); a position in `[dequeuePos, enqueuePos)` is reserved (`seq = p`) or published
(`seq = p+1`).  The positions of the window `[rel, rel + size)` occupy different slots (`slot_inj`).
The four writes are called M1 (a producer reserves `enqPos`), M2 (it publishes), M3 (the consumer claims `deqPos`),
M4 (it releases the claimed position).
-/
import GoaktVerif.Model.C04.All
import GoaktVerif.Lemmas.C04.CoreLemmas
import GoaktVerif.Lemmas.NatMod

namespace GoaktVerif.C04.RingInv
open GoaktVerif.Model.C04 GoaktVerif.Model.C04.Ring

abbrev Th := Thread Ring.PC

/-- released positions: `dequeuePos`, minus one while the slot of the last claimed position still
carries that position's "published" mark -/
def rel (s : Sh) : Nat :=
  if 0 < s.deqPos ∧ s.seq ((s.deqPos - 1) % s.size) = s.deqPos then s.deqPos - 1 else s.deqPos

theorem rel_le (s : Sh) : rel s ≤ s.deqPos := by unfold rel; split <;> omega

theorem rel_cases (s : Sh) :
    rel s = s.deqPos ∨ (rel s + 1 = s.deqPos ∧ s.seq (rel s % s.size) = s.deqPos) := by
  unfold rel; split
  · next h => exact Or.inr ⟨Nat.sub_add_cancel h.1, h.2⟩
  · exact Or.inl rfl

theorem rel_congr {s s' : Sh} (hd : s'.deqPos = s.deqPos) (hz : s'.size = s.size)
    (hs : s'.seq ((s.deqPos - 1) % s.size) = s.seq ((s.deqPos - 1) % s.size)) : rel s' = rel s := by
  unfold rel; rw [hd, hz, hs]

structure P (s : Sh) : Prop where
  size2 : 2 ≤ s.size
  le1 : s.deqPos ≤ s.enqPos
  le2 : s.enqPos ≤ rel s + s.size
  free : ∀ p, s.enqPos ≤ p → p < rel s + s.size → s.seq (p % s.size) = p
  win : ∀ p, s.deqPos ≤ p → p < s.enqPos → s.seq (p % s.size) = p ∨ s.seq (p % s.size) = p + 1

def InW (s : Sh) (p : Nat) : Prop := rel s ≤ p ∧ p < rel s + s.size

variable {s : Sh}

theorem P.inW_win (hP : P s) {p : Nat} (h1 : s.deqPos ≤ p) (h2 : p < s.enqPos) : InW s p :=
  ⟨Nat.le_trans (rel_le s) h1, Nat.lt_of_lt_of_le h2 hP.le2⟩

theorem P.inW_free (hP : P s) {p : Nat} (h1 : s.enqPos ≤ p) (h2 : p < rel s + s.size) : InW s p :=
  ⟨Nat.le_trans (rel_le s) (Nat.le_trans hP.le1 h1), h2⟩

theorem P.inW_rel (hP : P s) : InW s (rel s) :=
  ⟨Nat.le_refl _, Nat.lt_add_of_pos_right (Nat.lt_of_lt_of_le Nat.zero_lt_two hP.size2)⟩

theorem slot_inj {p q : Nat} (hp : InW s p) (hq : InW s q) (h : p % s.size = q % s.size) :
    p = q :=
  NatMod.mod_inj hp.1 hp.2 hq.1 hq.2 h

/-- free or reserved: the position; published or claimed: the next one -/
theorem P.mark (hP : P s) {p : Nat} (hp : InW s p) : s.seq (p % s.size) = p ∨ s.seq (p % s.size) = p + 1 := by
  rcases Nat.lt_or_ge p s.enqPos with h2 | h2
  · rcases Nat.lt_or_ge p s.deqPos with h1 | h1
    · rcases rel_cases s with e | ⟨e, hm⟩
      · exact absurd (e ▸ hp.1) (Nat.not_le.mpr h1)
      · have : p = rel s := Nat.le_antisymm (Nat.le_of_lt_succ (e.symm ▸ h1 : p < rel s + 1)) hp.1
        rw [this, hm]; exact Or.inr e.symm
    · exact hP.win p h1 h2
  · exact Or.inl (hP.free p h2 hp.2)

theorem setSeq_same (s : Sh) (i x : Nat) : (s.setSeq i x).seq i = x := if_pos rfl
theorem setSeq_other (s : Sh) {i j : Nat} (x : Nat) (h : j ≠ i) : (s.setSeq i x).seq j = s.seq j := if_neg h

theorem seq_setSeq {p q : Nat} (hp : InW s p) (hq : InW s q) (hne : p ≠ q) (x : Nat) :
    (s.setSeq (q % s.size) x).seq (p % s.size) = s.seq (p % s.size) :=
  setSeq_other s x fun e => hne (slot_inj hp hq e)

theorem P.room (hP : P s) (hfree : s.seq (s.enqPos % s.size) = s.enqPos) : s.enqPos < rel s + s.size := by
  refine Nat.lt_of_le_of_ne hP.le2 fun he => ?_
  -- the ring is full: the slot of `enqPos` is the slot of `rel`, whose mark is `rel` or `rel + 1`
  have hm := hP.mark hP.inW_rel
  rw [← Nat.add_mod_right (rel s), ← he, hfree] at hm
  have := hP.size2
  omega

/-- M1: a producer's successful CAS reserves position `enqPos` -/
theorem P_reserve (hP : P s) (v : Nat) (hfree : s.seq (s.enqPos % s.size) = s.enqPos) :
    P (({ s with enqPos := s.enqPos + 1 } : Sh).setCtx (s.enqPos % s.size) (some v)) := by
  have hlt := hP.room hfree
  refine ⟨hP.size2, Nat.le_succ_of_le hP.le1, hlt, fun p h1 h2 => hP.free p (Nat.le_of_succ_le h1) h2,
    fun p h1 h2 => ?_⟩
  rcases Nat.lt_or_eq_of_le (Nat.le_of_lt_succ h2) with h | h
  · exact hP.win p h1 h
  · rw [h]; exact Or.inl hfree

theorem rel_publish (hP : P s) (pos : Nat) (h1 : s.deqPos ≤ pos) (h2 : pos < s.enqPos) :
    rel (s.setSeq (pos % s.size) (pos + 1)) = rel s := by
  have hw := hP.inW_win h1 h2
  by_cases hslot : (s.deqPos - 1) % s.size = pos % s.size
  · -- `rel` reads the written slot: the new mark `pos + 1` is not `deqPos`, so `rel` is `deqPos` now
    have e' : rel (s.setSeq (pos % s.size) (pos + 1)) = s.deqPos := by
      unfold rel
      show (if 0 < s.deqPos ∧ (s.setSeq (pos % s.size) (pos + 1)).seq ((s.deqPos - 1) % s.size) = s.deqPos
        then s.deqPos - 1 else s.deqPos) = _
      rw [hslot, setSeq_same, if_neg fun (h : _ ∧ pos + 1 = s.deqPos) =>
        Nat.not_succ_le_self pos (h.2.symm ▸ h1 : pos + 1 ≤ pos)]
    rcases rel_cases s with e | ⟨e, _⟩
    · rw [e', e]
    · -- and before: else `rel = deqPos - 1` and `pos` are two window positions in one slot
      rw [Nat.sub_eq_of_eq_add e.symm] at hslot
      rw [← e, ← slot_inj hP.inW_rel hw hslot] at h1
      exact absurd h1 (Nat.not_succ_le_self _)
  · exact rel_congr rfl rfl (setSeq_other s _ hslot)

/-- M2: the publishing `Store:seq` of the producer holding position `pos` -/
theorem P_publish (hP : P s) (pos : Nat) (h1 : s.deqPos ≤ pos) (h2 : pos < s.enqPos) :
    P (s.setSeq (pos % s.size) (pos + 1)) := by
  have hw := hP.inW_win h1 h2
  have hr := rel_publish hP pos h1 h2
  refine ⟨hP.size2, hP.le1, hr ▸ hP.le2, fun p hp1 hp2 => ?_, fun p hp1 hp2 => ?_⟩
  · rw [hr] at hp2
    exact (seq_setSeq (hP.inW_free hp1 hp2) hw (Nat.ne_of_gt (Nat.lt_of_lt_of_le h2 hp1)) _).trans
      (hP.free p hp1 hp2)
  · by_cases e : p = pos
    · rw [e]; exact Or.inr (setSeq_same s _ _)
    · exact (seq_setSeq (hP.inW_win hp1 hp2) hw e _).symm ▸ hP.win p hp1 hp2

theorem P.reserved (hP : P s) (hrel : rel s = s.deqPos) (hpub : s.seq (s.deqPos % s.size) = s.deqPos + 1) :
    s.deqPos < s.enqPos := by
  refine Nat.lt_of_not_le fun h => ?_
  rw [hP.free s.deqPos h (Nat.lt_of_le_of_lt (Nat.le_of_eq hrel.symm) hP.inW_rel.2)] at hpub
  exact absurd hpub (Nat.ne_of_lt (Nat.lt_succ_self _))

/-- M3: the consumer's successful CAS claims position `deqPos` (its slot keeps the published mark) -/
theorem P_claim (hP : P s) (hrel : rel s = s.deqPos) (hpub : s.seq (s.deqPos % s.size) = s.deqPos + 1) :
    rel (({ s with deqPos := s.deqPos + 1 } : Sh).setCtx (s.deqPos % s.size) none) = s.deqPos ∧
    P (({ s with deqPos := s.deqPos + 1 } : Sh).setCtx (s.deqPos % s.size) none) := by
  have hlt := hP.reserved hrel hpub
  have hr : rel (({ s with deqPos := s.deqPos + 1 } : Sh).setCtx (s.deqPos % s.size) none) = s.deqPos := by
    unfold rel
    show (if 0 < s.deqPos + 1 ∧ s.seq ((s.deqPos + 1 - 1) % s.size) = s.deqPos + 1 then s.deqPos + 1 - 1
      else s.deqPos + 1) = s.deqPos
    rw [if_pos ⟨Nat.succ_pos _, hpub⟩]; rfl
  refine ⟨hr, hP.size2, hlt, ?_, fun p hp1 hp2 => ?_, fun p hp1 hp2 => hP.win p (Nat.le_of_succ_le hp1) hp2⟩
  · rw [hr, ← hrel]; exact hP.le2
  · rw [hr, ← hrel] at hp2; exact hP.free p hp1 hp2

/-- M4: the consumer's `Store:seq` releases the claimed position `pos` (= `rel`) -/
theorem P_release (hP : P s) (pos : Nat) (hd : pos + 1 = s.deqPos) (hrel : rel s = pos) :
    rel (s.setSeq (pos % s.size) (pos + s.size)) = s.deqPos ∧ P (s.setSeq (pos % s.size) (pos + s.size)) := by
  have hw : InW s pos := hrel ▸ hP.inW_rel
  have hlt : pos < s.deqPos := hd ▸ Nat.lt_succ_self pos
  have hr : rel (s.setSeq (pos % s.size) (pos + s.size)) = s.deqPos := by
    unfold rel
    show (if 0 < s.deqPos ∧ (s.setSeq (pos % s.size) (pos + s.size)).seq ((s.deqPos - 1) % s.size) = s.deqPos
      then s.deqPos - 1 else s.deqPos) = s.deqPos
    rw [← hd, Nat.add_sub_cancel, setSeq_same, if_neg fun h => Nat.ne_of_gt hP.size2 (Nat.add_left_cancel h.2)]
  refine ⟨hr, hP.size2, hP.le1, ?_, fun p hp1 hp2 => ?_, fun p hp1 hp2 => ?_⟩
  · show s.enqPos ≤ rel _ + s.size
    rw [hr]; exact Nat.le_trans hP.le2 (Nat.add_le_add_right (rel_le s) _)
  · rw [hr] at hp2
    have hp1 : s.enqPos ≤ p := hp1
    have hp2 : p < s.deqPos + s.size := hp2
    show (s.setSeq (pos % s.size) (pos + s.size)).seq (p % s.size) = p
    by_cases e : p = pos + s.size
    · -- the slot just released now serves `pos + size`
      rw [e, Nat.add_mod_right]; exact setSeq_same s _ _
    · rw [← hd, Nat.add_right_comm] at hp2
      have hp2' : p < rel s + s.size := hrel ▸ Nat.lt_of_le_of_ne (Nat.le_of_lt_succ hp2) e
      exact (seq_setSeq (hP.inW_free hp1 hp2') hw
        (Nat.ne_of_gt (Nat.lt_of_lt_of_le hlt (Nat.le_trans hP.le1 hp1))) _).trans (hP.free p hp1 hp2')
  · have hp1 : s.deqPos ≤ p := hp1
    exact (seq_setSeq (hP.inW_win hp1 hp2) hw (Nat.ne_of_gt (Nat.lt_of_lt_of_le hlt hp1)) _).symm ▸
      hP.win p hp1 hp2

def isDeqPC : PC → Bool
  | .deq1 => true | .deq2 _ => true | .deq3 _ => true | .deq4 _ _ => true | .deq5 => true
  | _ => false

theorem start_isDeq (op : Op) (h : isDeqPC (start op) = true) : op = .deq := by
  cases op <;> first | rfl | cases h

def atDeq4 : Option PC → Bool
  | some (.deq4 _ _) => true
  | _ => false

/-- what a program counter (with its locals) promises about the shared state -/
def Jpc (s : Sh) : PC → Prop
  | .enq2 _ pos => pos ≤ s.enqPos
  | .enq3 _ pos => pos ≤ s.enqPos ∧ (pos = s.enqPos → s.seq (pos % s.size) = pos)
  | .enq4 _ pos => s.deqPos ≤ pos ∧ pos < s.enqPos ∧ s.seq (pos % s.size) = pos
  | .deq2 pos => pos = s.deqPos
  | .deq3 pos => pos = s.deqPos ∧ s.seq (pos % s.size) = pos + 1
  | .deq4 pos _ => pos + 1 = s.deqPos ∧ rel s = pos
  | _ => True

theorem Jpc_start (s : Sh) (op : Op) : Jpc s (start op) := by cases op <;> trivial

/-- `ct` is the consumer thread; it has nothing claimed (`rel = deqPos`) except at `deq4` -/
abbrev J (ct i : Nat) (s : Sh) (t : Th) : Prop :=
  JC isDeqPC atDeq4 Jpc (fun s => rel s = s.deqPos) ct i s t

/-- the position a producer has reserved and not yet published -/
def claim : PC → Option Nat
  | .enq4 _ p => some p
  | _ => none

theorem claim_lt {s : Sh} {pc : PC} {x : Nat} (hj : Jpc s pc) (h : claim pc = some x) : x < s.enqPos := by
  cases pc with
  | enq4 v p => cases h; exact hj.2.1
  | _ => cases h

theorem atDeq4_isDeq (pc : PC) (h : isDeqPC pc = false) : atDeq4 (some pc) = false := by
  cases pc <;> first | rfl | cases h

theorem ring_step (s : Sh) (pc : PC) (hP : P s) (hp : Jpc s pc)
    (hidle : isDeqPC pc = true → atDeq4 (some pc) = false → rel s = s.deqPos) :
    P (exec s pc).1 ∧
    ((atDeq4 (some pc) = false → rel s = s.deqPos) → nxBusy atDeq4 (exec s pc).2 = false →
      rel (exec s pc).1 = (exec s pc).1.deqPos) ∧
    ∀ pc', (exec s pc).2 = .goto pc' → Jpc (exec s pc).1 pc' ∧ isDeqPC pc' = isDeqPC pc ∧
      ∀ x, claim pc' = some x → claim pc = some x ∨
        ∀ pcj, Jpc s pcj → (isDeqPC pc = true → isDeqPC pcj = false) → claim pcj ≠ some x := by
  -- `fun_cases exec s pc` yields one goal per leaf of `Ring.exec`, with the branch conditions as hypotheses and the leaf's
  -- result in place of `exec s pc`; `case1`, `case2`, … follow the order of the leaves in Model/C04/Ring.lean.
  fun_cases exec s pc
  -- enq1, enq5: on to enq2 with the position just read
  case case1 | case8 => exact ⟨hP, fun h _ => h rfl, forall_goto rfl ⟨Nat.le_refl _, rfl, claim_none rfl⟩⟩
  -- enq2, the slot is free for `pos`
  case case2 v pos _ hd => exact ⟨hP, fun h _ => h rfl, forall_goto rfl
    ⟨⟨hp, fun _ => show s.seq (pos % s.size) = pos by omega⟩, rfl, claim_none rfl⟩⟩
  -- enq2 full, deq2 empty, len2: return, nothing written
  case case3 | case11 | case18 => exact ⟨hP, fun h _ => h rfl, forall_ret rfl⟩
  -- enq2 and deq2 behind, len1: on to a site that holds nothing
  case case4 | case12 | case17 => exact ⟨hP, fun h _ => h rfl, forall_goto rfl ⟨trivial, rfl, claim_none rfl⟩⟩
  -- enq3, the CAS on `enqPos` succeeds
  case case5 v =>
    have hfr := hp.2 rfl
    -- the position claimed, `enqPos`, is above every position held (`claim_lt`), so nobody else holds it
    exact ⟨P_reserve hP v hfr, fun h _ => h rfl, forall_goto rfl ⟨⟨hP.le1, Nat.lt_succ_self _, hfr⟩, rfl,
      fun x hx => Or.inr fun pcj hj _ e => by cases hx; exact Nat.lt_irrefl _ (claim_lt hj e)⟩⟩
  -- enq3, the CAS fails
  case case6 => exact ⟨hP, fun h _ => h rfl, forall_goto rfl ⟨hp.1, rfl, claim_none rfl⟩⟩
  -- enq4: the publication
  case case7 v pos =>
    exact ⟨P_publish hP pos hp.1 hp.2.1, fun h _ => rel_publish hP pos hp.1 hp.2.1 ▸ h rfl, forall_ret rfl⟩
  -- deq1, deq5: on to deq2 with `deqPos`
  case case9 | case16 => exact ⟨hP, fun h _ => h rfl, forall_goto rfl ⟨rfl, rfl, claim_none rfl⟩⟩
  -- deq2, the slot holds the message of `pos`
  case case10 pos _ hz => exact ⟨hP, fun h _ => h rfl, forall_goto rfl
    ⟨⟨hp, show s.seq (pos % s.size) = pos + 1 by omega⟩, rfl, claim_none rfl⟩⟩
  -- deq3, the CAS on `deqPos` succeeds (the consumer is alone: it always does)
  case case13 =>
    obtain ⟨hr, hP'⟩ := P_claim hP (hidle rfl rfl) hp.2
    exact ⟨hP', (fun _ h => by cases h), forall_goto rfl ⟨⟨rfl, hr⟩, rfl, claim_none rfl⟩⟩
  -- deq3, the CAS fails: `Jpc` says `pos = deqPos`
  case case14 pos hd => exact absurd hp.1.symm hd
  -- deq4: the release
  case case15 pos msg =>
    obtain ⟨hr, hP'⟩ := P_release hP pos hp.1 hp.2
    cases msg <;> exact ⟨hP', fun _ _ => hr, forall_ret rfl⟩

theorem ring_frame (s : Sh) (pc pcj : PC) (hP : P s) (hp : Jpc s pc) (h : Jpc s pcj)
    (hK : ∀ x, claim pc = some x → claim pcj ≠ some x) (hnd : isDeqPC pc = true → isDeqPC pcj = false) :
    Jpc (exec s pc).1 pcj := by
  fun_cases exec s pc
  -- enq3, the CAS succeeds. M1: `enqPos` grows, nothing else `pcj` looks at changes
  case case5 v =>
    cases pcj with
    | enq2 _ p => exact Nat.le_succ_of_le h
    | enq3 _ p => exact ⟨Nat.le_succ_of_le h.1, fun e => absurd (e ▸ h.1) (Nat.not_succ_le_self _)⟩
    | enq4 _ p => exact ⟨h.1, Nat.lt_succ_of_lt h.2.1, h.2.2⟩
    | _ => exact h
  -- enq4. M2: `pcj` holds another window position, or waits for another mark
  case case7 v pos =>
    obtain ⟨h1, h2, h3⟩ := hp
    have hr := rel_publish hP pos h1 h2
    have hw := hP.inW_win h1 h2
    show Jpc (s.setSeq (pos % s.size) (pos + 1)) pcj
    cases pcj with
    | enq3 _ p =>
      refine ⟨h.1, fun e => ?_⟩
      have e : p = s.enqPos := e
      have hold := h.2 e
      refine (setSeq_other s _ fun e' : p % s.size = pos % s.size => ?_).trans hold
      rw [e', h3] at hold
      exact absurd (hold.trans e) (Nat.ne_of_lt h2)
    | enq4 v' p =>
      exact ⟨h.1, h.2.1, (seq_setSeq (hP.inW_win h.1 h.2.1) hw (fun e => hK pos rfl (e ▸ rfl)) _).trans h.2.2⟩
    | deq3 p =>
      refine ⟨h.1, (seq_setSeq (hP.inW_win (Nat.le_of_eq h.1.symm) (h.1 ▸ Nat.lt_of_le_of_lt h1 h2)) hw
        (fun e => ?_) _).trans h.2⟩
      have := h.2
      rw [e, h3] at this
      exact absurd this (Nat.ne_of_lt (Nat.lt_succ_self _))
    | deq4 p _ => exact ⟨h.1, hr ▸ h.2⟩
    | _ => exact h
  -- deq3, the CAS succeeds. M3: a reserved position is not the published one that is claimed
  case case13 =>
    have hnp := hnd rfl
    obtain ⟨hd, hpub⟩ := hp
    cases pcj with
    | enq4 _ p =>
      refine ⟨Nat.lt_of_le_of_ne h.1 fun e => ?_, h.2⟩
      have := h.2.2
      rw [← e, hpub] at this
      exact absurd this (Nat.succ_ne_self _)
    | deq2 _ | deq3 _ | deq4 _ _ => cases hnp
    | _ => exact h
  -- deq4. M4: the released slot now serves `pos + size` (= `enqPos` if `pcj` waits for it)
  case case15 pos msg =>
    have hnp := hnd rfl
    obtain ⟨hd, hrel⟩ := hp
    have hw : InW s pos := hrel ▸ hP.inW_rel
    show Jpc (s.setSeq (pos % s.size) (pos + s.size)) pcj
    cases pcj with
    | enq3 _ p =>
      refine ⟨h.1, fun e => ?_⟩
      have e : p = s.enqPos := e
      by_cases hs : p % s.size = pos % s.size
      · -- `enqPos` shares the slot of `pos` only when the ring is full
        rcases Nat.lt_or_eq_of_le hP.le2 with hlt | heq
        · exact absurd (slot_inj (hP.inW_free (Nat.le_refl _) hlt) hw (e ▸ hs))
            (Nat.ne_of_gt (Nat.lt_of_lt_of_le (hd ▸ Nat.lt_succ_self pos) hP.le1))
        · show (s.setSeq (pos % s.size) (pos + s.size)).seq (p % s.size) = p
          rw [hs, e, heq, hrel]; exact setSeq_same s _ _
      · exact (setSeq_other s _ hs).trans (h.2 e)
    | enq4 _ p =>
      exact ⟨h.1, h.2.1, (seq_setSeq (hP.inW_win h.1 h.2.1) hw
        (Nat.ne_of_gt (Nat.lt_of_lt_of_le (hd ▸ Nat.lt_succ_self pos) h.1)) _).trans h.2.2⟩
    | deq2 _ | deq3 _ | deq4 _ _ => cases hnp
    | _ => exact h
  -- every other leaf leaves the ring as it is
  all_goals exact h

end GoaktVerif.C04.RingInv
