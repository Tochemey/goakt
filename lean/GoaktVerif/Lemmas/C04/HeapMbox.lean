/-
C04 — what the priority mailbox models keep of their heap slice and their counter in EVERY reachable configuration (all
programs, all schedules).  The user's strict weak order gives the `SWO` of the heap proofs, and so do `stableHeap.less`
and the entry order of either intake variant; `Locked.exec` and `Intake.exec` touch the slice only through `push` /
`pop`, so it is a binary heap throughout; the bounded variants never count above their capacity.
-/
import GoaktVerif.Model.C04.All
import GoaktVerif.Lemmas.C04.HeapCorrect
import GoaktVerif.Lemmas.C04.CoreLemmas

namespace GoaktVerif.C04.HeapMbox
open GoaktVerif.Model.C04 GoaktVerif.C04.Heap
open GoaktVerif.Model.C04.Heap (push pop stableLt)

theorem swo_of_strictWeak {lt : Nat → Nat → Bool} (h : StrictWeak lt) : SWO lt where
  irrefl := h.1
  trans := h.2.1
  ntrans := by
    intro a b c hab hbc
    cases hac : lt a c with
    | false => rfl
    | true =>
      -- a < c but neither a < b nor b < c
      cases hba : lt b a with
      | true => have := h.2.1 b a c hba hac; rw [this] at hbc; cases hbc
      | false =>
        cases hcb : lt c b with
        | true => have := h.2.1 a c b hac hcb; rw [this] at hab; cases hab
        | false =>
          have := (h.2.2 a b c hab hba hbc hcb).1
          rw [this] at hac; cases hac

theorem stableLt_true {lt : Nat → Nat → Bool} (a b : Nat × Nat) :
    stableLt lt a b = true ↔ lt a.1 b.1 = true ∨ (lt a.1 b.1 = false ∧ lt b.1 a.1 = false ∧ a.2 < b.2) := by
  unfold stableLt
  cases h1 : lt a.1 b.1 <;> cases h2 : lt b.1 a.1 <;> simp

theorem stableLt_false {lt : Nat → Nat → Bool} (a b : Nat × Nat) :
    stableLt lt a b = false ↔ lt a.1 b.1 = false ∧ (lt b.1 a.1 = true ∨ ¬ a.2 < b.2) := by
  unfold stableLt
  cases h1 : lt a.1 b.1 <;> cases h2 : lt b.1 a.1 <;> simp

/-- `stableHeap.less` (priority, then arrival number) is a strict weak order -/
theorem swo_stable {lt : Nat → Nat → Bool} (h : SWO lt) : SWO (stableLt lt) where
  irrefl := by intro a; rw [stableLt_false]; exact ⟨h.irrefl _, Or.inr (Nat.lt_irrefl _)⟩
  trans := by
    intro a b c hab hbc
    rw [stableLt_true] at hab hbc ⊢
    rcases hab with hab | ⟨hab1, hab2, hab3⟩ <;> rcases hbc with hbc | ⟨hbc1, hbc2, hbc3⟩
    · exact Or.inl (h.trans _ _ _ hab hbc)
    · left
      cases hac : lt a.1 c.1 with
      | true => rfl
      | false => have := h.ntrans _ _ _ hac hbc2; rw [this] at hab; cases hab
    · left
      cases hac : lt a.1 c.1 with
      | true => rfl
      | false => have := h.ntrans _ _ _ hab2 hac; rw [this] at hbc; cases hbc
    · exact Or.inr ⟨h.ntrans _ _ _ hab1 hbc1, h.ntrans _ _ _ hbc2 hab2, by omega⟩
  ntrans := by
    intro a b c hab hbc
    rw [stableLt_false] at hab hbc ⊢
    obtain ⟨hab1, hab2⟩ := hab
    obtain ⟨hbc1, hbc2⟩ := hbc
    refine ⟨h.ntrans _ _ _ hab1 hbc1, ?_⟩
    rcases hab2 with hba | hab2
    · left
      cases hca : lt c.1 a.1 with
      | true => rfl
      | false => have := h.ntrans _ _ _ hbc1 hca; rw [this] at hba; cases hba
    · rcases hbc2 with hcb | hbc2
      · left
        cases hca : lt c.1 a.1 with
        | true => rfl
        | false => have := h.ntrans _ _ _ hca hab1; rw [this] at hcb; cases hcb
      · right; omega

theorem locked_exec_heapInv {lt : Nat → Nat → Bool} (h : SWO lt) (s : Locked.Sh) (pc : Locked.PC)
    (hs : HeapInv lt s.heap) : HeapInv lt (Locked.exec lt s pc).1.heap := by
  -- `fun_cases f args` yields one goal per leaf of the model's definition of `f`, with the branch conditions as hypotheses
  -- and the leaf's result in place of the call; `case1`, `case2`, … follow the order of the leaves in Model/C04/.
  fun_cases Locked.exec lt s pc
  -- enq1 with the lock free: the push
  case case2 v _ => exact push_inv h s.heap v hs
  -- deq2 with the lock free and a non-empty heap: the pop
  case case7 _ x rest hp => exact pop_inv h s.heap x rest hs hp
  -- every other leaf leaves the heap as it is
  all_goals exact hs

theorem locked_heapInv {lt : Nat → Nat → Bool} (h : SWO lt) (progs : List (List Op)) :
    ∀ c, Reach (Locked.algo lt) (initCfg (Locked.algo lt) Locked.init progs) c → HeapInv lt c.sh.heap := by
  exact reach_sh_inv (A := Locked.algo lt) (fun s => HeapInv lt s.heap) heapInv_nil
    (fun s pc hs => locked_exec_heapInv h s pc hs)

theorem swo_ltItem {k : Intake.Conf} (h : SWO k.lt) : SWO k.ltItem := by
  unfold Intake.Conf.ltItem
  cases k.stable
  · simpa using h.comap Prod.fst
  · simpa using swo_stable h

theorem afterDrain_heapInv {k : Intake.Conf} (h : SWO k.lt) (s : Intake.Sh) (hs : HeapInv k.ltItem s.heap) :
    HeapInv k.ltItem (Intake.afterDrain k s).1.heap := by
  fun_cases Intake.afterDrain k s
  -- the heap is empty: nil
  case case1 => exact hs
  -- the pop
  case case2 x rest hp => exact pop_inv (swo_ltItem h) s.heap x rest hs hp

theorem intake_exec_heapInv {k : Intake.Conf} (h : SWO k.lt) (s : Intake.Sh) (pc : Intake.PC)
    (hs : HeapInv k.ltItem s.heap) : HeapInv k.ltItem (Intake.exec k s pc).1.heap := by
  fun_cases Intake.exec k s pc
  -- deq2, the intake stack is empty: pop or nil
  case case13 => exact afterDrain_heapInv h s hs
  -- deq6, more of the batch to come: the node is pushed
  case case19 n _ nx => exact push_inv (swo_ltItem h) s.heap (n, s.seq) hs
  -- deq6, the batch is exhausted: pushed, then pop or nil
  case case20 n _ => exact afterDrain_heapInv h _ (push_inv (swo_ltItem h) s.heap (n, s.seq) hs)
  -- every other leaf leaves the heap as it is
  all_goals exact hs

theorem intake_heapInv {k : Intake.Conf} (h : SWO k.lt) (progs : List (List Op)) :
    ∀ c, Reach (Intake.algo k) (initCfg (Intake.algo k) Intake.init progs) c → HeapInv k.ltItem c.sh.heap := by
  exact reach_sh_inv (A := Intake.algo k) (fun s => HeapInv k.ltItem s.heap) heapInv_nil
    (fun s pc hs => intake_exec_heapInv h s pc hs)

/-- what a bounded mailbox's program counters promise: the unbounded entry point is never used, and
a producer about to CAS `l → l+1` has read `l < capacity` -/
def capQ (cap : Nat) : Intake.PC → Prop
  | .enqU _ => False
  | .enqC _ l => l < (cap : Int)
  | _ => True

theorem bounded_length_le_cap {k : Intake.Conf} {cap : Nat} (hk : k.cap = some cap) (progs : List (List Op)) :
    ∀ c, Reach (Intake.algo k) (initCfg (Intake.algo k) Intake.init progs) c →
      c.sh.length ≤ (cap : Int) ∧
      ∀ (i : Nat) (t : Thread (Intake.algo k).PC) (pc : (Intake.algo k).PC), c.threads[i]? = some t → t.pc = some pc →
        capQ cap pc := by
  refine reach_inv2 (A := Intake.algo k) (fun s => s.length ≤ (cap : Int)) (capQ cap) (Int.natCast_nonneg cap) ?_ ?_
  · intro op
    cases op with
    | enq v key =>
      show capQ cap (if k.cap.isSome then .enqL v else .enqU v)
      rw [hk]; trivial
    | _ => trivial
  · intro s pc hP hQ
    show (Intake.exec k s pc).1.length ≤ (cap : Int) ∧ ∀ pc', (Intake.exec k s pc).2 = .goto pc' → capQ cap pc'
    have drain : ∀ {s' : Intake.Sh}, s'.length ≤ (cap : Int) → (Intake.afterDrain k s').1.length ≤ (cap : Int) ∧
        ∀ pc', (Intake.afterDrain k s').2 = .goto pc' → capQ cap pc' := fun h1 => by
      unfold Intake.afterDrain; split
      · exact ⟨h1, forall_ret rfl⟩
      · exact ⟨h1, forall_goto rfl trivial⟩
    fun_cases Intake.exec k s pc
    -- enqU: a bounded mailbox never enters there
    case case1 => exact absurd hQ id
    -- enqL, full
    case case2 => exact ⟨hP, forall_ret rfl⟩
    -- enqL, room: the length read is below the capacity
    case case3 v c hc hlt => cases hk.symm.trans hc; exact ⟨hP, forall_goto rfl (Int.not_le.mp hlt)⟩
    -- enqL of a mailbox without capacity
    case case4 v hc => cases hk.symm.trans hc
    -- enqC, the CAS succeeds: the counter is incremented from a value read below the capacity
    case case5 => exact ⟨Int.add_one_le_of_lt hQ, forall_goto rfl trivial⟩
    -- deq2 with an empty intake stack, deq6 at the end of the batch
    case case13 | case20 => exact drain hP
    -- deq7: the counter goes down
    case case21 => exact ⟨Int.le_trans (Int.sub_le_self _ (by decide)) hP, forall_ret rfl⟩
    -- push3 when the CAS succeeds, deq1 on length 0, len1, emp1: return, `length` as it was
    case case9 | case11 | case22 | case23 => exact ⟨hP, forall_ret rfl⟩
    -- every other leaf goes on to a site of which `capQ` asks nothing, `length` as it was
    all_goals exact ⟨hP, forall_goto rfl trivial⟩

end GoaktVerif.C04.HeapMbox
