/-
C04 — the slot discipline of `UnboundedSegmentedMailbox`: the invariant `P` of the shared state, what a thread relies on
at each site (`Jpc`), what it holds exclusively (`claim`), and what single updates do to them (the Owicki–Gries obligations
and the statement for all schedules are in SegOG).  What the discipline says:

* the consumer consumes slot `deq` of the head segment only after it was reserved and published, one
  slot after the other, and LEAVES A SEGMENT ONLY WHEN ALL `segSize` SLOTS WERE CONSUMED;
* a producer about to store its message (`Store:data`) targets a reserved slot that is still empty
  and not yet consumed, in a segment the consumer has not left — so the message cannot be skipped
  (finding F7); two producers never hold the same slot (`claim`; in every reachable configuration by `seg_inv`).
-/
import GoaktVerif.Model.C04.All
import GoaktVerif.Lemmas.Pool

namespace GoaktVerif.C04.SegInv
open GoaktVerif.Model.C04 GoaktVerif.Model.C04.Segmented

abbrev Th := Thread Segmented.PC

structure P (s : Sh) : Prop where
  deqLe : ∀ g, (s.segs g).deqIdx ≤ s.segSize ∧ (s.segs g).deqIdx ≤ (s.segs g).writeIdx
  unres : ∀ g i, (s.segs g).writeIdx ≤ i → (s.segs g).data i = none

def isDeqPC : PC → Bool
  | .d1 => true | .d2 _ => true | .d3 _ _ => true | .d4 _ _ => true | .d5 _ _ _ => true
  | .d6 _ _ _ => true | .d7 _ => true | .d8 _ => true | .d9 _ _ => true
  | _ => false

theorem isDeqPC_start : ∀ op, isDeqPC (start op) = true → op = .deq
  | .deq, _ => rfl
  | .enq _ _, h | .emp, h | .len, h => nomatch h

/-- what a thread parked at `pc` relies on -/
def Jpc (s : Sh) : PC → Prop
  | .e3 _ g idx => idx < s.segSize ∧ idx < (s.segs g).writeIdx ∧ (s.segs g).deqIdx ≤ idx ∧ (s.segs g).data idx = none
  | .d2 seg => seg = s.head
  | .d3 seg enq => seg = s.head ∧ enq ≤ s.segSize ∧ enq ≤ (s.segs seg).writeIdx
  | .d4 seg deq | .d6 seg deq _ =>
    seg = s.head ∧ deq = (s.segs seg).deqIdx ∧ deq < s.segSize ∧ deq < (s.segs seg).writeIdx
  | .d5 seg deq v =>
    seg = s.head ∧ deq = (s.segs seg).deqIdx ∧ deq < s.segSize ∧ deq < (s.segs seg).writeIdx ∧ (s.segs seg).data deq = some v
  | .d8 seg | .d9 seg _ => seg = s.head ∧ (s.segs seg).deqIdx = s.segSize
  | _ => True

/-- what a thread holds exclusively: the slot a producer is about to fill or the consumer has just emptied,
the fresh segment a producer is about to link -/
inductive Claim where
  | slot (g idx : Nat)
  | seg (g : Nat)

def claim : PC → Option Claim
  | .e3 _ g idx => some (.slot g idx)
  | .d6 seg deq _ => some (.slot seg deq)
  | .e6 _ _ g' => some (.seg g')
  | _ => none

theorem upd_same (s : Sh) (i : Nat) (f : Seg → Seg) : (s.upd i f).segs i = f (s.segs i) := by simp [Sh.upd]
theorem upd_other (s : Sh) {i j : Nat} (f : Seg → Seg) (h : j ≠ i) : (s.upd i f).segs j = s.segs j := by simp [Sh.upd, h]
theorem upd_segSize (s : Sh) (i : Nat) (f : Seg → Seg) : (s.upd i f).segSize = s.segSize := rfl
theorem upd_head (s : Sh) (i : Nat) (f : Seg → Seg) : (s.upd i f).head = s.head := rfl

theorem upd_field {s : Sh} {t : Nat} {f : Seg → Seg} (g : Nat) :
    (s.upd t f).segs g = if g = t then f (s.segs t) else s.segs g := by simp [Sh.upd]

theorem upd_all {s : Sh} {t : Nat} {f : Seg → Seg} {R : Seg → Seg → Prop} (hr : ∀ x, R x x)
    (hf : R (s.segs t) (f (s.segs t))) (g : Nat) : R (s.segs g) ((s.upd t f).segs g) := Pool.refl_upd hr hf g

theorem ne_of_linked {s : Sh} {t g : Nat} (ht : (s.segs t).linked = true) (hg : (s.segs g).linked = false) : t ≠ g :=
  fun e => by rw [e, hg] at ht; cases ht

/-- the linking step does not touch the real per-segment fields other than `next` of `t` -/
theorem link_fields (s : Sh) (t g j : Nat) :
    ((s.link t g).segs j).writeIdx = (s.segs j).writeIdx ∧ ((s.link t g).segs j).deqIdx = (s.segs j).deqIdx ∧
    ((s.link t g).segs j).data = (s.segs j).data := by
  unfold Sh.link Sh.upd
  simp only
  by_cases h1 : j = g
  · subst h1
    by_cases h2 : j = t
    · subst h2; simp
    · simp [h2]
  · by_cases h2 : j = t
    · subst h2; simp [h1]
    · simp [h1, h2]

theorem P_congr {s s' : Sh} (hP : P s) (hS : s'.segSize = s.segSize)
    (hD : ∀ g, (s'.segs g).deqIdx = (s.segs g).deqIdx)
    (hW : ∀ g, (s'.segs g).writeIdx = (s.segs g).writeIdx)
    (hA : ∀ g i, (s'.segs g).data i = (s.segs g).data i) : P s' where
  deqLe := by intro g; rw [hD, hW, hS]; exact hP.deqLe g
  unres := by intro g i h; rw [hA]; exact hP.unres g i (by rw [← hW]; exact h)

theorem P_upd {s : Sh} {t : Nat} {f : Seg → Seg} (hP : P s)
    (hd : (f (s.segs t)).deqIdx ≤ s.segSize ∧ (f (s.segs t)).deqIdx ≤ (f (s.segs t)).writeIdx)
    (hu : ∀ i, (f (s.segs t)).writeIdx ≤ i → (f (s.segs t)).data i = none) : P (s.upd t f) where
  deqLe := Pool.forall_upd (P := fun _ (x : Seg) => x.deqIdx ≤ s.segSize ∧ x.deqIdx ≤ x.writeIdx) hd fun g _ => hP.deqLe g
  unres := Pool.forall_upd (P := fun _ (x : Seg) => ∀ i, x.writeIdx ≤ i → x.data i = none) hu fun g _ => hP.unres g

/-- a step that changes neither `deqIdx`, `head`, `data` nor `segSize` and only lets `writeIdx` grow
keeps every thread's promises -/
theorem Jpc_mono {s s' : Sh} {pc : PC} (hJ : Jpc s pc)
    (hS : s'.segSize = s.segSize) (hH : s'.head = s.head)
    (hD : ∀ g, (s'.segs g).deqIdx = (s.segs g).deqIdx)
    (hW : ∀ g, (s.segs g).writeIdx ≤ (s'.segs g).writeIdx)
    (hA : ∀ g i, (s'.segs g).data i = (s.segs g).data i) : Jpc s' pc := by
  cases pc with
  | e3 v g idx =>
    obtain ⟨a, b, c, d⟩ := hJ
    exact ⟨by rw [hS]; exact a, Nat.lt_of_lt_of_le b (hW g), by rw [hD]; exact c, by rw [hA]; exact d⟩
  | d2 seg => exact hJ.trans hH.symm
  | d3 seg enq =>
    obtain ⟨a, b, c⟩ := hJ
    exact ⟨a.trans hH.symm, by rw [hS]; exact b, Nat.le_trans c (hW seg)⟩
  | d4 seg deq | d6 seg deq _ =>
    obtain ⟨a, b, c, d⟩ := hJ
    exact ⟨a.trans hH.symm, by rw [hD]; exact b, by rw [hS]; exact c, Nat.lt_of_lt_of_le d (hW seg)⟩
  | d5 seg deq v =>
    obtain ⟨a, b, c, d, e⟩ := hJ
    exact ⟨a.trans hH.symm, by rw [hD]; exact b, by rw [hS]; exact c, Nat.lt_of_lt_of_le d (hW seg), by rw [hA]; exact e⟩
  | d8 seg | d9 seg _ => exact ⟨hJ.1.trans hH.symm, by rw [hD, hS]; exact hJ.2⟩
  | _ => trivial

theorem Jpc_producer {s' : Sh} {pc : PC} (hnd : isDeqPC pc = false) (he3 : ∀ v g idx, pc = .e3 v g idx → Jpc s' (.e3 v g idx)) : Jpc s' pc := by
  cases pc with
  | e3 v g idx => exact he3 v g idx rfl
  | e1 _ | e2 _ _ | e4 _ | e5 _ _ | e6 _ _ _ | e7 _ _ _ | e9 _ _ _ | m1 | m2 _ | m3 _ _ | m4 _ | l1 => trivial
  | _ => cases hnd

/-- a producer's `Store:data` at slot (g, idx), seen from another site -/
theorem Jpc_store {s : Sh} {pc : PC} (v g idx : Nat) (hnone : (s.segs g).data idx = none)
    (hK : claim pc ≠ some (.slot g idx)) (hJ : Jpc s pc) : Jpc (s.upd g fun x => setData x idx (some v)) pc := by
  have fld : ∀ g', ((s.upd g fun x => setData x idx (some v)).segs g').deqIdx = (s.segs g').deqIdx ∧
      ((s.upd g fun x => setData x idx (some v)).segs g').writeIdx = (s.segs g').writeIdx :=
    upd_all (R := fun x y => y.deqIdx = x.deqIdx ∧ y.writeIdx = x.writeIdx) (fun _ => ⟨rfl, rfl⟩) ⟨rfl, rfl⟩
  have dat : ∀ g' k, ¬ (g' = g ∧ k = idx) → ((s.upd g fun x => setData x idx (some v)).segs g').data k = (s.segs g').data k := by
    intro g' k h; rw [upd_field g']; split
    · next e => subst e; exact if_neg fun e' => h ⟨rfl, e'⟩
    · rfl
  cases pc with
  | e3 v' g' idx' =>
    obtain ⟨a, b, c, d⟩ := hJ
    refine ⟨a, by rw [(fld g').2]; exact b, by rw [(fld g').1]; exact c, ?_⟩
    rw [dat g' idx' (fun e => hK (by rw [e.1, e.2]; rfl))]; exact d
  | d3 seg enq => exact ⟨hJ.1, hJ.2.1, by rw [(fld seg).2]; exact hJ.2.2⟩
  | d4 seg deq | d6 seg deq _ =>
    obtain ⟨a, b, c, d⟩ := hJ
    exact ⟨a, by rw [(fld seg).1]; exact b, c, by rw [(fld seg).2]; exact d⟩
  | d5 seg deq v' =>
    obtain ⟨a, b, c, d, e⟩ := hJ
    refine ⟨a, by rw [(fld seg).1]; exact b, c, by rw [(fld seg).2]; exact d, ?_⟩
    rw [dat seg deq fun e' => by rw [e'.1, e'.2, hnone] at e; cases e]; exact e
  | d8 seg | d9 seg _ => exact ⟨hJ.1, by rw [(fld seg).1]; exact hJ.2⟩
  | d2 seg => exact hJ
  | _ => trivial

end GoaktVerif.C04.SegInv
