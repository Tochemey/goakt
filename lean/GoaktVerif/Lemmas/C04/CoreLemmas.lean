/-
C04 — generic facts about the thread frame (Model/C04/Core.lean), for every algorithm `A`: what one scheduler step does,
where a thread stands between two operations (`Parked`), the single consumer and the thread promise given by the program
counter (`JC`), and the induction principles (`run_trace`, `reach_sh_inv`, `reach_og2`, `reach_inv2`, `reach_pcI`/`reach_pc`)
through which the mailbox proofs reach all programs, any number of threads and all schedules.
-/
import GoaktVerif.Model.C04.All
import GoaktVerif.Lemmas.Pool

namespace GoaktVerif.C04
open GoaktVerif.Model.C04

variable {A : Algo}

theorem stepCfg_eq {c : Cfg A} {tid : Nat} {t : Thread A.PC} {pc : A.PC} (ht : c.threads[tid]? = some t)
    (hpc : t.pc = some pc) :
    stepCfg c tid = { sh := (A.exec c.sh pc).1,
                      threads := c.threads.set tid (t.advance A c.clock (A.exec c.sh pc).2),
                      clock := tick t c.clock (A.exec c.sh pc).2 } := by
  unfold stepCfg
  simp only [ht, hpc]

def stepEvOf {β} (ev : A.Sh → A.PC → List β) (c : Cfg A) (tid : Nat) : List β :=
  match c.threads[tid]? with
  | some t => match t.pc with
    | some pc => ev c.sh pc
    | none => []
  | none => []

theorem step_ev_ind {β} (ev : A.Sh → A.PC → List β) {c : Cfg A} {tid : Nat} {Q : Cfg A → List β → Prop}
    (h0 : Q c [])
    (h1 : ∀ t pc, c.threads[tid]? = some t → t.pc = some pc →
      Q { sh := (A.exec c.sh pc).1, threads := c.threads.set tid (t.advance A c.clock (A.exec c.sh pc).2),
          clock := tick t c.clock (A.exec c.sh pc).2 } (ev c.sh pc)) :
    Q (stepCfg c tid) (stepEvOf ev c tid) := by
  cases ht : c.threads[tid]? with
  | none => simp only [stepCfg, stepEvOf, ht]; exact h0
  | some t =>
    cases hpc : t.pc with
    | none => simp only [stepCfg, stepEvOf, ht, hpc]; exact h0
    | some pc => simp only [stepCfg, stepEvOf, ht, hpc]; exact h1 t pc ht hpc

theorem step_ind {c : Cfg A} {tid : Nat} {Q : Cfg A → Prop} (h0 : Q c)
    (h1 : ∀ t pc, c.threads[tid]? = some t → t.pc = some pc →
      Q { sh := (A.exec c.sh pc).1, threads := c.threads.set tid (t.advance A c.clock (A.exec c.sh pc).2),
          clock := tick t c.clock (A.exec c.sh pc).2 }) : Q (stepCfg c tid) :=
  step_ev_ind (β := Unit) (fun _ _ => []) (Q := fun c' _ => Q c') h0 h1

theorem step_or_idle (c : Cfg A) (tid : Nat) :
    (∃ t pc, c.threads[tid]? = some t ∧ t.pc = some pc) ∨
    (stepCfg c tid = c ∧ ∀ t pc, c.threads[tid]? = some t → t.pc ≠ some pc) := by
  cases ht : c.threads[tid]? with
  | none => exact Or.inr ⟨by unfold stepCfg; simp only [ht], fun _ _ h => by cases h⟩
  | some t =>
    cases hpc : t.pc with
    | none =>
      refine Or.inr ⟨by unfold stepCfg; simp only [ht, hpc], fun t' pc h h' => ?_⟩
      cases h; rw [hpc] at h'; cases h'
    | some pc => exact Or.inl ⟨t, pc, rfl, hpc⟩

/-- `trace` is abstract (two equations) so that each mailbox's own trace function fits -/
theorem run_trace {β} {c0 : Cfg A} (stepEv : Cfg A → Nat → List β) (trace : Cfg A → List Nat → List β)
    (hnil : ∀ c, trace c [] = []) (hcons : ∀ c t ts, trace c (t :: ts) = stepEv c t ++ trace (stepCfg c t) ts)
    (T : Cfg A → List β → Prop)
    (hstep : ∀ c tid evs, Reach A c0 c → T c evs → T (stepCfg c tid) (evs ++ stepEv c tid)) :
    ∀ (sched : List Nat) (c : Cfg A) (evs : List β), Reach A c0 c → T c evs →
      T (runSched c sched) (evs ++ trace c sched)
  | [], c, evs, _, hT => by rw [hnil, List.append_nil]; exact hT
  | t :: ts, c, evs, hr, hT => by
    rw [hcons, ← List.append_assoc]
    exact run_trace stepEv trace hnil hcons T hstep ts _ _ (Reach.step t hr) (hstep c t evs hr hT)

theorem hist_finish (t : Thread A.PC) (r : Res) (now : Nat) :
    (t.finish A r now).hist = { op := t.cur.getD .len, res := r, inv := t.started, ret := now + 1 } :: t.hist := by
  unfold Thread.finish; cases t.prog <;> rfl

theorem mkThread_hist (p : List Op) (k : Nat) : (mkThread A p k).hist = [] := by
  cases p <;> rfl

theorem hist_advance (t : Thread A.PC) (now : Nat) (nx : Next A.PC) (d : Done) (h : d ∈ (t.advance A now nx).hist) :
    d ∈ t.hist ∨ ∃ r, nx = .ret r ∧ d = { op := t.cur.getD .len, res := r, inv := t.started, ret := now + 1 } := by
  cases nx with
  | goto pc' => exact Or.inl h
  | ret r =>
    rw [Thread.advance, hist_finish] at h
    rcases List.mem_cons.mp h with h | h
    · exact Or.inr ⟨r, rfl, h⟩
    · exact Or.inl h

theorem finish_cur (t : Thread A.PC) (r : Res) (now : Nat) : (t.finish A r now).cur = t.prog.head? := by
  unfold Thread.finish; cases t.prog <;> rfl

theorem mkThread_cur (A : Algo) (p : List Op) (k : Nat) : (mkThread A p k).cur = p.head? := by
  cases p <;> rfl

/-- `t` is about to run the program `p`: parked at the first site of its first operation, the rest
still ahead — or finished -/
def Parked (A : Algo) (p : List Op) (t : Thread A.PC) : Prop :=
  match p with
  | [] => t.pc = none ∧ t.prog = []
  | op :: rest => t.pc = some (A.start op) ∧ t.prog = rest

theorem parked_finish (A : Algo) (t : Thread A.PC) (r : Res) (now : Nat) : Parked A t.prog (t.finish A r now) := by
  unfold Thread.finish
  cases t.prog <;> exact ⟨rfl, rfl⟩

theorem parked_mk (A : Algo) (p : List Op) (k : Nat) : Parked A p (mkThread A p k) := by
  cases p <;> exact ⟨rfl, rfl⟩

theorem Parked.sub {p : List Op} {t : Thread A.PC} (h : Parked A p t) : ∀ op ∈ t.prog, op ∈ p := by
  cases p with
  | nil => rw [h.2]; exact fun _ h => h
  | cons op rest => rw [h.2]; exact fun _ h => List.mem_cons_of_mem _ h

theorem Parked.start {p : List Op} {t : Thread A.PC} (h : Parked A p t) {pc : A.PC} (hpc : t.pc = some pc) :
    ∃ op, op ∈ p ∧ pc = A.start op := by
  cases p with
  | nil => rw [h.1] at hpc; cases hpc
  | cons op rest => rw [h.1] at hpc; exact ⟨op, List.mem_cons_self, (Option.some.inj hpc).symm⟩

theorem Parked.all {p : List Op} {t : Thread A.PC} (h : Parked A p t) {R : A.PC → Prop}
    (hr : ∀ op, R (A.start op)) : ∀ pc, t.pc = some pc → R pc := by
  intro pc hpc
  obtain ⟨op, _, e⟩ := h.start hpc
  rw [e]; exact hr op

theorem Parked.const {p : List Op} {t : Thread A.PC} (h : Parked A p t) {β : Type} {f : Option A.PC → β} {b : β}
    (h0 : f none = b) (h1 : ∀ op, f (some (A.start op)) = b) : f t.pc = b := by
  cases p with
  | nil => rw [h.1]; exact h0
  | cons op rest => rw [h.1]; exact h1 op

theorem Parked.ids {p : List Op} {t : Thread A.PC} (h : Parked A p t) {f : Option A.PC → List Nat}
    (h0 : f none = []) (h1 : ∀ op, f (some (A.start op)) = enqIds [op]) : f t.pc ++ enqIds t.prog = enqIds p := by
  cases p with
  | nil => rw [h.1, h.2, h0]; rfl
  | cons op rest => rw [h.1, h.2, h1]; exact (List.filterMap_append (l := [op]) (l' := rest)).symm

/-! the ids a thread has in hand, `pf t.pc ++ enqIds t.prog`: those its site holds and those of the operations ahead -/

theorem mem_hand {PC : Type} {pf : Option PC → List Nat} {t : Thread PC} {pc : PC} (hpc : t.pc = some pc) {v : Nat}
    (hv : v ∈ pf (some pc)) : v ∈ pf t.pc ++ enqIds t.prog :=
  List.mem_append_left _ (hpc ▸ hv)

section hand
variable {pf : Option A.PC → List Nat}

theorem hand_finish (h0 : pf none = []) (h1 : ∀ op, pf (some (A.start op)) = enqIds [op]) (t : Thread A.PC) (r : Res)
    (now : Nat) : pf (t.finish A r now).pc ++ enqIds (t.finish A r now).prog = enqIds t.prog :=
  (parked_finish A t r now).ids h0 h1

theorem hand_mk (h0 : pf none = []) (h1 : ∀ op, pf (some (A.start op)) = enqIds [op]) (p : List Op) (k : Nat) :
    pf (mkThread A p k).pc ++ enqIds (mkThread A p k).prog = enqIds p :=
  (parked_mk A p k).ids h0 h1

end hand

/-- single-consumer discipline, for a thread other than the consumer (`isDeq` marks the sites of Dequeue) -/
def NoDeq {PC : Type} (isDeq : PC → Bool) (t : Thread PC) : Prop :=
  (∀ pc, t.pc = some pc → isDeq pc = false) ∧ Op.deq ∉ t.prog

theorem Parked.noDeq {isDeq : A.PC → Bool} (hstart : ∀ op, isDeq (A.start op) = true → op = .deq)
    {p : List Op} {t : Thread A.PC} (h : Parked A p t) (hp : Op.deq ∉ p) : NoDeq isDeq t := by
  refine ⟨fun pc hpc => ?_, fun hm => hp (h.sub _ hm)⟩
  obtain ⟨op, hop, e⟩ := h.start hpc
  cases hd : isDeq pc with
  | false => rfl
  | true => rw [e] at hd; rw [hstart op hd] at hop; exact absurd hop hp

theorem NoDeq.goto {PC : Type} {isDeq : PC → Bool} {t : Thread PC} (h : NoDeq isDeq t) {pc' : PC}
    (hd : isDeq pc' = false) : NoDeq isDeq { t with pc := some pc' } :=
  ⟨fun _ e => Option.some.inj e ▸ hd, h.2⟩

theorem NoDeq.is_consumer {PC : Type} {isDeq : PC → Bool} {ct i : Nat} {t : Thread PC} {pc : PC}
    (h : i ≠ ct → NoDeq isDeq t) (hpc : t.pc = some pc) (hd : isDeq pc = true) : i = ct :=
  Decidable.byContradiction fun e => by rw [(h e).1 pc hpc] at hd; cases hd

/-- per-thread promise, single consumer `ct`: `Jpc` at the program counter, `Idle` while `ct` is
outside its `busy` section, only `ct` dequeues -/
structure JC {Sh PC : Type} (isDeq : PC → Bool) (busy : Option PC → Bool) (Jpc : Sh → PC → Prop) (Idle : Sh → Prop)
    (ct i : Nat) (s : Sh) (t : Thread PC) : Prop where
  pc : ∀ pc, t.pc = some pc → Jpc s pc
  idle : i = ct → busy t.pc = false → Idle s
  cons : i ≠ ct → NoDeq isDeq t

section JC
variable {Sh PC : Type} {isDeq : PC → Bool} {busy : Option PC → Bool} {Jpc : Sh → PC → Prop} {Idle : Sh → Prop}
  {ct i : Nat} {s s' : Sh} {t : Thread PC}

theorem JC.goto {pc pc' : PC} (hJ : JC isDeq busy Jpc Idle ct i s t) (hpc : t.pc = some pc)
    (hd : isDeq pc' = isDeq pc) (hidle : i = ct → busy (some pc') = false → Idle s') (h : Jpc s' pc') :
    JC isDeq busy Jpc Idle ct i s' { t with pc := some pc' } where
  pc := fun _ e => Option.some.inj e ▸ h
  idle := hidle
  cons := fun hi => (hJ.cons hi).goto (hd ▸ (hJ.cons hi).1 pc hpc)

theorem JC.frame (hJ : JC isDeq busy Jpc Idle ct i s t) (hpc : ∀ pc, t.pc = some pc → Jpc s pc → Jpc s' pc)
    (hidle : i = ct → Idle s → Idle s') : JC isDeq busy Jpc Idle ct i s' t :=
  ⟨fun pc h => hpc pc h (hJ.pc pc h), fun hi h => hidle hi (hJ.idle hi h), hJ.cons⟩

theorem JC.is_consumer {pc : PC} (hJ : JC isDeq busy Jpc Idle ct i s t) (hpc : t.pc = some pc)
    (hd : isDeq pc = true) : i = ct :=
  NoDeq.is_consumer hJ.cons hpc hd

end JC

section JCA
variable {isDeq : A.PC → Bool} {busy : Option A.PC → Bool} {Jpc : A.Sh → A.PC → Prop} {Idle : A.Sh → Prop}
  {ct i : Nat} {s s' : A.Sh} {t : Thread A.PC}

theorem JC.parked (hd : ∀ op, isDeq (A.start op) = true → op = .deq) (h0 : ∀ op, Jpc s (A.start op))
    {p : List Op} (h : Parked A p t) (hidle : i = ct → Idle s) (hcons : i ≠ ct → Op.deq ∉ p) :
    JC isDeq busy Jpc Idle ct i s t where
  pc := h.all h0
  idle := fun hi _ => hidle hi
  cons := fun hi => h.noDeq hd (hcons hi)

theorem JC.finish (hJ : JC isDeq busy Jpc Idle ct i s t) (hd : ∀ op, isDeq (A.start op) = true → op = .deq)
    (h0 : ∀ op, Jpc s' (A.start op)) (r : Res) (now : Nat) (hidle : i = ct → Idle s') :
    JC isDeq busy Jpc Idle ct i s' (t.finish A r now) :=
  JC.parked hd h0 (parked_finish A t r now) hidle fun hi => (hJ.cons hi).2

end JCA

/-- the value taken or returned by a step; `ih` = the value in hand at a program counter -/
def nxDeq {PC : Type} (ih : Option PC → List Nat) : Next PC → List Nat
  | .goto pc' => ih (some pc')
  | .ret (.val v) => [v]
  | .ret _ => []

section deqd
variable {rv : Done → Option Nat} {ih : Option A.PC → List Nat}

/-- `rv` is the mailbox's own `resVal` -/
theorem deqd_advance (hrv : ∀ d, rv d = match d.res with | .val v => some v | _ => none)
    (hn : ih none = []) (h0 : ∀ op, ih (some (A.start op)) = []) (t : Thread A.PC) (now : Nat) (nx : Next A.PC) :
    (t.advance A now nx).hist.reverse.filterMap rv ++ ih (t.advance A now nx).pc =
      t.hist.reverse.filterMap rv ++ nxDeq ih nx := by
  cases nx with
  | goto pc' => rfl
  | ret r =>
    show (t.finish A r now).hist.reverse.filterMap rv ++ ih (t.finish A r now).pc = _
    rw [(parked_finish A t r now).const hn h0, hist_finish, List.reverse_cons, List.filterMap_append,
      List.append_nil]
    congr 1
    simp only [List.filterMap_cons, hrv, List.filterMap_nil]
    cases r <;> rfl

theorem deqd_mk (hn : ih none = []) (h0 : ∀ op, ih (some (A.start op)) = []) (p : List Op) (k : Nat) :
    (mkThread A p k).hist.reverse.filterMap rv ++ ih (mkThread A p k).pc = [] := by
  rw [(parked_mk A p k).const hn h0, mkThread_hist]; rfl

end deqd

theorem spawn_get' (A : Algo) : ∀ (progs : List (List Op)) (n i : Nat) (t : Thread A.PC),
    (spawn A progs n).1[i]? = some t → ∃ p k, progs[i]? = some p ∧ t = mkThread A p k
  | [], _, _, _, h => by simp [spawn] at h
  | p :: ps, n, 0, t, h => by
    simp only [spawn, List.getElem?_cons_zero, Option.some.injEq] at h
    exact ⟨p, _, by simp, h.symm⟩
  | p :: ps, n, i + 1, t, h => by
    simp only [spawn, List.getElem?_cons_succ] at h
    obtain ⟨q, k, hq, ht⟩ := spawn_get' A ps _ i t h
    exact ⟨q, k, by simpa using hq, ht⟩

theorem initCfg_get {sh0 : A.Sh} {progs : List (List Op)} {i : Nat} {t : Thread A.PC}
    (h : (initCfg A sh0 progs).threads[i]? = some t) : ∃ p k, progs[i]? = some p ∧ t = mkThread A p k :=
  spawn_get' A progs 0 i t h

/-- Owicki–Gries style invariants: `P` on the shared state, `J i` on thread `i` relative to the shared
state (its program counter, locals and remaining program), `K` between two different threads; the
initial `K` may depend on which programs the two threads run (ownership of message ids). -/
theorem reach_og2 {sh0 : A.Sh} {progs : List (List Op)}
    (P : A.Sh → Prop) (J : Nat → A.Sh → Thread A.PC → Prop) (K : Thread A.PC → Thread A.PC → Prop)
    (h0 : P sh0)
    (hj0 : ∀ (i : Nat) (p : List Op) (k : Nat), progs[i]? = some p → J i sh0 (mkThread A p k))
    (hk0 : ∀ (i j : Nat) (p q : List Op) (k k' : Nat), i ≠ j → progs[i]? = some p → progs[j]? = some q →
        K (mkThread A p k) (mkThread A q k'))
    (hstep : ∀ (s : A.Sh) (i : Nat) (t : Thread A.PC) (pc : A.PC) (now : Nat), P s → J i s t → t.pc = some pc →
        P (A.exec s pc).1 ∧ J i (A.exec s pc).1 (t.advance A now (A.exec s pc).2))
    (hframe : ∀ (s : A.Sh) (i j : Nat) (ti tj : Thread A.PC) (pc : A.PC), i ≠ j → P s → J i s ti → J j s tj →
        K ti tj → ti.pc = some pc → J j (A.exec s pc).1 tj)
    (hK : ∀ (s : A.Sh) (i j : Nat) (ti tj : Thread A.PC) (pc : A.PC) (now : Nat), i ≠ j → P s → J i s ti → J j s tj →
        K ti tj → ti.pc = some pc →
        K (ti.advance A now (A.exec s pc).2) tj ∧ K tj (ti.advance A now (A.exec s pc).2)) :
    ∀ c, Reach A (initCfg A sh0 progs) c →
      P c.sh ∧ (∀ (i : Nat) (t : Thread A.PC), c.threads[i]? = some t → J i c.sh t) ∧
      (∀ (i j : Nat) (ti tj : Thread A.PC), i ≠ j → c.threads[i]? = some ti → c.threads[j]? = some tj → K ti tj) := by
  intro c hr
  induction hr with
  | init =>
    refine ⟨h0, ?_, ?_⟩
    · intro i t hi
      obtain ⟨p, k, hp, e⟩ := initCfg_get hi
      subst e; exact hj0 i p k hp
    · intro i j ti tj hij hi hj
      obtain ⟨p, k, hp, e⟩ := initCfg_get hi
      obtain ⟨q, k', hq, e'⟩ := initCfg_get hj
      subst e; subst e'; exact hk0 i j p q k k' hij hp hq
  | @step c tid _ ih =>
    refine step_ind (Q := fun c' => P c'.sh ∧ (∀ i t, c'.threads[i]? = some t → J i c'.sh t) ∧
      ∀ i j ti tj, i ≠ j → c'.threads[i]? = some ti → c'.threads[j]? = some tj → K ti tj) ih fun t pc ht hpc => ?_
    obtain ⟨ihP, ihJ, ihK⟩ := ih
    have hs := hstep c.sh tid t pc c.clock ihP (ihJ tid t ht) hpc
    have oth := fun j tj (hj : j ≠ tid) (htj : c.threads[j]? = some tj) =>
      hK c.sh tid j t tj pc c.clock (Ne.symm hj) ihP (ihJ tid t ht) (ihJ j tj htj) (ihK tid j t tj (Ne.symm hj) ht htj) hpc
    exact ⟨hs.1, Pool.forall_set hs.2 fun i ti e hi => hframe c.sh tid i t ti pc (Ne.symm e) ihP (ihJ tid t ht) (ihJ i ti hi)
      (ihK tid i t ti (Ne.symm e) ht hi) hpc, Pool.ne_set (K := fun _ ti _ tj => K ti tj) ihK oth⟩

theorem reach_sh_inv {c0 : Cfg A} (P : A.Sh → Prop) (h0 : P c0.sh)
    (hstep : ∀ s pc, P s → P (A.exec s pc).1) : ∀ c, Reach A c0 c → P c.sh := by
  intro c hr
  induction hr with
  | init => exact h0
  | @step c tid _ ih => exact step_ind (Q := fun c' => P c'.sh) ih fun _ pc _ _ => hstep _ pc ih

/-- invariants that also constrain the threads' locals: `P` on the shared state, `Q` on every
program counter (with its locals); both are established initially and preserved by every step -/
theorem reach_inv2 {sh0 : A.Sh} {progs : List (List Op)} (P : A.Sh → Prop) (Q : A.PC → Prop)
    (h0 : P sh0) (hq0 : ∀ op, Q (A.start op))
    (hstep : ∀ s pc, P s → Q pc → P (A.exec s pc).1 ∧ ∀ pc', (A.exec s pc).2 = .goto pc' → Q pc') :
    ∀ c, Reach A (initCfg A sh0 progs) c →
      P c.sh ∧ ∀ (i : Nat) (t : Thread A.PC) (pc : A.PC), c.threads[i]? = some t → t.pc = some pc → Q pc := by
  intro c hr
  have h := reach_og2 (progs := progs) P (fun _ _ t => ∀ pc, t.pc = some pc → Q pc) (fun _ _ => True) h0
    (fun _ p k _ => (parked_mk A p k).all hq0) (fun _ _ _ _ _ _ _ _ _ => trivial)
    (fun s _ t pc now hP hJ hpc => by
      have hs := hstep s pc hP (hJ pc hpc)
      refine ⟨hs.1, ?_⟩
      cases hnx : (A.exec s pc).2 with
      | goto pc' => exact fun _ e => Option.some.inj e ▸ hs.2 pc' hnx
      | ret r => exact (parked_finish A t r now).all hq0)
    (fun _ _ _ _ _ _ _ _ _ hJj _ _ => hJj) (fun _ _ _ _ _ _ _ _ _ _ _ _ _ => ⟨trivial, trivial⟩) c hr
  exact ⟨h.1, fun i t pc hi hpc => h.2.1 i t hi pc hpc⟩

/-! ### Owicki–Gries, thread invariants given by the program counter

`Q s pc`: what a thread parked at `pc` relies on; `claim pc`: what it holds exclusively (two threads
never have the same claim); `isDeq`: the sites of `Dequeue`, visited by thread `ct` only; `Idle s`: what holds of
the shared state while `ct` is outside its `busy` sites.  Every obligation is a statement about `A.exec`. -/

theorem forall_goto {PC : Type} {nx : Next PC} {pc0 : PC} {R : PC → Prop} (h : nx = .goto pc0) (hr : R pc0) :
    ∀ pc', nx = .goto pc' → R pc' := by
  intro pc' e; rw [h] at e; cases e; exact hr

theorem forall_ret {PC : Type} {nx : Next PC} {r : Res} {R : PC → Prop} (h : nx = .ret r) :
    ∀ pc', nx = .goto pc' → R pc' := by
  intro pc' e; rw [h] at e; cases e

theorem claim_none {C : Type} {o : Option C} (h : o = none) {R : C → Prop} : ∀ x, o = some x → R x :=
  fun x e => by rw [h] at e; cases e

/-- is the consumer inside its busy section after a step with outcome `nx`? -/
def nxBusy {PC : Type} (busy : Option PC → Bool) : Next PC → Bool
  | .goto pc' => busy (some pc')
  | .ret _ => false

theorem reach_pcI {C : Type} {sh0 : A.Sh} {progs : List (List Op)} (ct : Nat)
    (P : A.Sh → Prop) (Q : A.Sh → A.PC → Prop) (claim : A.PC → Option C) (isDeq : A.PC → Bool)
    (busy : Option A.PC → Bool) (Idle : A.Sh → Prop)
    (wf : ∀ (i : Nat) (p : List Op), progs[i]? = some p → i ≠ ct → Op.deq ∉ p)
    (hd0 : ∀ op, isDeq (A.start op) = true → op = .deq)
    (hb : ∀ pc, isDeq pc = false → busy (some pc) = false)
    (h0 : P sh0) (hi0 : Idle sh0) (hq0 : ∀ s op, Q s (A.start op)) (hc0 : ∀ op, claim (A.start op) = none)
    (hstep : ∀ s pc, P s → Q s pc → (isDeq pc = true → busy (some pc) = false → Idle s) →
      P (A.exec s pc).1 ∧
      ((busy (some pc) = false → Idle s) → nxBusy busy (A.exec s pc).2 = false → Idle (A.exec s pc).1) ∧
      ∀ pc', (A.exec s pc).2 = .goto pc' → Q (A.exec s pc).1 pc' ∧ isDeq pc' = isDeq pc ∧
        ∀ x, claim pc' = some x → claim pc = some x ∨
          ∀ pcj, Q s pcj → (isDeq pc = true → isDeq pcj = false) → claim pcj ≠ some x)
    (hframe : ∀ s pc pcj, P s → Q s pc → Q s pcj → (∀ x, claim pc = some x → claim pcj ≠ some x) →
      (isDeq pc = true → isDeq pcj = false) → Q (A.exec s pc).1 pcj) :
    ∀ c, Reach A (initCfg A sh0 progs) c →
      P c.sh ∧
      (∀ (i : Nat) (t : Thread A.PC), c.threads[i]? = some t → JC isDeq busy Q Idle ct i c.sh t) ∧
      (∀ (i j : Nat) (ti tj : Thread A.PC), i ≠ j → c.threads[i]? = some ti → c.threads[j]? = some tj →
        ∀ pci pcj x, ti.pc = some pci → tj.pc = some pcj → claim pci = some x → claim pcj ≠ some x) := by
  have other : ∀ {i j : Nat} {s : A.Sh} {ti tj : Thread A.PC} {pc pcj : A.PC}, i ≠ j →
      JC isDeq busy Q Idle ct i s ti → JC isDeq busy Q Idle ct j s tj →
      ti.pc = some pc → tj.pc = some pcj → isDeq pc = true → isDeq pcj = false :=
    fun hij hi hj hpc hpcj hd => (hj.cons fun e' => hij ((hi.is_consumer hpc hd).trans e'.symm)).1 _ hpcj
  have noclaim : ∀ {p : List Op} {t : Thread A.PC}, Parked A p t → ∀ pc x, t.pc = some pc → claim pc ≠ some x :=
    fun h pc x hpc e => by rw [h.all (R := fun pc => claim pc = none) hc0 pc hpc] at e; cases e
  have self : ∀ {i : Nat} {s : A.Sh} {t : Thread A.PC} {pc : A.PC}, JC isDeq busy Q Idle ct i s t → t.pc = some pc →
      isDeq pc = true → busy (some pc) = false → Idle s :=
    fun hJ hpc hd hb' => hJ.idle (hJ.is_consumer hpc hd) (hpc ▸ hb')
  refine reach_og2 P (fun i s t => JC isDeq busy Q Idle ct i s t)
    (fun ti tj => ∀ pci pcj x, ti.pc = some pci → tj.pc = some pcj → claim pci = some x → claim pcj ≠ some x)
    h0 ?_ ?_ ?_ ?_ ?_
  · exact fun i p k hp => JC.parked hd0 (hq0 sh0) (parked_mk A p k) (fun _ => hi0) (wf i p hp)
  · exact fun _ _ _ q _ k' _ _ _ pci pcj x _ hj _ => noclaim (parked_mk A q k') pcj x hj
  · intro s i t pc now hP hJ hpc
    obtain ⟨hP', hI, hgo⟩ := hstep s pc hP (hJ.pc pc hpc) (self hJ hpc)
    refine ⟨hP', ?_⟩
    cases hnx : (A.exec s pc).2 with
    | goto pc' =>
      rw [hnx] at hI
      exact hJ.goto hpc (hgo pc' hnx).2.1 (fun hi hb' => hI (fun h => hJ.idle hi (hpc ▸ h)) hb') (hgo pc' hnx).1
    | ret r =>
      rw [hnx] at hI
      exact hJ.finish hd0 (hq0 _) r now fun hi => hI (fun h => hJ.idle hi (hpc ▸ h)) rfl
  · intro s i j ti tj pc hij hP hJi hJj hK hpc
    refine hJj.frame (fun pcj hpcj hq => hframe s pc pcj hP (hJi.pc pc hpc) hq (fun x => hK pc pcj x hpc hpcj)
      (other hij hJi hJj hpc hpcj)) fun hj hid => ?_
    -- the consumer `j` is idle and a producer steps
    have hnd : isDeq pc = false := ((hJi.cons fun e => hij (e.trans hj.symm)).1 pc hpc)
    obtain ⟨_, hI, hgo⟩ := hstep s pc hP (hJi.pc pc hpc) fun _ _ => hid
    refine hI (fun _ => hid) ?_
    cases hnx : (A.exec s pc).2 with
    | goto pc' => exact hb pc' ((hgo pc' hnx).2.1.trans hnd)
    | ret r => rfl
  · intro s i j ti tj pc now hij hP hJi hJj hK hpc
    have hnew : ∀ pc' pcj x, (ti.advance A now (A.exec s pc).2).pc = some pc' → tj.pc = some pcj →
        claim pc' = some x → claim pcj ≠ some x := by
      intro pc' pcj x h1 hpcj hx
      cases hnx : (A.exec s pc).2 with
      | goto pc'' =>
        rw [hnx] at h1; cases h1
        rcases (hstep s pc hP (hJi.pc pc hpc) (self hJi hpc)).2.2 pc' hnx |>.2.2 x hx with h | h
        · exact hK pc pcj x hpc hpcj h
        · exact h pcj (hJj.pc pcj hpcj) (other hij hJi hJj hpc hpcj)
      | ret r => rw [hnx] at h1; exact absurd hx (noclaim (parked_finish A ti r now) pc' x h1)
    exact ⟨hnew, fun pcj pc' x hpcj h1 hx e => hnew pc' pcj x h1 hpcj e hx⟩

/-- `reach_pcI` for a consumer without a busy section -/
theorem reach_pc {C : Type} {sh0 : A.Sh} {progs : List (List Op)} (ct : Nat)
    (P : A.Sh → Prop) (Q : A.Sh → A.PC → Prop) (claim : A.PC → Option C) (isDeq : A.PC → Bool)
    (wf : ∀ (i : Nat) (p : List Op), progs[i]? = some p → i ≠ ct → Op.deq ∉ p)
    (hd0 : ∀ op, isDeq (A.start op) = true → op = .deq)
    (h0 : P sh0) (hq0 : ∀ s op, Q s (A.start op)) (hc0 : ∀ op, claim (A.start op) = none)
    (hstep : ∀ s pc, P s → Q s pc → P (A.exec s pc).1 ∧
      ∀ pc', (A.exec s pc).2 = .goto pc' → Q (A.exec s pc).1 pc' ∧ isDeq pc' = isDeq pc ∧
        ∀ x, claim pc' = some x → claim pc = some x ∨
          ∀ pcj, Q s pcj → (isDeq pc = true → isDeq pcj = false) → claim pcj ≠ some x)
    (hframe : ∀ s pc pcj, P s → Q s pc → Q s pcj → (∀ x, claim pc = some x → claim pcj ≠ some x) →
      (isDeq pc = true → isDeq pcj = false) → Q (A.exec s pc).1 pcj) :
    ∀ c, Reach A (initCfg A sh0 progs) c →
      P c.sh ∧
      (∀ (i : Nat) (t : Thread A.PC), c.threads[i]? = some t → JC isDeq (fun _ => false) Q (fun _ => True) ct i c.sh t) ∧
      (∀ (i j : Nat) (ti tj : Thread A.PC), i ≠ j → c.threads[i]? = some ti → c.threads[j]? = some tj →
        ∀ pci pcj x, ti.pc = some pci → tj.pc = some pcj → claim pci = some x → claim pcj ≠ some x) :=
  reach_pcI ct P Q claim isDeq (fun _ => false) (fun _ => True) wf hd0 (fun _ _ => rfl) h0 trivial hq0 hc0
    (fun s pc hP hQ _ => ⟨(hstep s pc hP hQ).1, fun _ _ => trivial, (hstep s pc hP hQ).2⟩) hframe

end GoaktVerif.C04
