/-
C04 — facts about the reservation-queue specification (Spec/C04.lean): the four moves of one event (`RQ.Step`, equivalent to
`RQ.step` answering `some`), and conservation along all event sequences.
-/
import GoaktVerif.Spec.C04

namespace GoaktVerif.C04
open GoaktVerif.Spec.C04

theorem reservedOf_append (a b : List Ev) : reservedOf (a ++ b) = reservedOf a ++ reservedOf b := by
  induction a with
  | nil => rfl
  | cons e es ih => cases e <;> simp [reservedOf, ih]

theorem dequeuedOf_append (a b : List Ev) : dequeuedOf (a ++ b) = dequeuedOf a ++ dequeuedOf b := by
  induction a with
  | nil => rfl
  | cons e es ih =>
    cases e with
    | deq r => cases r <;> simp [dequeuedOf, ih]
    | _ => simp [dequeuedOf, ih]

theorem run_append (q : RQ) (a b : List Ev) : RQ.run q (a ++ b) = (RQ.run q a).bind fun q' => RQ.run q' b := by
  induction a generalizing q with
  | nil => simp [RQ.run]
  | cons e es ih =>
    simp only [List.cons_append, RQ.run]
    cases q.step e with
    | none => rfl
    | some q1 => simp [ih]

theorem publish_val (c : Cell) (w : Nat) : (if c = .pending w then Cell.ready w else c).val = c.val := by
  split
  · next h => subst h; rfl
  · rfl

theorem publish_map_val (q : RQ) (v : Nat) : (publish q v).map Cell.val = q.map Cell.val := by
  unfold publish; rw [List.map_map]; exact List.map_congr_left fun c _ => publish_val c v

/-- what one event does to a reservation queue: the four ways in which `RQ.step` answers `some` -/
inductive RQ.Step : RQ → Ev → RQ → Prop where
  | reserve (q : RQ) (v : Nat) : RQ.Step q (.reserve v) (q ++ [.pending v])
  | publish {q : RQ} {v : Nat} (h : Cell.pending v ∈ q) : RQ.Step q (.publish v) (publish q v)
  | deq (v : Nat) (rest : RQ) : RQ.Step (.ready v :: rest) (.deq (some v)) rest
  | none {q : RQ} (h : q = [] ∨ ∃ v rest, q = .pending v :: rest) : RQ.Step q (.deq none) q

theorem RQ.step_iff {q q' : RQ} {e : Ev} : q.step e = some q' ↔ RQ.Step q e q' := by
  constructor
  · intro h
    cases e with
    | reserve v => cases h; exact .reserve q v
    | publish v =>
      simp only [RQ.step] at h
      split at h <;> cases h
      next hm => exact .publish hm
    | deq r =>
      simp only [RQ.step] at h
      split at h
      · split at h <;> cases h
        next hr => cases hr; exact .deq _ _
      · next hne =>
        split at h <;> cases h
        next hr =>
        cases hr
        refine .none ?_
        cases q with
        | nil => exact Or.inl rfl
        | cons c cs =>
          cases c with
          | pending v => exact Or.inr ⟨v, cs, rfl⟩
          | ready v => exact absurd rfl (hne v cs)
  · intro h
    cases h with
    | reserve => rfl
    | publish hm => exact if_pos hm
    | deq v rest => exact if_pos rfl
    | none hq => rcases hq with rfl | ⟨b, rest, rfl⟩ <;> rfl

theorem RQ.Step.conserve {q q' : RQ} {e : Ev} (h : RQ.Step q e q') :
    q.map Cell.val ++ reservedOf [e] = dequeuedOf [e] ++ q'.map Cell.val := by
  cases h with
  | reserve => rw [List.map_append]; rfl
  | publish => rw [publish_map_val]; exact List.append_nil _
  | deq v rest => exact List.append_nil _
  | none => exact List.append_nil _

/-- a READY cell stays ready until it is the one dequeued -/
theorem RQ.Step.ready {q q' : RQ} {e : Ev} {v : Nat} (h : RQ.Step q e q') (hr : Cell.ready v ∈ q) :
    v ∈ dequeuedOf [e] ∨ Cell.ready v ∈ q' := by
  cases h with
  | reserve => exact Or.inr (List.mem_append_left _ hr)
  | publish => exact Or.inr (List.mem_map.mpr ⟨.ready v, hr, if_neg nofun⟩)
  | deq w rest => exact (List.mem_cons.mp hr).imp (fun e => by cases e; exact List.mem_cons_self) id
  | none => exact Or.inr hr

/-- conservation, in order: what was in the queue plus what was reserved = what came out, followed
by what is still inside — for every run of the reservation queue -/
theorem rq_run_conserve (evs : List Ev) : ∀ (q q' : RQ), RQ.run q evs = some q' →
    q.map Cell.val ++ reservedOf evs = dequeuedOf evs ++ q'.map Cell.val := by
  induction evs with
  | nil => intro q q' h; cases h; exact List.append_nil _
  | cons e es ih =>
    intro q q' h
    simp only [RQ.run] at h
    cases hs : q.step e with
    | none => rw [hs] at h; cases h
    | some q1 =>
      rw [hs] at h
      rw [← List.singleton_append (l := es), reservedOf_append, dequeuedOf_append, ← List.append_assoc,
        (RQ.step_iff.mp hs).conserve, List.append_assoc, ih q1 q' h, List.append_assoc]

/-- FIFO in reservation order and exactly-once, on the specification: starting empty, what has been
dequeued so far is a prefix of the reservation sequence, the rest is exactly what is still inside -/
theorem rq_fifo (evs : List Ev) (q : RQ) (h : RQ.run [] evs = some q) :
    reservedOf evs = dequeuedOf evs ++ q.map Cell.val := by
  simpa using rq_run_conserve evs [] q h

/-- a dequeue answers "nothing" only when the head reservation is unpublished or nothing is reserved -/
theorem rq_deq_none (q q' : RQ) (h : q.step (.deq none) = some q') :
    q' = q ∧ (q = [] ∨ ∃ v rest, q = .pending v :: rest) := by
  cases RQ.step_iff.mp h with
  | none hq => exact ⟨rfl, hq⟩

end GoaktVerif.C04
