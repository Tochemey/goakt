/-
C04 — correctness of the binary heap model (Model/C04/Heap.lean), for all inputs and every priority function that is
a strict weak order.  `push` / `pop` permute the contents and preserve the heap order, `pop` fails exactly on the empty
heap and returns an element that nothing left in the heap outranks.

`lessAt` is `false` outside the slice, so the invariants bound the child index only, never the parent's.
-/
import GoaktVerif.Model.C04.Heap

namespace GoaktVerif.C04.Heap
open GoaktVerif.Model.C04.Heap

variable {α : Type} {lt : α → α → Bool}

/-- strict weak order -/
structure SWO {α : Type} (lt : α → α → Bool) : Prop where
  irrefl : ∀ a, lt a a = false
  trans : ∀ a b c, lt a b = true → lt b c = true → lt a c = true
  /-- negative transitivity: "not less" is transitive -/
  ntrans : ∀ a b c, lt a b = false → lt b c = false → lt a c = false

theorem SWO.asymm (h : SWO lt) {a b : α} (hab : lt a b = true) : lt b a = false := by
  cases hba : lt b a with
  | false => rfl
  | true => have := h.trans a b a hab hba; rw [h.irrefl] at this; cases this

theorem SWO.comap {β : Type} (h : SWO lt) (f : β → α) : SWO (fun a b => lt (f a) (f b)) where
  irrefl := fun a => h.irrefl (f a)
  trans := fun a b c => h.trans (f a) (f b) (f c)
  ntrans := fun a b c => h.ntrans (f a) (f b) (f c)

/-- heap order on the slice: no element outranks its parent -/
def HeapInv (lt : α → α → Bool) (xs : List α) : Prop :=
  ∀ j, 0 < j → j < xs.length → lessAt lt xs j ((j - 1) / 2) = false

theorem length_swap (xs : List α) (i j : Nat) : (swap xs i j).length = xs.length := by
  unfold swap; split
  · rw [List.length_set, List.length_set]
  · rfl

theorem getElem?_swap_other (xs : List α) {i j k : Nat} (hi : k ≠ i) (hj : k ≠ j) :
    (swap xs i j)[k]? = xs[k]? := by
  unfold swap
  split
  · rw [List.getElem?_set_ne (Ne.symm hj), List.getElem?_set_ne (Ne.symm hi)]
  · rfl

theorem getElem?_swap_right (xs : List α) {i j : Nat} (hi : i < xs.length) (hj : j < xs.length) :
    (swap xs i j)[j]? = xs[i]? := by
  unfold swap
  rw [List.getElem?_eq_getElem hi, List.getElem?_eq_getElem hj]
  exact List.getElem?_set_self (by rw [List.length_set]; exact hj)

theorem getElem?_swap_left (xs : List α) {i j : Nat} (hi : i < xs.length) (hj : j < xs.length) :
    (swap xs i j)[i]? = xs[j]? := by
  by_cases e : i = j
  · subst e; exact getElem?_swap_right xs hi hi
  · unfold swap
    rw [List.getElem?_eq_getElem hi, List.getElem?_eq_getElem hj]
    exact (List.getElem?_set_ne (Ne.symm e)).trans (List.getElem?_set_self hi)

theorem swap_perm (xs : List α) (i j : Nat) : (swap xs i j).Perm xs := by
  unfold swap
  split
  · next a b ha hb =>
    obtain ⟨hi, rfl⟩ := List.getElem?_eq_some_iff.mp ha
    obtain ⟨hj, rfl⟩ := List.getElem?_eq_some_iff.mp hb
    exact List.set_set_perm hi hj
  · exact .refl _

theorem lessAt_get {xs : List α} {i j : Nat} (hi : i < xs.length) (hj : j < xs.length) :
    lessAt lt xs i j = lt xs[i] xs[j] := by
  unfold lessAt
  rw [List.getElem?_eq_getElem hi, List.getElem?_eq_getElem hj]

theorem lessAt_congr {xs ys : List α} {a b a' b' : Nat} (ha : xs[a]? = ys[a']?)
    (hb : xs[b]? = ys[b']?) : lessAt lt xs a b = lessAt lt ys a' b' := by
  unfold lessAt; rw [ha, hb]

theorem lessAt_range {xs : List α} {a b : Nat} (h : lessAt lt xs a b = true) :
    a < xs.length ∧ b < xs.length := by
  unfold lessAt at h
  split at h
  · next ha hb =>
    exact ⟨(List.getElem?_eq_some_iff.mp ha).1, (List.getElem?_eq_some_iff.mp hb).1⟩
  · cases h

theorem lessAt_irrefl (h : SWO lt) (xs : List α) (a : Nat) : lessAt lt xs a a = false := by
  unfold lessAt
  cases xs[a]? with
  | none => rfl
  | some x => exact h.irrefl x

theorem lessAt_asymm (h : SWO lt) {xs : List α} {a b : Nat} (hab : lessAt lt xs a b = true) :
    lessAt lt xs b a = false := by
  obtain ⟨ha, hb⟩ := lessAt_range hab
  rw [lessAt_get ha hb] at hab
  rw [lessAt_get hb ha]
  exact h.asymm hab

theorem lessAt_ntrans (h : SWO lt) {xs : List α} {a b c : Nat} (hb : b < xs.length)
    (hab : lessAt lt xs a b = false) (hbc : lessAt lt xs b c = false) : lessAt lt xs a c = false := by
  cases hac : lessAt lt xs a c with
  | false => rfl
  | true =>
    obtain ⟨ha, hc⟩ := lessAt_range hac
    rw [lessAt_get ha hb] at hab
    rw [lessAt_get hb hc] at hbc
    rw [lessAt_get ha hc, h.ntrans _ _ _ hab hbc] at hac
    cases hac

/-- `a` does not outrank `c`, and `c` does not outrank `b` (asymmetry) -/
theorem lessAt_false_of_lt (h : SWO lt) {xs : List α} {a b c : Nat}
    (hbc : lessAt lt xs b c = true) (hac : lessAt lt xs a c = false) : lessAt lt xs a b = false :=
  lessAt_ntrans h (lessAt_range hbc).2 hac (lessAt_asymm h hbc)

/-! `(k-1)/2` is the parent of `k`; `2*i+1`, `2*i+1+1` are the children of `i` -/

theorem parent_lt {k : Nat} (h : 0 < k) : (k-1)/2 < k :=
  Nat.lt_of_le_of_lt (Nat.div_le_self _ _) (Nat.sub_lt h Nat.one_pos)

theorem parent_le (k : Nat) : (k-1)/2 ≤ k := Nat.le_trans (Nat.div_le_self _ _) (Nat.sub_le _ _)

theorem children {k i : Nat} (hk : 0 < k) (h : (k-1)/2 = i) : k = 2*i+1 ∨ k = 2*i+1+1 := by omega

theorem parent_left (i : Nat) : (2*i+1-1)/2 = i := by
  rw [Nat.add_sub_cancel, Nat.mul_div_cancel_left _ Nat.zero_lt_two]

theorem parent_right (i : Nat) : (2*i+1+1-1)/2 = i := by
  rw [Nat.add_sub_cancel, Nat.mul_add_div Nat.zero_lt_two]; rfl

/-- loop invariant of `up`: heap order everywhere except between `j` and its parent, and the
children of `j` do not outrank `j`'s parent -/
def UpInv (lt : α → α → Bool) (xs : List α) (j : Nat) : Prop :=
  j < xs.length ∧
  (∀ k, 0 < k → k < xs.length → k ≠ j → lessAt lt xs k ((k-1)/2) = false) ∧
  (∀ k, 0 < k → k < xs.length → (k-1)/2 = j → 0 < j → lessAt lt xs k ((j-1)/2) = false)

theorem up_step (h : SWO lt) {xs : List α} {j : Nat} (inv : UpInv lt xs j)
    (hij : (j-1)/2 ≠ j) (hlt : lessAt lt xs j ((j-1)/2) = true) :
    UpInv lt (swap xs ((j-1)/2) j) ((j-1)/2) := by
  obtain ⟨hj, h1, h2⟩ := inv
  have hj0 : 0 < j := Nat.pos_of_ne_zero fun e => hij (by rw [e])
  have hji : (j-1)/2 < j := parent_lt hj0
  have hi : (j-1)/2 < xs.length := Nat.lt_trans hji hj
  have gi := getElem?_swap_left xs hi hj
  have gj := getElem?_swap_right xs hi hj
  have go : ∀ {k}, k ≠ (j-1)/2 → k ≠ j → (swap xs ((j-1)/2) j)[k]? = xs[k]? :=
    fun a b => getElem?_swap_other xs a b
  refine ⟨by rw [length_swap]; exact hi, fun k hk0 hkl hki => ?_, fun k hk0 hkl hki hi0 => ?_⟩
  · rw [length_swap] at hkl
    by_cases hkj : k = j
    · -- the swapped edge
      rw [hkj, lessAt_congr gj gi]; exact lessAt_asymm h hlt
    · have hk := h1 k hk0 hkl hkj
      by_cases hpj : (k-1)/2 = j
      · -- a child of `j`, now under `j`'s old parent
        rw [hpj, lessAt_congr (go hki hkj) gj]; exact h2 k hk0 hkl hpj hj0
      · by_cases hpi : (k-1)/2 = (j-1)/2
        · -- the sibling of `j`, now under `j`'s old value, which outranks the old parent
          rw [hpi] at hk ⊢
          rw [lessAt_congr (go hki hkj) gi]; exact lessAt_false_of_lt h hlt hk
        · rw [lessAt_congr (go hki hkj) (go hpi hpj)]; exact hk
  · -- the grandparent is not moved
    rw [length_swap] at hkl
    have hqi : ((j-1)/2-1)/2 < (j-1)/2 := parent_lt hi0
    have gq := go (Nat.ne_of_lt hqi) (Nat.ne_of_lt (Nat.lt_trans hqi hji))
    have hiq := h1 ((j-1)/2) hi0 hi hij
    by_cases hkj : k = j
    · rw [hkj, lessAt_congr gj gq]; exact hiq
    · have hk := h1 k hk0 hkl hkj
      have hik := parent_lt hk0
      rw [hki] at hk hik
      rw [lessAt_congr (go (Nat.ne_of_gt hik) hkj) gq]; exact lessAt_ntrans h hi hk hiq

theorem upInv_done {xs : List α} {j : Nat} (inv : UpInv lt xs j)
    (hd : (j-1)/2 = j ∨ lessAt lt xs j ((j-1)/2) = false) : HeapInv lt xs := by
  intro k hk0 hkl
  by_cases hkj : k = j
  · subst hkj
    cases hd with
    | inl h0 => exact absurd h0 (Nat.ne_of_lt (parent_lt hk0))
    | inr hf => exact hf
  · exact inv.2.1 k hk0 hkl hkj

theorem up_succ (fuel : Nat) (xs : List α) (j : Nat) :
    up lt (fuel+1) xs j =
      if ((j-1)/2 = j || !lessAt lt xs j ((j-1)/2)) = true then xs
      else up lt fuel (swap xs ((j-1)/2) j) ((j-1)/2) := rfl

theorem up_heapInv (h : SWO lt) : ∀ (fuel : Nat) (xs : List α) (j : Nat), j < fuel →
    UpInv lt xs j → HeapInv lt (up lt fuel xs j)
  | 0, _, _, hf, _ => by omega
  | fuel+1, xs, j, hf, inv => by
    rw [up_succ]
    split
    · next c =>
      simp only [Bool.or_eq_true, decide_eq_true_eq, Bool.not_eq_true'] at c
      exact upInv_done inv c
    · next c =>
      simp only [Bool.or_eq_true, decide_eq_true_eq, Bool.not_eq_true', not_or,
        Bool.not_eq_false] at c
      exact up_heapInv h fuel _ _ (by omega) (up_step h inv c.1 c.2)

theorem up_perm : ∀ (fuel : Nat) (xs : List α) (j : Nat), (up lt fuel xs j).Perm xs
  | 0, _, _ => List.Perm.refl _
  | fuel+1, xs, j => by
    rw [up_succ]
    split
    · exact List.Perm.refl _
    · exact (up_perm fuel _ _).trans (swap_perm _ _ _)

theorem heapInv_nil : HeapInv lt ([] : List α) := by
  intro j _ hj; exact absurd hj (Nat.not_lt_zero _)

theorem push_perm (xs : List α) (x : α) : (push lt xs x).Perm (x :: xs) := by
  unfold push
  exact (up_perm _ _ _).trans (List.perm_append_comm)

theorem push_length (xs : List α) (x : α) : (push lt xs x).length = xs.length + 1 :=
  (push_perm xs x).length_eq

theorem push_inv (h : SWO lt) (xs : List α) (x : α) (hx : HeapInv lt xs) :
    HeapInv lt (push lt xs x) := by
  unfold push
  simp only []
  rw [List.length_append, List.length_singleton, Nat.add_sub_cancel]
  refine up_heapInv h _ _ _ (Nat.lt_succ_self _) ⟨?_, fun k hk0 hkl hkj => ?_, fun k hk0 hkl hkj _ => ?_⟩
  · rw [List.length_append]; exact Nat.lt_succ_self _
  · -- below the new last position the slice is the old one
    rw [List.length_append] at hkl
    have hk : k < xs.length := Nat.lt_of_le_of_ne (Nat.le_of_lt_succ hkl) hkj
    rw [lessAt_congr (List.getElem?_append_left hk)
      (List.getElem?_append_left (Nat.lt_of_le_of_lt (parent_le k) hk))]
    exact hx k hk0 hk
  · have := parent_lt hk0
    rw [hkj] at this
    rw [List.length_append] at hkl
    exact absurd (Nat.le_of_lt_succ hkl) (Nat.not_le.mpr this)

/-- `HeapInv lt xs` is `HeapInvN lt xs xs.length` -/
def HeapInvN (lt : α → α → Bool) (xs : List α) (n : Nat) : Prop :=
  ∀ j, 0 < j → j < n → lessAt lt xs j ((j - 1) / 2) = false

/-- loop invariant of `down`: heap order within `[0, n)` except between `i` and its children, and
the children of `i` do not outrank `i`'s parent -/
def DownInv (lt : α → α → Bool) (xs : List α) (i n : Nat) : Prop :=
  n ≤ xs.length ∧
  (∀ k, 0 < k → k < n → (k-1)/2 ≠ i → lessAt lt xs k ((k-1)/2) = false) ∧
  (∀ k, 0 < k → k < n → (k-1)/2 = i → 0 < i → lessAt lt xs k ((i-1)/2) = false)

/-- `c` is a child of `i` within `[0, n)` that no child of `i` outranks -/
def Chosen (lt : α → α → Bool) (xs : List α) (i n c : Nat) : Prop :=
  0 < c ∧ (c-1)/2 = i ∧ c < n ∧ ∀ k, 0 < k → k < n → (k-1)/2 = i → lessAt lt xs k c = false

theorem downInv_leaf {xs : List α} {i n : Nat} (inv : DownInv lt xs i n) (hl : n ≤ 2*i+1) :
    HeapInvN lt xs n := by
  intro k hk0 hkn
  exact inv.2.1 k hk0 hkn (by omega)

theorem downInv_exit (h : SWO lt) {xs : List α} {i n c : Nat} (inv : DownInv lt xs i n)
    (hc : Chosen lt xs i n c) (hnl : lessAt lt xs c i = false) : HeapInvN lt xs n := by
  intro k hk0 hkn
  by_cases hki : (k-1)/2 = i
  · have hcl : c < xs.length := Nat.lt_of_lt_of_le hc.2.2.1 inv.1
    rw [hki]; exact lessAt_ntrans h hcl (hc.2.2.2 k hk0 hkn hki) hnl
  · exact inv.2.1 k hk0 hkn hki

theorem down_step (h : SWO lt) {xs : List α} {i n c : Nat} (inv : DownInv lt xs i n)
    (hc : Chosen lt xs i n c) (hlt : lessAt lt xs c i = true) : DownInv lt (swap xs i c) c n := by
  obtain ⟨hn, h1, h2⟩ := inv
  obtain ⟨hc0, hci, hcn, hmin⟩ := hc
  have hic : i < c := hci ▸ parent_lt hc0
  have hcl : c < xs.length := Nat.lt_of_lt_of_le hcn hn
  have hil : i < xs.length := Nat.lt_trans hic hcl
  have gi := getElem?_swap_left xs hil hcl
  have gc := getElem?_swap_right xs hil hcl
  have go : ∀ {k}, k ≠ i → k ≠ c → (swap xs i c)[k]? = xs[k]? :=
    fun a b => getElem?_swap_other xs a b
  refine ⟨by rw [length_swap]; exact hn, fun k hk0 hkn hpc => ?_, fun k hk0 hkn hpc _ => ?_⟩
  · by_cases hkc : k = c
    · -- the swapped edge
      rw [hkc, hci, lessAt_congr gc gi]; exact lessAt_asymm h hlt
    · by_cases hki : k = i
      · -- `c`'s old value, now under `i`'s parent
        rw [hki] at hk0 ⊢
        have hqi := parent_lt hk0
        rw [lessAt_congr gi (go (Nat.ne_of_lt hqi) (Nat.ne_of_lt (Nat.lt_trans hqi hic)))]
        exact h2 c hc0 hcn hci hk0
      · by_cases hpi : (k-1)/2 = i
        · -- the sibling of `c`, now under `c`'s old value
          rw [hpi, lessAt_congr (go hki hkc) gi]; exact hmin k hk0 hkn hpi
        · rw [lessAt_congr (go hki hkc) (go hpi hpc)]; exact h1 k hk0 hkn hpi
  · -- a child of `c`: under `c`'s old value as before
    have hck := parent_lt hk0
    rw [hpc] at hck
    have hk := h1 k hk0 hkn (hpc ▸ Nat.ne_of_gt hic)
    rw [hpc] at hk
    rw [hci, lessAt_congr (go (Nat.ne_of_gt (Nat.lt_trans hic hck)) (Nat.ne_of_gt hck)) gi]; exact hk

/-- the child index `down` compares against `i` -/
def child (lt : α → α → Bool) (xs : List α) (i n : Nat) : Nat :=
  if 2*i+1+1 < n && lessAt lt xs (2*i+1+1) (2*i+1) then 2*i+1+1 else 2*i+1

theorem down_zero (xs : List α) (i n : Nat) : down lt 0 xs i n = xs := rfl

theorem down_succ (fuel : Nat) (xs : List α) (i n : Nat) :
    down lt (fuel+1) xs i n =
      if 2*i+1 ≥ n then xs
      else if !lessAt lt xs (child lt xs i n) i then xs
      else down lt fuel (swap xs i (child lt xs i n)) (child lt xs i n) n := rfl

theorem chosen_child (h : SWO lt) (xs : List α) {i n : Nat} (hl : 2*i+1 < n) :
    Chosen lt xs i n (child lt xs i n) := by
  unfold child
  split
  · next c =>
    simp only [Bool.and_eq_true, decide_eq_true_eq] at c
    refine ⟨Nat.succ_pos _, parent_right i, c.1, fun k hk0 _ hki => ?_⟩
    rcases children hk0 hki with e | e <;> rw [e]
    · exact lessAt_asymm h c.2
    · exact lessAt_irrefl h xs _
  · next c =>
    simp only [Bool.and_eq_true, decide_eq_true_eq, not_and, Bool.not_eq_true] at c
    refine ⟨Nat.succ_pos _, parent_left i, hl, fun k hk0 hkn hki => ?_⟩
    rcases children hk0 hki with e | e <;> rw [e] at hkn ⊢
    · exact lessAt_irrefl h xs _
    · exact c hkn

theorem child_gt (xs : List α) (i n : Nat) : i < child lt xs i n := by
  unfold child; split <;> omega

theorem child_lt (xs : List α) {i n : Nat} (hl : 2*i+1 < n) : child lt xs i n < n := by
  unfold child; split
  · next c =>
    simp only [Bool.and_eq_true, decide_eq_true_eq] at c
    exact c.1
  · exact hl

theorem down_heapInvN (h : SWO lt) : ∀ (fuel : Nat) (xs : List α) (i n : Nat), n ≤ fuel + i →
    DownInv lt xs i n → HeapInvN lt (down lt fuel xs i n) n
  | 0, xs, i, n, hf, inv => by
    rw [down_zero]; exact downInv_leaf inv (by omega)
  | fuel+1, xs, i, n, hf, inv => by
    rw [down_succ]
    split
    · next hl => exact downInv_leaf inv (by omega)
    · next hl =>
      have hc := chosen_child h xs (i := i) (n := n) (by omega)
      have hgt := child_gt (lt := lt) xs i n
      split
      · next c =>
        simp only [Bool.not_eq_true'] at c
        exact downInv_exit h inv hc c
      · next c =>
        simp only [Bool.not_eq_true', Bool.not_eq_false] at c
        exact down_heapInvN h fuel _ _ n (by omega) (down_step h inv hc c)

theorem down_perm : ∀ (fuel : Nat) (xs : List α) (i n : Nat), (down lt fuel xs i n).Perm xs
  | 0, _, _, _ => List.Perm.refl _
  | fuel+1, xs, i, n => by
    rw [down_succ]
    split
    · exact List.Perm.refl _
    · split
      · exact List.Perm.refl _
      · exact (down_perm fuel _ _ n).trans (swap_perm _ _ _)

theorem down_length (fuel : Nat) (xs : List α) (i n : Nat) :
    (down lt fuel xs i n).length = xs.length :=
  (down_perm fuel xs i n).length_eq

theorem down_frame : ∀ (fuel : Nat) (xs : List α) (i n k : Nat), n ≤ k →
    (down lt fuel xs i n)[k]? = xs[k]?
  | 0, _, _, _, _, _ => rfl
  | fuel+1, xs, i, n, k, hk => by
    rw [down_succ]
    split
    · rfl
    · next hl =>
      split
      · rfl
      · have hgt := child_gt (lt := lt) xs i n
        have hlt := child_lt (lt := lt) xs (i := i) (n := n) (by omega)
        rw [down_frame fuel _ _ n k hk]
        exact getElem?_swap_other xs (by omega) (by omega)

theorem root_min_idx (h : SWO lt) {xs : List α} (hx : HeapInv lt xs) :
    ∀ (k : Nat) (hk : k < xs.length), lt xs[k] (xs[0]'(by omega)) = false := by
  intro k
  induction k using Nat.strongRecOn with
  | _ k ih =>
    intro hk
    by_cases hk0 : k = 0
    · subst hk0; exact h.irrefl _
    · have hk0 := Nat.pos_of_ne_zero hk0
      have hp : (k-1)/2 < xs.length := Nat.lt_trans (parent_lt hk0) hk
      have h1 := hx k hk0 hk
      rw [lessAt_get hk hp] at h1
      exact h.ntrans _ _ _ h1 (ih ((k-1)/2) (parent_lt hk0) hp)

theorem root_min (h : SWO lt) {xs : List α} (hx : HeapInv lt xs) (hne : 0 < xs.length) :
    ∀ y ∈ xs, lt y xs[0] = false := by
  intro y hy
  obtain ⟨k, hk, rfl⟩ := List.mem_iff_getElem.mp hy
  exact root_min_idx h hx k hk

/-- what `pop` computes on a non-empty slice -/
theorem pop_eq {xs : List α} {x : α} {rest : List α} (hp : pop lt xs = some (x, rest)) :
    0 < xs.length ∧
    (down lt xs.length (swap xs 0 (xs.length - 1)) 0 (xs.length - 1))[xs.length - 1]? = some x ∧
    rest = (down lt xs.length (swap xs 0 (xs.length - 1)) 0 (xs.length - 1)).take
      (xs.length - 1) := by
  unfold pop at hp
  split at hp
  · cases hp
  · simp only [] at hp
    split at hp
    · next hx =>
      simp only [Option.some.injEq, Prod.mk.injEq] at hp
      refine ⟨by simp only [List.length_cons]; omega, ?_, hp.2.symm⟩
      rw [hx, hp.1]
    · cases hp

theorem pop_none : pop lt ([] : List α) = none := rfl

theorem pop_some (xs : List α) (hne : xs ≠ []) : ∃ x rest, pop lt xs = some (x, rest) := by
  cases xs with
  | nil => exact absurd rfl hne
  | cons a t =>
    unfold pop
    simp only []
    split
    · next x hx => exact ⟨x, _, rfl⟩
    · next hx =>
      rw [List.getElem?_eq_none_iff, down_length, length_swap] at hx
      simp only [List.length_cons] at hx
      omega

theorem eq_take_append_last {ys : List α} {n : Nat} {x : α} (hl : ys.length = n + 1)
    (hx : ys[n]? = some x) : ys = ys.take n ++ [x] := by
  have hn : n < ys.length := by omega
  rw [List.getElem?_eq_getElem hn] at hx
  cases hx
  rw [← List.take_succ_eq_append_getElem hn, List.take_of_length_le (Nat.le_of_eq hl)]

theorem pop_perm (xs : List α) (x : α) (rest : List α) (hp : pop lt xs = some (x, rest)) :
    (x :: rest).Perm xs := by
  obtain ⟨hl, hx, hr⟩ := pop_eq hp
  have hlen : (down lt xs.length (swap xs 0 (xs.length - 1)) 0 (xs.length - 1)).length
      = (xs.length - 1) + 1 := by
    rw [down_length, length_swap]; omega
  have hys := eq_take_append_last hlen hx
  rw [← hr] at hys
  have hperm : (rest ++ [x]).Perm xs := by
    rw [← hys]
    exact (down_perm _ _ _ _).trans (swap_perm _ _ _)
  exact (List.perm_append_comm (l₁ := [x]) (l₂ := rest)).trans hperm

theorem pop_length {xs : List α} {x : α} {rest : List α} (hp : pop lt xs = some (x, rest)) :
    rest.length + 1 = xs.length :=
  (pop_perm xs x rest hp).length_eq

theorem downInv_pop {xs : List α} (hx : HeapInv lt xs) :
    DownInv lt (swap xs 0 (xs.length - 1)) 0 (xs.length - 1) := by
  refine ⟨by rw [length_swap]; exact Nat.sub_le _ _, fun k hk0 hkn hkp => ?_,
    fun k _ _ _ h0 => absurd h0 (Nat.lt_irrefl 0)⟩
  have hpk := parent_lt hk0
  rw [lessAt_congr (getElem?_swap_other xs (Nat.ne_of_gt hk0) (Nat.ne_of_lt hkn))
    (getElem?_swap_other xs hkp (Nat.ne_of_lt (Nat.lt_trans hpk hkn)))]
  exact hx k hk0 (Nat.lt_of_lt_of_le hkn (Nat.sub_le _ _))

theorem heapInv_take {ys : List α} {n : Nat} (hy : HeapInvN lt ys n) : HeapInv lt (ys.take n) := by
  intro k hk0 hkl
  rw [List.length_take] at hkl
  have hkn : k < n := Nat.lt_of_lt_of_le hkl (Nat.min_le_left _ _)
  rw [lessAt_congr (ys := ys) (a' := k) (b' := (k-1)/2) (by rw [List.getElem?_take, if_pos hkn])
    (by rw [List.getElem?_take, if_pos (Nat.lt_trans (parent_lt hk0) hkn)])]
  exact hy k hk0 hkn

theorem pop_inv (h : SWO lt) (xs : List α) (x : α) (rest : List α) (hx : HeapInv lt xs)
    (hp : pop lt xs = some (x, rest)) : HeapInv lt rest := by
  obtain ⟨hl, _, hr⟩ := pop_eq hp
  rw [hr]
  exact heapInv_take (down_heapInvN h _ _ _ _ (by omega) (downInv_pop hx))

theorem pop_root {xs : List α} {x : α} {rest : List α} (hp : pop lt xs = some (x, rest)) :
    xs[0]? = some x := by
  obtain ⟨hl, hx, _⟩ := pop_eq hp
  rw [down_frame _ _ _ _ _ (Nat.le_refl _),
    getElem?_swap_right xs hl (by omega : xs.length - 1 < xs.length)] at hx
  exact hx

theorem pop_min (h : SWO lt) (xs : List α) (x : α) (rest : List α) (hx : HeapInv lt xs)
    (hp : pop lt xs = some (x, rest)) : ∀ y ∈ rest, lt y x = false := by
  intro y hy
  have hroot := pop_root hp
  have hl : 0 < xs.length := (pop_eq hp).1
  rw [List.getElem?_eq_getElem hl] at hroot
  cases hroot
  have hmem : y ∈ xs := (pop_perm xs _ rest hp).mem_iff.mp (List.mem_cons_of_mem _ hy)
  exact root_min h hx hl y hmem

/-- `pop` on a heap is the removal of a priority queue -/
theorem pop_spec (h : SWO lt) {xs : List α} (hx : HeapInv lt xs) {x : α} {rest : List α}
    (hp : pop lt xs = some (x, rest)) :
    (x :: rest).Perm xs ∧ (∀ y ∈ rest, lt y x = false) ∧ HeapInv lt rest :=
  ⟨pop_perm xs x rest hp, pop_min h xs x rest hx hp, pop_inv h xs x rest hx hp⟩

end GoaktVerif.C04.Heap
