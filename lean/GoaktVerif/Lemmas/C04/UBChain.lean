/-
C04 — UnboundedMailbox (Vyukov MPSC list): the abstraction to the reservation queue and the
lemmas about the extended chain.

The abstract queue of a configuration is the list of cells spelled by the chain that starts at
`head`: a node reached through a real `next` link is a `ready` cell, a node reached through the link
a parked producer is about to store (it sits at its publishing `Store:next` with locals
`(v, prev)`, contributing `prev → v`) is a `pending` cell.  The chain ends at `tail`.
-/
import GoaktVerif.Model.C04.All
import GoaktVerif.Lemmas.C04.RQ

namespace GoaktVerif.C04.UB
open GoaktVerif.Model.C04 GoaktVerif.Model.C04.Unbounded GoaktVerif.Spec.C04

abbrev vals (cs : List Cell) : List Nat := cs.map Cell.val

/-- the extended chain from node `a` spells `cs` and ends at `tail` -/
def Chain (s : Sh) (pend : Nat → Nat → Prop) : Nat → List Cell → Prop
  | a, [] => a = s.tail ∧ s.next a = none
  | a, .ready b :: cs => s.next a = some b ∧ Chain s pend b cs
  | a, .pending b :: cs => s.next a = none ∧ pend a b ∧ Chain s pend b cs

/-- in the chain from `a`, `v` is a pending cell whose predecessor node is `p` -/
def PendLink : Nat → List Cell → Nat → Nat → Prop
  | _, [], _, _ => False
  | a, c :: cs, p, v => (c = .pending v ∧ a = p) ∨ PendLink c.val cs p v

theorem pendLink_mem : ∀ (cs : List Cell) (a p v : Nat), PendLink a cs p v → p ∈ a :: vals cs ∧ v ∈ vals cs
  | [], _, _, _, h => by simp [PendLink] at h
  | c :: cs, a, p, v, h => by
    simp only [PendLink] at h
    rcases h with ⟨hc, ha⟩ | h
    · subst hc; subst ha; simp [Cell.val]
    · have := pendLink_mem cs c.val p v h
      simp only [List.mem_cons, List.map_cons] at this ⊢
      rcases this with ⟨h1, h2⟩
      exact ⟨Or.inr h1, Or.inr h2⟩

theorem pendLink_pending : ∀ (cs : List Cell) (a p v : Nat), PendLink a cs p v → Cell.pending v ∈ cs
  | [], _, _, _, h => by simp [PendLink] at h
  | c :: cs, a, p, v, h => by
    simp only [PendLink] at h
    rcases h with ⟨hc, _⟩ | h
    · subst hc; simp
    · exact List.mem_cons_of_mem _ (pendLink_pending cs c.val p v h)

theorem pendLink_append : ∀ (cs ds : List Cell) (a p v : Nat), PendLink a cs p v → PendLink a (cs ++ ds) p v
  | [], _, _, _, _, h => by simp [PendLink] at h
  | c :: cs, ds, a, p, v, h => by
    simp only [PendLink, List.cons_append] at h ⊢
    rcases h with h | h
    · exact Or.inl h
    · exact Or.inr (pendLink_append cs ds c.val p v h)

theorem pendLink_publish : ∀ (cs : List Cell) (a p v w : Nat), w ≠ v → PendLink a cs p v → PendLink a (publish cs w) p v
  | [], _, _, _, _, _, h => by simp [PendLink] at h
  | c :: cs, a, p, v, w, hw, h => by
    simp only [PendLink, publish, List.map_cons] at h ⊢
    rcases h with ⟨hc, ha⟩ | h
    · left
      subst hc
      refine ⟨?_, ha⟩
      have : ¬ (Cell.pending v = Cell.pending w) := by
        intro e; injection e with e; exact hw e.symm
      simp [this]
    · right
      rw [publish_val]
      exact pendLink_publish cs c.val p v w hw h

theorem publish_not_mem : ∀ (cs : List Cell) (v : Nat), v ∉ vals cs → publish cs v = cs
  | [], _, _ => rfl
  | c :: cs, v, h => by
    simp only [List.map_cons, List.mem_cons, not_or] at h
    simp only [publish, List.map_cons]
    have hc : ¬ (c = .pending v) := by
      intro e; subst e; exact h.1 rfl
    simp only [hc, ↓reduceIte]
    congr 1
    exact publish_not_mem cs v h.2

def link : Cell → Option Nat
  | .ready b => some b
  | .pending _ => none

theorem Chain.cons {s : Sh} {pend : Nat → Nat → Prop} {a : Nat} {c : Cell} {cs : List Cell} :
    Chain s pend a (c :: cs) ↔ s.next a = link c ∧ (∀ b, c = .pending b → pend a b) ∧ Chain s pend c.val cs := by
  cases c with
  | ready b => simp only [Chain]; exact ⟨fun h => ⟨h.1, nofun, h.2⟩, fun h => ⟨h.1, h.2.2⟩⟩
  | pending b =>
    simp only [Chain]
    exact ⟨fun h => ⟨h.1, fun _ e => by cases e; exact h.2.1, h.2.2⟩, fun h => ⟨h.1, h.2.1 b rfl, h.2.2⟩⟩

/-- frame rule: the chain only reads `next` of its own nodes, `tail`, and the pending links it uses -/
theorem Chain.frame {s s' : Sh} {pend pend' : Nat → Nat → Prop} :
    ∀ (cs : List Cell) (a : Nat), (∀ x ∈ a :: vals cs, s'.next x = s.next x) → s'.tail = s.tail →
      (∀ x y, Cell.pending y ∈ cs → pend x y → pend' x y) → Chain s pend a cs → Chain s' pend' a cs
  | [], a, hn, ht, _, h => ⟨ht ▸ h.1, (hn a List.mem_cons_self).trans h.2⟩
  | c :: cs, a, hn, ht, hp, h => by
    rw [Chain.cons] at h ⊢
    exact ⟨(hn a List.mem_cons_self).trans h.1, fun b e => hp a b (e ▸ List.mem_cons_self) (h.2.1 b e),
      Chain.frame cs c.val (fun x hx => hn x (List.mem_cons_of_mem _ hx)) ht
        (fun x y hy => hp x y (List.mem_cons_of_mem _ hy)) h.2.2⟩

theorem Chain.head_none {s : Sh} {pend} {a : Nat} {cs : List Cell} (h : Chain s pend a cs) (hn : s.next a = none) :
    cs = [] ∨ ∃ b rest, cs = .pending b :: rest := by
  cases cs with
  | nil => exact Or.inl rfl
  | cons c rest =>
    cases c with
    | pending b => exact Or.inr ⟨b, rest, rfl⟩
    | ready b => rw [Chain.cons, hn] at h; cases h.1

theorem Chain.head_some {s : Sh} {pend} {a n : Nat} {cs : List Cell} (h : Chain s pend a cs) (hn : s.next a = some n) :
    ∃ rest, cs = .ready n :: rest ∧ Chain s pend n rest := by
  cases cs with
  | nil => rw [h.2] at hn; cases hn
  | cons c rest =>
    rw [Chain.cons, hn] at h
    cases c with
    | pending b => cases h.1
    | ready b => cases h.1; exact ⟨rest, rfl, h.2.2⟩

/-- reserve: `Swap:tail` appends a pending cell -/
theorem Chain.snoc {s : Sh} {pend pend' : Nat → Nat → Prop} (v : Nat) (hv : s.next v = none)
    (hp : ∀ x y, pend x y → pend' x y) (hpv : pend' s.tail v) :
    ∀ (cs : List Cell) (a : Nat), Chain s pend a cs → Chain { s with tail := v } pend' a (cs ++ [.pending v])
  | [], a, h => Chain.cons.mpr ⟨h.2, fun _ e => by cases e; exact h.1 ▸ hpv, rfl, hv⟩
  | c :: cs, a, h => by
    rw [Chain.cons] at h
    exact Chain.cons.mpr ⟨h.1, fun b e => hp a b (h.2.1 b e), Chain.snoc v hv hp hpv cs c.val h.2.2⟩

/-- publish: the `Store:next` of the producer parked at `(v, p)` turns the pending cell `v` ready -/
theorem Chain.publish {s : Sh} {pend pend' : Nat → Nat → Prop} (p v : Nat) :
    ∀ (cs : List Cell) (a : Nat), (a :: vals cs).Nodup → PendLink a cs p v →
      (∀ x y, y ≠ v → Cell.pending y ∈ cs → pend x y → pend' x y) →
      Chain s pend a cs → Chain (s.setNext p (some v)) pend' a (Spec.C04.publish cs v)
  | [], _, _, hl, _, _ => hl.elim
  | c :: cs, a, hnd, hl, hp, h => by
    obtain ⟨ha, hnd'⟩ := List.nodup_cons.mp hnd
    rw [Chain.cons] at h
    show Chain _ pend' a ((if c = .pending v then .ready v else c) :: Spec.C04.publish cs v)
    rw [Chain.cons, publish_val]
    rcases hl with ⟨hc, hap⟩ | hl
    · -- this is the cell: the rest of the chain does not contain `v` and is untouched
      subst hc hap
      have hv : v ∉ vals cs := (List.nodup_cons.mp hnd').1
      rw [if_pos rfl, publish_not_mem cs v hv]
      refine ⟨by simp [Sh.setNext, link], nofun, Chain.frame (s := s) (pend := pend) cs v (fun x hx => ?_) rfl
        (fun x y hy hxy => hp x y (fun e => hv (e ▸ List.mem_map_of_mem hy)) (List.mem_cons_of_mem _ hy) hxy) h.2.2⟩
      have : x ≠ a := fun e => ha (e ▸ hx)
      simp [Sh.setNext, this]
    · -- later in the chain
      have hm := pendLink_mem cs c.val p v hl
      have hap : a ≠ p := fun e => ha (e ▸ hm.1)
      have hcv : c ≠ .pending v := fun e => (List.nodup_cons.mp hnd').1 (by rw [e]; exact hm.2)
      rw [if_neg hcv]
      refine ⟨by simp [Sh.setNext, hap]; exact h.1,
        fun b e => hp a b (fun e' => hcv (e' ▸ e)) (e ▸ List.mem_cons_self) (h.2.1 b e),
        Chain.publish p v cs c.val hnd' hl (fun x y hy hm => hp x y hy (List.mem_cons_of_mem _ hm)) h.2.2⟩

/-- the predecessor of a pending cell has no real link yet -/
theorem Chain.pendLink_next {s : Sh} {pend : Nat → Nat → Prop} :
    ∀ (cs : List Cell) (a p v : Nat), Chain s pend a cs → PendLink a cs p v → s.next p = none
  | [], _, _, _, _, hl => hl.elim
  | c :: cs, a, p, v, h, hl => by
    rw [Chain.cons] at h
    rcases hl with ⟨hc, hap⟩ | hl
    · rw [← hap, h.1, hc]; rfl
    · exact Chain.pendLink_next cs c.val p v h.2.2 hl

/-- after `Swap:tail` the new pending cell hangs off the old tail -/
theorem Chain.pendLink_snoc {s : Sh} {pend : Nat → Nat → Prop} (v : Nat) :
    ∀ (cs : List Cell) (a : Nat), Chain s pend a cs → PendLink a (cs ++ [.pending v]) s.tail v
  | [], _, h => Or.inl ⟨rfl, h.1⟩
  | c :: cs, _, h => Or.inr (Chain.pendLink_snoc v cs c.val (Chain.cons.mp h).2.2)

theorem Chain.tail_mem {s : Sh} {pend : Nat → Nat → Prop} :
    ∀ (cs : List Cell) (a : Nat), Chain s pend a cs → s.tail ∈ a :: vals cs
  | [], _, h => h.1 ▸ List.mem_cons_self
  | c :: cs, _, h => List.mem_cons_of_mem _ (Chain.tail_mem cs c.val (Chain.cons.mp h).2.2)

end GoaktVerif.C04.UB
