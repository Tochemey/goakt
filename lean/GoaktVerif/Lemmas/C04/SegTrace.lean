/-
C04 — `UnboundedSegmentedMailbox`: the value invariant of SegValues along every schedule, every step justified by the
invariants of SegOG.
-/
import GoaktVerif.Lemmas.C04.SegOG
import GoaktVerif.Lemmas.C04.SegValues

namespace GoaktVerif.C04.SegInv
open GoaktVerif.Model.C04 GoaktVerif.Model.C04.Segmented

theorem tr_runS (ct n : Nat) (progs : List (List Op)) (wf : SegWF ct progs) :
    ∀ (sched : List Nat) (c : Cf) (resv : List Nat),
      Reach Segmented.algo (initCfg Segmented.algo (Segmented.init n) progs) c → TR ct c resv →
      TR ct (runSched c sched) (resv ++ resvTrace c sched) :=
  run_trace stepEvS resvTrace (fun _ => rfl) (fun _ _ _ => rfl) (TR ct) fun c tid resv hr hT => by
    obtain ⟨⟨hP, h2⟩, hJ, _⟩ := seg_inv ct n progs wf c hr
    exact tr_stepS ct tid c resv hP h2 hJ hT

end GoaktVerif.C04.SegInv
