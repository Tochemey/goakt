/-
C04 — the list of segments of `UnboundedSegmentedMailbox` (ghost `linked` / `ord` / `last`): its invariant `P2`, what a
thread relies on at each site (`J2pc`), and how each kind of update of the shared state affects them.
Every linked segment except the last is full and points to the segment one position later; unlinked segments are
untouched; the consumer has fully consumed the segments before `head` and not touched those after.
-/
import GoaktVerif.Lemmas.C04.SegInv
import GoaktVerif.Lemmas.C04.CoreLemmas

namespace GoaktVerif.C04.SegInv
open GoaktVerif.Model.C04 GoaktVerif.Model.C04.Segmented

structure P2 (s : Sh) : Prop where
  lastOK : (s.segs s.last).linked = true ∧ (s.segs s.last).next = none
  inner : ∀ g, (s.segs g).linked = true → g ≠ s.last → s.segSize ≤ (s.segs g).writeIdx ∧
    ∃ nx, (s.segs g).next = some nx ∧ (s.segs nx).linked = true ∧ (s.segs nx).ord = (s.segs g).ord + 1
  top : ∀ g, (s.segs g).linked = true → (s.segs g).ord ≤ (s.segs s.last).ord
  inj : ∀ g g', (s.segs g).linked = true → (s.segs g').linked = true → (s.segs g).ord = (s.segs g').ord → g = g'
  unl : ∀ g, (s.segs g).linked = false → (s.segs g).writeIdx = 0 ∧ (s.segs g).next = none ∧ (s.segs g).deqIdx = 0
  alloc : ∀ g, (s.segs g).linked = true → g < s.nseg
  hd : (s.segs s.head).linked = true
  tl : (s.segs s.tail).linked = true
  before : ∀ g, (s.segs g).linked = true → (s.segs g).ord < (s.segs s.head).ord → (s.segs g).deqIdx = s.segSize
  after : ∀ g, (s.segs g).linked = true → (s.segs s.head).ord < (s.segs g).ord → (s.segs g).deqIdx = 0

/-- what a thread parked at `pc` relies on about the list of segments -/
def J2pc (s : Sh) : PC → Prop
  | .e2 _ g | .e3 _ g _ => (s.segs g).linked = true
  | .e5 _ g => (s.segs g).linked = true ∧ s.segSize ≤ (s.segs g).writeIdx
  | .e6 _ g g' =>
    (s.segs g).linked = true ∧ s.segSize ≤ (s.segs g).writeIdx ∧ (s.segs g').linked = false ∧ g' < s.nseg
  | .e7 _ _ g' => (s.segs g').linked = true
  | .e9 _ _ nx => (s.segs nx).linked = true
  | .d9 seg nx => (s.segs seg).next = some nx
  | _ => True

theorem P2.next_linked {s : Sh} (h2 : P2 s) {g nx : Nat} (hl : (s.segs g).linked = true) (hn : (s.segs g).next = some nx) :
    (s.segs nx).linked = true ∧ (s.segs nx).ord = (s.segs g).ord + 1 := by
  have hne : g ≠ s.last := by
    intro e; rw [e, h2.lastOK.2] at hn; cases hn
  obtain ⟨_, nx', h1, h3, h4⟩ := h2.inner g hl hne
  rw [hn] at h1; cases h1
  exact ⟨h3, h4⟩

theorem P2.eq_last {s : Sh} (h2 : P2 s) {g : Nat} (hl : (s.segs g).linked = true) (hn : (s.segs g).next = none) : g = s.last := by
  by_cases e : g = s.last
  · exact e
  · obtain ⟨_, nx, h1, _⟩ := h2.inner g hl e
    rw [hn] at h1; cases h1

theorem P2.eq_last_of_room {s : Sh} (h2 : P2 s) {g : Nat} (hl : (s.segs g).linked = true)
    (hw : (s.segs g).writeIdx < s.segSize) : g = s.last := by
  by_cases e : g = s.last
  · exact e
  · have := (h2.inner g hl e).1; omega

/-- the list invariant reads `linked`, `next`, `ord` of every segment, `deqIdx` of every segment but the
head one, a lower bound on `writeIdx` of the linked segments and `writeIdx` of the others -/
theorem P2_frame {s s' : Sh} (h : P2 s) (hS : s'.segSize = s.segSize) (hl : s'.last = s.last) (hn : s.nseg ≤ s'.nseg)
    (hh : s'.head = s.head) (ht : (s.segs s'.tail).linked = true)
    (hf : ∀ j, (s'.segs j).linked = (s.segs j).linked ∧ (s'.segs j).next = (s.segs j).next ∧ (s'.segs j).ord = (s.segs j).ord)
    (hw : ∀ j, (s.segs j).writeIdx ≤ (s'.segs j).writeIdx ∧ ((s.segs j).linked = false → (s'.segs j).writeIdx = (s.segs j).writeIdx))
    (hd : ∀ j, j ≠ s.head → (s'.segs j).deqIdx = (s.segs j).deqIdx) : P2 s' where
  lastOK := by rw [hl, (hf _).1, (hf _).2.1]; exact h.lastOK
  inner := by
    intro g hg hne
    rw [(hf g).1] at hg; rw [hl] at hne
    obtain ⟨a, nx, b, c, d⟩ := h.inner g hg hne
    exact ⟨by rw [hS]; exact Nat.le_trans a (hw g).1, nx, by rw [(hf g).2.1]; exact b, by rw [(hf nx).1]; exact c,
      by rw [(hf nx).2.2, (hf g).2.2]; exact d⟩
  top := by intro g hg; rw [(hf g).1] at hg; rw [hl, (hf g).2.2, (hf _).2.2]; exact h.top g hg
  inj := by
    intro g g' a b c
    rw [(hf g).1] at a; rw [(hf g').1] at b; rw [(hf g).2.2, (hf g').2.2] at c
    exact h.inj g g' a b c
  unl := by
    intro g hg; rw [(hf g).1] at hg
    rw [(hw g).2 hg, (hf g).2.1, hd g fun e => by rw [e, h.hd] at hg; cases hg]; exact h.unl g hg
  alloc := by intro g hg; rw [(hf g).1] at hg; exact Nat.lt_of_lt_of_le (h.alloc g hg) hn
  hd := by rw [hh, (hf _).1]; exact h.hd
  tl := by rw [(hf _).1]; exact ht
  before := by
    intro g hg ho
    rw [(hf g).1] at hg; rw [hh, (hf g).2.2, (hf _).2.2] at ho
    rw [hd g fun e => by rw [e] at ho; exact Nat.lt_irrefl _ ho, hS]; exact h.before g hg ho
  after := by
    intro g hg ho
    rw [(hf g).1] at hg; rw [hh, (hf g).2.2, (hf _).2.2] at ho
    rw [hd g fun e => by rw [e] at ho; exact Nat.lt_irrefl _ ho]; exact h.after g hg ho

theorem P2_upd {s : Sh} (h : P2 s) (t : Nat) (f : Seg → Seg)
    (hf : (f (s.segs t)).linked = (s.segs t).linked ∧ (f (s.segs t)).next = (s.segs t).next ∧ (f (s.segs t)).ord = (s.segs t).ord)
    (hw : (s.segs t).writeIdx ≤ (f (s.segs t)).writeIdx ∧ ((s.segs t).linked = false → (f (s.segs t)).writeIdx = (s.segs t).writeIdx))
    (hd : t ≠ s.head → (f (s.segs t)).deqIdx = (s.segs t).deqIdx) : P2 (s.upd t f) :=
  P2_frame h rfl rfl (Nat.le_refl _) rfl h.tl
    (upd_all (R := fun x y => y.linked = x.linked ∧ y.next = x.next ∧ y.ord = x.ord) (fun _ => ⟨rfl, rfl, rfl⟩) hf)
    (upd_all (R := fun x y => x.writeIdx ≤ y.writeIdx ∧ (x.linked = false → y.writeIdx = x.writeIdx))
      (fun _ => ⟨Nat.le_refl _, fun _ => rfl⟩) hw)
    fun j hj => by
      rw [upd_field j]; split
      · next e => subst e; exact hd hj
      · rfl

/-- the consumer's `Store:head`: it leaves a fully consumed segment for its successor -/
theorem P2_head {s : Sh} (h : P2 s) (nx : Nat) (hn : (s.segs s.head).next = some nx)
    (hfull : (s.segs s.head).deqIdx = s.segSize) : P2 { s with head := nx } := by
  obtain ⟨hl, ho⟩ := h.next_linked h.hd hn
  refine ⟨h.lastOK, h.inner, h.top, h.inj, h.unl, h.alloc, hl, h.tl, ?_, ?_⟩
  · intro g hg hlt
    change (s.segs g).ord < (s.segs nx).ord at hlt
    rw [ho] at hlt
    by_cases e : (s.segs g).ord = (s.segs s.head).ord
    · have := h.inj g s.head hg h.hd e; rw [this]; exact hfull
    · exact h.before g hg (by omega)
  · intro g hg hlt
    change (s.segs nx).ord < (s.segs g).ord at hlt
    rw [ho] at hlt
    exact h.after g hg (by omega)

theorem J2pc_mono {s s' : Sh} {pc : PC} (hJ : J2pc s pc) (hS : s'.segSize = s.segSize)
    (hL : ∀ j, (s'.segs j).linked = (s.segs j).linked)
    (hW : ∀ j, (s.segs j).writeIdx ≤ (s'.segs j).writeIdx) (hN : s.nseg ≤ s'.nseg)
    (hX : ∀ j, (s'.segs j).next = (s.segs j).next) : J2pc s' pc := by
  cases pc with
  | e2 v g | e3 v g _ => exact (hL g).trans hJ
  | e5 v g => exact ⟨(hL g).trans hJ.1, by rw [hS]; exact Nat.le_trans hJ.2 (hW g)⟩
  | e6 v g g' =>
    obtain ⟨a, b, c, d⟩ := hJ
    exact ⟨(hL g).trans a, by rw [hS]; exact Nat.le_trans b (hW g), (hL g').trans c, Nat.lt_of_lt_of_le d hN⟩
  | e7 v g g' => exact (hL g').trans hJ
  | e9 v g nx => exact (hL nx).trans hJ
  | d9 seg nx => exact (hX seg).trans hJ
  | _ => trivial

theorem J2pc_upd {s : Sh} {pc : PC} (hJ : J2pc s pc) (g : Nat) (f : Seg → Seg)
    (hf : (f (s.segs g)).linked = (s.segs g).linked ∧ (f (s.segs g)).next = (s.segs g).next ∧
      (s.segs g).writeIdx ≤ (f (s.segs g)).writeIdx) : J2pc (s.upd g f) pc := by
  have h := upd_all (s := s) (R := fun x y => y.linked = x.linked ∧ y.next = x.next ∧ x.writeIdx ≤ y.writeIdx)
    (fun _ => ⟨rfl, rfl, Nat.le_refl _⟩) hf
  exact J2pc_mono hJ rfl (fun j => (h j).1) (fun j => (h j).2.2) (Nat.le_refl _) (fun j => (h j).2.1)

/-! the linking CAS: `t` linked, `g` unlinked, hence `t ≠ g` -/

theorem link_seg_t (s : Sh) {t g : Nat} (h : t ≠ g) : (s.link t g).segs t = { s.segs t with next := some g } := by
  unfold Sh.link Sh.upd; simp [h]

theorem link_seg_g (s : Sh) {t g : Nat} (h : t ≠ g) :
    (s.link t g).segs g = { s.segs g with linked := true, ord := (s.segs t).ord + 1 } := by
  unfold Sh.link Sh.upd; simp [Ne.symm h]

theorem link_seg_other (s : Sh) {t g j : Nat} (h1 : j ≠ t) (h2 : j ≠ g) : (s.link t g).segs j = s.segs j := by
  unfold Sh.link Sh.upd; simp [h1, h2]

theorem link_linked_mono (s : Sh) {t g : Nat} (h : t ≠ g) (j : Nat) (hl : (s.segs j).linked = true) :
    ((s.link t g).segs j).linked = true ∧ (g ≠ j → ((s.link t g).segs j).ord = (s.segs j).ord) := by
  by_cases e1 : j = g
  · subst e1; rw [link_seg_g s h]; exact ⟨rfl, fun e => absurd rfl e⟩
  · by_cases e2 : j = t
    · subst e2; rw [link_seg_t s h]; exact ⟨hl, fun _ => rfl⟩
    · rw [link_seg_other s e2 e1]; exact ⟨hl, fun _ => rfl⟩

theorem P2_link {s : Sh} (h : P2 s) (t g : Nat) (ht : (s.segs t).linked = true) (hfull : s.segSize ≤ (s.segs t).writeIdx)
    (hg : (s.segs g).linked = false) (hgn : g < s.nseg) (hnext : (s.segs t).next = none) : P2 (s.link t g) := by
  have htg : t ≠ g := ne_of_linked ht hg
  have hlast : t = s.last := h.eq_last ht hnext
  obtain ⟨ug1, ug2, ug3⟩ := h.unl g hg
  have old : ∀ j, (s.segs j).linked = true → j ≠ g := by intro j hj e; rw [e, hg] at hj; cases hj
  have keep : ∀ j, j ≠ t → j ≠ g → (s.link t g).segs j = s.segs j := fun j a b => link_seg_other s a b
  -- a segment linked afterwards, other than `g`, was linked before, at the same position, at most that of `t`
  have ordOf : ∀ z, ((s.link t g).segs z).linked = true → z ≠ g →
      (s.segs z).linked = true ∧ ((s.link t g).segs z).ord = (s.segs z).ord ∧ (s.segs z).ord ≤ (s.segs t).ord := by
    intro z hz hzg
    have hzl : (s.segs z).linked = true := by
      by_cases e2 : z = t
      · subst e2; exact ht
      · rw [keep z e2 hzg] at hz; exact hz
    refine ⟨hzl, (link_linked_mono s htg z hzl).2 (Ne.symm hzg), ?_⟩
    have := h.top z hzl; rw [← hlast] at this; exact this
  have hhead : ((s.link t g).segs s.head).ord = (s.segs s.head).ord :=
    (link_linked_mono s htg _ h.hd).2 (Ne.symm (old _ h.hd))
  refine ⟨?_, ?_, ?_, ?_, ?_, ?_, ?_, ?_, ?_, ?_⟩
  · show ((s.link t g).segs g).linked = true ∧ ((s.link t g).segs g).next = none
    rw [link_seg_g s htg]; exact ⟨rfl, ug2⟩
  · intro x hx hne
    change x ≠ g at hne
    by_cases e : x = t
    · subst e
      rw [link_seg_t s htg]
      refine ⟨hfull, g, rfl, ?_, ?_⟩ <;> rw [link_seg_g s htg]
    · rw [keep x e hne] at hx ⊢
      obtain ⟨a, nx, b, c, d⟩ := h.inner x hx (by rw [← hlast]; exact e)
      refine ⟨a, nx, b, (link_linked_mono s htg nx c).1, ?_⟩
      rw [(link_linked_mono s htg nx c).2 (Ne.symm (old nx c))]; exact d
  · intro x hx
    show ((s.link t g).segs x).ord ≤ ((s.link t g).segs g).ord
    rw [link_seg_g s htg]
    show _ ≤ (s.segs t).ord + 1
    by_cases e : x = g
    · subst e; rw [link_seg_g s htg]; exact Nat.le_refl _
    · obtain ⟨_, b, c⟩ := ordOf x hx e
      rw [b]; omega
  · intro x y hx hy hxy
    by_cases ex : x = g <;> by_cases ey : y = g
    · rw [ex, ey]
    · obtain ⟨_, b, c⟩ := ordOf y hy ey
      rw [ex, link_seg_g s htg, b] at hxy
      change (s.segs t).ord + 1 = (s.segs y).ord at hxy; omega
    · obtain ⟨_, b, c⟩ := ordOf x hx ex
      rw [ey, link_seg_g s htg, b] at hxy
      change (s.segs x).ord = (s.segs t).ord + 1 at hxy; omega
    · obtain ⟨a, b, _⟩ := ordOf x hx ex
      obtain ⟨a', b', _⟩ := ordOf y hy ey
      rw [b, b'] at hxy
      exact h.inj x y a a' hxy
  · intro x hx
    have hxg : x ≠ g := by intro e; rw [e, link_seg_g s htg] at hx; cases hx
    have hxt : x ≠ t := by intro e; rw [e, link_seg_t s htg] at hx; rw [ht] at hx; cases hx
    rw [keep x hxt hxg] at hx ⊢
    exact h.unl x hx
  · intro x hx
    show x < s.nseg
    by_cases e : x = g
    · rw [e]; exact hgn
    · exact h.alloc x (ordOf x hx e).1
  · exact (link_linked_mono s htg _ h.hd).1
  · exact (link_linked_mono s htg _ h.tl).1
  · intro x hx hlt
    change ((s.link t g).segs x).ord < ((s.link t g).segs s.head).ord at hlt
    rw [hhead] at hlt
    by_cases e : x = g
    · subst e
      rw [link_seg_g s htg] at hlt
      change (s.segs t).ord + 1 < (s.segs s.head).ord at hlt
      have := h.top _ h.hd; rw [← hlast] at this; omega
    · obtain ⟨a, b, _⟩ := ordOf x hx e
      rw [b] at hlt
      rw [(link_fields s t g x).2.1]
      exact h.before x a hlt
  · intro x hx hlt
    change ((s.link t g).segs s.head).ord < ((s.link t g).segs x).ord at hlt
    rw [hhead] at hlt
    rw [(link_fields s t g x).2.1]
    by_cases e : x = g
    · subst e; exact ug3
    · obtain ⟨a, b, _⟩ := ordOf x hx e
      rw [b] at hlt
      exact h.after x a hlt

theorem J2pc_link {s : Sh} {pc : PC} (t g : Nat) (htg : t ≠ g) (ht : (s.segs t).linked = true) (hnext : (s.segs t).next = none)
    (hK : claim pc ≠ some (.seg g)) (hJ : J2pc s pc) : J2pc (s.link t g) pc := by
  have lm : ∀ j, (s.segs j).linked = true → ((s.link t g).segs j).linked = true :=
    fun j hj => (link_linked_mono s htg j hj).1
  cases pc with
  | e2 v x | e3 v x _ => exact lm x hJ
  | e5 v x => exact ⟨lm x hJ.1, by rw [(link_fields s t g x).1]; exact hJ.2⟩
  | e6 v x x' =>
    obtain ⟨a, b, c, d⟩ := hJ
    have hne : x' ≠ g := fun e => hK (by rw [e]; rfl)
    have hnt : x' ≠ t := by
      intro e; rw [e, ht] at c; cases c
    exact ⟨lm x a, by rw [(link_fields s t g x).1]; exact b, by rw [link_seg_other s hnt hne]; exact c, d⟩
  | e7 v x x' => exact lm x' hJ
  | e9 v x n => exact lm n hJ
  | d9 seg n =>
    replace hJ : (s.segs seg).next = some n := hJ
    show ((s.link t g).segs seg).next = some n
    have hjt : seg ≠ t := by intro e; rw [e, hnext] at hJ; cases hJ
    by_cases e : seg = g
    · subst e; rw [link_seg_g s htg]; exact hJ
    · rw [link_seg_other s hjt e]; exact hJ
  | _ => trivial

def bump (x : Seg) : Seg := { x with writeIdx := x.writeIdx + 1 }

def putData (idx : Nat) (o : Option Nat) (x : Seg) : Seg := setData x idx o

def setDeq (d : Nat) (x : Seg) : Seg := { x with deqIdx := d }

theorem bump_writeIdx (x : Seg) : (bump x).writeIdx = x.writeIdx + 1 := rfl

theorem setDeq_deqIdx (d : Nat) (x : Seg) : (setDeq d x).deqIdx = d := rfl

theorem putData_same (idx : Nat) (o : Option Nat) (x : Seg) : (putData idx o x).data idx = o := if_pos rfl

theorem putData_other {idx k : Nat} (o : Option Nat) (x : Seg) (h : k ≠ idx) : (putData idx o x).data k = x.data k :=
  if_neg h

theorem putData_none {idx k : Nat} {x : Seg} (h : x.data k = none) : (putData idx none x).data k = none := by
  by_cases e : k = idx
  · rw [e]; exact putData_same idx none x
  · exact (putData_other none x e).trans h

def Q (s : Sh) (pc : PC) : Prop := Jpc s pc ∧ J2pc s pc

/-- `ct` is the consumer thread; it has no busy section -/
abbrev J (ct i : Nat) (s : Sh) (t : Th) : Prop := JC isDeqPC (fun _ => false) Q (fun _ => True) ct i s t

/-! the two outcomes of the sites that the later layers look at again -/

theorem exec_e2_room {s : Sh} (v g : Nat) (h : (s.segs g).writeIdx < s.segSize) :
    exec s (.e2 v g) = (s.upd g bump, .goto (.e3 v g (s.segs g).writeIdx)) := if_pos h

theorem exec_e2_full {s : Sh} (v g : Nat) (h : ¬ (s.segs g).writeIdx < s.segSize) :
    exec s (.e2 v g) = (s.upd g bump, .goto (.e5 v g)) := if_neg h

theorem exec_e6_link {s : Sh} (v g g' : Nat) (h : (s.segs g).next = none) :
    exec s (.e6 v g g') = (s.link g g', .goto (.e7 v g g')) := if_pos h

theorem exec_e6_fail {s : Sh} (v g g' : Nat) (h : ¬ (s.segs g).next = none) :
    exec s (.e6 v g g') = (s, .goto (.e1 v)) := if_neg h

theorem exec_d4_none {s : Sh} (seg deq : Nat) (h : (s.segs seg).data deq = none) :
    exec s (.d4 seg deq) = (s, .ret .none) := by simp only [exec, h]

theorem exec_d4_some {s : Sh} (seg deq : Nat) {v : Nat} (h : (s.segs seg).data deq = some v) :
    exec s (.d4 seg deq) = (s, .goto (.d5 seg deq v)) := by simp only [exec, h]

theorem init_seg (n g : Nat) : ((Segmented.init n).segs g).writeIdx = 0 ∧ ((Segmented.init n).segs g).deqIdx = 0 ∧
    ((Segmented.init n).segs g).next = none ∧ (∀ i, ((Segmented.init n).segs g).data i = none) ∧
    ((Segmented.init n).segs g).linked = decide (g = 0) ∧ ((Segmented.init n).segs g).ord = 0 := by
  unfold Segmented.init
  simp only
  split
  · next e => subst e; simp [Seg.zero]
  · next e => simp [Seg.zero, e]

end GoaktVerif.C04.SegInv
