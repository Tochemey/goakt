/-
C04 — UnboundedMailbox: the simulation invariant, its generic preservation lemma, the linearization
points, and the bookkeeping of a thread that moves to another site or finishes an operation.
-/
import GoaktVerif.Lemmas.C04.UBChain
import GoaktVerif.Lemmas.C04.CoreLemmas

namespace GoaktVerif.C04.UB
open GoaktVerif.Model.C04 GoaktVerif.Model.C04.Unbounded GoaktVerif.Spec.C04

abbrev Th := Thread PC
abbrev Cf := Cfg Unbounded.algo

/-- ids whose reservation (`Swap:tail`) by this thread is still to come -/
def pcFresh : Option PC → List Nat
  | some (.enq1 v) => [v]
  | some (.enq2 v) => [v]
  | _ => []

def fresh (t : Th) : List Nat := pcFresh t.pc ++ enqIds t.prog

/-- … plus the id it has reserved and not yet published -/
def pcOwned : Option PC → List Nat
  | some (.enq1 v) => [v]
  | some (.enq2 v) => [v]
  | some (.enq3 v _) => [v]
  | _ => []

def owned (t : Th) : List Nat := pcOwned t.pc ++ enqIds t.prog

def isDeqPC : PC → Bool
  | .deq1 => true | .deq2 _ => true | .deq3 _ _ => true | .deq4 _ _ => true
  | _ => false

/-- `NoDeq isDeqPC t` (CoreLemmas), written out -/
def noDeq (t : Th) : Prop := (∀ pc, t.pc = some pc → isDeqPC pc = false) ∧ Op.deq ∉ t.prog

/-- the link `a → b` a producer parked at its publishing store is about to write -/
def PendOf (ts : List Th) (a b : Nat) : Prop := ∃ (i : Nat) (t : Th), ts[i]? = some t ∧ t.pc = some (PC.enq3 b a)

/-- what each thread's program counter and locals promise, relative to the abstract queue `cells` -/
structure ThreadOK (ct : Nat) (s : Sh) (cells : List Cell) (i : Nat) (t : Th) : Prop where
  ownedNodup : (owned t).Nodup
  freshOut : ∀ v ∈ fresh t, v ∉ s.head :: vals cells
  enq2 : ∀ v, t.pc = some (.enq2 v) → s.next v = none
  enq3 : ∀ v p, t.pc = some (.enq3 v p) → PendLink s.head cells p v
  deq2 : ∀ h, t.pc = some (.deq2 h) → h = s.head
  deq3 : ∀ h n, t.pc = some (.deq3 h n) → h = s.head ∧ s.next h = some n
  deq4 : ∀ h n, t.pc = some (.deq4 h n) → n = s.head ∧ h ∉ s.head :: vals cells
  cons : i ≠ ct → noDeq t

/-- the simulation relation between a configuration and a reservation queue; `ct` is the consumer thread -/
structure Inv (ct : Nat) (c : Cf) (cells : List Cell) : Prop where
  chain : Chain c.sh (PendOf c.threads) c.sh.head cells
  nodup : (c.sh.head :: vals cells).Nodup
  thr : ∀ (i : Nat) (t : Th), c.threads[i]? = some t → ThreadOK ct c.sh cells i t
  disj : ∀ (i j : Nat) (ti tj : Th), i ≠ j → c.threads[i]? = some ti → c.threads[j]? = some tj → ∀ v ∈ owned ti, v ∉ owned tj
  retired : ∀ (i j : Nat) (ti tj : Th) (h n : Nat), c.threads[i]? = some ti → ti.pc = some (PC.deq4 h n) →
    c.threads[j]? = some tj → h ∉ owned tj

/-- Generic preservation: thread `tid` moves from `t` to `t'`, the shared state to `s'`, the abstract
queue to `cells'`.  It suffices to re-establish the chain, the per-thread promise of `tid`, and the
frame of the other threads' promises; ownership may only shrink. -/
theorem Inv.update {ct tid : Nat} {c : Cf} {cells cells' : List Cell} {t t' : Th} {s' : Sh} {clk : Nat}
    (hI : Inv ct c cells) (ht : c.threads[tid]? = some t)
    (hchain : Chain s' (PendOf (c.threads.set tid t')) s'.head cells')
    (hnodup : (s'.head :: vals cells').Nodup)
    (hself : ThreadOK ct s' cells' tid t')
    (hothers : ∀ (i : Nat) (ti : Th), i ≠ tid → c.threads[i]? = some ti → ThreadOK ct s' cells' i ti)
    (hsub : ∀ v ∈ owned t', v ∈ owned t)
    (hret : ∀ h n, t'.pc = some (.deq4 h n) → (h ∉ owned t' ∧ ∀ (j : Nat) (tj : Th), j ≠ tid → c.threads[j]? = some tj → h ∉ owned tj)) :
    Inv ct ({ sh := s', threads := c.threads.set tid t', clock := clk } : Cf) cells' where
  chain := hchain
  nodup := hnodup
  thr := Pool.forall_set hself hothers
  disj := Pool.ne_set (K := fun _ ti _ tj => ∀ v ∈ owned ti, v ∉ owned tj) hI.disj fun j tj e hj =>
    ⟨fun v hv => hI.disj _ j t tj (Ne.symm e) ht hj v (hsub v hv), fun v hv hv' => hI.disj j _ tj t e hj ht v hv (hsub v hv')⟩
  retired := fun i j ti tj h n hi hpc hj =>
    Pool.pair_set (K := fun _ ti _ tj => ∀ h n, ti.pc = some (PC.deq4 h n) → h ∉ owned tj)
      (fun h n e => (hret h n e).1) (fun i j ti tj hi hj h n e => hI.retired i j ti tj h n hi e hj)
      (fun j tj e hj => ⟨fun h n e' => (hret h n e').2 j tj e hj, fun h n e' hv => hI.retired j _ tj t h n hj e' ht (hsub h hv)⟩)
      i j ti tj hi hj h n hpc

/-- linearization points: `Swap:tail` = reserve, the publishing `Store:next` = publish,
`Store:head` = successful dequeue, the `Load:next` that reads nil = dequeue answering nothing -/
def evOf (s : Sh) : PC → Option Ev
  | .enq2 v => some (.reserve v)
  | .enq3 v _ => some (.publish v)
  | .deq2 h => if s.next h = none then some (.deq none) else none
  | .deq3 _ n => some (.deq (some n))
  | _ => none

def stepEv (c : Cf) (tid : Nat) : Option Ev :=
  match c.threads[tid]? with
  | some t => t.pc.bind (evOf c.sh)
  | none => none

def specStep (q : RQ) : Option Ev → Option RQ
  | none => some q
  | some e => q.step e

theorem stepEv_eq {c : Cf} {tid : Nat} {t : Th} {pc : PC} (ht : c.threads[tid]? = some t) (hpc : t.pc = some pc) :
    stepEv c tid = evOf c.sh pc := by
  unfold stepEv; simp only [ht, hpc, Option.bind_some]

theorem stepEv_idle {c : Cf} {tid : Nat} (h : ∀ t pc, c.threads[tid]? = some t → t.pc ≠ some pc) : stepEv c tid = none := by
  unfold stepEv
  cases ht : c.threads[tid]? with
  | none => rfl
  | some t =>
    show t.pc.bind _ = none
    cases hpc : t.pc with
    | none => rfl
    | some pc => exact absurd hpc (h t pc ht)

theorem pcFresh_sub (v : Nat) : ∀ pc : Option PC, v ∈ pcFresh pc → v ∈ pcOwned pc := by
  intro pc
  cases pc with
  | none => exact id
  | some pc => cases pc <;> first | exact id | exact nofun

theorem fresh_sub_owned (t : Th) : ∀ v ∈ fresh t, v ∈ owned t := by
  intro v hv
  rcases List.mem_append.mp hv with h | h
  · exact List.mem_append_left _ (pcFresh_sub v t.pc h)
  · exact List.mem_append_right _ h

theorem pcOwned_start (op : Op) : pcOwned (some (start op)) = enqIds [op] := by cases op <;> rfl

theorem pcFresh_start (op : Op) : pcFresh (some (start op)) = enqIds [op] := by cases op <;> rfl

theorem isDeqPC_start : ∀ op, isDeqPC (start op) = true → op = .deq
  | .deq, _ => rfl
  | .enq _ _, h | .emp, h | .len, h => nomatch h

/-- what a thread parked at `pc` promises about the shared state and the abstract queue: the five
site-specific fields of `ThreadOK` as one function of the program counter -/
def OKpc (s : Sh) (cells : List Cell) : PC → Prop
  | .enq2 v => s.next v = none
  | .enq3 v p => PendLink s.head cells p v
  | .deq2 h => h = s.head
  | .deq3 h n => h = s.head ∧ s.next h = some n
  | .deq4 h n => n = s.head ∧ h ∉ s.head :: vals cells
  | _ => True

theorem OKpc_start (s : Sh) (cells : List Cell) (op : Op) : OKpc s cells (start op) := by
  cases op <;> trivial

theorem ThreadOK.of_at {ct : Nat} {s : Sh} {cells : List Cell} {i : Nat} {t : Th} (hnd : (owned t).Nodup)
    (hout : ∀ v ∈ fresh t, v ∉ s.head :: vals cells) (hat : ∀ pc, t.pc = some pc → OKpc s cells pc)
    (hc : i ≠ ct → noDeq t) : ThreadOK ct s cells i t :=
  ⟨hnd, hout, fun _ h => hat _ h, fun _ _ h => hat _ h, fun _ h => hat _ h, fun _ _ h => hat _ h, fun _ _ h => hat _ h, hc⟩

theorem ThreadOK.finish {ct : Nat} {s s' : Sh} {cells cells' : List Cell} {i : Nat} {t : Th}
    (ok : ThreadOK ct s cells i t) (r : Res) (now : Nat) (hout : ∀ v ∈ enqIds t.prog, v ∉ s'.head :: vals cells') :
    ThreadOK ct s' cells' i (t.finish algo r now) :=
  .of_at (by rw [owned, hand_finish rfl pcOwned_start]; exact (List.nodup_append.mp ok.ownedNodup).2.1)
    (by rw [fresh, hand_finish rfl pcFresh_start]; exact hout)
    ((parked_finish algo t r now).all (OKpc_start s' cells')) fun hi => (parked_finish algo t r now).noDeq isDeqPC_start (ok.cons hi).2

theorem ThreadOK.goto {ct : Nat} {s s' : Sh} {cells cells' : List Cell} {i : Nat} {t : Th} {pc : PC}
    (ok : ThreadOK ct s cells i t) (hpc : t.pc = some pc) (pc' : PC) (hown : pcOwned (some pc') = pcOwned (some pc))
    (hd : isDeqPC pc' = isDeqPC pc) (hout : ∀ v ∈ pcFresh (some pc') ++ enqIds t.prog, v ∉ s'.head :: vals cells')
    (hat : OKpc s' cells' pc') : ThreadOK ct s' cells' i { t with pc := some pc' } :=
  .of_at (by have h := ok.ownedNodup; rw [owned, hpc, ← hown] at h; exact h) hout
    (fun _ e => by cases e; exact hat) fun hi => NoDeq.goto (ok.cons hi) (hd.trans ((ok.cons hi).1 pc hpc))

theorem owned_goto {t : Th} {pc : PC} (hpc : t.pc = some pc) (pc' : PC) (hown : pcOwned (some pc') = pcOwned (some pc)) :
    owned ({ t with pc := some pc' } : Th) = owned t := by
  show pcOwned (some pc') ++ enqIds t.prog = owned t; rw [hown, owned, hpc]

theorem pendOf_set_keep {ts : List Th} {tid : Nat} {t t' : Th} {x y : Nat} (ht : ts[tid]? = some t)
    (hne : t.pc ≠ some (PC.enq3 y x)) (h : PendOf ts x y) : PendOf (ts.set tid t') x y := by
  obtain ⟨i, ti, hi, hpc⟩ := h
  by_cases e : i = tid
  · subst e
    rw [ht] at hi; cases hi
    exact absurd hpc hne
  · exact ⟨i, ti, by rw [List.getElem?_set_ne (Ne.symm e)]; exact hi, hpc⟩

theorem pendOf_set_new {ts : List Th} {tid : Nat} {t t' : Th} {x y : Nat} (ht : ts[tid]? = some t)
    (hpc : t'.pc = some (PC.enq3 y x)) : PendOf (ts.set tid t') x y :=
  ⟨tid, t', List.getElem?_set_self (List.getElem?_eq_some_iff.mp ht).1, hpc⟩

end GoaktVerif.C04.UB
