/-
C04 — UnboundedFairMailbox: the counting identity, for all schedules on which no message is consumed
before it is counted.

`length = Σ_k pending_k + #{threads between Add:length(+1) and Add:pending(+1)} − #{threads between
Add:length(−1) and Add:pending(−1)}` holds as long as finalizeSender's `remaining < 0` branch is not
taken (`noNeg`: the consumer's `Add:pending(−1)` finds `pending ≥ 1`).  On those runs `pending ≥ 0`
for every sender, so at the nil-branch re-check `pending_k > 0` implies `length > 0`: the `guardMiss`
step of FairInv is impossible and the activation invariant holds without exception.
FairSub shows that every run satisfies the hypothesis.
-/
import GoaktVerif.Lemmas.C04.FairInv
import GoaktVerif.Lemmas.ListFacts

namespace GoaktVerif.C04.FairInv
open GoaktVerif.Model.C04 GoaktVerif.Model.C04.Fair

abbrev Th := Thread PC

def sumP : Nat → Sh → Int
  | 0, _ => 0
  | K + 1, s => sumP K s + (s.boxes K).pending

theorem sumP_upd (K : Nat) (s s' : Sh) (k : Nat) (d : Int)
    (h : ∀ j, (s'.boxes j).pending = (s.boxes j).pending + if j = k then d else 0) :
    sumP K s' = sumP K s + if k < K then d else 0 := by
  induction K with
  | zero => rfl
  | succ K ih =>
    show sumP K s' + _ = sumP K s + _ + _
    rw [ih, h K]
    rcases Nat.lt_trichotomy k K with h1 | h1 | h1
    · rw [if_pos h1, if_neg (Nat.ne_of_gt h1), if_pos (Nat.lt_succ_of_lt h1), Int.add_zero, Int.add_right_comm]
    · subst h1
      rw [if_neg (Nat.lt_irrefl k), if_pos rfl, if_pos (Nat.lt_succ_self k), Int.add_zero, Int.add_assoc]
    · rw [if_neg (Nat.lt_asymm h1), if_neg (Nat.ne_of_lt h1), if_neg (Nat.not_lt.mpr h1), Int.add_zero, Int.add_zero,
        Int.add_zero]

theorem sumP_nonneg (K : Nat) (s : Sh) (h : ∀ j, 0 ≤ (s.boxes j).pending) : 0 ≤ sumP K s := by
  induction K with
  | zero => exact Int.le_refl 0
  | succ K ih => exact Int.add_nonneg ih (h K)

theorem sumP_ge (K : Nat) (s : Sh) (k : Nat) (hk : k < K) (h : ∀ j, 0 ≤ (s.boxes j).pending) :
    (s.boxes k).pending ≤ sumP K s := by
  induction K with
  | zero => exact absurd hk (Nat.not_lt_zero _)
  | succ K ih =>
    rcases Nat.lt_succ_iff_lt_or_eq.mp hk with h1 | h1
    · exact Int.le_trans (ih h1) (Int.le_add_of_nonneg_right (h K))
    · exact h1 ▸ Int.le_add_of_nonneg_left (sumP_nonneg k s h)

def Supp (s : Sh) (K : Nat) : Prop := ∀ k, K ≤ k → (s.boxes k).pending = 0

theorem sumP_extend (s : Sh) (K K' : Nat) (h : Supp s K) (hle : K ≤ K') : sumP K' s = sumP K s := by
  induction hle with
  | refl => rfl
  | step hle ih =>
    show sumP _ s + _ = _
    rw [ih, h _ hle, Int.add_zero]

/-- the steps excluded by the hypothesis: finalizeSender's `remaining < 0` branch, and the decrement that
leads to it (a message consumed before it was counted) -/
def noNeg (s : Sh) : PC → Bool
  | .j2 k _ => decide (1 ≤ (s.boxes k).pending)
  | .j3 _ _ => false
  | _ => true

/-- the sender key whose `pending` the step writes -/
def keyOf : PC → Nat
  | .f5 k _ => k
  | .j2 k _ => k
  | _ => 0

/-- on the steps the hypothesis allows `pending` is written by `Add:pending(±1)` only, which settles what the
thread owed -/
theorem boxEff_pending (s : Sh) (pc : PC) (b : Box) (hn : noNeg s pc = true) :
    (boxEff pc b).pending = b.pending + contribPC pc := by
  cases pc with
  | j3 k n => cases hn
  | f5 k v => rfl
  | j2 k n => rfl
  | _ => exact (Int.add_zero _).symm

theorem exec_pending (s : Sh) (pc : PC) (k : Nat) (hn : noNeg s pc = true) :
    ((exec s pc).1.boxes k).pending = (s.boxes k).pending + if k = senderOf pc then contribPC pc else 0 := by
  rw [exec_box]
  split
  · exact boxEff_pending s pc _ hn
  · exact (Int.add_zero _).symm

theorem keyOf_eq (pc : PC) : contribPC pc = 0 ∨ keyOf pc = senderOf pc := by
  cases pc with
  | f5 k v => exact .inr rfl
  | j2 k n => exact .inr rfl
  | _ => exact .inl rfl

theorem balance (K : Nat) (s : Sh) (pc : PC) (hk : keyOf pc < K) (hn : noNeg s pc = true) :
    (exec s pc).1.length - sumP K (exec s pc).1 - nextContrib (exec s pc).2 =
      s.length - sumP K s - contribPC pc := by
  have : (if senderOf pc < K then contribPC pc else 0) = contribPC pc := by
    rcases keyOf_eq pc with h0 | e
    · rw [h0]; exact ite_self 0
    · rw [← e, if_pos hk]
  rw [(exec_frame s pc).length, sumP_upd K s _ (senderOf pc) (contribPC pc) fun j => exec_pending s pc j hn, this]
  omega

theorem noNeg_nonneg (s : Sh) (pc : PC) (hn : noNeg s pc = true) (h : 0 ≤ (s.boxes (senderOf pc)).pending) :
    0 ≤ (s.boxes (senderOf pc)).pending + contribPC pc := by
  cases pc with
  | j2 k n =>
    have : 1 ≤ (s.boxes k).pending := of_decide_eq_true hn
    show 0 ≤ (s.boxes k).pending + -1
    omega
  | j3 k n => cases hn
  | f5 k v => exact Int.add_nonneg h (Int.zero_le_ofNat 1)
  | _ => exact Int.add_nonneg h (Int.le_refl 0)

theorem nonneg_step (s : Sh) (pc : PC) (hn : noNeg s pc = true) (h : ∀ k, 0 ≤ (s.boxes k).pending) :
    ∀ k, 0 ≤ ((exec s pc).1.boxes k).pending := by
  intro k
  rw [exec_pending s pc k hn]
  split
  · next e => subst e; exact noNeg_nonneg s pc hn (h _)
  · rw [Int.add_zero]; exact h k

theorem supp_step (s : Sh) (pc : PC) (K : Nat) (hk : senderOf pc < K) (hn : noNeg s pc = true) (h : Supp s K) :
    Supp (exec s pc).1 K := by
  intro k hle
  rw [exec_pending s pc k hn, if_neg (by omega), Int.add_zero]
  exact h k hle

def contrib (t : Th) : Int :=
  match t.pc with
  | some pc => contribPC pc
  | none => 0

def cnt : List Th → Int
  | [] => 0
  | t :: ts => contrib t + cnt ts

theorem cnt_eq_sum (ts : List Th) : cnt ts = (ts.map contrib).sum := by
  induction ts with
  | nil => rfl
  | cons a as ih => rw [List.map_cons, List.sum_cons, ← ih]; rfl

theorem cnt_set (ts : List Th) (i : Nat) (t t' : Th) (h : ts[i]? = some t) :
    cnt (ts.set i t') = cnt ts - contrib t + contrib t' := by
  rw [cnt_eq_sum, cnt_eq_sum]; exact sum_map_set_int contrib ts i t' t h

theorem cnt_nonneg (ts : List Th) (h : ∀ (i : Nat) (t : Th), ts[i]? = some t → 0 ≤ contrib t) : 0 ≤ cnt ts := by
  induction ts with
  | nil => exact Int.le_refl 0
  | cons a as ih => exact Int.add_nonneg (h 0 a rfl) (ih fun i t hi => h (i + 1) t hi)

theorem contrib_parked {p : List Op} {t : Th} (h : Parked Fair.algo p t) : contrib t = 0 :=
  h.const (f := fun o => match o with | some pc => contribPC pc | none => 0) rfl fun op => by cases op <;> rfl

theorem contrib_advance (t : Th) (now : Nat) (nx : Next PC) :
    contrib (t.advance Fair.algo now nx) = nextContrib nx := by
  cases nx with
  | goto pc => rfl
  | ret r => exact contrib_parked (parked_finish Fair.algo t r now)

def prodOp : Op → Bool
  | .enq _ _ => true
  | .len => true
  | _ => false

theorem consPC_start : ∀ op, consPC (start op) = true → op = .deq
  | .deq, _ => rfl
  | .enq _ _, h | .emp, h | .len, h => nomatch h

theorem contribPC_prod (pc : PC) (h : consPC pc = false) : 0 ≤ contribPC pc := by
  cases pc with
  | j2 k n => cases h
  | f5 k v => exact Int.zero_le_ofNat 1
  | _ => exact Int.le_refl 0

/-- usage: only thread `ct` calls Dequeue / IsEmpty -/
def FairWF (ct : Nat) (progs : List (List Op)) : Prop :=
  ∀ (i : Nat) (p : List Op), progs[i]? = some p → i ≠ ct → ∀ op ∈ p, prodOp op = true

theorem FairWF.noDeq {ct : Nat} {progs : List (List Op)} (wf : FairWF ct progs) (i : Nat) (p : List Op)
    (hp : progs[i]? = some p) (hi : i ≠ ct) : Op.deq ∉ p := fun h => nomatch wf i p hp hi _ h

theorem noDeq_advance (s : Sh) (t : Th) (pc : PC) (now : Nat) (h : NoDeq consPC t) (hpc : t.pc = some pc) :
    NoDeq consPC (t.advance Fair.algo now (exec s pc).2) := by
  have hs := (exec_frame s pc).deq
  cases hx : (exec s pc).2 with
  | goto pc' =>
    rw [hx] at hs
    exact h.goto (hs.trans (h.1 pc hpc))
  | ret r => exact (parked_finish Fair.algo t r now).noDeq consPC_start h.2

/-- reachable without consuming a message before it is counted -/
inductive ReachNU (c0 : Cfg Fair.algo) : Cfg Fair.algo → Prop where
  | init : ReachNU c0 c0
  | step {c : Cfg Fair.algo} (tid : Nat) : ReachNU c0 c →
      (∀ (t : Th) (pc : PC), c.threads[tid]? = some t → t.pc = some pc → noNeg c.sh pc = true) →
      ReachNU c0 (stepCfg c tid)

structure CountInv (ct : Nat) (c : Cfg Fair.algo) : Prop where
  ident : ∃ K, Supp c.sh K ∧ c.sh.length = sumP K c.sh + cnt c.threads
  nonneg : ∀ k, 0 ≤ (c.sh.boxes k).pending
  deq : ∀ (i : Nat) (t : Th), c.threads[i]? = some t → i ≠ ct → NoDeq consPC t

theorem cnt_spawn_zero : ∀ (progs : List (List Op)) (n : Nat), cnt (spawn Fair.algo progs n).1 = 0
  | [], _ => rfl
  | p :: ps, n => by
    simp only [spawn, cnt, cnt_spawn_zero ps, contrib_parked (parked_mk Fair.algo p _)]
    rfl

theorem countInv_init (ct : Nat) (progs : List (List Op)) (hc : ∀ (i : Nat) (p : List Op), progs[i]? = some p → i ≠ ct → Op.deq ∉ p) :
    CountInv ct (initCfg Fair.algo Fair.init progs) := by
  refine ⟨⟨0, fun k _ => rfl, ?_⟩, fun k => Int.le_refl 0, ?_⟩
  · show (0 : Int) = sumP 0 _ + cnt (spawn Fair.algo progs 0).1
    rw [cnt_spawn_zero]; rfl
  · intro i t hi
    obtain ⟨p, n, hp, e⟩ := spawn_get' Fair.algo progs 0 i t hi
    subst e
    exact fun hne => (parked_mk Fair.algo p n).noDeq consPC_start (hc i p hp hne)

theorem countInv_step (ct : Nat) (c : Cfg Fair.algo) (tid : Nat) (h : CountInv ct c)
    (hn : ∀ (t : Th) (pc : PC), c.threads[tid]? = some t → t.pc = some pc → noNeg c.sh pc = true) :
    CountInv ct (stepCfg c tid) := by
  refine step_ind h fun t pc ht hpc => ?_
  have hnn := hn t pc ht hpc
  obtain ⟨K, hsupp, hid⟩ := h.ident
  -- the bound is enlarged to cover the key written by this step
  rw [← sumP_extend c.sh K _ hsupp (Nat.le_add_right K (senderOf pc + keyOf pc + 1))] at hid
  have hb := balance (K + (senderOf pc + keyOf pc + 1)) c.sh pc (by omega) hnn
  have hc := cnt_set c.threads tid t (t.advance Fair.algo c.clock (exec c.sh pc).2) ht
  rw [contrib_advance, show contrib t = contribPC pc by unfold contrib; rw [hpc]] at hc
  refine ⟨⟨K + (senderOf pc + keyOf pc + 1), supp_step c.sh pc _ (by omega) hnn fun k hk => hsupp k (by omega), ?_⟩,
    nonneg_step c.sh pc hnn h.nonneg,
    Pool.forall_set (fun e => noDeq_advance c.sh t pc c.clock (h.deq _ t ht e) hpc) fun i ti _ hi => h.deq i ti hi⟩
  show (exec c.sh pc).1.length = sumP _ (exec c.sh pc).1 + cnt (c.threads.set tid _)
  rw [hc]; omega

theorem countInv_reach (ct : Nat) (progs : List (List Op)) (hc : ∀ (i : Nat) (p : List Op), progs[i]? = some p → i ≠ ct → Op.deq ∉ p) (c : Cfg Fair.algo)
    (h : ReachNU (initCfg Fair.algo Fair.init progs) c) : CountInv ct c := by
  induction h with
  | init => exact countInv_init ct progs hc
  | step tid _ hn ih => exact countInv_step ct _ tid ih hn

/-- with the counting identity, the re-check cannot miss: `pending_k > 0` implies `length > 0` there -/
theorem no_guardMiss (ct : Nat) (c : Cfg Fair.algo) (h : CountInv ct c) {tid : Nat} {t : Th} {pc : PC}
    (ht : c.threads[tid]? = some t) (hpc : t.pc = some pc) : guardMiss c.sh pc = false := by
  cases pc with
  | i3 k =>
    show (decide ((c.sh.boxes k).pending > 0) && ((c.sh.boxes k).active == false) && !decide (c.sh.length > 0)) = false
    by_cases hp : (c.sh.boxes k).pending > 0
    · -- every thread contributes ≥ 0: producers by their sites, the consumer because it stands at `i3`
      have hcn : 0 ≤ cnt c.threads := by
        refine cnt_nonneg _ fun i ti hi => ?_
        unfold contrib
        by_cases e : i = ct
        · -- the consumer index: a `tid ≠ ct` would be a producer at `i3`
          have : tid = ct := NoDeq.is_consumer (h.deq tid t ht) hpc rfl
          rw [e, ← this, ht] at hi
          cases hi; rw [hpc]; exact Int.le_refl 0
        · cases hq : ti.pc with
          | none => exact Int.le_refl 0
          | some q => exact contribPC_prod q ((h.deq i ti hi e).1 q hq)
      obtain ⟨K, hsupp, hid⟩ := h.ident
      have hkK : k < K := Nat.lt_of_not_le fun h' => by have := hsupp k h'; omega
      have := sumP_ge K c.sh k hkK h.nonneg
      rw [decide_eq_true (show c.sh.length > 0 by omega)]
      exact Bool.and_false _
    · rw [decide_eq_false hp]; rfl
  | _ => rfl

theorem reachNU_reachNM (ct : Nat) (progs : List (List Op)) (hc : ∀ (i : Nat) (p : List Op), progs[i]? = some p → i ≠ ct → Op.deq ∉ p) (c : Cfg Fair.algo)
    (h : ReachNU (initCfg Fair.algo Fair.init progs) c) : ReachNM (initCfg Fair.algo Fair.init progs) c := by
  induction h with
  | init => exact ReachNM.init
  | @step c tid hr _ ih =>
    exact ReachNM.step tid ih (fun _ _ => no_guardMiss ct c (countInv_reach ct progs hc c hr))

def stepOK (c : Cfg Fair.algo) (tid : Nat) : Bool :=
  match c.threads[tid]? with
  | some t =>
    match t.pc with
    | some pc => noNeg c.sh pc
    | none => true
  | none => true

def runNU (c : Cfg Fair.algo) : List Nat → Bool
  | [] => true
  | t :: ts => stepOK c t && runNU (stepCfg c t) ts

theorem reachNU_run (c0 c : Cfg Fair.algo) (h : ReachNU c0 c) (s : List Nat) (hs : runNU c s = true) :
    ReachNU c0 (runSched c s) := by
  induction s generalizing c with
  | nil => exact h
  | cons t ts ih =>
    simp only [runNU, Bool.and_eq_true] at hs
    refine ih (stepCfg c t) (ReachNU.step t h ?_) hs.2
    intro th pc hth hpc
    have := hs.1
    simp only [stepOK, hth, hpc] at this
    exact this

theorem runNU_of_reach {c0 : Cfg Fair.algo}
    (h : ∀ c, Reach Fair.algo c0 c → ∀ (tid : Nat) (t : Th) (pc : PC), c.threads[tid]? = some t → t.pc = some pc →
      noNeg c.sh pc = true) :
    ∀ (s : List Nat) (c : Cfg Fair.algo), Reach Fair.algo c0 c → runNU c s = true
  | [], _, _ => rfl
  | tid :: ts, c, hr => by
    refine Bool.and_eq_true_iff.mpr ⟨?_, runNU_of_reach h ts _ (Reach.step tid hr)⟩
    unfold stepOK
    cases ht : c.threads[tid]? with
    | none => rfl
    | some t =>
      cases hpc : t.pc with
      | none => simp only [hpc]
      | some pc => simp only [hpc]; exact h c hr tid t pc ht hpc

end GoaktVerif.C04.FairInv
