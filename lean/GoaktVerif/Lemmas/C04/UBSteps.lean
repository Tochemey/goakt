/-
C04 — UnboundedMailbox: preservation of the simulation invariant, one lemma per kind of step.
-/
import GoaktVerif.Lemmas.C04.UBInv

namespace GoaktVerif.C04.UB
open GoaktVerif.Model.C04 GoaktVerif.Model.C04.Unbounded GoaktVerif.Spec.C04

theorem start_ne_deq4 (op : Op) (h n : Nat) : start op ≠ .deq4 h n := by cases op <;> nofun

theorem finish_ne_deq4 (t : Th) (r : Res) (now : Nat) (h n : Nat) : (t.finish algo r now).pc ≠ some (.deq4 h n) :=
  fun e => (parked_finish algo t r now).all (R := fun pc => pc ≠ .deq4 h n) (fun op => start_ne_deq4 op h n) _ e rfl

theorem inv_local {ct tid : Nat} {c : Cf} {cells : List Cell} {t : Th} {pc : PC} {clk : Nat} {nx : Next PC}
    (hI : Inv ct c cells) (ht : c.threads[tid]? = some t) (hpc : t.pc = some pc) (hown : pcOwned (some pc) = [])
    (hgo : ∀ pc', nx = .goto pc' →
      pcOwned (some pc') = [] ∧ isDeqPC pc' = isDeqPC pc ∧ OKpc c.sh cells pc' ∧ ∀ h n, pc' ≠ .deq4 h n) :
    Inv ct ({ sh := c.sh, threads := c.threads.set tid (t.advance algo c.clock nx), clock := clk } : Cf) cells := by
  have ok := hI.thr tid t ht
  have hout : ∀ v ∈ enqIds t.prog, v ∉ c.sh.head :: vals cells := fun v hv => ok.freshOut v (List.mem_append_right _ hv)
  have hch : Chain c.sh (PendOf (c.threads.set tid (t.advance algo c.clock nx))) c.sh.head cells := by
    refine Chain.frame cells c.sh.head (fun _ _ => rfl) rfl (fun x y _ h => pendOf_set_keep ht ?_ h) hI.chain
    intro e; rw [hpc] at e; cases e; cases hown
  cases nx with
  | goto pc' =>
    obtain ⟨h1, h2, h3, h4⟩ := hgo _ rfl
    refine Inv.update hI ht hch hI.nodup (ok.goto hpc _ (h1.trans hown.symm) h2 (fun v hv => ?_) h3)
      (fun i ti _ hi => hI.thr i ti hi) (fun v hv => owned_goto hpc _ (h1.trans hown.symm) ▸ hv)
      fun h n e => absurd (Option.some.inj e) (h4 h n)
    rcases List.mem_append.mp hv with h | h
    · have := pcFresh_sub v _ h; rw [h1] at this; cases this
    · exact hout v h
  | ret r =>
    refine Inv.update hI ht hch hI.nodup (ok.finish _ c.clock hout) (fun i ti _ hi => hI.thr i ti hi) (fun v hv => ?_)
      fun h n e => absurd e (finish_ne_deq4 t _ c.clock h n)
    rw [Thread.advance, owned, hand_finish rfl pcOwned_start] at hv; exact List.mem_append_right _ hv

/-- the two stores of nil, `value.next := nil` of Enqueue and the recycling `oldHead.next := nil` -/
theorem inv_clear {ct tid : Nat} {c : Cf} {cells : List Cell} {t t' : Th} {x : Nat} {clk : Nat}
    (hI : Inv ct c cells) (ht : c.threads[tid]? = some t) (hx : x ∉ c.sh.head :: vals cells)
    (hne : ∀ a b, t.pc ≠ some (.enq3 b a)) (hself : ThreadOK ct (c.sh.setNext x none) cells tid t')
    (hsub : ∀ v ∈ owned t', v ∈ owned t) (hret : ∀ h n, t'.pc ≠ some (.deq4 h n)) :
    Inv ct ({ sh := c.sh.setNext x none, threads := c.threads.set tid t', clock := clk } : Cf) cells := by
  have hnx : ∀ y ∈ c.sh.head :: vals cells, (c.sh.setNext x none).next y = c.sh.next y := by
    intro y hy
    have : y ≠ x := fun e => hx (e ▸ hy)
    simp [Sh.setNext, this]
  refine Inv.update hI ht ?_ hI.nodup hself ?_ hsub fun h n e => absurd e (hret h n)
  · exact Chain.frame cells c.sh.head hnx rfl (fun a b _ h => pendOf_set_keep ht (hne a b) h) hI.chain
  · intro i ti hi hti
    have oki := hI.thr i ti hti
    refine ⟨oki.ownedNodup, oki.freshOut, ?_, oki.enq3, oki.deq2, ?_, oki.deq4, oki.cons⟩
    · intro y hy
      by_cases e : y = x
      · subst e; simp [Sh.setNext]
      · simp [Sh.setNext, e]; exact oki.enq2 y hy
    · intro h n hy
      have := oki.deq3 h n hy
      exact ⟨this.1, by rw [hnx h (by rw [this.1]; exact List.mem_cons_self)]; exact this.2⟩

theorem inv_enq1 {ct tid : Nat} {c : Cf} {cells : List Cell} {t : Th} {v : Nat} {clk : Nat}
    (hI : Inv ct c cells) (ht : c.threads[tid]? = some t) (hpc : t.pc = some (.enq1 v)) :
    Inv ct ({ sh := c.sh.setNext v none, threads := c.threads.set tid { t with pc := some (.enq2 v) }, clock := clk } : Cf) cells := by
  have ok := hI.thr tid t ht
  refine inv_clear hI ht (ok.freshOut v (mem_hand hpc List.mem_cons_self)) (by rw [hpc]; nofun)
    ?_ (fun x hx => owned_goto hpc (.enq2 v) rfl ▸ hx) nofun
  exact ok.goto hpc (.enq2 v) rfl rfl (fun x hx => ok.freshOut x (by rw [fresh, hpc]; exact hx)) (by simp [OKpc, Sh.setNext])

theorem inv_deq4 {ct tid : Nat} {c : Cf} {cells : List Cell} {t : Th} {h n : Nat} {clk : Nat}
    (hI : Inv ct c cells) (ht : c.threads[tid]? = some t) (hpc : t.pc = some (.deq4 h n)) :
    Inv ct ({ sh := c.sh.setNext h none, threads := c.threads.set tid (t.finish algo (.val n) c.clock), clock := clk } : Cf) cells := by
  have ok := hI.thr tid t ht
  refine inv_clear hI ht (ok.deq4 h n hpc).2 (by rw [hpc]; nofun)
    (ok.finish (.val n) c.clock fun v hv => ok.freshOut v (List.mem_append_right _ hv)) ?_ (finish_ne_deq4 t _ c.clock)
  intro x hx
  rw [owned, hand_finish rfl pcOwned_start] at hx
  exact List.mem_append_right _ hx

theorem not_mem_snoc {x h v : Nat} {l : List Nat} (h1 : x ∉ h :: l) (h2 : x ≠ v) : x ∉ h :: (l ++ [v]) := by
  simp only [List.mem_cons, List.mem_append, List.not_mem_nil, or_false, not_or] at h1 ⊢
  exact ⟨h1.1, h1.2, h2⟩

theorem vals_snoc (cells : List Cell) (v : Nat) : vals (cells ++ [Cell.pending v]) = vals cells ++ [v] :=
  List.map_append

theorem inv_enq2 {ct tid : Nat} {c : Cf} {cells : List Cell} {t : Th} {v : Nat} {clk : Nat}
    (hI : Inv ct c cells) (ht : c.threads[tid]? = some t) (hpc : t.pc = some (.enq2 v)) :
    Inv ct ({ sh := { c.sh with tail := v }, threads := c.threads.set tid { t with pc := some (.enq3 v c.sh.tail) }, clock := clk } : Cf)
      (cells ++ [.pending v]) := by
  have ok := hI.thr tid t ht
  have hv : v ∉ c.sh.head :: vals cells := ok.freshOut v (mem_hand hpc List.mem_cons_self)
  have hown : (v :: enqIds t.prog).Nodup :=
    by have h := ok.ownedNodup; rwa [owned, hpc] at h
  have out : ∀ x, x ∉ c.sh.head :: vals cells → x ≠ v → x ∉ c.sh.head :: vals (cells ++ [Cell.pending v]) :=
    fun x h1 h2 => by rw [vals_snoc]; exact not_mem_snoc h1 h2
  refine Inv.update hI ht ?_ ?_ ?_ ?_ (fun x hx => owned_goto hpc (.enq3 v c.sh.tail) rfl ▸ hx) nofun
  · exact Chain.snoc v (ok.enq2 v hpc) (fun x y h => pendOf_set_keep ht (by rw [hpc]; nofun) h)
      (pendOf_set_new ht rfl) cells c.sh.head hI.chain
  · show (c.sh.head :: vals (cells ++ [Cell.pending v])).Nodup
    rw [vals_snoc]; exact nodup_snoc (l := c.sh.head :: vals cells) hI.nodup hv
  · refine ok.goto hpc (.enq3 v c.sh.tail) rfl rfl (fun x hx => ?_) (Chain.pendLink_snoc v cells c.sh.head hI.chain)
    exact out x (ok.freshOut x (List.mem_append_right _ hx)) fun e => (List.nodup_cons.mp hown).1 (e ▸ hx)
  · intro i ti hi hti
    have oki := hI.thr i ti hti
    have hvi : v ∉ owned ti := hI.disj tid i t ti (Ne.symm hi) ht hti v (mem_hand hpc List.mem_cons_self)
    refine ⟨oki.ownedNodup, ?_, oki.enq2, ?_, oki.deq2, oki.deq3, ?_, oki.cons⟩
    · exact fun x hx => out x (oki.freshOut x hx) fun e => hvi (e ▸ fresh_sub_owned ti x hx)
    · exact fun x p hx => pendLink_append cells _ c.sh.head p x (oki.enq3 x p hx)
    · intro h n hx
      have h1 := oki.deq4 h n hx
      refine ⟨h1.1, out h h1.2 fun e => hI.retired i tid ti t h n hti hx ht ?_⟩
      rw [e]; exact mem_hand hpc List.mem_cons_self

theorem owned_ne_head {ct : Nat} {s : Sh} {cells : List Cell} {i : Nat} {t : Th} (ok : ThreadOK ct s cells i t)
    (hnd : (s.head :: vals cells).Nodup) : ∀ v ∈ owned t, v ≠ s.head := by
  intro v hv e
  have hin : v ∈ s.head :: vals cells := e ▸ List.mem_cons_self
  rcases List.mem_append.mp hv with hv | hv
  · cases hpc : t.pc with
    | none => rw [hpc] at hv; cases hv
    | some pc =>
      rw [hpc] at hv
      cases pc with
      | enq3 x p =>
        cases List.mem_singleton.mp hv
        exact (List.nodup_cons.mp hnd).1 (e ▸ (pendLink_mem cells s.head p v (ok.enq3 v p hpc)).2)
      | enq1 x => exact ok.freshOut v (mem_hand hpc hv) hin
      | enq2 x => exact ok.freshOut v (mem_hand hpc hv) hin
      | _ => cases hv
  · exact ok.freshOut v (List.mem_append_right _ hv) hin

theorem inv_enq3 {ct tid : Nat} {c : Cf} {cells : List Cell} {t : Th} {v p : Nat}
    (hI : Inv ct c cells) (ht : c.threads[tid]? = some t) (hpc : t.pc = some (.enq3 v p)) :
    Cell.pending v ∈ cells ∧ ∀ clk,
    Inv ct ({ sh := c.sh.setNext p (some v), threads := c.threads.set tid (t.finish algo .ok c.clock), clock := clk } : Cf)
      (Spec.C04.publish cells v) := by
  have ok := hI.thr tid t ht
  have hl := ok.enq3 v p hpc
  have hm := pendLink_mem cells c.sh.head p v hl
  have hpn : c.sh.next p = none := Chain.pendLink_next cells c.sh.head p v hI.chain hl
  have same : ∀ x, x ∉ c.sh.head :: vals cells → x ∉ c.sh.head :: vals (Spec.C04.publish cells v) :=
    fun x h => by rw [vals, publish_map_val]; exact h
  refine ⟨pendLink_pending cells c.sh.head p v hl, fun clk => ?_⟩
  refine Inv.update hI ht ?_ ?_ ?_ ?_ ?_ (fun h n e => absurd e (finish_ne_deq4 t .ok c.clock h n))
  · refine Chain.publish p v cells c.sh.head hI.nodup hl ?_ hI.chain
    intro x y hy _ h
    exact pendOf_set_keep ht (by rw [hpc]; intro e; cases e; exact hy rfl) h
  · show (c.sh.head :: vals (Spec.C04.publish cells v)).Nodup
    rw [vals, publish_map_val]; exact hI.nodup
  · exact ok.finish .ok c.clock fun x hx => same x (ok.freshOut x (List.mem_append_right _ hx))
  · intro i ti hi hti
    have oki := hI.thr i ti hti
    refine ⟨oki.ownedNodup, fun x hx => same x (oki.freshOut x hx), ?_, ?_, oki.deq2, ?_, ?_, oki.cons⟩
    · intro x hx
      have hxo : x ∉ c.sh.head :: vals cells := oki.freshOut x (mem_hand hx List.mem_cons_self)
      have : x ≠ p := fun e => hxo (e ▸ hm.1)
      simp [Sh.setNext, this]; exact oki.enq2 x hx
    · intro x q hx
      refine pendLink_publish cells c.sh.head q x v (fun e => ?_) (oki.enq3 x q hx)
      refine hI.disj tid i t ti (Ne.symm hi) ht hti v (mem_hand hpc List.mem_cons_self) ?_
      rw [e]; exact mem_hand hx List.mem_cons_self
    · intro h n hx
      have := oki.deq3 h n hx
      have hne : h ≠ p := by
        intro e; rw [e, hpn] at this; cases this.2
      exact ⟨this.1, by simp [Sh.setNext, hne]; exact this.2⟩
    · exact fun h n hx => ⟨(oki.deq4 h n hx).1, same h (oki.deq4 h n hx).2⟩
  · intro x hx
    rw [owned, hand_finish rfl pcOwned_start] at hx
    exact List.mem_append_right _ hx

theorem inv_deq3 {ct tid : Nat} {c : Cf} {cells : List Cell} {t : Th} {h n : Nat}
    (hI : Inv ct c cells) (ht : c.threads[tid]? = some t) (hpc : t.pc = some (.deq3 h n)) :
    ∃ rest, cells = .ready n :: rest ∧ ∀ clk,
      Inv ct ({ sh := { c.sh with head := n }, threads := c.threads.set tid { t with pc := some (.deq4 h n) }, clock := clk } : Cf) rest := by
  have ok := hI.thr tid t ht
  have htid : tid = ct := NoDeq.is_consumer (isDeq := isDeqPC) ok.cons hpc rfl
  obtain ⟨hh, hn⟩ := ok.deq3 h n hpc
  subst hh
  obtain ⟨rest, hcells, hch⟩ := Chain.head_some hI.chain hn
  subst hcells
  obtain ⟨hhead, hnd'⟩ : c.sh.head ∉ n :: vals rest ∧ (n :: vals rest).Nodup := List.nodup_cons.mp hI.nodup
  have out : ∀ x, x ∉ c.sh.head :: vals (Cell.ready n :: rest) → x ∉ n :: vals rest :=
    fun x hx hm => hx (List.mem_cons_of_mem _ hm)
  refine ⟨rest, rfl, fun clk => Inv.update hI ht ?_ hnd' ?_ ?_ (fun x hx => owned_goto hpc (.deq4 c.sh.head n) rfl ▸ hx) ?_⟩
  · exact Chain.frame (s := c.sh) (pend := PendOf c.threads) rest n (fun _ _ => rfl) rfl
      (fun x y _ hp => pendOf_set_keep ht (by rw [hpc]; nofun) hp) hch
  · exact ok.goto hpc (.deq4 c.sh.head n) rfl rfl (fun x hx => out x (ok.freshOut x (List.mem_append_right _ hx))) ⟨rfl, hhead⟩
  · intro i ti hi hti
    have oki := hI.thr i ti hti
    -- while the consumer is inside `Dequeue`, no other thread is
    have nd := (oki.cons fun e => hi (e.trans htid.symm)).1
    refine ⟨oki.ownedNodup, fun x hx => out x (oki.freshOut x hx), oki.enq2, ?_, fun _ e => (nomatch nd _ e),
      fun _ _ e => (nomatch nd _ e), fun _ _ e => (nomatch nd _ e), oki.cons⟩
    intro x q hx
    simpa [PendLink, Cell.val] using oki.enq3 x q hx
  · intro h' n' e
    cases e
    exact ⟨fun hm => owned_ne_head ok hI.nodup _ (owned_goto hpc (.deq4 c.sh.head n) rfl ▸ hm) rfl,
      fun j tj _ htj hm => owned_ne_head (hI.thr j tj htj) hI.nodup _ hm rfl⟩

end GoaktVerif.C04.UB
