/-
C04 — the values `Dequeue` of the intake-based priority mailboxes returns are exactly the values popped from
the heap.  Together with conservation and the heap permutation lemmas: for every run the returned
values, the heap, the rest of the current batch and the stack are a PERMUTATION of the accepted
messages (each accepted message is returned at most once and is otherwise still inside).
-/
import GoaktVerif.Lemmas.C04.IntakeTrace

namespace GoaktVerif.C04.IntakeInv
open GoaktVerif.Model.C04 GoaktVerif.Model.C04.Intake

variable {k : Conf}

def resVal (d : Done) : Option Nat :=
  match d.res with
  | .val v => some v
  | _ => none

def pcDeq : Option PC → List Nat
  | some (.deq7 v) => [v]
  | _ => []

/-- what a thread has dequeued so far, oldest first (the last value possibly not yet returned) -/
def deqdT (t : Th) : List Nat := t.hist.reverse.filterMap resVal ++ pcDeq t.pc

theorem pcDeq_start (op : Op) : pcDeq (some (start k op)) = [] := by
  cases op with
  | enq v key => rcases start_enq (k := k) v key with e | e <;> rw [e] <;> rfl
  | _ => rfl

theorem deqdT_advance (t : Th) (now : Nat) (nx : Next PC) :
    deqdT (t.advance (algo k) now nx) = t.hist.reverse.filterMap resVal ++ nxDeq pcDeq nx :=
  deqd_advance (A := algo k) (fun _ => rfl) rfl pcDeq_start t now nx

theorem afterDrain_pops (s : Sh) : nxDeq pcDeq (afterDrain k s).2 = poppedOf (popEv k s) := by
  unfold afterDrain popEv
  cases Heap.pop k.ltItem s.heap with
  | none => rfl
  | some pr => rfl

theorem exec_pops (s : Sh) (pc : PC) : nxDeq pcDeq (exec k s pc).2 = pcDeq (some pc) ++ poppedOf (evI k s pc) := by
  cases pc with
  | deq2 =>
    simp only [exec, evI]
    split
    · next hh => rw [if_pos hh]; exact afterDrain_pops s
    · next b hb => rw [if_neg (by rw [hb]; intro h; cases h)]; rfl
  | deq6 n nxt =>
    cases nxt with
    | some nx => rfl
    | none => exact afterDrain_pops _
  | enqL v => simp only [exec, evI]; split <;> (try split) <;> rfl
  | enqC v l => simp only [exec, evI]; split <;> rfl
  | push3 v old => simp only [exec, evI]; split <;> rfl
  | deq1 => simp only [exec, evI]; split <;> rfl
  | deq4 a b c => cases c <;> rfl
  | _ => rfl

theorem pops_of_producer {s : Sh} {pc : PC} (h : isDeqPC pc = false) : poppedOf (evI k s pc) = [] := by
  cases pc with
  | deq2 => cases h
  | deq6 a b => cases h
  | push3 v old => simp only [evI]; split <;> rfl
  | _ => rfl

theorem deqd_step (ct tid : Nat) (c : Cf k) (evs : List IEv)
    (hJ : ∀ (i : Nat) (t : Th), c.threads[i]? = some t → J ct i c.sh t)
    (hD : ∀ t, c.threads[ct]? = some t → deqdT t = poppedOf evs) :
    ∀ t, (stepCfg c tid).threads[ct]? = some t → deqdT t = poppedOf (evs ++ stepEvI c tid) := by
  rw [stepEvI_eq]
  refine step_ev_ind (evI k)
    (Q := fun (c' : Cf k) e => ∀ t, c'.threads[ct]? = some t → deqdT t = poppedOf (evs ++ e))
    (by rw [List.append_nil]; exact hD) fun tt pc htt hpc t ht => ?_
  rw [poppedOf_append]
  rcases getElem?_set_cases ht with ⟨e, rfl⟩ | ⟨e, ht'⟩
  · rw [deqdT_advance, exec_pops, ← List.append_assoc, ← hD tt (e ▸ htt)]
    unfold deqdT; rw [hpc]
  · rw [pops_of_producer (((hJ tid tt htt).cons (Ne.symm e)).1 pc hpc), List.append_nil]
    exact hD t ht'

/-- EXACTLY-ONCE for the intake-based priority mailboxes, every schedule: the values returned by Dequeue
(including one popped but not yet returned), the heap, the rest of the current batch and the stack
together are a PERMUTATION of the accepted messages — every accepted message is returned at most
once and is otherwise still inside; nothing else is ever returned -/
theorem exactly_once (ct : Nat) (progs : List (List Op)) (wf : IntakeWF ct progs) (sched : List Nat) (t : Th)
    (ht : (runSched (initCfg (algo k) Intake.init progs) sched).threads[ct]? = some t) :
    (deqdT t ++ (runSched (initCfg (algo k) Intake.init progs) sched).sh.heap.map Prod.fst ++
      (runSched (initCfg (algo k) Intake.init progs) sched).sh.batch.drop (runSched (initCfg (algo k) Intake.init progs) sched).sh.done ++
      (runSched (initCfg (algo k) Intake.init progs) sched).sh.stack.reverse).Perm
      (pushedOf (traceI (initCfg (algo k) Intake.init progs) sched)) := by
  have hT := tri_run (k := k) ct progs wf sched (initCfg (algo k) Intake.init progs) [] Reach.init
    ⟨rfl, fun _ => rfl, List.Perm.refl _⟩
  have hD := run_trace stepEvI traceI (fun _ => rfl) (fun _ _ _ => rfl)
    (fun (c : Cf k) evs => ∀ t, c.threads[ct]? = some t → deqdT t = poppedOf evs)
    (fun c tid evs hr hD => deqd_step ct tid c evs (intake_inv (k := k) ct progs wf c hr).2.1 hD)
    sched (initCfg (algo k) Intake.init progs) [] Reach.init fun t0 ht0 => by
      obtain ⟨p, n, _, e⟩ := initCfg_get ht0
      rw [e]; exact deqd_mk (A := algo k) rfl pcDeq_start p n
  rw [List.nil_append] at hT hD
  rw [← hT.cons, hD t ht]
  exact ((List.perm_append_comm.trans hT.heap).append_right _).append_right _

end GoaktVerif.C04.IntakeInv
