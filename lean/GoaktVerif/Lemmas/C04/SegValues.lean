/-
C04 — `UnboundedSegmentedMailbox`, the values it returns: the value invariant `TR` and its step `tr_stepS`, which
takes the invariants of SegOG as hypotheses (SegTrace puts the two together).  Slot `idx` of the segment at list position `ord` is global
position `ord * segSize + idx`.  Reservations (`Add:writeIdx` returning an index below `segSize`) are
handed out in exactly this order, the message of the k-th reservation is stored into position k, and
the consumer's k-th successful dequeue returns the message of position k.  Hence, for every run:
the values returned by Dequeue = a prefix of the reservation sequence (exactly-once, FIFO).
-/
import GoaktVerif.Lemmas.C04.SegChain

namespace GoaktVerif.C04.SegInv
open GoaktVerif.Model.C04 GoaktVerif.Model.C04.Segmented

abbrev Cf := Cfg Segmented.algo

def pos (s : Sh) (g idx : Nat) : Nat := (s.segs g).ord * s.segSize + idx

/-- positions consumed so far -/
def consumed (s : Sh) : Nat := (s.segs s.head).ord * s.segSize + (s.segs s.head).deqIdx

/-- the value reserved by this step, if it is an `Add:writeIdx` that gets a slot -/
def evS (s : Sh) : PC → List Nat
  | .e2 v g => if (s.segs g).writeIdx < s.segSize then [v] else []
  | _ => []

def stepEvS (c : Cf) (tid : Nat) : List Nat :=
  match c.threads[tid]? with
  | some t => match t.pc with
    | some pc => evS c.sh pc
    | none => []
  | none => []

def resvTrace (c : Cf) : List Nat → List Nat
  | [] => []
  | t :: ts => stepEvS c t ++ resvTrace (stepCfg c t) ts

def resVal (d : Done) : Option Nat :=
  match d.res with
  | .val v => some v
  | _ => none

def pcDeq : Option PC → List Nat
  | some (.d5 _ _ v) => [v]
  | some (.d6 _ _ v) => [v]
  | some (.d7 v) => [v]
  | _ => []

/-- the consumer has taken a value out of a slot but not yet advanced `deqIdx` -/
def inflight : Option PC → Nat
  | some (.d5 _ _ _) => 1
  | some (.d6 _ _ _) => 1
  | _ => 0

def deqdT (t : Th) : List Nat := t.hist.reverse.filterMap resVal ++ pcDeq t.pc

/-- the shared state: the number of reservations, and a message in a slot is the one reserved for that position
(consumed slots and the slots of unlinked segments are empty) -/
structure TRs (s : Sh) (resv : List Nat) : Prop where
  len : resv.length = (s.segs s.last).ord * s.segSize + min (s.segs s.last).writeIdx s.segSize
  data : ∀ g idx w, (s.segs g).data idx = some w → resv[pos s g idx]? = some w

/-- thread `i`: the message a producer is about to store is the one reserved for the slot; the consumer
`ct` has dequeued the first `consumed` (`+ 1` in flight) reservations -/
structure TRt (ct i : Nat) (s : Sh) (resv : List Nat) (t : Th) : Prop where
  store : ∀ v g idx, t.pc = some (.e3 v g idx) → resv[pos s g idx]? = some v
  bound : i = ct → consumed s + inflight t.pc ≤ resv.length
  deqd : i = ct → deqdT t = resv.take (consumed s + inflight t.pc)

structure TR (ct : Nat) (c : Cf) (resv : List Nat) : Prop where
  sh : TRs c.sh resv
  thr : ∀ (i : Nat) (t : Th), c.threads[i]? = some t → TRt ct i c.sh resv t

theorem TR.len {ct : Nat} {c : Cf} {resv : List Nat} (h : TR ct c resv) :
    resv.length = (c.sh.segs c.sh.last).ord * c.sh.segSize + min (c.sh.segs c.sh.last).writeIdx c.sh.segSize := h.sh.len

theorem TR.data {ct : Nat} {c : Cf} {resv : List Nat} (h : TR ct c resv) :
    ∀ g idx, (c.sh.segs g).linked = true → idx < c.sh.segSize → consumed c.sh ≤ pos c.sh g idx →
      pos c.sh g idx < resv.length → (c.sh.segs g).data idx = none ∨ (c.sh.segs g).data idx = resv[pos c.sh g idx]? := by
  intro g idx _ _ _ _  -- the four hypotheses are those of the clause of `segmented_fifo_exactly_once`; `TRs.data` needs none
  cases hd : (c.sh.segs g).data idx with
  | none => exact Or.inl rfl
  | some w => exact Or.inr (h.sh.data g idx w hd).symm

theorem TR.bound {ct : Nat} {c : Cf} {resv : List Nat} (h : TR ct c resv) (t : Th) (ht : c.threads[ct]? = some t) :
    consumed c.sh + inflight t.pc ≤ resv.length := (h.thr ct t ht).bound rfl

theorem TR.deqd {ct : Nat} {c : Cf} {resv : List Nat} (h : TR ct c resv) (t : Th) (ht : c.threads[ct]? = some t) :
    deqdT t = resv.take (consumed c.sh + inflight t.pc) := (h.thr ct t ht).deqd rfl

theorem TR.update {ct tid : Nat} {c : Cf} {resv' : List Nat} {t' : Th} {s' : Sh} {clk : Nat}
    (hs : TRs s' resv') (hself : TRt ct tid s' resv' t')
    (hoth : ∀ (i : Nat) (ti : Th), i ≠ tid → c.threads[i]? = some ti → TRt ct i s' resv' ti) :
    TR ct ({ sh := s', threads := c.threads.set tid t', clock := clk } : Cf) resv' :=
  ⟨hs, Pool.forall_set hself hoth⟩

/-- the update leaves the number of reservations, and a message in a slot afterwards was there before, at the
same position, or is the one reserved for it -/
theorem TRs.frame {s s' : Sh} {resv : List Nat} (h : TRs s resv)
    (hlen : (s'.segs s'.last).ord * s'.segSize + min (s'.segs s'.last).writeIdx s'.segSize =
      (s.segs s.last).ord * s.segSize + min (s.segs s.last).writeIdx s.segSize)
    (hd : ∀ g idx w, (s'.segs g).data idx = some w →
      pos s' g idx = pos s g idx ∧ ((s.segs g).data idx = some w ∨ resv[pos s g idx]? = some w)) :
    TRs s' resv where
  len := by rw [hlen]; exact h.len
  data := by
    intro g idx w d
    obtain ⟨e, hdat⟩ := hd g idx w d
    rw [e]
    exact hdat.elim (h.data g idx w) id

theorem pos_congr {s s' : Sh} {g idx : Nat} (ho : (s'.segs g).ord = (s.segs g).ord) (hS : s'.segSize = s.segSize) :
    pos s' g idx = pos s g idx := by unfold pos; rw [ho, hS]

theorem consumed_congr {s s' : Sh} (hh : s'.head = s.head) (hS : s'.segSize = s.segSize)
    (hf : (s'.segs s.head).ord = (s.segs s.head).ord ∧ (s'.segs s.head).deqIdx = (s.segs s.head).deqIdx) :
    consumed s' = consumed s := by unfold consumed; rw [hh, hS, hf.1, hf.2]

theorem TRs.upd {s : Sh} {resv : List Nat} (h : TRs s resv) (t : Nat) (f : Seg → Seg)
    (hf : (f (s.segs t)).ord = (s.segs t).ord)
    (hw : min (f (s.segs t)).writeIdx s.segSize = min (s.segs t).writeIdx s.segSize)
    (hd : ∀ idx w, (f (s.segs t)).data idx = some w → (s.segs t).data idx = some w ∨ resv[pos s t idx]? = some w) :
    TRs (s.upd t f) resv := by
  have fld := upd_all (s := s) (R := fun x y => y.ord = x.ord ∧ min y.writeIdx s.segSize = min x.writeIdx s.segSize)
    (fun _ => ⟨rfl, rfl⟩) ⟨hf, hw⟩
  refine h.frame ?_ fun g idx w hw => ⟨pos_congr (fld g).1 rfl, ?_⟩
  · show ((s.upd t f).segs s.last).ord * s.segSize + min ((s.upd t f).segs s.last).writeIdx s.segSize = _
    rw [(fld _).1, (fld _).2]
  · rw [upd_field g] at hw; split at hw
    · next e => subst e; exact hd idx w hw
    · exact Or.inl hw

def nextInfl : Next PC → Nat
  | .goto pc' => inflight (some pc')
  | .ret _ => 0

theorem pcDeq_start (op : Op) : pcDeq (some (start op)) = [] := by cases op <;> rfl

theorem deqdT_advance (t : Th) (now : Nat) (nx : Next PC) :
    deqdT (t.advance algo now nx) = t.hist.reverse.filterMap resVal ++ nxDeq pcDeq nx :=
  deqd_advance (A := algo) (fun _ => rfl) rfl pcDeq_start t now nx

theorem inflight_advance (t : Th) (now : Nat) (nx : Next PC) : inflight (t.advance algo now nx).pc = nextInfl nx := by
  cases nx with
  | goto pc' => rfl
  | ret r => exact (parked_finish algo t r now).const (f := inflight) rfl (fun op => by cases op <;> rfl)

theorem TRt.frame {ct i : Nat} {s s' : Sh} {resv : List Nat} {t : Th} (ev : List Nat) (h : TRt ct i s resv t)
    (hpos : ∀ v g idx, t.pc = some (.e3 v g idx) → pos s' g idx = pos s g idx)
    (hc : i = ct → consumed s' = consumed s) : TRt ct i s' (resv ++ ev) t where
  store := by
    intro v g idx hpc
    have := h.store v g idx hpc
    rw [hpos v g idx hpc]; exact getElem?_append_some ev this
  bound := by
    intro e; rw [hc e, List.length_append]; exact Nat.le_trans (h.bound e) (Nat.le_add_right _ _)
  deqd := by
    intro e; rw [hc e, List.take_append_of_le_length (h.bound e)]; exact h.deqd e

theorem TRt.advance {ct i : Nat} {s s' : Sh} {resv : List Nat} {t : Th} {pc : PC} (ev : List Nat) (h : TRt ct i s resv t)
    (hpc : t.pc = some pc) (now : Nat) (nx : Next PC)
    (hst : ∀ v g idx, nx = .goto (.e3 v g idx) → (resv ++ ev)[pos s' g idx]? = some v)
    (hd : nxDeq pcDeq nx = pcDeq (some pc)) (hi : nextInfl nx = inflight (some pc))
    (hc : i = ct → consumed s' = consumed s) : TRt ct i s' (resv ++ ev) (t.advance algo now nx) where
  store := by
    intro v g idx e
    cases nx with
    | goto pc' => cases e; exact hst v g idx rfl
    | ret r => exact absurd e ((parked_finish algo t r now).all (R := fun pc => pc ≠ .e3 v g idx) (fun op => by cases op <;> nofun) _ · rfl)
  bound := by
    intro e
    rw [inflight_advance, hi, hc e, ← hpc, List.length_append]
    exact Nat.le_trans (h.bound e) (Nat.le_add_right _ _)
  deqd := by
    intro e
    have hb := h.bound e
    rw [deqdT_advance, inflight_advance, hd, hi, hc e, ← hpc, List.take_append_of_le_length hb]
    exact h.deqd e

theorem TRs.same {s s' : Sh} {resv : List Nat} (h : TRs s resv) (hS : s'.segSize = s.segSize) (hl : s'.last = s.last)
    (hsegs : s'.segs = s.segs) : TRs s' resv :=
  h.frame (by rw [hl, hsegs, hS]) fun g idx w hw => ⟨pos_congr (by rw [hsegs]) hS, Or.inl (hsegs ▸ hw)⟩

/-- the linking CAS: the new last segment starts exactly where the reservations stand -/
theorem TRs.link {s : Sh} {resv : List Nat} (h : TRs s resv) (hP : P s) (h2 : P2 s) {g g' : Nat}
    (hl : (s.segs g).linked = true) (hfull : s.segSize ≤ (s.segs g).writeIdx)
    (hg : (s.segs g').linked = false) (hnext : (s.segs g).next = none) :
    TRs (s.link g g') resv ∧ consumed (s.link g g') = consumed s ∧
    ∀ j, (s.segs j).linked = true → ((s.link g g').segs j).ord = (s.segs j).ord := by
  have htg : g ≠ g' := ne_of_linked hl hg
  have hlast : g = s.last := h2.eq_last hl hnext
  have ordNe : ∀ j, j ≠ g' → ((s.link g g').segs j).ord = (s.segs j).ord := fun j e => by
    by_cases e2 : j = g
    · rw [e2, link_seg_t s htg]
    · rw [link_seg_other s e2 e]
  have ordOld : ∀ j, (s.segs j).linked = true → ((s.link g g').segs j).ord = (s.segs j).ord :=
    fun j hj => ordNe j fun e => by rw [e, hg] at hj; cases hj
  have hcons : consumed (s.link g g') = consumed s :=
    consumed_congr rfl rfl ⟨ordOld _ h2.hd, (link_fields s g g' _).2.1⟩
  have hlen' : resv.length = ((s.segs g).ord + 1) * s.segSize := by
    rw [h.len, ← hlast, Nat.succ_mul, Nat.min_eq_right hfull]
  refine ⟨h.frame ?_ fun j k w d => ?_, hcons, ordOld⟩
  · show ((s.link g g').segs g').ord * s.segSize + min ((s.link g g').segs g').writeIdx s.segSize = _
    rw [link_seg_g s htg, ← h.len, hlen']
    show ((s.segs g).ord + 1) * s.segSize + min (s.segs g').writeIdx s.segSize = _
    rw [(h2.unl g' hg).1]; simp
  · rw [(link_fields s g g' j).2.2] at d
    by_cases e : j = g'
    · -- the new segment is still untouched
      rw [e, hP.unres g' k (by rw [(h2.unl g' hg).1]; exact Nat.zero_le _)] at d; cases d
    · exact ⟨pos_congr (ordNe j e) rfl, Or.inl d⟩

theorem stepEvS_eq (c : Cf) (tid : Nat) : stepEvS c tid = stepEvOf evS c tid := by
  unfold stepEvS stepEvOf
  cases c.threads[tid]? with
  | none => rfl
  | some t => dsimp only; cases t.pc <;> rfl

/-- the sites whose step never touches a segment, `last` or `head`, and neither takes nor counts a value -/
def quiet : PC → Bool
  | .e2 _ _ | .e3 _ _ _ | .e6 _ _ _ | .d4 _ _ | .d5 _ _ _ | .d6 _ _ _ | .d9 _ _ => false
  | _ => true

theorem exec_quiet (s : Sh) (pc : PC) (h : quiet pc = true) :
    ∃ s' nx, exec s pc = (s', nx) ∧ s'.segSize = s.segSize ∧ s'.last = s.last ∧ s'.head = s.head ∧ s'.segs = s.segs ∧
      (∀ v g idx, nx ≠ .goto (.e3 v g idx)) ∧ nxDeq pcDeq nx = pcDeq (some pc) ∧ nextInfl nx = inflight (some pc) ∧
      evS s pc = [] := by
  cases pc with
  | e2 _ _ | e3 _ _ _ | e6 _ _ _ | d4 _ _ | d5 _ _ _ | d6 _ _ _ | d9 _ _ => cases h
  | e5 _ _ | e7 _ _ _ | e9 _ _ _ | d8 _ | m3 _ _ => rw [exec]; split <;> exact ⟨_, _, rfl, rfl, rfl, rfl, rfl, nofun, rfl, rfl, rfl⟩
  | d3 _ _ => rw [exec]; split <;> (try split) <;> exact ⟨_, _, rfl, rfl, rfl, rfl, rfl, nofun, rfl, rfl, rfl⟩
  | _ => exact ⟨_, _, rfl, rfl, rfl, rfl, rfl, nofun, rfl, rfl, rfl⟩

theorem tr_stepS (ct tid : Nat) (c : Cf) (resv : List Nat) (hP : P c.sh) (h2 : P2 c.sh)
    (hJ : ∀ (i : Nat) (t : Th), c.threads[i]? = some t → J ct i c.sh t)
    (hT : TR ct c resv) : TR ct (stepCfg c tid) (resv ++ stepEvS c tid) := by
  rw [stepEvS_eq]
  refine step_ev_ind evS (Q := fun c' ev => TR ct c' (resv ++ ev)) (by rw [List.append_nil]; exact hT) fun t pc ht hpc => ?_
  obtain ⟨hJt, hJ2t⟩ := (hJ tid t ht).pc pc hpc
  have hTt := hT.thr tid t ht
  have hcons : isDeqPC pc = true → tid = ct := (hJ tid t ht).is_consumer hpc
  show TR ct { sh := (exec c.sh pc).1, threads := c.threads.set tid (t.advance algo c.clock (exec c.sh pc).2), clock := _ } _
  -- the other threads: the slots they are about to fill keep their positions
  have others : ∀ (s' : Sh) (ev : List Nat), s'.segSize = c.sh.segSize →
      (∀ g, (c.sh.segs g).linked = true → (s'.segs g).ord = (c.sh.segs g).ord) →
      (tid ≠ ct → consumed s' = consumed c.sh) →
      ∀ (i : Nat) (ti : Th), i ≠ tid → c.threads[i]? = some ti → TRt ct i s' (resv ++ ev) ti :=
    fun s' ev hS ho hc i ti hi hti => (hT.thr i ti hti).frame ev
      (fun v g idx hp => pos_congr (ho g ((hJ i ti hti).pc _ hp).2) hS) fun e => hc (e ▸ hi).symm
  -- `resv ++ []`: the goal speaks of `resv ++` the events of the step, and these steps have none
  have move : ∀ (s' : Sh) (nx : Next PC) (clk : Nat), TRs s' resv → s'.segSize = c.sh.segSize →
      (∀ g, (c.sh.segs g).linked = true → (s'.segs g).ord = (c.sh.segs g).ord) → consumed s' = consumed c.sh →
      (∀ v g idx, nx ≠ .goto (.e3 v g idx)) → nxDeq pcDeq nx = pcDeq (some pc) → nextInfl nx = inflight (some pc) →
      TR ct ({ sh := s', threads := c.threads.set tid (t.advance algo c.clock nx), clock := clk } : Cf) (resv ++ []) :=
    fun s' nx clk hs hS ho hc h3 hd hi => TR.update (by rw [List.append_nil]; exact hs)
      (hTt.advance [] hpc _ nx (fun v g idx e => absurd e (h3 v g idx)) hd hi fun _ => hc) (others s' [] hS ho fun _ => hc)
  by_cases hq : quiet pc = true
  · obtain ⟨s', nx, e, hS, hl, hh, hsegs, h3, hd, hi, hev⟩ := exec_quiet c.sh pc hq
    rw [e, hev]
    have hc := consumed_congr hh hS (by rw [hsegs]; exact ⟨rfl, rfl⟩)
    exact move _ _ _ (hT.sh.same hS hl hsegs) hS (fun _ _ => by rw [hsegs]) hc h3 hd hi
  cases pc with
  | e2 v g =>
    have fld := upd_all (s := c.sh) (t := g) (f := bump)
      (R := fun x y => y.ord = x.ord ∧ y.data = x.data ∧ y.deqIdx = x.deqIdx)
      (fun _ => ⟨rfl, rfl, rfl⟩) ⟨rfl, rfl, rfl⟩
    have hc : consumed (c.sh.upd g bump) = consumed c.sh := consumed_congr rfl rfl ⟨(fld _).1, (fld _).2.2⟩
    by_cases hroom : (c.sh.segs g).writeIdx < c.sh.segSize
    · -- the reservation: position `resv.length` goes to `v`
      rw [exec_e2_room v g hroom,
        show evS c.sh (.e2 v g) = [v] from if_pos hroom]
      have hlast : g = c.sh.last := h2.eq_last_of_room hJ2t hroom
      have hlen := hT.len
      have hpos : ∀ g' idx, pos (c.sh.upd g bump) g' idx = pos c.sh g' idx := fun g' idx => pos_congr (fld g').1 rfl
      have hnew : pos c.sh g (c.sh.segs g).writeIdx = resv.length := by
        unfold pos; rw [hlen, ← hlast]; omega
      refine TR.update ⟨?_, ?_⟩ ?_ (others _ [v] rfl (fun j _ => (fld j).1) fun _ => hc)
      · show (resv ++ [v]).length = ((c.sh.upd g bump).segs c.sh.last).ord * c.sh.segSize +
          min ((c.sh.upd g bump).segs c.sh.last).writeIdx c.sh.segSize
        rw [(fld _).1, ← hlast, upd_same, List.length_append, hlen, ← hlast]
        show _ = (c.sh.segs g).ord * c.sh.segSize + min ((c.sh.segs g).writeIdx + 1) c.sh.segSize
        simp only [List.length_singleton]; omega
      · intro g' idx w d
        rw [(fld g').2.1] at d
        rw [hpos]
        exact getElem?_append_some [v] (hT.sh.data g' idx w d)
      · refine hTt.advance [v] hpc _ _ (fun v' g' idx e => ?_) rfl rfl fun _ => hc
        cases e
        rw [hpos, hnew]; simp
    · rw [exec_e2_full v g hroom,
        show evS c.sh (.e2 v g) = [] from if_neg hroom]
      refine move _ _ _ (hT.sh.upd g bump rfl ?_ fun _ _ => Or.inl) rfl
        (fun j _ => (fld j).1) hc nofun rfl rfl
      show min ((c.sh.segs g).writeIdx + 1) c.sh.segSize = _
      omega
  | e3 v g idx =>
    have hst := hTt.store v g idx hpc
    have fld := upd_all (s := c.sh) (t := g) (f := putData idx (some v)) (R := fun x y => y.ord = x.ord ∧ y.deqIdx = x.deqIdx)
      (fun _ => ⟨rfl, rfl⟩) ⟨rfl, rfl⟩
    have hc : consumed (c.sh.upd g (putData idx (some v))) = consumed c.sh := consumed_congr rfl rfl (fld _)
    refine move (c.sh.upd g (putData idx (some v))) _ _ (hT.sh.upd g _ rfl rfl fun k w hw => ?_) rfl
      (fun j _ => (fld j).1) hc nofun rfl rfl
    by_cases e : k = idx
    · rw [e, putData_same] at hw; rw [e, ← hw]; exact Or.inr hst
    · exact Or.inl ((putData_other _ _ e).symm.trans hw)
  | e6 v g g' =>
    obtain ⟨hl, hw, hg, _⟩ := hJ2t
    by_cases hn : (c.sh.segs g).next = none
    · rw [exec_e6_link v g g' hn]
      obtain ⟨hs, hc, ho⟩ := hT.sh.link hP h2 hl hw hg hn
      exact move _ _ _ hs rfl ho hc nofun rfl rfl
    · rw [exec_e6_fail v g g' hn]
      exact move _ _ _ hT.sh rfl (fun _ _ => rfl) rfl nofun rfl rfl
  | d4 seg deq =>
    obtain ⟨hh, hdq, _, _⟩ := hJt
    cases hv : (c.sh.segs seg).data deq with
    | none =>
      rw [exec_d4_none seg deq hv]
      exact move _ _ _ hT.sh rfl (fun _ _ => rfl) rfl nofun rfl rfl
    | some v =>
      -- the consumer has seen message `v` in slot `deq` of the head segment: it is the message of position `consumed`
      rw [exec_d4_some seg deq hv]
      show TR ct ⟨c.sh, c.threads.set tid { t with pc := some (.d5 seg deq v) }, _⟩ (resv ++ [])
      cases hcons rfl
      cases hh
      have hposC : pos c.sh c.sh.head deq = consumed c.sh := by unfold pos consumed; rw [hdq]
      have hval : resv[consumed c.sh]? = some v :=
        hposC ▸ hT.sh.data c.sh.head deq v hv
      have hlt : consumed c.sh < resv.length := (List.getElem?_eq_some_iff.mp hval).1
      have hold : t.hist.reverse.filterMap resVal ++ [] = resv.take (consumed c.sh) := by
        have := hTt.deqd rfl
        rwa [deqdT, hpc] at this
      rw [List.append_nil]
      refine TR.update hT.sh ⟨nofun, fun _ => hlt, fun _ => ?_⟩ fun i ti _ hi => hT.thr i ti hi
      show t.hist.reverse.filterMap resVal ++ [v] = resv.take (consumed c.sh + 1)
      rw [List.take_succ_eq_append_getElem hlt, ← hold, List.append_nil]
      rw [List.getElem?_eq_getElem hlt] at hval; cases hval; rfl
  | d5 seg deq v =>
    have fld := upd_all (s := c.sh) (t := seg) (f := putData deq none) (R := fun x y => y.ord = x.ord ∧ y.deqIdx = x.deqIdx)
      (fun _ => ⟨rfl, rfl⟩) ⟨rfl, rfl⟩
    have hc : consumed (c.sh.upd seg (putData deq none)) = consumed c.sh := consumed_congr rfl rfl (fld _)
    refine move (c.sh.upd seg (putData deq none)) _ _ (hT.sh.upd seg _ rfl rfl fun k w hw => ?_) rfl
      (fun j _ => (fld j).1) hc nofun rfl rfl
    by_cases e : k = deq
    · rw [e, putData_same] at hw; cases hw
    · exact Or.inl ((putData_other _ _ e).symm.trans hw)
  | d6 seg deq v =>
    -- `Store:deqIdx`: the claimed position is now counted as consumed
    obtain ⟨hh, hdq, _, _⟩ := hJt
    show TR ct ⟨c.sh.upd seg (setDeq (deq + 1)), c.threads.set tid { t with pc := some (.d7 v) }, _⟩ (resv ++ [])
    cases hcons rfl
    cases hh
    have ho : ∀ j, ((c.sh.upd c.sh.head (setDeq (deq + 1))).segs j).ord = (c.sh.segs j).ord :=
      upd_all (R := fun x y => y.ord = x.ord) (fun _ => rfl) rfl
    have hc : consumed (c.sh.upd c.sh.head (setDeq (deq + 1))) = consumed c.sh + 1 := by
      unfold consumed
      show ((c.sh.upd c.sh.head (setDeq (deq + 1))).segs c.sh.head).ord * c.sh.segSize +
        ((c.sh.upd c.sh.head (setDeq (deq + 1))).segs c.sh.head).deqIdx = _
      rw [ho, upd_same, setDeq_deqIdx, hdq]; omega
    have hb := hTt.bound rfl
    have hd := hTt.deqd rfl
    rw [deqdT, hpc] at hd
    rw [hpc] at hb
    refine TR.update (by rw [List.append_nil]; exact hT.sh.upd _ _ rfl rfl fun _ _ => Or.inl)
      ⟨nofun, fun _ => ?_, fun _ => ?_⟩ (others _ [] rfl (fun j _ => ho j) fun e => absurd rfl e)
    · show consumed (c.sh.upd c.sh.head (setDeq (deq + 1))) + 0 ≤ (resv ++ []).length
      rw [hc, List.append_nil]; exact hb
    · show t.hist.reverse.filterMap resVal ++ [v] = (resv ++ []).take (consumed (c.sh.upd c.sh.head (setDeq (deq + 1))) + 0)
      rw [hc, List.append_nil]; exact hd
  | d9 seg nx =>
    -- `Store:head`: the consumer moves to the next segment; nothing is counted twice or skipped
    obtain ⟨hh, hfull⟩ := hJt
    cases hh
    obtain ⟨hl, ho⟩ := h2.next_linked h2.hd hJ2t
    have hz : (c.sh.segs nx).deqIdx = 0 := h2.after nx hl (by rw [ho]; exact Nat.lt_succ_self _)
    have hc : consumed ({ c.sh with head := nx } : Sh) = consumed c.sh := by
      unfold consumed
      show (c.sh.segs nx).ord * c.sh.segSize + (c.sh.segs nx).deqIdx = _
      rw [ho, hz, hfull, Nat.succ_mul]; rfl
    exact move _ _ _ (hT.sh.same rfl rfl rfl) rfl (fun _ _ => rfl) hc nofun rfl rfl
  | _ => exact absurd rfl hq

theorem tr_initS (ct n : Nat) (progs : List (List Op)) : TR ct (initCfg Segmented.algo (Segmented.init n) progs) [] := by
  have hc : consumed (Segmented.init n) = 0 := by
    unfold consumed
    show ((Segmented.init n).segs 0).ord * n + ((Segmented.init n).segs 0).deqIdx = 0
    obtain ⟨_, hd, _, _, _, ho⟩ := init_seg n 0
    rw [ho, hd]; simp
  refine ⟨⟨?_, fun g idx w d => nomatch ((init_seg n g).2.2.2.1 idx).symm.trans d⟩, fun i t hi => ?_⟩
  · show 0 = ((Segmented.init n).segs 0).ord * n + min ((Segmented.init n).segs 0).writeIdx n
    obtain ⟨hw, _, _, _, _, ho⟩ := init_seg n 0
    rw [ho, hw]; simp
  · obtain ⟨p, k, _, rfl⟩ := initCfg_get hi
    have hi0 : inflight (mkThread algo p k).pc = 0 := (parked_mk algo p k).const rfl (fun op => by cases op <;> rfl)
    refine ⟨fun v g idx e => ?_, fun _ => ?_, fun _ => ?_⟩
    · exact absurd rfl ((parked_mk algo p k).all (R := fun pc => pc ≠ .e3 v g idx) (fun op => by cases op <;> nofun) _ e)
    · show consumed (Segmented.init n) + _ ≤ 0
      rw [hc, hi0]; exact Nat.le_refl _
    · exact (deqd_mk (A := algo) rfl pcDeq_start p k).trans (List.take_nil).symm

end GoaktVerif.C04.SegInv
