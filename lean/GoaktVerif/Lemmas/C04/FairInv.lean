/-
C04 — UnboundedFairMailbox: the frame of one step, and what holds of the activation protocol for ALL
schedules.

`exec_frame` takes what a step writes off `exec` once, site by site; FairCount and FairSub rest on it too, and only
`exec_outcome` and FairSub's `step_pcj` look at `exec` again, for where a step leads.

`ActInv`: a sender with counted messages (`pending > 0`) is active, or some thread is parked at a site
from which it will (re)check that sender (`isCheck`).  Every atomic step of every thread preserves it, with ONE
exception: the nil-branch re-check (`i3`) executed while `pending > 0`, `active = false` and `length ≤ 0`
(`guardMiss`).  The theorem is stated over the runs without such a step (`ReachNM`); FairCount and FairSub show that
these are all runs.
-/
import GoaktVerif.Model.C04.Fair
import GoaktVerif.Lemmas.C04.CoreLemmas

namespace GoaktVerif.C04.FairInv
open GoaktVerif.Model.C04 GoaktVerif.Model.C04.Fair

/-- sites from which the parked thread will still (re)check sender `k` -/
def isCheck (k : Nat) : PC → Bool
  | .ub k' true (.enq1 _) => k' == k
  | .ub k' true (.enq2 _) => k' == k
  | .ub k' true (.enq3 _ _) => k' == k
  | .f6 k' => k' == k
  | .i2 k' => k' == k
  | .i3 k' => k' == k
  | .i4 k' => k' == k
  | .j5 k' _ => k' == k
  | .j6 k' _ => k' == k
  | _ => false

/-- the one step that gives up a sender with counted messages: Dequeue's nil-branch re-check finds
`pending > 0`, `active = false`, but `length ≤ 0` -/
def guardMiss (s : Sh) : PC → Bool
  | .i3 k => decide ((s.boxes k).pending > 0) && ((s.boxes k).active == false) && !decide (s.length > 0)
  | _ => false

theorem updBox_length (s : Sh) (k : Nat) (f : Box → Box) : (s.updBox k f).length = s.length := rfl

/-- `g` is `f` up to what `f` reads of the old state -/
theorem updBox_apply (s : Sh) (k' k : Nat) (f g : Box → Box) (h : f (s.boxes k') = g (s.boxes k')) :
    (s.updBox k' f).boxes k = if k = k' then g (s.boxes k) else s.boxes k := by
  show (if k = k' then f (s.boxes k') else s.boxes k) = _
  split
  · next e => subst e; exact h
  · rfl

theorem boxes_self (s : Sh) (k' k : Nat) (g : Box → Box) (h : g (s.boxes k') = s.boxes k') :
    s.boxes k = if k = k' then g (s.boxes k) else s.boxes k := by
  split
  · next e => subst e; exact h.symm
  · rfl

theorem set_active_self {b : Box} {a : Bool} (h : a = b.active) : { b with active := a } = b := by
  subst h; rfl

theorem poolGet_frame (s : Sh) : s.poolGet.1.boxes = s.boxes ∧ s.poolGet.1.length = s.length := by
  -- `fun_cases f args` yields one goal per leaf of the model's definition of `f`, with the branch conditions as hypotheses
  -- and the leaf's result in place of the call.  Here: the private slot, the head of the shared list, a new node.
  fun_cases Sh.poolGet s <;> exact ⟨rfl, rfl⟩

theorem poolPut_frame (s : Sh) (x : Nat) : (s.poolPut x).boxes = s.boxes ∧ (s.poolPut x).length = s.length := by
  -- into the empty private slot, or onto the shared list
  fun_cases Sh.poolPut s x <;> exact ⟨rfl, rfl⟩

theorem activate_next (s : Sh) (k : Nat) (r : Res) : (activate s k r).2 = .goto (.a1 k s.poolGet.2 r) := rfl

/-- the sender a site works for (0 where there is none) -/
def senderOf : PC → Nat
  | .ub k _ _ | .f4 k _ | .f5 k _ | .f6 k | .a1 k _ _ | .a2 k _ _ | .a3 k _ _ | .i1 k | .i2 k | .i3 k | .i4 k
  | .j1 k _ | .j2 k _ | .j3 k _ | .j4 k _ | .j5 k _ | .j6 k _ => k
  | _ => 0

/-- what the step at `pc` does to the box of `senderOf pc`.  A `CAS:active(false → true)` leaves
`active = true` whether it succeeds or not; `j6` attempts it only when `pending > 0` -/
def boxEff : PC → Box → Box
  | .ub _ _ upc, b => b.ubStep upc
  | .f5 _ v, b => { b with pending := b.pending + 1, cntL := b.cntL ++ [v] }
  | .f6 _, b | .i4 _, b => { b with active := true }
  | .i1 _, b | .j4 _ _, b => { b with active := false }
  | .j2 _ _, b => { b with pending := b.pending - 1, decd := b.decd + 1, held := b.held - 1 }
  | .j3 _ _, b => { b with pending := 0 }
  | .j6 _ _, b => { b with active := b.active || decide (b.pending > 0) }
  | _, b => b

/-- +1: the thread has added to `length` and not yet to `pending`; −1: it has subtracted from `length`
and not yet from `pending` -/
def contribPC : PC → Int
  | .f5 _ _ => 1
  | .j2 _ _ => -1
  | _ => 0

def nextContrib : Next PC → Int
  | .goto pc => contribPC pc
  | .ret _ => 0

def nextOn {α : Sort _} (f : PC → α) (d : α) : Next PC → α
  | .goto pc => f pc
  | .ret _ => d

/-- sites of Dequeue (inside a sub-queue: those of its Dequeue; in `activeSenders.enqueue`: when it re-lists) -/
def consPC : PC → Bool
  | .ub _ _ .deq1 | .ub _ _ (.deq2 _) | .ub _ _ (.deq3 _ _) | .ub _ _ (.deq4 _ _) => true
  | .ub _ _ _ | .f4 _ _ | .f5 _ _ | .f6 _ | .l1 _ => false
  | .a1 _ _ r | .a2 _ _ r | .a3 _ _ r | .a4 _ _ r => r != .ok
  | _ => true

/-- the message the thread is about to put into a sub-queue (not yet reserved there) -/
def pcFresh : Option PC → List Nat
  | some (.f4 _ v) => [v]
  | some (.f5 _ v) => [v]
  | some (.ub _ _ (.enq1 v)) => [v]
  | some (.ub _ _ (.enq2 v)) => [v]
  | _ => []

def resvBy : PC → List Nat
  | .ub _ _ (.enq2 w) => [w]
  | _ => []

/-- what a step `r = exec s pc` keeps: only box `senderOf pc` is rewritten; `length` moves by what the thread owes to
`pending` from now on; the sites of Dequeue lead to sites of Dequeue and the others to the others; the fresh message
is reserved by the step or still fresh at the next site.  (`r` is a parameter so that one `split` of `exec s pc` serves all four fields.) -/
structure Frame (s : Sh) (pc : PC) (r : Sh × Next PC) : Prop where
  box : ∀ k, r.1.boxes k = if k = senderOf pc then boxEff pc (s.boxes k) else s.boxes k
  length : r.1.length = s.length + nextContrib r.2
  deq : nextOn consPC (consPC pc) r.2 = consPC pc
  fresh : pcFresh (some pc) = resvBy pc ++ nextOn (fun pc' => pcFresh (some pc')) [] r.2

theorem activate_box (s : Sh) (k : Nat) (f g : Box → Box) (r : Res) (h : f (s.boxes k) = g (s.boxes k)) (k' : Nat) :
    (activate (s.updBox k f) k r).1.boxes k' = if k' = k then g (s.boxes k') else s.boxes k' :=
  (congrFun (poolGet_frame _).1 k').trans (updBox_apply s k k' f g h)

theorem activate_length (s : Sh) (k : Nat) (r : Res) :
    (activate s k r).1.length = s.length + nextContrib (activate s k r).2 :=
  (poolGet_frame s).2.trans (Int.add_zero _).symm

/-- the `match r.2` of `Fair.exec` at a sub-queue site -/
def ubNext (k : Nat) (f : Bool) : Next Unbounded.PC → Next PC
  | .goto pc' => .goto (.ub k f pc')
  | .ret (.val n) => .goto (.j1 k n)
  | .ret .none => .goto (.i1 k)
  | .ret _ => if f then .goto (.f6 k) else .ret .ok

theorem ubNext_contrib (k : Nat) (f : Bool) (nx : Next Unbounded.PC) : nextContrib (ubNext k f nx) = 0 := by
  cases nx with
  | goto pc' => rfl
  | ret r => cases r <;> cases f <;> rfl

theorem exec_frame (s : Sh) (pc : PC) : Frame s pc (exec s pc) := by
  -- the sites inside a sub-queue, all ways out at once: what they are to `consPC` and `pcFresh` is read off `Unbounded.exec`
  have ub (k f upc) : Frame s (.ub k f upc) (s.updBox k (·.ubStep upc), ubNext k f (Unbounded.exec (s.boxes k).mb upc).2) := by
    refine ⟨fun k' => updBox_apply s k k' _ (boxEff (.ub k f upc)) rfl,
      (ubNext_contrib k f _ ▸ Int.add_zero _).symm, ?_, ?_⟩
    all_goals cases upc with
      | enq3 v p => cases f <;> rfl
      | emp2 h => cases f <;> rfl
      | deq2 h => simp only [Unbounded.exec]; split <;> rfl
      | len2 h => simp only [Unbounded.exec]; cases f <;> split <;> rfl
      | len3 h n => simp only [Unbounded.exec]; cases f <;> split <;> rfl
      | _ => rfl
  -- `case1`, `case2`, … follow the order of the leaves in Model/C04/Fair.lean
  fun_cases exec s pc
  -- ub: the sub-queue step goes on, returns a message, returns nil
  case case1 k f upc _ _ _ hx | case2 k f upc _ _ _ hx | case3 k f upc _ _ hx => exact (hx ▸ ub k f upc :)
  -- ub: the sub-queue's Enqueue (or IsEmpty, Len) returns
  case case4 k f upc _ _ r h1 h2 hx =>
    have := hx ▸ ub k f upc
    cases r with
    | val n => exact (h1 n rfl).elim
    | none => exact (h2 rfl).elim
    | _ => exact this
  -- f4, j1: `length` moves, and the thread owes as much to `pending`
  case case5 | case26 => exact ⟨fun _ => (ite_self _).symm, rfl, rfl, rfl⟩
  -- f5, i1, j3, j4, then j2 with remaining < 0 and = 0: box `k` is rewritten as `boxEff` says
  case case6 k v _ => exact ⟨fun k' => updBox_apply s k k' _ (boxEff (.f5 k v)) rfl, (Int.add_zero _).symm, rfl, rfl⟩
  case case21 k => exact ⟨fun k' => updBox_apply s k k' _ (boxEff (.i1 k)) rfl, (Int.add_zero _).symm, rfl, rfl⟩
  case case30 k n => exact ⟨fun k' => updBox_apply s k k' _ (boxEff (.j3 k n)) rfl, (Int.add_zero _).symm, rfl, rfl⟩
  case case31 k n => exact ⟨fun k' => updBox_apply s k k' _ (boxEff (.j4 k n)) rfl, (Int.add_zero _).symm, rfl, rfl⟩
  case case28 k n _ _ _ _ | case29 k n _ _ _ _ =>
    exact ⟨fun k' => updBox_apply s k k' _ (boxEff (.j2 k n)) rfl, (Int.add_zero _).symm, rfl, rfl⟩
  -- f6 and i4 when the CAS succeeds, then j2 with remaining > 0: the same, and `activate`
  case case7 k _ | case24 k _ => exact ⟨activate_box s k _ _ _ rfl, activate_length _ k _, rfl, rfl⟩
  case case27 k n _ _ _ => exact ⟨activate_box s k _ (boxEff (.j2 k n)) _ rfl, activate_length _ k _, rfl, rfl⟩
  -- f6, i4, the CAS fails: `active` was true already
  case case8 k h | case25 k h =>
    exact ⟨fun k' => boxes_self s k k' _ (set_active_self (Bool.of_not_eq_false h).symm), (Int.add_zero _).symm, rfl, rfl⟩
  -- g6 (the node held no sender / sender `k`): `poolPut`
  case case19 | case20 =>
    exact ⟨fun k' => (congrFun (poolPut_frame _ _).1 k').trans (ite_self _).symm,
      (poolPut_frame _ _).2.trans (Int.add_zero _).symm, rfl, rfl⟩
  -- i3: to `i4` or to `g1`
  case case23 => split <;> exact ⟨fun _ => (ite_self _).symm, (Int.add_zero _).symm, rfl, rfl⟩
  -- j6, `pending > 0` and the CAS succeeds
  case case33 k n h =>
    refine ⟨activate_box s k _ (boxEff (.j6 k n)) _ ?_, activate_length _ k _, rfl, rfl⟩
    simp only [Bool.and_eq_true, decide_eq_true_eq] at h
    simp only [boxEff, h.1, h.2, decide_true, Bool.or_true]
  -- j6, the CAS was not attempted (`pending ≤ 0`) or found `active = true`
  case case34 k n h =>
    refine ⟨fun k' => boxes_self s k k' (boxEff (.j6 k n)) (set_active_self ?_), (Int.add_zero _).symm, rfl, rfl⟩
    cases ha : (s.boxes k).active with
    | true => rfl
    | false => exact Bool.eq_false_iff.mpr fun hp => h (by rw [show decide _ = true from hp, ha]; rfl)
  -- a1 … a4, g1 … g5, i2, j5, l1: neither a box nor `length` is written
  all_goals exact ⟨fun _ => (ite_self _).symm, (Int.add_zero _).symm, rfl, rfl⟩

theorem exec_box (s : Sh) (pc : PC) (k : Nat) :
    (exec s pc).1.boxes k = if k = senderOf pc then boxEff pc (s.boxes k) else s.boxes k :=
  (exec_frame s pc).box k

theorem isCheck_sender {k : Nat} {pc : PC} (h : isCheck k pc = true) : senderOf pc = k := by
  unfold isCheck at h
  split at h <;> first | exact eq_of_beq h | cases h

/-- one step, seen from a sender `k` that has counted messages afterwards: `k` is active, or about to be checked by
the stepping thread, or it had them before, keeps `active`, and the stepping thread was not its checker -/
theorem exec_outcome (s : Sh) (pc : PC) (k : Nat) (hg : guardMiss s pc = false)
    (h : ((exec s pc).1.boxes k).pending > 0) :
    ((exec s pc).1.boxes k).active = true ∨
    (∃ pc', (exec s pc).2 = .goto pc' ∧ isCheck k pc' = true) ∨
    ((s.boxes k).pending > 0 ∧ ((s.boxes k).active = true → ((exec s pc).1.boxes k).active = true) ∧
      isCheck k pc = false) := by
  rw [exec_box] at h ⊢
  by_cases e : k = senderOf pc
  · subst e
    rw [if_pos rfl] at h ⊢
    cases pc with
    | ub k f upc =>
      cases hc : isCheck k (.ub k f upc) with
      | false => exact Or.inr (Or.inr ⟨h, id, hc⟩)
      | true =>
        cases f with
        | false => cases upc <;> cases hc
        | true =>
          cases upc with
          | enq1 v => exact Or.inr (Or.inl ⟨_, rfl, hc⟩)
          | enq2 v => exact Or.inr (Or.inl ⟨_, rfl, hc⟩)
          | enq3 v prev => exact Or.inr (Or.inl ⟨.f6 k, rfl, hc⟩)
          | _ => cases hc
    | f5 k v =>
      simp only [senderOf, boxEff] at h ⊢
      by_cases h1 : (s.boxes k).pending + 1 = 1
      · refine Or.inr (Or.inl ⟨_, rfl, ?_⟩)
        rw [show ((s.boxes k).pending + 1 == 1) = true from beq_iff_eq.mpr h1]
        exact beq_self_eq_true k
      · exact Or.inr (Or.inr ⟨by omega, id, rfl⟩)
    | f6 k => exact Or.inl rfl
    | i4 k => exact Or.inl rfl
    | j6 k n =>
      exact Or.inl (show ((s.boxes k).active || decide ((s.boxes k).pending > 0)) = true by
        rw [decide_eq_true (show (s.boxes k).pending > 0 from h)]; exact Bool.or_true _)
    | i1 k => exact Or.inr (Or.inl ⟨.i2 k, rfl, beq_self_eq_true k⟩)
    | i2 k => exact Or.inr (Or.inl ⟨.i3 k, rfl, beq_self_eq_true k⟩)
    | i3 k =>
      have hp : (s.boxes k).pending > 0 := h
      by_cases hl : s.length > 0
      · refine Or.inr (Or.inl ⟨.i4 k, ?_, beq_self_eq_true k⟩)
        show (if (decide (s.length > 0) && decide ((s.boxes k).pending > 0)) = true then _ else _) = _
        rw [decide_eq_true hl, decide_eq_true hp]; rfl
      · cases hact : (s.boxes k).active with
        | true => exact Or.inl hact
        | false =>
          -- `pending > 0`, `active = false`, `length ≤ 0`: the excluded step
          have : guardMiss s (.i3 k) = (decide ((s.boxes k).pending > 0) && ((s.boxes k).active == false) &&
              !decide (s.length > 0)) := rfl
          rw [this, decide_eq_true hp, hact, decide_eq_false hl] at hg
          cases hg
    | j4 k n => exact Or.inr (Or.inl ⟨.j5 k n, rfl, beq_self_eq_true k⟩)
    | j5 k n => exact Or.inr (Or.inl ⟨.j6 k n, rfl, beq_self_eq_true k⟩)
    | j2 k n =>
      simp only [senderOf, boxEff] at h ⊢
      exact Or.inr (Or.inr ⟨by omega, id, rfl⟩)
    | j3 k n => exact absurd (show (0 : Int) > 0 from h) (by decide)
    | _ => exact Or.inr (Or.inr ⟨h, id, rfl⟩)
  · rw [if_neg e] at h ⊢
    exact Or.inr (Or.inr ⟨h, id, Bool.eq_false_iff.mpr fun hc => e (isCheck_sender hc).symm⟩)

def someoneChecks (c : Cfg Fair.algo) (k : Nat) : Prop :=
  ∃ (i : Nat) (t : Thread PC) (pc : PC), c.threads[i]? = some t ∧ t.pc = some pc ∧ isCheck k pc = true

/-- a sender with counted messages is active or about to be (re)checked -/
def ActInv (c : Cfg Fair.algo) : Prop :=
  ∀ k, (c.sh.boxes k).pending > 0 → (c.sh.boxes k).active = true ∨ someoneChecks c k

inductive ReachNM (c0 : Cfg Fair.algo) : Cfg Fair.algo → Prop where
  | init : ReachNM c0 c0
  | step {c : Cfg Fair.algo} (tid : Nat) : ReachNM c0 c →
      (∀ (t : Thread PC) (pc : PC), c.threads[tid]? = some t → t.pc = some pc → guardMiss c.sh pc = false) →
      ReachNM c0 (stepCfg c tid)

theorem ReachNM.reach {c0 c : Cfg Fair.algo} (h : ReachNM c0 c) : Reach Fair.algo c0 c := by
  induction h with
  | init => exact Reach.init
  | step tid _ _ ih => exact Reach.step tid ih

theorem actInv_step (c : Cfg Fair.algo) (tid : Nat) (h : ActInv c)
    (hg : ∀ (t : Thread PC) (pc : PC), c.threads[tid]? = some t → t.pc = some pc → guardMiss c.sh pc = false) :
    ActInv (stepCfg c tid) := by
  refine step_ind h fun t pc ht hpc k hp => ?_
  rcases exec_outcome c.sh pc k (hg t pc ht hpc) hp with ha | ⟨pc', hnx, hck⟩ | ⟨hp0, hact, hnc⟩
  · exact Or.inl ha
  · exact Or.inr ⟨tid, _, pc', List.getElem?_set_self (List.getElem?_eq_some_iff.mp ht).1, congrArg (fun nx => (t.advance Fair.algo c.clock nx).pc) hnx, hck⟩
  · rcases h k hp0 with ha | ⟨i, ti, pci, hi, hpci, hck⟩
    · exact Or.inl (hact ha)
    · have hne : tid ≠ i := by
        intro e; subst e
        cases ht.symm.trans hi
        cases hpc.symm.trans hpci
        rw [hnc] at hck; cases hck
      exact Or.inr ⟨i, ti, pci, (List.getElem?_set_ne hne).trans hi, hpci, hck⟩

theorem actInv_init (progs : List (List Op)) : ActInv (initCfg Fair.algo Fair.init progs) :=
  fun _ hp => absurd (show (0 : Int) > 0 from hp) (by decide)

theorem actInv_reach (progs : List (List Op)) (c : Cfg Fair.algo)
    (h : ReachNM (initCfg Fair.algo Fair.init progs) c) : ActInv c := by
  induction h with
  | init => exact actInv_init progs
  | step tid _ hg ih => exact actInv_step _ tid ih hg

theorem quiescent_no_check (c : Cfg Fair.algo) (hd : allDone c = true) (k : Nat) :
    ¬ someoneChecks c k := by
  rintro ⟨i, t, pc, hi, hpc, _⟩
  have hm : t ∈ c.threads := List.mem_of_getElem? hi
  have := (List.all_eq_true.mp hd) t hm
  rw [hpc] at this
  cases this

/-- the UnboundedMailbox of sender `k` changes only by UnboundedMailbox steps taken on behalf of `k` -/
theorem subqueue_frame (s : Sh) (pc : PC) (k : Nat) :
    ((exec s pc).1.boxes k).mb = (s.boxes k).mb ∨
    ∃ first upc, pc = .ub k first upc ∧ ((exec s pc).1.boxes k).mb = (Unbounded.exec (s.boxes k).mb upc).1 := by
  rw [exec_box]
  split
  · next e =>
    subst e
    cases pc with
    | ub k f upc => exact Or.inr ⟨f, upc, rfl, rfl⟩
    | _ => exact Or.inl rfl
  · exact Or.inl rfl

end GoaktVerif.C04.FairInv
