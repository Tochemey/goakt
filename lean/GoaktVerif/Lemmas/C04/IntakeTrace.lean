/-
C04 — conservation for the Treiber intake, along every schedule (`tri_run`).  With `pushed` the messages in the order of the successful
`CAS:head` (the acceptance order) and `inserted` the messages in the order in which the consumer moved
them into the heap: for every run  inserted ++ (rest of the current batch) ++ reverse(stack) = pushed.
So the heap receives exactly the accepted messages, each once, in acceptance order (arrival numbers
of the stable variants = position in `pushed`), and what is not yet in the heap is still in the batch
or on the stack — nothing is lost or duplicated between Enqueue and the heap.
-/
import GoaktVerif.Lemmas.C04.IntakeMain
import GoaktVerif.Lemmas.C04.HeapCorrect

namespace GoaktVerif.C04.IntakeInv
open GoaktVerif.Model.C04 GoaktVerif.Model.C04.Intake

variable {k : Conf}

abbrev Cf (k : Conf) := Cfg (algo k)

inductive IEv where
  | push (v : Nat)     -- successful CAS:head of Enqueue(v)
  | ins (v : Nat)      -- v moved from the batch into the heap
  | pop (v : Nat)      -- v popped from the heap (the value this Dequeue will return)

/-- the pop performed by the consumer-side code after the intake has been moved into the heap -/
def popEv (k : Conf) (s : Sh) : List IEv :=
  match Heap.pop k.ltItem s.heap with
  | some (x, _) => [.pop x.1]
  | none => []

def evI (k : Conf) (s : Sh) : PC → List IEv
  | .push3 v old => if s.head = old then [.push v] else []
  | .deq2 => if s.head = none then popEv k s else []
  | .deq6 n nxt => .ins n :: (if nxt = none then popEv k (s.moveToHeap k n) else [])
  | _ => []

def stepEvI (c : Cf k) (tid : Nat) : List IEv :=
  match c.threads[tid]? with
  | some t => match t.pc with
    | some pc => evI k c.sh pc
    | none => []
  | none => []

def traceI (c : Cf k) : List Nat → List IEv
  | [] => []
  | t :: ts => stepEvI c t ++ traceI (stepCfg c t) ts

def pushedOf : List IEv → List Nat
  | [] => []
  | .push v :: es => v :: pushedOf es
  | _ :: es => pushedOf es

def insertedOf : List IEv → List Nat
  | [] => []
  | .ins v :: es => v :: insertedOf es
  | _ :: es => insertedOf es

def poppedOf (es : List IEv) : List Nat := es.filterMap fun | .pop v => some v | _ => none

theorem stepEvI_eq (c : Cf k) (tid : Nat) : stepEvI c tid = stepEvOf (evI k) c tid := by
  cases h : c.threads[tid]? with
  | none => simp only [stepEvI, stepEvOf, h]
  | some t => cases h' : t.pc <;> simp only [stepEvI, stepEvOf, h, h']

theorem poppedOf_append (a b : List IEv) : poppedOf (a ++ b) = poppedOf a ++ poppedOf b := List.filterMap_append

theorem popEv_facts (k : Conf) (s : Sh) : pushedOf (popEv k s) = [] ∧ insertedOf (popEv k s) = [] := by
  unfold popEv; split <;> exact ⟨rfl, rfl⟩

theorem pushedOf_append (a b : List IEv) : pushedOf (a ++ b) = pushedOf a ++ pushedOf b := by
  induction a with
  | nil => rfl
  | cons e es ih => cases e <;> simp [pushedOf, ih]

theorem insertedOf_append (a b : List IEv) : insertedOf (a ++ b) = insertedOf a ++ insertedOf b := by
  induction a with
  | nil => rfl
  | cons e es ih => cases e <;> simp [insertedOf, ih]

structure TRII (k : Conf) (stack batch : List Nat) (done seq : Nat) (heap : List (Nat × Nat)) (evs : List IEv) :
    Prop where
  cons : insertedOf evs ++ batch.drop done ++ stack.reverse = pushedOf evs
  seq : k.stable = true → seq = (insertedOf evs).length
  /-- what is in the heap, together with what has been popped, is exactly what has been inserted -/
  heap : (heap.map Prod.fst ++ poppedOf evs).Perm (insertedOf evs)

abbrev TRI (k : Conf) (s : Sh) (evs : List IEv) : Prop := TRII k s.stack s.batch s.done s.seq s.heap evs

theorem tri_afterDrain {s : Sh} {evs : List IEv} (h : TRI k s evs) : TRI k (afterDrain k s).1 (evs ++ popEv k s) := by
  unfold afterDrain popEv
  cases hp : Heap.pop k.ltItem s.heap with
  | none => exact (List.append_nil evs).symm ▸ h
  | some pr =>
    obtain ⟨x, rest⟩ := pr
    refine ⟨?_, fun hs => ?_, ?_⟩
    · rw [insertedOf_append, pushedOf_append]; exact (List.append_nil _).symm ▸ (List.append_nil _).symm ▸ h.cons
    · rw [insertedOf_append]; exact (List.append_nil _).symm ▸ h.seq hs
    · rw [insertedOf_append, poppedOf_append]
      show (rest.map Prod.fst ++ (poppedOf evs ++ [x.1])).Perm (insertedOf evs ++ [])
      have h1 : (x.1 :: rest.map Prod.fst).Perm (s.heap.map Prod.fst) :=
        (GoaktVerif.C04.Heap.pop_perm s.heap x rest hp).map Prod.fst
      rw [List.append_nil, ← List.append_assoc]
      exact List.perm_append_comm.trans ((h1.append_right _).trans h.heap)

theorem tri_move {s : Sh} {evs : List IEv} {n : Nat} {L : List Nat} (h : TRI k s evs)
    (hdrop : s.batch.drop s.done = n :: L) : TRI k (s.moveToHeap k n) (evs ++ [IEv.ins n]) := by
  refine ⟨?_, fun hs => ?_, ?_⟩
  · rw [insertedOf_append, pushedOf_append]
    show (insertedOf evs ++ [n]) ++ s.batch.drop (s.done + 1) ++ s.stack.reverse = pushedOf evs ++ []
    rw [List.append_nil, ← h.cons, hdrop, ← List.tail_drop, hdrop]
    simp only [List.tail_cons, List.append_assoc, List.cons_append, List.nil_append]
  · rw [insertedOf_append]
    show (if k.stable then s.seq + 1 else s.seq) = (insertedOf evs ++ [n]).length
    rw [hs, if_pos rfl, h.seq hs, List.length_append]; rfl
  · rw [insertedOf_append, poppedOf_append]
    show ((Heap.push k.ltItem s.heap (n, s.seq)).map Prod.fst ++ (poppedOf evs ++ [])).Perm (insertedOf evs ++ [n])
    have h1 : ((Heap.push k.ltItem s.heap (n, s.seq)).map Prod.fst).Perm (n :: s.heap.map Prod.fst) :=
      (GoaktVerif.C04.Heap.push_perm s.heap (n, s.seq)).map Prod.fst
    rw [List.append_nil]
    exact ((h1.append_right _).trans (h.heap.cons n)).trans (List.perm_append_comm (l₁ := [n]))

theorem tri_step (ct tid : Nat) (c : Cf k) (evs : List IEv)
    (hJ : ∀ (i : Nat) (t : Th), c.threads[i]? = some t → J ct i c.sh t) (hT : TRI k c.sh evs) :
    TRI k (stepCfg c tid).sh (evs ++ stepEvI c tid) := by
  have hT0 : TRI k c.sh (evs ++ []) := (List.append_nil evs).symm ▸ hT
  rw [stepEvI_eq]
  refine step_ev_ind (evI k) (Q := fun (c' : Cf k) e => TRI k c'.sh (evs ++ e)) hT0 fun t pc ht hpc => ?_
  have hJt := hJ tid t ht
  have hp := hJt.pc pc hpc
  cases pc with
  | push3 v old =>
    simp only [exec, evI]
    split
    · refine ⟨?_, fun hs => ?_, ?_⟩
      · rw [insertedOf_append, pushedOf_append]
        show (insertedOf evs ++ []) ++ c.sh.batch.drop c.sh.done ++ (v :: c.sh.stack).reverse = pushedOf evs ++ [v]
        rw [List.append_nil, List.reverse_cons, ← List.append_assoc, hT.cons]
      · rw [insertedOf_append]; exact (List.append_nil _).symm ▸ hT.seq hs
      · rw [insertedOf_append, poppedOf_append]
        exact (List.append_nil _).symm ▸ (List.append_nil _).symm ▸ hT.heap
    · exact hT0
  | deq2 =>
    have hid : c.sh.done = c.sh.batch.length := hJt.idle (hJt.is_consumer hpc rfl) (by rw [hpc]; rfl)
    simp only [exec, evI]
    split
    · next hh => rw [if_pos hh]; exact tri_afterDrain hT
    · next b hb =>
      rw [if_neg (by rw [hb]; intro h; cases h)]
      refine ⟨?_, hT0.seq, hT0.heap⟩
      -- the old batch was used up; the stack, reversed, is the new one
      have hc := hT.cons
      rw [hid, List.drop_length, List.append_nil] at hc
      show insertedOf (evs ++ []) ++ c.sh.stack.reverse ++ [] = pushedOf (evs ++ [])
      rw [List.append_nil, List.append_nil]; exact hc
  | deq6 n nxt =>
    obtain ⟨L, hL, _⟩ := hp
    have base := tri_move (k := k) hT hL
    cases nxt with
    | some nx => exact base
    | none =>
      show TRI k (afterDrain k (c.sh.moveToHeap k n)).1 (evs ++ ([IEv.ins n] ++ popEv k (c.sh.moveToHeap k n)))
      rw [← List.append_assoc]; exact tri_afterDrain base
  | enqL v => simp only [exec, evI]; split <;> (try split) <;> exact hT0
  | enqC v l => simp only [exec, evI]; split <;> exact hT0
  | deq1 => simp only [exec, evI]; split <;> exact hT0
  | deq4 a b c' => cases c' <;> exact hT0
  | _ => exact hT0

theorem tri_run (ct : Nat) (progs : List (List Op)) (wf : IntakeWF ct progs) :
    ∀ (sched : List Nat) (c : Cf k) (evs : List IEv),
      Reach (algo k) (initCfg (algo k) Intake.init progs) c → TRI k c.sh evs →
      TRI k (runSched c sched).sh (evs ++ traceI c sched) :=
  run_trace stepEvI traceI (fun _ => rfl) (fun _ _ _ => rfl) (fun c evs => TRI k c.sh evs) fun c tid evs hr hT =>
    tri_step ct tid c evs (intake_inv (k := k) ct progs wf c hr).2.1 hT

end GoaktVerif.C04.IntakeInv
