/-
C04 — UnboundedMailbox: the forward simulation, one step of any thread (`step_sim`) and along a schedule (`run_sim`).
-/
import GoaktVerif.Lemmas.C04.UBSteps

namespace GoaktVerif.C04.UB
open GoaktVerif.Model.C04 GoaktVerif.Model.C04.Unbounded GoaktVerif.Spec.C04

/-- FORWARD SIMULATION, one step: whatever thread is scheduled, the abstract reservation queue
makes the matching move (or stutters) and the relation is re-established. -/
theorem step_sim (ct tid : Nat) (c : Cf) (cells : List Cell) (hI : Inv ct c cells) :
    ∃ cells', specStep cells (stepEv c tid) = some cells' ∧ Inv ct (stepCfg c tid) cells' := by
  rcases step_or_idle c tid with ⟨t, pc, ht, hpc⟩ | ⟨e, hidle⟩
  case inr => rw [e, stepEv_idle hidle]; exact ⟨cells, rfl, hI⟩
  have ok := hI.thr tid t ht
  rw [stepCfg_eq ht hpc, stepEv_eq ht hpc]
  cases pc with
  | enq1 v => exact ⟨cells, rfl, inv_enq1 hI ht hpc⟩
  | enq2 v => exact ⟨cells ++ [Cell.pending v], rfl, inv_enq2 hI ht hpc⟩
  | enq3 v p =>
    obtain ⟨hm, hinv⟩ := inv_enq3 hI ht hpc
    exact ⟨Spec.C04.publish cells v, RQ.step_iff.mpr (.publish hm), hinv _⟩
  | deq3 h n =>
    obtain ⟨rest, hcells, hinv⟩ := inv_deq3 hI ht hpc
    exact ⟨rest, hcells ▸ RQ.step_iff.mpr (.deq n rest), hinv _⟩
  | deq4 h n => exact ⟨cells, rfl, inv_deq4 hI ht hpc⟩
  | deq2 h =>
    cases ok.deq2 h hpc
    cases hn : c.sh.next c.sh.head with
    | none =>
      refine ⟨cells, ?_, ?_⟩
      · simp only [evOf, hn, ↓reduceIte, specStep]
        exact RQ.step_iff.mpr (.none (Chain.head_none hI.chain hn))
      · simp only [exec, hn]
        exact inv_local hI ht hpc rfl (forall_ret rfl)
    | some n =>
      simp only [exec, evOf, hn]
      exact ⟨cells, rfl, inv_local hI ht hpc rfl (forall_goto rfl ⟨rfl, rfl, ⟨rfl, hn⟩, nofun⟩)⟩
  | deq1 => exact ⟨cells, rfl, inv_local hI ht hpc rfl (forall_goto rfl ⟨rfl, rfl, rfl, nofun⟩)⟩
  | emp1 => exact ⟨cells, rfl, inv_local hI ht hpc rfl (forall_goto rfl ⟨rfl, rfl, trivial, nofun⟩)⟩
  | emp2 h => exact ⟨cells, rfl, inv_local hI ht hpc rfl (forall_ret rfl)⟩
  | len1 => exact ⟨cells, rfl, inv_local hI ht hpc rfl (forall_goto rfl ⟨rfl, rfl, trivial, nofun⟩)⟩
  | len2 h =>
    refine ⟨cells, rfl, ?_⟩
    cases hn : c.sh.next h <;> simp only [exec, hn]
    · exact inv_local hI ht hpc rfl (forall_ret rfl)
    · exact inv_local hI ht hpc rfl (forall_goto rfl ⟨rfl, rfl, trivial, nofun⟩)
  | len3 cur k =>
    refine ⟨cells, rfl, ?_⟩
    cases hn : c.sh.next cur <;> simp only [exec, hn]
    · exact inv_local hI ht hpc rfl (forall_ret rfl)
    · exact inv_local hI ht hpc rfl (forall_goto rfl ⟨rfl, rfl, trivial, nofun⟩)

/-- the reservation-queue events of a schedule -/
def evTrace (c : Cf) : List Nat → List Ev
  | [] => []
  | t :: ts => (stepEv c t).toList ++ evTrace (stepCfg c t) ts

theorem run_sim (ct : Nat) : ∀ (sched : List Nat) (c : Cf) (cells : List Cell), Inv ct c cells →
    ∃ cells', RQ.run cells (evTrace c sched) = some cells' ∧ Inv ct (runSched c sched) cells'
  | [], c, cells, hI => ⟨cells, rfl, hI⟩
  | t :: ts, c, cells, hI => by
    obtain ⟨cells1, hs, hI1⟩ := step_sim ct t c cells hI
    obtain ⟨cells2, hr, hI2⟩ := run_sim ct ts (stepCfg c t) cells1 hI1
    refine ⟨cells2, ?_, hI2⟩
    simp only [evTrace]
    cases he : stepEv c t with
    | none =>
      rw [he] at hs; simp only [specStep, Option.some.injEq] at hs; subst hs
      simpa using hr
    | some e =>
      rw [he] at hs; simp only [specStep] at hs
      simp only [Option.toList, List.cons_append, List.nil_append, RQ.run, hs, Option.bind_some]
      exact hr

end GoaktVerif.C04.UB
