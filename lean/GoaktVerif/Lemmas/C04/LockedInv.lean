/-
C04 — `UnboundedPriorityMailBox` (`length` is updated inside the critical section): mutual exclusion
of the critical section and exactness of the counter, for all schedules.  (`Inv.held` is existential
over the threads: not a `reach_og2` instance.)
-/
import GoaktVerif.Model.C04.All
import GoaktVerif.Lemmas.C04.CoreLemmas
import GoaktVerif.Lemmas.C04.HeapCorrect

namespace GoaktVerif.C04.LockedInv
open GoaktVerif.Model.C04

abbrev LA (lt : Nat → Nat → Bool) : Algo := Locked.algo lt
abbrev Th := Thread Locked.PC

/-- the thread is inside the critical section (parked at `Add:length`, holding the lock) -/
def atCrit : Option Locked.PC → Bool
  | some .enq2 => true
  | some (.deq3 _) => true
  | _ => false

/-- what the counter must be, given where the lock holder (if any) is -/
def counterOK (s : Locked.Sh) : Option Locked.PC → Prop
  | some .enq2 => s.locked = true ∧ s.length + 1 = s.heap.length
  | some (.deq3 _) => s.locked = true ∧ s.length = s.heap.length + 1
  | _ => True

structure Inv {lt : Nat → Nat → Bool} (c : Cfg (LA lt)) : Prop where
  free : c.sh.locked = false → c.sh.length = c.sh.heap.length
  crit : ∀ (i : Nat) (t : Th), c.threads[i]? = some t → counterOK c.sh t.pc
  uniq : ∀ (i j : Nat) (ti tj : Th), c.threads[i]? = some ti → c.threads[j]? = some tj →
    atCrit ti.pc = true → atCrit tj.pc = true → i = j
  held : c.sh.locked = true → ∃ (i : Nat) (t : Th), c.threads[i]? = some t ∧ atCrit t.pc = true

theorem atCrit_parked {lt : Nat → Nat → Bool} {p : List Op} {t : Th} (h : Parked (LA lt) p t) : atCrit t.pc = false :=
  h.const rfl fun op => by cases op <;> rfl

/-- generic re-establishment after thread `tid` moved to `t'` and the shared state to `s'` -/
theorem Inv.update {lt : Nat → Nat → Bool} {c : Cfg (LA lt)} {tid : Nat} {t t' : Th} {s' : Locked.Sh} {clk : Nat}
    (hI : Inv c) (ht : c.threads[tid]? = some t)
    (hfree : s'.locked = false → s'.length = s'.heap.length)
    (hself : counterOK s' t'.pc)
    (hothers : ∀ (i : Nat) (ti : Th), i ≠ tid → c.threads[i]? = some ti → counterOK s' ti.pc)
    (huniq : atCrit t'.pc = true → ∀ (i : Nat) (ti : Th), i ≠ tid → c.threads[i]? = some ti → atCrit ti.pc = false)
    (hheld : s'.locked = true → atCrit t'.pc = true ∨ ∃ (i : Nat) (ti : Th), i ≠ tid ∧ c.threads[i]? = some ti ∧ atCrit ti.pc = true) :
    Inv ({ sh := s', threads := c.threads.set tid t', clock := clk } : Cfg (LA lt)) where
  free := hfree
  crit := Pool.forall_set hself hothers
  uniq := Pool.pair_set (K := fun i ti j tj => atCrit ti.pc = true → atCrit tj.pc = true → i = j) (fun _ _ => rfl) hI.uniq
    fun j tj e hj => ⟨fun hc hcj => (nomatch (huniq hc j tj e hj).symm.trans hcj), fun hcj hc => (nomatch (huniq hc j tj e hj).symm.trans hcj)⟩
  held := fun hl => by
    rcases hheld hl with h | ⟨i, ti, hi, hti, hc⟩
    · exact ⟨tid, t', List.getElem?_set_self (List.getElem?_eq_some_iff.mp ht).1, h⟩
    · exact ⟨i, ti, (List.getElem?_set_ne (Ne.symm hi)).trans hti, hc⟩

theorem locked_of_crit {s : Locked.Sh} {pc : Option Locked.PC} (h : counterOK s pc) (hc : atCrit pc = true) : s.locked = true := by
  cases pc with
  | none => cases hc
  | some pc =>
    cases pc with
    | enq2 => exact h.1
    | deq3 v => exact h.1
    | _ => cases hc

theorem counter_of_not_crit (s : Locked.Sh) {pc : Option Locked.PC} (h : atCrit pc = false) : counterOK s pc := by
  cases pc with
  | none => trivial
  | some pc => cases pc <;> first | trivial | cases h

theorem inv_step {lt : Nat → Nat → Bool} (c : Cfg (LA lt)) (tid : Nat) (hI : Inv c) : Inv (stepCfg c tid) := by
  refine step_ind hI fun t pc ht hpc => ?_
  have hself := hI.crit tid t ht
  rw [hpc] at hself
  have nobody : c.sh.locked = false → ∀ (i : Nat) (ti : Th), c.threads[i]? = some ti → atCrit ti.pc = false := by
    intro hl i ti hi
    cases hc : atCrit ti.pc with
    | false => rfl
    | true => have := locked_of_crit (hI.crit i ti hi) hc; rw [hl] at this; cases this
  have keep : ∀ {t' : Th} {clk : Nat}, atCrit (some pc) = false → atCrit t'.pc = false →
      Inv ({ sh := c.sh, threads := c.threads.set tid t', clock := clk } : Cfg (LA lt)) := by
    intro t' clk hnc hnc'
    refine Inv.update hI ht hI.free (counter_of_not_crit _ hnc') (fun i ti _ hi => hI.crit i ti hi)
      (fun h => by rw [hnc'] at h; cases h) fun h => ?_
    obtain ⟨i, ti, hi, hc⟩ := hI.held h
    refine Or.inr ⟨i, ti, fun e => ?_, hi, hc⟩
    rw [e, ht] at hi
    rw [← Option.some.inj hi, hpc, hnc] at hc
    cases hc
  have acquire : ∀ {s' : Locked.Sh} {t' : Th} {clk : Nat}, c.sh.locked = false → counterOK s' t'.pc → atCrit t'.pc = true →
      Inv ({ sh := s', threads := c.threads.set tid t', clock := clk } : Cfg (LA lt)) := fun hl hself' hc' =>
    Inv.update hI ht (fun h => by rw [locked_of_crit hself' hc'] at h; cases h) hself'
      (fun i ti _ hi => counter_of_not_crit _ (nobody hl i ti hi)) (fun _ i ti _ hi => nobody hl i ti hi)
      fun _ => Or.inl hc'
  have release : ∀ {s' : Locked.Sh} {t' : Th} {clk : Nat}, atCrit (some pc) = true → s'.locked = false →
      s'.length = s'.heap.length → atCrit t'.pc = false →
      Inv ({ sh := s', threads := c.threads.set tid t', clock := clk } : Cfg (LA lt)) := fun hc hl' hlen hnc' =>
    Inv.update hI ht (fun _ => hlen) (counter_of_not_crit _ hnc')
      (fun i ti hi hti => counter_of_not_crit _ (by
        cases hci : atCrit ti.pc with
        | false => rfl
        | true => exact absurd (hI.uniq i tid ti t hti ht hci (hpc ▸ hc)) hi))
      (fun h => by rw [hnc'] at h; cases h) fun h => by rw [hl'] at h; cases h
  have fin : ∀ r, atCrit (t.finish (LA lt) r c.clock).pc = false := fun r => atCrit_parked (parked_finish _ t r c.clock)
  cases pc with
  | enq1 v =>
    simp only [Locked.exec]
    cases hl : c.sh.locked with
    | true => exact keep rfl rfl
    | false => exact acquire hl ⟨rfl, by show c.sh.length + 1 = (Heap.push lt c.sh.heap v).length; rw [Heap.push_length, hI.free hl]; rfl⟩ rfl
  | enq2 => exact release rfl rfl (by show c.sh.length + 1 = (c.sh.heap.length : Int); exact hself.2) (fin _)
  | deq1 =>
    simp only [Locked.exec]
    split
    · exact keep rfl (fin _)
    · exact keep rfl rfl
  | deq2 =>
    simp only [Locked.exec]
    cases hl : c.sh.locked with
    | true => exact keep rfl rfl
    | false =>
      simp only [Bool.false_eq_true, ↓reduceIte]
      split
      · next x rest hp =>
        refine acquire hl ⟨rfl, ?_⟩ rfl
        show c.sh.length = (rest.length : Int) + 1
        rw [hI.free hl, ← Heap.pop_length hp]; rfl
      · exact keep rfl (fin _)
  | deq3 v =>
    refine release rfl rfl ?_ (fin _)
    show c.sh.length - 1 = (c.sh.heap.length : Int)
    rw [hself.2]; omega
  | len1 => exact keep rfl (fin _)
  | emp1 => exact keep rfl (fin _)

theorem inv_init {lt : Nat → Nat → Bool} (progs : List (List Op)) : Inv (initCfg (LA lt) Locked.init progs) := by
  have nc : ∀ (i : Nat) (t : Th), (initCfg (LA lt) Locked.init progs).threads[i]? = some t → atCrit t.pc = false := by
    intro i t hi
    obtain ⟨p, k, _, e⟩ := spawn_get' (LA lt) progs 0 i t hi
    rw [e]; exact atCrit_parked (parked_mk _ p k)
  exact ⟨fun _ => rfl, fun i t hi => counter_of_not_crit _ (nc i t hi),
    (fun i j ti tj hi _ hci _ => by rw [nc i ti hi] at hci; cases hci), fun h => nomatch h⟩

theorem inv_reach {lt : Nat → Nat → Bool} (progs : List (List Op)) :
    ∀ c, Reach (LA lt) (initCfg (LA lt) Locked.init progs) c → Inv c := by
  intro c hr
  induction hr with
  | init => exact inv_init progs
  | @step c tid _ ih => exact inv_step c tid ih

/-- when the counter reads 0 the heap holds nothing, except possibly the single message of an Enqueue
that is still inside its critical section (it has not returned) -/
theorem zero_means_empty {lt : Nat → Nat → Bool} {c : Cfg (LA lt)} (hI : Inv c) (h0 : c.sh.length = 0) :
    c.sh.heap = [] ∨ (c.sh.heap.length = 1 ∧ ∃ (i : Nat) (t : Th), c.threads[i]? = some t ∧ t.pc = some .enq2) := by
  cases hl : c.sh.locked with
  | false =>
    left
    have := hI.free hl
    rw [h0] at this
    exact List.eq_nil_of_length_eq_zero (by omega)
  | true =>
    obtain ⟨i, t, hi, hc⟩ := hI.held hl
    have hco := hI.crit i t hi
    cases hpc : t.pc with
    | none => rw [hpc] at hc; cases hc
    | some pc =>
      rw [hpc] at hc hco
      cases pc with
      | enq2 =>
        have hs : c.sh.locked = true ∧ c.sh.length + 1 = c.sh.heap.length := hco
        exact Or.inr ⟨by omega, i, t, hi, hpc⟩
      | deq3 v =>
        have hs : c.sh.locked = true ∧ c.sh.length = c.sh.heap.length + 1 := hco
        omega
      | _ => cases hc

end GoaktVerif.C04.LockedInv
