/-
C04 — the invariants of `NonBlockingBoundedMailbox` in every reachable configuration (`ring_inv`), and what they give.
"Full" only when full, "nil" only when the head position is unpublished or nothing is
reserved, and no slot is overwritten before its previous position was released.
-/
import GoaktVerif.Lemmas.C04.RingInv

namespace GoaktVerif.C04.RingInv
open GoaktVerif.Model.C04 GoaktVerif.Model.C04.Ring

theorem go_ge (n : Nat) : ∀ (f p : Nat), p ≤ nextPow2.go n f p
  | 0, p => Nat.le_refl p
  | f + 1, p => by
    simp only [nextPow2.go]
    split
    · exact Nat.le_refl p
    · have := go_ge n f (2 * p); omega

theorem nextPow2_ge (n : Nat) : 2 ≤ nextPow2 n := by
  unfold nextPow2
  split
  · exact Nat.le_refl 2
  · exact go_ge n 64 2

theorem rel_init (cap : Nat) : rel (Ring.init cap) = 0 := rfl

theorem P_init (cap : Nat) : P (Ring.init cap) where
  size2 := nextPow2_ge cap
  le1 := Nat.le_refl _
  le2 := Nat.zero_le _
  free := fun p _ h2 => Nat.mod_eq_of_lt (by rw [rel_init, Nat.zero_add] at h2; exact h2)
  win := fun p _ h2 => absurd h2 (Nat.not_lt_zero p)

/-- usage assumed: only thread `ct` calls Dequeue -/
def RingWF (ct : Nat) (progs : List (List Op)) : Prop :=
  ∀ (i : Nat) (p : List Op), progs[i]? = some p → i ≠ ct → Op.deq ∉ p

theorem ring_inv (ct cap : Nat) (progs : List (List Op)) (wf : RingWF ct progs) :
    ∀ c, Reach Ring.algo (initCfg Ring.algo (Ring.init cap) progs) c →
      P c.sh ∧ (∀ (i : Nat) (t : Th), c.threads[i]? = some t → J ct i c.sh t) ∧
      (∀ (i j : Nat) (ti tj : Th), i ≠ j → c.threads[i]? = some ti → c.threads[j]? = some tj →
        ∀ pci pcj x, ti.pc = some pci → tj.pc = some pcj → claim pci = some x → claim pcj ≠ some x) :=
  reach_pcI (A := Ring.algo) ct P Jpc claim isDeqPC atDeq4 (fun s => rel s = s.deqPos) wf start_isDeq atDeq4_isDeq
    (P_init cap) (rel_init cap) Jpc_start (fun op => by cases op <;> rfl) ring_step ring_frame

variable {s : Sh} {ct i : Nat} {t : Th}

/-- the mark of a slot is never below any position it has served or is serving (below the window: the
slot also serves the position `size` further on) -/
theorem seq_ge (hP : P s) (p : Nat) (hp : p < rel s + s.size) : p ≤ s.seq (p % s.size) := by
  by_cases hw : rel s ≤ p
  · rcases hP.mark ⟨hw, hp⟩ with h | h <;> omega
  · have := seq_ge hP (p + s.size) (by omega)
    rw [Nat.add_mod_right] at this
    omega
termination_by rel s + s.size - p
decreasing_by have := hP.size2; omega

/-- REJECT ONLY WHEN FULL: if the producer's `Load:seq` sees `dif < 0` (the only way `Enqueue` answers
ErrMailboxFull), then its position is the current `enqPos` and `size` positions are reserved and not
released -/
theorem full_only_when_full (hP : P s) (hJ : J ct i s t) {v pos : Nat}
    (hpc : t.pc = some (.enq2 v pos)) (hdif : (s.seq (pos % s.size) : Int) - (pos : Int) < 0) :
    pos = s.enqPos ∧ s.enqPos = rel s + s.size := by
  have hle : pos ≤ s.enqPos := hJ.pc _ hpc
  have hle2 := hP.le2
  by_cases h : pos < rel s + s.size
  · have := seq_ge hP pos h; omega
  · omega

/-- NIL ONLY WHEN NOTHING IS READY AT THE HEAD: if the consumer's `Load:seq` sees `dif < 0`, then either
nothing is reserved (`deqPos = enqPos`) or the head position is reserved but not yet published -/
theorem nil_only_when_head_unpublished (hP : P s) (hJ : J ct i s t) {pos : Nat}
    (hpc : t.pc = some (.deq2 pos)) (hdif : (s.seq (pos % s.size) : Int) - ((pos : Int) + 1) < 0) :
    pos = s.deqPos ∧ (s.deqPos = s.enqPos ∨ (s.deqPos < s.enqPos ∧ s.seq (s.deqPos % s.size) = s.deqPos)) := by
  have hd : pos = s.deqPos := hJ.pc _ hpc
  refine ⟨hd, ?_⟩
  rw [hd] at hdif
  rcases Nat.eq_or_lt_of_le hP.le1 with h | h
  · exact Or.inl h
  · refine Or.inr ⟨h, (hP.win s.deqPos (Nat.le_refl _) h).resolve_right fun h' => ?_⟩
    omega

/-- NO OVERWRITE: a producer's CAS on `enqPos` succeeds only for a position whose slot has been released
by the consumer (the previous position of that slot, `pos - size`, is below `rel`) -/
theorem reserve_only_released (hP : P s) (hJ : J ct i s t) {v pos : Nat}
    (hpc : t.pc = some (.enq3 v pos)) (hcas : s.enqPos = pos) : pos < rel s + s.size := by
  subst hcas
  exact hP.room ((hJ.pc _ hpc).2 rfl)

end GoaktVerif.C04.RingInv
