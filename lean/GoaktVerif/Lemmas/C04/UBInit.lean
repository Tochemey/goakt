/-
C04 — UnboundedMailbox: the initial configuration satisfies the simulation relation with the empty
reservation queue; consequences of the relation.
-/
import GoaktVerif.Lemmas.C04.UBSteps

namespace GoaktVerif.C04.UB
open GoaktVerif.Model.C04 GoaktVerif.Model.C04.Unbounded GoaktVerif.Spec.C04

/-- usage assumed by the theorems, in index form: every message id is enqueued at most once over all
programs, no id is 0 (the initial sentinel), and only thread `ct` calls Dequeue -/
structure UBWellFormed (ct : Nat) (progs : List (List Op)) : Prop where
  each : ∀ (i : Nat) (p : List Op), progs[i]? = some p → (enqIds p).Nodup ∧ 0 ∉ enqIds p ∧ (i ≠ ct → Op.deq ∉ p)
  disj : ∀ (i j : Nat) (pi pj : List Op), i ≠ j → progs[i]? = some pi → progs[j]? = some pj →
    ∀ v ∈ enqIds pi, v ∉ enqIds pj

theorem inv_init {ct : Nat} {progs : List (List Op)} (wf : UBWellFormed ct progs) :
    Inv ct (initCfg algo Unbounded.init progs) [] where
  chain := ⟨rfl, rfl⟩
  nodup := by simp
  thr := by
    intro i t hi
    obtain ⟨p, k, hp, rfl⟩ := initCfg_get hi
    obtain ⟨hnd, h0, hd⟩ := wf.each i p hp
    refine .of_at (by rw [owned, hand_mk rfl pcOwned_start]; exact hnd) ?_ ((parked_mk algo p k).all (OKpc_start _ _))
      fun hi' => (parked_mk algo p k).noDeq isDeqPC_start (hd hi')
    intro v hv e
    rw [fresh, hand_mk rfl pcFresh_start] at hv
    cases List.mem_singleton.mp e
    exact h0 hv
  disj := by
    intro i j ti tj hij hi hj v hv
    obtain ⟨p, k, hp, rfl⟩ := initCfg_get hi
    obtain ⟨q, k', hq, rfl⟩ := initCfg_get hj
    rw [owned, hand_mk rfl pcOwned_start] at hv ⊢
    exact wf.disj i j p q hij hp hq v hv
  retired := by
    intro i j ti tj h n hi hpc hj
    obtain ⟨p, k, hp, rfl⟩ := initCfg_get hi
    exact absurd rfl ((parked_mk algo p k).all (R := fun pc => pc ≠ .deq4 h n) (fun op => start_ne_deq4 op h n) _ hpc)

/-- when `head.next` is nil (what `IsEmpty` / a nil `Dequeue` read) the abstract queue is empty, or a
producer is parked at its publishing store onto the current head node (the only way `IsEmpty` errs) -/
theorem empty_or_publishing {ct : Nat} {c : Cf} {cells : List Cell} (hI : Inv ct c cells)
    (hnil : c.sh.next c.sh.head = none) :
    cells = [] ∨ ∃ (i : Nat) (t : Th) (v : Nat), c.threads[i]? = some t ∧ t.pc = some (PC.enq3 v c.sh.head) := by
  rcases Chain.head_none hI.chain hnil with h | ⟨b, rest, h⟩
  · exact Or.inl h
  · subst h
    obtain ⟨i, t, hi, hpc⟩ := (Chain.cons.mp hI.chain).2.1 b rfl
    exact Or.inr ⟨i, t, b, hi, hpc⟩

/-- EMPTY-SOUNDNESS, partial form: when `head.next` is nil and no enqueue is between its reservation
(`Swap:tail`) and its publication, the abstract queue is empty: every reserved message has been dequeued. -/
theorem empty_sound_partial {ct : Nat} {c : Cf} {cells : List Cell} (hI : Inv ct c cells)
    (hnil : c.sh.next c.sh.head = none)
    (hquiet : ∀ (i : Nat) (t : Th) (v p : Nat), c.threads[i]? = some t → t.pc ≠ some (PC.enq3 v p)) :
    cells = [] :=
  (empty_or_publishing hI hnil).resolve_right fun ⟨i, t, v, hi, hpc⟩ => hquiet i t v _ hi hpc

/-- NO ALIASING of the recycled sentinel: when the consumer is about to reset and pool the old head
`h` (`deq4`), `h` is not a node of the queue, is not `tail`, is not owned by any enqueue still to
come, and no parked producer is about to write `h.next`. -/
theorem recycled_not_aliased {ct : Nat} {c : Cf} {cells : List Cell} (hI : Inv ct c cells)
    {i : Nat} {t : Th} {h n : Nat} (hi : c.threads[i]? = some t) (hpc : t.pc = some (PC.deq4 h n)) :
    h ∉ c.sh.head :: vals cells ∧ h ≠ c.sh.tail ∧
    (∀ (j : Nat) (tj : Th), c.threads[j]? = some tj → h ∉ owned tj) ∧
    (∀ (j : Nat) (tj : Th) (v : Nat), c.threads[j]? = some tj → tj.pc ≠ some (PC.enq3 v h)) := by
  have hout := ((hI.thr i t hi).deq4 h n hpc).2
  refine ⟨hout, ?_, fun j tj hj => hI.retired i j t tj h n hi hpc hj, ?_⟩
  · intro e
    exact hout (e ▸ Chain.tail_mem cells c.sh.head hI.chain)
  · intro j tj v hj hpcj
    have := (pendLink_mem cells c.sh.head h v ((hI.thr j tj hj).enq3 v h hpcj)).1
    exact hout this

end GoaktVerif.C04.UB
