/-
C04 — the values `NonBlockingBoundedMailbox` returns, by counting positions (`TR`, `tr_run`).  Positions are handed out consecutively by the successful
CAS on `enqueuePos`; the k-th reservation writes its message into the slot of position k, and the
consumer's k-th successful dequeue returns the message of position k.  Hence, for every run:
the values returned by Dequeue = the first `dequeuePos` values of the reservation sequence
(exactly-once and FIFO in reservation order, no assumption on the values being distinct).
-/
import GoaktVerif.Lemmas.C04.RingMain

namespace GoaktVerif.C04.RingInv
open GoaktVerif.Model.C04 GoaktVerif.Model.C04.Ring

abbrev Cf := Cfg Ring.algo

/-- the value reserved by this step, if it is a successful CAS on `enqueuePos` -/
def evR (s : Sh) : PC → List Nat
  | .enq3 v pos => if s.enqPos = pos then [v] else []
  | _ => []

def stepEvR (c : Cf) (tid : Nat) : List Nat :=
  match c.threads[tid]? with
  | some t => match t.pc with
    | some pc => evR c.sh pc
    | none => []
  | none => []

/-- reservation sequence of a schedule -/
def resvTrace (c : Cf) : List Nat → List Nat
  | [] => []
  | t :: ts => stepEvR c t ++ resvTrace (stepCfg c t) ts

def resVal (d : Done) : Option Nat :=
  match d.res with
  | .val v => some v
  | _ => none

def pcDeq : Option PC → List Nat
  | some (.deq4 _ (some v)) => [v]
  | _ => []

/-- what a thread has dequeued so far, oldest first (the last value possibly not yet returned) -/
def deqdT (t : Th) : List Nat := t.hist.reverse.filterMap resVal ++ pcDeq t.pc

def deqd (c : Cf) (ct : Nat) : List Nat :=
  match c.threads[ct]? with
  | some t => deqdT t
  | none => []

/-- the value invariant: `resv` is the reservation sequence so far -/
structure TR (ct : Nat) (c : Cf) (resv : List Nat) : Prop where
  len : resv.length = c.sh.enqPos
  ctx : ∀ p, c.sh.deqPos ≤ p → p < c.sh.enqPos → c.sh.ctx (p % c.sh.size) = resv[p]?
  deqd : ∀ (t : Th), c.threads[ct]? = some t → deqdT t = resv.take c.sh.deqPos

theorem pcDeq_start (op : Op) : pcDeq (some (start op)) = [] := by cases op <;> rfl

theorem deqdT_advance (t : Th) (now : Nat) (nx : Next PC) :
    deqdT (t.advance algo now nx) = t.hist.reverse.filterMap resVal ++ nxDeq pcDeq nx :=
  deqd_advance (A := algo) (fun _ => rfl) rfl pcDeq_start t now nx

theorem stepEvR_eq (c : Cf) (tid : Nat) : stepEvR c tid = stepEvOf evR c tid := by
  cases h : c.threads[tid]? with
  | none => simp only [stepEvR, stepEvOf, h]
  | some t => cases h' : t.pc <;> simp only [stepEvR, stepEvOf, h, h']

/-- about `resv ++ []`: `tr_step` asks for `resv ++` the events of the step, and these steps have none -/
theorem tr_keep {ct tid : Nat} {c : Cf} {resv : List Nat} {t : Th} {pc : PC} {s' : Sh} {nx : Next PC}
    (hT : TR ct c resv) (ht : c.threads[tid]? = some t) (hpc : t.pc = some pc)
    (hctx : s'.ctx = c.sh.ctx) (hE : s'.enqPos = c.sh.enqPos) (hD : s'.deqPos = c.sh.deqPos) (hZ : s'.size = c.sh.size)
    (hd : nxDeq pcDeq nx = pcDeq (some pc)) :
    TR ct ({ sh := s', threads := c.threads.set tid (t.advance algo c.clock nx),
             clock := tick (A := algo) t c.clock nx } : Cf) (resv ++ []) := by
  rw [List.append_nil]
  refine ⟨hE ▸ hT.len, fun p h1 h2 => ?_, fun tc hc => ?_⟩
  · show s'.ctx (p % s'.size) = resv[p]?
    rw [hctx, hZ]
    exact hT.ctx p (hD ▸ h1) (hE ▸ h2)
  · show deqdT tc = resv.take s'.deqPos
    rw [hD]
    rcases getElem?_set_cases hc with ⟨e, rfl⟩ | ⟨_, hc'⟩
    · rw [deqdT_advance, hd, ← hpc]; exact hT.deqd t (e ▸ ht)
    · exact hT.deqd tc hc'

theorem tr_step (ct tid : Nat) (c : Cf) (resv : List Nat) (hP : P c.sh)
    (hJ : ∀ (i : Nat) (t : Th), c.threads[i]? = some t → J ct i c.sh t) (hT : TR ct c resv) :
    TR ct (stepCfg c tid) (resv ++ stepEvR c tid) := by
  rw [stepEvR_eq]
  refine step_ev_ind evR (Q := fun c' e => TR ct c' (resv ++ e)) (by rw [List.append_nil]; exact hT)
    fun t pc ht hpc => ?_
  have hJt := hJ tid t ht
  have hp := hJt.pc pc hpc
  have hd : t.hist.reverse.filterMap resVal ++ pcDeq (some pc) = deqdT t := by unfold deqdT; rw [hpc]
  cases pc with
  | enq3 v pos =>
    simp only [exec, evR]
    split
    · next he =>
      -- reservation of position `enqPos`
      subst he
      have hlt := hP.room (hp.2 rfl)
      have hl1 := hP.le1
      refine ⟨?_, fun p h1 h2 => ?_, fun tc hc => ?_⟩
      · rw [List.length_append, hT.len]; rfl
      · have h1 : c.sh.deqPos ≤ p := h1
        show (if p % c.sh.size = c.sh.enqPos % c.sh.size then some v else c.sh.ctx (p % c.sh.size)) = (resv ++ [v])[p]?
        rcases Nat.lt_or_eq_of_le (Nat.le_of_lt_succ h2) with h | h
        · rw [if_neg fun e => Nat.ne_of_lt h (slot_inj (hP.inW_win h1 h) ⟨Nat.le_trans (rel_le _) hl1, hlt⟩ e),
            hT.ctx p h1 h, List.getElem?_append_left (hT.len ▸ h)]
        · rw [h, if_pos rfl, ← hT.len, List.getElem?_append_right (Nat.le_refl _), Nat.sub_self]; rfl
      · show deqdT tc = (resv ++ [v]).take c.sh.deqPos
        rw [List.take_append_of_le_length (hT.len ▸ hl1)]
        rcases getElem?_set_cases hc with ⟨e, rfl⟩ | ⟨_, hc⟩
        · rw [deqdT_advance]; exact hd.trans (hT.deqd t (e ▸ ht))
        · exact hT.deqd tc hc
    · exact tr_keep hT ht hpc rfl rfl rfl rfl rfl
  | deq3 pos =>
    have hi : tid = ct := hJt.is_consumer hpc rfl
    obtain ⟨hd', hpub⟩ := hp
    subst hd'
    have hrel : rel c.sh = c.sh.deqPos := hJt.idle hi (by rw [hpc]; rfl)
    have hlt := hP.reserved hrel hpub
    have hmsg : c.sh.ctx (c.sh.deqPos % c.sh.size) = resv[c.sh.deqPos]? := hT.ctx _ (Nat.le_refl _) hlt
    have hlen : c.sh.deqPos < resv.length := hT.len ▸ hlt
    simp only [exec, evR, ↓reduceIte, List.append_nil]
    -- the claim of position `deqPos`
    refine ⟨hT.len, fun p h1 h2 => ?_, fun tc hc => ?_⟩
    · have h1 : c.sh.deqPos < p := h1
      show (if p % c.sh.size = c.sh.deqPos % c.sh.size then none else c.sh.ctx (p % c.sh.size)) = resv[p]?
      rw [if_neg fun e => Nat.ne_of_gt h1 (slot_inj (hP.inW_win (Nat.le_of_lt h1) h2)
        (hP.inW_win (Nat.le_refl _) hlt) e)]
      exact hT.ctx p (Nat.le_of_lt h1) h2
    · show deqdT tc = resv.take (c.sh.deqPos + 1)
      rcases getElem?_set_cases hc with ⟨_, rfl⟩ | ⟨e, _⟩
      · rw [deqdT_advance, List.take_succ_eq_append_getElem hlen, ← hT.deqd t (hi ▸ ht), ← hd]
        show _ ++ pcDeq (some (.deq4 _ (c.sh.ctx (c.sh.deqPos % c.sh.size)))) = _ ++ [] ++ _
        rw [hmsg, List.getElem?_eq_getElem hlen, List.append_nil]; rfl
      · exact absurd hi.symm e
  | deq4 pos msg => cases msg <;> exact tr_keep hT ht hpc rfl rfl rfl rfl rfl
  | len2 e enq => cases e <;> exact tr_keep hT ht hpc rfl rfl rfl rfl rfl
  | enq2 v pos | deq2 pos =>
    simp only [exec, evR]
    split <;> (try split) <;> exact tr_keep hT ht hpc rfl rfl rfl rfl rfl
  | _ => exact tr_keep hT ht hpc rfl rfl rfl rfl rfl

theorem tr_init (ct cap : Nat) (progs : List (List Op)) : TR ct (initCfg Ring.algo (Ring.init cap) progs) [] where
  len := rfl
  ctx := fun p _ h2 => absurd h2 (Nat.not_lt_zero p)
  deqd := fun t hi => by
    obtain ⟨p, k, _, e⟩ := initCfg_get hi
    rw [e]; exact deqd_mk (A := algo) rfl pcDeq_start p k

theorem tr_run (ct cap : Nat) (progs : List (List Op)) (wf : RingWF ct progs) :
    ∀ (sched : List Nat) (c : Cf) (resv : List Nat),
      Reach Ring.algo (initCfg Ring.algo (Ring.init cap) progs) c → TR ct c resv →
      TR ct (runSched c sched) (resv ++ resvTrace c sched) :=
  run_trace stepEvR resvTrace (fun _ => rfl) (fun _ _ _ => rfl) (TR ct) fun c tid resv hr hT =>
    have h := ring_inv ct cap progs wf c hr
    tr_step ct tid c resv h.1 h.2.1 hT

end GoaktVerif.C04.RingInv
