/-
C04 — UnboundedMailbox: what the simulation says about the visible results of a run.

* the values `Dequeue` took out (in order, the last one possibly not yet returned) are exactly the
  successful dequeues of the abstract queue;
* reservations are never repeated;
* a message whose `Enqueue` has returned is either already dequeued or a READY cell of the queue
  (accepted messages are never lost).
-/
import GoaktVerif.Lemmas.C04.UBMain
import GoaktVerif.Lemmas.C04.UBInit

namespace GoaktVerif.C04.UB
open GoaktVerif.Model.C04 GoaktVerif.Model.C04.Unbounded GoaktVerif.Spec.C04

def resVal (d : Done) : Option Nat :=
  match d.res with
  | .val v => some v
  | _ => none

def pcDeq : Option PC → List Nat
  | some (.deq4 _ n) => [n]
  | _ => []

/-- what a thread has dequeued so far, oldest first; the last value may not have been returned yet
(the thread is at the recycling store that follows the head advance) -/
def deqdT (t : Th) : List Nat := t.hist.reverse.filterMap resVal ++ pcDeq t.pc

def deqd (c : Cf) (ct : Nat) : List Nat :=
  match c.threads[ct]? with
  | some t => deqdT t
  | none => []

def evDeq : Option Ev → List Nat
  | some (.deq (some n)) => [n]
  | _ => []

theorem pcDeq_start (op : Op) : pcDeq (some (start op)) = [] := by cases op <;> rfl

theorem deqd_initCfg (ct : Nat) (progs : List (List Op)) : deqd (initCfg algo Unbounded.init progs) ct = [] := by
  unfold deqd
  cases h : (initCfg algo Unbounded.init progs).threads[ct]? with
  | none => rfl
  | some t =>
    obtain ⟨p, k, _, rfl⟩ := initCfg_get h
    exact deqd_mk (A := algo) rfl pcDeq_start p k

/-- the value of a successful dequeue moves into the locals at `Store:head` and into the result at the
recycling store; no other step produces or drops one -/
theorem exec_deq (s : Sh) (pc : PC) : nxDeq pcDeq (exec s pc).2 = pcDeq (some pc) ++ evDeq (evOf s pc) := by
  cases pc with
  | deq2 h => simp only [exec, evOf]; cases s.next h <;> rfl
  | len2 h => simp only [exec]; cases s.next h <;> rfl
  | len3 cur k => simp only [exec]; cases s.next cur <;> rfl
  | _ => rfl

theorem deqdT_advance (s : Sh) {t : Th} {pc : PC} (hpc : t.pc = some pc) (now : Nat) :
    deqdT (t.advance algo now (exec s pc).2) = deqdT t ++ evDeq (evOf s pc) := by
  show _ = (t.hist.reverse.filterMap resVal ++ pcDeq t.pc) ++ _
  rw [hpc, List.append_assoc, ← exec_deq]
  exact deqd_advance (A := algo) (fun _ => rfl) rfl pcDeq_start t now _

theorem evDeq_noDeq (s : Sh) {pc : PC} (h : isDeqPC pc = false) : evDeq (evOf s pc) = [] := by
  cases pc <;> first | rfl | cases h

theorem deqd_step {ct : Nat} {c : Cf} {cells : List Cell} (hI : Inv ct c cells) (tid : Nat) :
    deqd (stepCfg c tid) ct = deqd c ct ++ evDeq (stepEv c tid) := by
  rcases step_or_idle c tid with ⟨t, pc, ht, hpc⟩ | ⟨e, hidle⟩
  case inr => rw [e, stepEv_idle hidle]; exact (List.append_nil _).symm
  rw [stepCfg_eq ht hpc, stepEv_eq ht hpc]
  unfold deqd
  by_cases hct : tid = ct
  · subst hct
    simp only [List.getElem?_set_self (List.getElem?_eq_some_iff.mp ht).1, ht]
    exact deqdT_advance c.sh hpc c.clock
  · rw [evDeq_noDeq c.sh (((hI.thr tid t ht).cons hct).1 pc hpc), List.append_nil]
    simp only [List.getElem?_set_ne hct]

theorem deqd_run (ct : Nat) : ∀ (sched : List Nat) (c : Cf) (cells : List Cell), Inv ct c cells →
    deqd (runSched c sched) ct = deqd c ct ++ dequeuedOf (evTrace c sched)
  | [], c, _, _ => by simp [runSched, evTrace, dequeuedOf]
  | t :: ts, c, cells, hI => by
    obtain ⟨cells1, _, hI1⟩ := step_sim ct t c cells hI
    have ih := deqd_run ct ts (stepCfg c t) cells1 hI1
    simp only [runSched, evTrace, dequeuedOf_append]
    rw [ih, deqd_step hI t, List.append_assoc]
    congr 2
    cases stepEv c t with
    | none => rfl
    | some e =>
      cases e with
      | deq r => cases r <;> rfl
      | _ => rfl

def pcEnqId : Option PC → Option Nat
  | some (.enq1 v) => some v
  | some (.enq2 v) => some v
  | some (.enq3 v _) => some v
  | _ => none

/-- the simulation relation together with the event trace that led here -/
structure TInv (ct : Nat) (c : Cf) (evs : List Ev) (cells : List Cell) : Prop where
  inv : Inv ct c cells
  run : RQ.run [] evs = some cells
  curOK : ∀ (i : Nat) (t : Th) (v : Nat), c.threads[i]? = some t → pcEnqId t.pc = some v → ∃ k, t.cur = some (.enq v k)
  freshNew : ∀ (i : Nat) (t : Th), c.threads[i]? = some t → ∀ v ∈ fresh t, v ∉ reservedOf evs
  resNodup : (reservedOf evs).Nodup
  accepted : ∀ (i : Nat) (t : Th) (d : Done) (v k : Nat), c.threads[i]? = some t → d ∈ t.hist → d.op = .enq v k → d.res = .ok →
    v ∈ dequeuedOf evs ∨ Cell.ready v ∈ cells

theorem start_cur {t : Th} {p : List Op} (hp : Parked algo p t) (hcur : t.cur = p.head?) (v : Nat)
    (h : pcEnqId t.pc = some v) : ∃ k, t.cur = some (.enq v k) := by
  rw [hcur]
  cases p with
  | nil => rw [hp.1] at h; cases h
  | cons op rest =>
    rw [hp.1] at h
    cases op with
    | enq w k => cases h; exact ⟨k, rfl⟩
    | _ => cases h

theorem exec_goto (s : Sh) (pc pc' : PC) (h : (exec s pc).2 = .goto pc') :
    pcEnqId (some pc') = pcEnqId (some pc) ∧ (pcFresh (some pc') = pcFresh (some pc) ∨ pcFresh (some pc') = []) := by
  cases pc with
  | enq2 v => cases h; exact ⟨rfl, Or.inr rfl⟩  -- the reservation: the only step that takes an id out of `pcFresh`
  | deq2 x | len2 x | len3 x k => simp only [exec] at h; split at h <;> cases h; exact ⟨rfl, Or.inl rfl⟩
  | enq3 v p | deq4 x n | emp2 x => cases h
  | _ => cases h; exact ⟨rfl, Or.inl rfl⟩

theorem fresh_advance_sub (s : Sh) (t : Th) (pc : PC) (now : Nat) (hpc : t.pc = some pc) :
    ∀ v ∈ fresh (t.advance algo now (exec s pc).2), v ∈ fresh t := by
  intro v hv
  cases hnx : (exec s pc).2 with
  | ret r => rw [hnx, Thread.advance, fresh, hand_finish rfl pcFresh_start] at hv; exact List.mem_append_right _ hv
  | goto pc' =>
    rw [hnx] at hv
    rw [fresh, hpc]
    rcases List.mem_append.mp hv with h | h
    · replace h : v ∈ pcFresh (some pc') := h
      rcases (exec_goto s pc pc' hnx).2 with e | e <;> rw [e] at h
      · exact List.mem_append_left _ h
      · cases h
    · exact List.mem_append_right _ h

theorem cur_advance (s : Sh) (t : Th) (pc : PC) (now : Nat) (hpc : t.pc = some pc) (v : Nat)
    (hold : ∀ w, pcEnqId t.pc = some w → ∃ k, t.cur = some (.enq w k))
    (h : pcEnqId (t.advance algo now (exec s pc).2).pc = some v) :
    ∃ k, (t.advance algo now (exec s pc).2).cur = some (.enq v k) := by
  cases hnx : (exec s pc).2 with
  | ret r => rw [hnx] at h; exact start_cur (parked_finish algo t r now) (finish_cur (A := algo) t r now) v h
  | goto pc' =>
    rw [hnx] at h
    exact hold v (by rw [hpc, ← (exec_goto s pc pc' hnx).1]; exact h)

theorem ret_ok_is_publish (s : Sh) (pc : PC) (h : (exec s pc).2 = .ret .ok) : ∃ v p, pc = .enq3 v p := by
  cases pc with
  | enq3 v p => exact ⟨v, p, rfl⟩
  | deq2 x => simp only [exec] at h; split at h <;> cases h
  | len2 x => simp only [exec] at h; split at h <;> cases h
  | len3 x k => simp only [exec] at h; split at h <;> cases h
  | _ => cases h

theorem ready_step {cells cells' : List Cell} {e : Option Ev} {v : Nat} (h : specStep cells e = some cells')
    (hr : Cell.ready v ∈ cells) : v ∈ dequeuedOf e.toList ∨ Cell.ready v ∈ cells' := by
  cases e with
  | none => cases h; exact Or.inr hr
  | some ev => exact (RQ.step_iff.mp h).ready hr

theorem run_toList (q : RQ) (e : Option Ev) : RQ.run q e.toList = specStep q e := by
  cases e with
  | none => rfl
  | some ev =>
    simp only [Option.toList, RQ.run, specStep]
    cases q.step ev <;> rfl

theorem reservedOf_ev (s : Sh) (pc : PC) : reservedOf (evOf s pc).toList = (match pc with | .enq2 v => [v] | _ => []) := by
  cases pc with
  | deq2 h => simp only [evOf]; split <;> rfl
  | _ => rfl

theorem ready_of_publish {cells : List Cell} {v : Nat} (h : Cell.pending v ∈ cells) : Cell.ready v ∈ Spec.C04.publish cells v :=
  List.mem_map.mpr ⟨.pending v, h, by simp⟩

theorem tinv_step (ct tid : Nat) (c : Cf) (evs : List Ev) (cells : List Cell) (hT : TInv ct c evs cells) :
    ∃ cells', TInv ct (stepCfg c tid) (evs ++ (stepEv c tid).toList) cells' := by
  obtain ⟨cells', hs, hI'⟩ := step_sim ct tid c cells hT.inv
  have hrun : RQ.run [] (evs ++ (stepEv c tid).toList) = some cells' := by
    rw [run_append, hT.run, Option.bind_some, run_toList]; exact hs
  rcases step_or_idle c tid with ⟨t, pc, ht, hpc⟩ | ⟨e, hidle⟩
  case inr =>
    rw [stepEv_idle hidle] at hs ⊢
    cases hs
    rw [e]; exact ⟨cells, by simpa using hT⟩
  have ok := hT.inv.thr tid t ht
  have hcur : ∀ w, pcEnqId t.pc = some w → ∃ k, t.cur = some (.enq w k) := fun w h => hT.curOK tid t w ht h
  refine ⟨cells', ?_⟩
  rw [stepCfg_eq ht hpc] at hI' ⊢
  rw [stepEv_eq ht hpc] at hs hrun ⊢
  refine ⟨hI', hrun, ?_, ?_, ?_, ?_⟩
  · intro i ti v hi hv
    rcases getElem?_set_cases hi with ⟨rfl, rfl⟩ | ⟨_, hi⟩
    · exact cur_advance c.sh t pc c.clock hpc v hcur hv
    · exact hT.curOK i ti v hi hv
  · intro i ti hi v hv
    rw [reservedOf_append, reservedOf_ev]
    have hold : v ∉ reservedOf evs := by
      rcases getElem?_set_cases hi with ⟨rfl, rfl⟩ | ⟨_, hi⟩
      · exact hT.freshNew _ t ht v (fresh_advance_sub c.sh t pc c.clock hpc v hv)
      · exact hT.freshNew i ti hi v hv
    cases pc with
    | enq2 w =>
      refine fun hm => (List.mem_append.mp hm).elim hold fun hm => ?_
      cases List.mem_singleton.mp hm
      have hown : (v :: enqIds t.prog).Nodup :=
        by have h := ok.ownedNodup; rwa [owned, hpc] at h
      rcases getElem?_set_cases hi with ⟨rfl, rfl⟩ | ⟨e, hi⟩
      · exact (List.nodup_cons.mp hown).1 hv
      · exact hT.inv.disj tid i t ti (Ne.symm e) ht hi v (mem_hand hpc List.mem_cons_self)
          (fresh_sub_owned ti v hv)
    | _ => simpa using hold
  · rw [reservedOf_append, reservedOf_ev]
    cases pc with
    | enq2 w =>
      have hw : w ∉ reservedOf evs := hT.freshNew tid t ht w (mem_hand hpc List.mem_cons_self)
      exact nodup_snoc hT.resNodup hw
    | _ => simpa using hT.resNodup
  · intro i ti d v k hi hd hop hres
    have keep : (v ∈ dequeuedOf evs ∨ Cell.ready v ∈ cells) →
        v ∈ dequeuedOf (evs ++ (evOf c.sh pc).toList) ∨ Cell.ready v ∈ cells' := by
      rw [dequeuedOf_append]
      rintro (h | h)
      · exact Or.inl (List.mem_append_left _ h)
      · exact (ready_step hs h).imp (List.mem_append_right _) id
    rcases getElem?_set_cases hi with ⟨rfl, rfl⟩ | ⟨_, hi⟩
    · rcases hist_advance t c.clock (exec c.sh pc).2 d hd with hd' | ⟨r, hnx, hd'⟩
      · exact keep (hT.accepted _ t d v k ht hd' hop hres)
      · -- the operation that has just returned `ok` is the `Enqueue` whose publishing store this was
        subst hd'
        cases (hres : r = .ok)
        obtain ⟨v0, p0, rfl⟩ := ret_ok_is_publish c.sh pc hnx
        obtain ⟨k0, hk0⟩ := hcur v0 (by rw [hpc]; rfl)
        simp only [hk0, Option.getD_some, Op.enq.injEq] at hop
        have hv0 : v0 = v := hop.1
        subst hv0
        cases RQ.step_iff.mp (show RQ.step cells (.publish v0) = some cells' from hs) with
        | publish hm => exact Or.inr (ready_of_publish hm)
    · exact keep (hT.accepted i ti d v k hi hd hop hres)

theorem tinv_run (ct : Nat) (sched : List Nat) (c : Cf) (evs : List Ev) (cells : List Cell) (hT : TInv ct c evs cells) :
    ∃ cells', TInv ct (runSched c sched) (evs ++ evTrace c sched) cells' :=
  run_trace (c0 := c) (fun c t => (stepEv c t).toList) evTrace (fun _ => rfl) (fun _ _ _ => rfl)
    (fun c evs => ∃ cells, TInv ct c evs cells) (fun c tid evs _ ⟨cells, h⟩ => tinv_step ct tid c evs cells h)
    sched c evs Reach.init ⟨cells, hT⟩

theorem tinv_init {ct : Nat} {progs : List (List Op)} (wf : UBWellFormed ct progs) :
    TInv ct (initCfg algo Unbounded.init progs) [] [] where
  inv := inv_init wf
  run := rfl
  curOK := by
    intro i t v hi hv
    obtain ⟨p, k, _, rfl⟩ := initCfg_get hi
    exact start_cur (parked_mk algo p k) (mkThread_cur algo p k) v hv
  freshNew := fun _ _ _ _ _ => List.not_mem_nil
  resNodup := List.nodup_nil
  accepted := by
    intro i t d v k hi hd
    obtain ⟨p, k', _, rfl⟩ := initCfg_get hi
    rw [mkThread_hist] at hd; cases hd

end GoaktVerif.C04.UB
