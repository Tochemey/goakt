/-
C04 — the Treiber intake of the three intake-based priority mailboxes (`priorityIntake.push/drain`): its invariants and the
step obligation of the stepping thread (Owicki–Gries; non-interference and all schedules are in IntakeMain).  The stack reachable from `head` through `next` is the
ghost list `stack`; a drain takes the whole stack, reverses it in place into arrival order (`batch`)
and moves it node by node into the heap.
-/
import GoaktVerif.Model.C04.All
import GoaktVerif.Lemmas.C04.CoreLemmas

namespace GoaktVerif.C04.IntakeInv
open GoaktVerif.Model.C04 GoaktVerif.Model.C04.Intake

abbrev Th := Thread Intake.PC

/-- the chain from `h` following `next` spells `L` and ends with nil -/
def ChainO (next : Nat → Option Nat) : Option Nat → List Nat → Prop
  | h, [] => h = none
  | h, x :: xs => h = some x ∧ ChainO next (next x) xs

theorem ChainO.frame {next next' : Nat → Option Nat} : ∀ (L : List Nat) (h : Option Nat),
    (∀ x ∈ L, next' x = next x) → ChainO next h L → ChainO next' h L
  | [], _, _, hc => hc
  | x :: xs, h, hn, hc => by
    refine ⟨hc.1, ?_⟩
    rw [hn x List.mem_cons_self]
    exact ChainO.frame xs _ (fun y hy => hn y (List.mem_cons_of_mem _ hy)) hc.2

theorem ChainO.nil_of_none {next : Nat → Option Nat} : ∀ (L : List Nat), ChainO next none L → L = []
  | [], _ => rfl
  | _ :: _, h => nomatch h.1

theorem ChainO.of_some {next : Nat → Option Nat} {x : Nat} : ∀ {L : List Nat}, ChainO next (some x) L →
    ∃ L', L = x :: L' ∧ ChainO next (next x) L'
  | [], h => nomatch h
  | y :: ys, h => by cases h.1; exact ⟨ys, rfl, h.2⟩

variable {k : Conf} {s : Sh}

theorem nodup_reverse {l : List Nat} (h : l.Nodup) : l.reverse.Nodup := (List.reverse_perm l).symm.nodup h

theorem setNext_other (s : Sh) {n m : Nat} (x : Option Nat) (h : m ≠ n) : (s.setNext n x).next m = s.next m :=
  if_neg h
theorem setNext_same (s : Sh) (n : Nat) (x : Option Nat) : (s.setNext n x).next n = x := if_pos rfl

theorem ChainO.setNext {L : List Nat} {h : Option Nat} (hc : ChainO s.next h L) {n : Nat} (hn : n ∉ L)
    (x : Option Nat) : ChainO (s.setNext n x).next h L :=
  ChainO.frame L h (fun _ hy => setNext_other s x fun e => hn (e ▸ hy)) hc

/-- on the fields it reads, so that steps writing other fields keep it by `rfl` -/
structure PI (head : Option Nat) (next : Nat → Option Nat) (stack batch : List Nat) : Prop where
  st : ChainO next head stack
  nd : stack.Nodup
  bnd : batch.Nodup
  dj : ∀ x ∈ stack, x ∉ batch

abbrev P (s : Sh) : Prop := PI s.head s.next s.stack s.batch

theorem P_setNext (hP : P s) {n : Nat} (hn : n ∉ s.stack) (x : Option Nat) : P (s.setNext n x) :=
  ⟨hP.st.setNext hn x, hP.nd, hP.bnd, hP.dj⟩

/-- ids whose push has not succeeded yet -/
def pcFresh : Option PC → List Nat
  | some (.enqU v) => [v]
  | some (.enqL v) => [v]
  | some (.enqC v _) => [v]
  | some (.push1 v) => [v]
  | some (.push2 v _) => [v]
  | some (.push3 v _) => [v]
  | _ => []

def fresh (t : Th) : List Nat := pcFresh t.pc ++ enqIds t.prog

def isDeqPC : PC → Bool
  | .deq1 => true | .deq2 => true | .deq3 _ _ => true | .deq4 _ _ _ => true | .deq5 _ => true
  | .deq6 _ _ => true | .deq7 _ => true
  | _ => false

/-- the consumer is in the middle of moving a drained batch into the heap -/
def inDrain : Option PC → Bool
  | some (.deq3 _ _) => true | some (.deq4 _ _ _) => true | some (.deq5 _) => true | some (.deq6 _ _) => true
  | _ => false

/-- the producer's node points at the head it read; the consumer's locals cut the batch into the part
already reversed (`A`) and the part still linked forwards (`B`), then into heap part and rest -/
def Jpc (s : Sh) : PC → Prop
  | .push3 v old => s.next v = old
  | .deq3 cur prev => s.done = 0 ∧
    ∃ A B, s.batch.reverse = A ++ B ∧ ChainO s.next (some cur) B ∧ ChainO s.next prev A.reverse
  | .deq4 cur prev nxt => s.done = 0 ∧
    ∃ A B, s.batch.reverse = A ++ cur :: B ∧ ChainO s.next nxt B ∧ ChainO s.next prev A.reverse
  | .deq5 n => ChainO s.next (some n) (s.batch.drop s.done)
  | .deq6 n nxt => ∃ L, s.batch.drop s.done = n :: L ∧ ChainO s.next nxt L
  | _ => True

structure J (ct i : Nat) (s : Sh) (t : Th) : Prop extends
    JC isDeqPC inDrain Jpc (fun s => s.done = s.batch.length) ct i s t where
  own : ∀ v ∈ fresh t, v ∉ s.stack ∧ v ∉ s.batch
  nodup : (fresh t).Nodup

/-- message ids are owned by one thread -/
def K (ti tj : Th) : Prop := ∀ v ∈ fresh ti, v ∉ fresh tj

theorem start_enq (v key : Nat) : start k (.enq v key) = .enqL v ∨ start k (.enq v key) = .enqU v := by
  unfold start
  cases k.cap.isSome
  · exact Or.inr rfl
  · exact Or.inl rfl

theorem start_fresh (op : Op) : pcFresh (some (start k op)) = enqIds [op] := by
  cases op with
  | enq v key => rcases start_enq (k := k) v key with e | e <;> rw [e] <;> rfl
  | _ => rfl

theorem start_isDeq (op : Op) (h : isDeqPC (start k op) = true) : op = .deq := by
  cases op with
  | enq v key => rcases start_enq (k := k) v key with e | e <;> rw [e] at h <;> cases h
  | deq => rfl
  | _ => cases h

theorem Jpc_start (s : Sh) (op : Op) : Jpc s (start k op) := by
  cases op with
  | enq v key => rcases start_enq (k := k) v key with e | e <;> rw [e] <;> trivial
  | _ => trivial

variable {ct i : Nat} {t : Th}

theorem fresh_parked {p : List Op} (h : Parked (algo k) p t) : fresh t = enqIds p :=
  h.ids (A := algo k) rfl start_fresh

theorem J_parked {p : List Op} (h : Parked (algo k) p t) (hown : ∀ v ∈ enqIds p, v ∉ s.stack ∧ v ∉ s.batch)
    (hnd : (enqIds p).Nodup) (hidle : i = ct → s.done = s.batch.length) (hcons : i ≠ ct → Op.deq ∉ p) :
    J ct i s t :=
  ⟨JC.parked (A := algo k) start_isDeq (Jpc_start s) h hidle hcons, fresh_parked h ▸ hown, fresh_parked h ▸ hnd⟩

theorem J.finish {s' : Sh} (hJ : J ct i s t) (r : Res) (now : Nat)
    (hown : ∀ v ∈ enqIds t.prog, v ∉ s'.stack ∧ v ∉ s'.batch) (hidle : i = ct → s'.done = s'.batch.length) :
    J ct i s' (t.finish (algo k) r now) ∧ ∀ v ∈ fresh (t.finish (algo k) r now), v ∈ fresh t :=
  have hp := parked_finish (algo k) t r now
  ⟨J_parked hp hown (List.nodup_append.mp hJ.nodup).2.1 hidle fun hi => (hJ.cons hi).2,
    fun _ hv => List.mem_append_right _ (fresh_parked hp ▸ hv)⟩

theorem J.goto {s' : Sh} {pc pc' : PC} (hJ : J ct i s t) (hpc : t.pc = some pc)
    (hf : pcFresh (some pc') = pcFresh (some pc)) (hd : isDeqPC pc' = isDeqPC pc)
    (hown : ∀ v ∈ fresh t, v ∉ s'.stack ∧ v ∉ s'.batch)
    (hidle : i = ct → inDrain (some pc') = false → s'.done = s'.batch.length) (h : Jpc s' pc') :
    J ct i s' { t with pc := some pc' } ∧ ∀ v ∈ fresh ({ t with pc := some pc' } : Th), v ∈ fresh t := by
  have hfr : fresh ({ t with pc := some pc' } : Th) = fresh t := by
    unfold fresh; rw [hpc]; exact congrArg (· ++ _) hf
  exact ⟨⟨hJ.toJC.goto hpc hd hidle h, hfr ▸ hown, hfr ▸ hJ.nodup⟩, fun _ hv => hfr ▸ hv⟩

theorem J.step {s' : Sh} {pc pc' : PC} (hJ : J ct i s t) (hpc : t.pc = some pc)
    (hf : pcFresh (some pc') = pcFresh (some pc)) (hd : isDeqPC pc' = isDeqPC pc) (hb : inDrain (some pc) = false)
    (hown : ∀ v ∈ fresh t, v ∉ s'.stack ∧ v ∉ s'.batch)
    (hI : s.done = s.batch.length → s'.done = s'.batch.length) (h : Jpc s' pc') :
    J ct i s' { t with pc := some pc' } ∧ ∀ v ∈ fresh ({ t with pc := some pc' } : Th), v ∈ fresh t :=
  hJ.goto hpc hf hd hown (fun hi _ => hI (hJ.idle hi (hpc ▸ hb))) h

theorem J_afterDrain {s2 : Sh} {pc : PC} (now : Nat) (hP2 : P s2) (hJ : J ct i s t) (hpc : t.pc = some pc)
    (hf : pcFresh (some pc) = []) (hd : isDeqPC pc = true) (hown : ∀ v ∈ fresh t, v ∉ s2.stack ∧ v ∉ s2.batch)
    (hidle : s2.done = s2.batch.length) :
    P (afterDrain k s2).1 ∧ J ct i (afterDrain k s2).1 (t.advance (algo k) now (afterDrain k s2).2) ∧
      ∀ v ∈ fresh (t.advance (algo k) now (afterDrain k s2).2), v ∈ fresh t := by
  unfold afterDrain
  split
  · exact ⟨hP2, hJ.finish .none now (fun v hv => hown v (List.mem_append_right _ hv)) fun _ => hidle⟩
  · exact ⟨hP2, hJ.goto hpc hf.symm hd.symm hown (fun _ _ => hidle) trivial⟩

theorem intake_hstep (ct : Nat) (s : Sh) (i : Nat) (t : Th) (pc : PC) (now : Nat) (hP : P s) (hJ : J ct i s t)
    (hpc : t.pc = some pc) :
    P (exec k s pc).1 ∧ J ct i (exec k s pc).1 (t.advance (algo k) now (exec k s pc).2) ∧
      ∀ v ∈ fresh (t.advance (algo k) now (exec k s pc).2), v ∈ fresh t := by
  have hp := hJ.pc pc hpc
  have hidle : inDrain (some pc) = false → i = ct → s.done = s.batch.length := fun h hi => hJ.idle hi (hpc ▸ h)
  have ownIds : ∀ v ∈ enqIds t.prog, v ∉ s.stack ∧ v ∉ s.batch := fun v hv => hJ.own v (List.mem_append_right _ hv)
  cases pc with
  | enqU v => exact ⟨hP, hJ.step hpc rfl rfl rfl hJ.own id trivial⟩
  | enqL v =>
    simp only [exec]
    split
    · split
      · exact ⟨hP, hJ.finish _ now ownIds (hidle rfl)⟩
      · exact ⟨hP, hJ.step hpc rfl rfl rfl hJ.own id trivial⟩
    · exact ⟨hP, hJ.step hpc rfl rfl rfl hJ.own id trivial⟩
  | enqC v l =>
    simp only [exec]
    split <;> exact ⟨hP, hJ.step hpc rfl rfl rfl hJ.own id trivial⟩
  | push1 v => exact ⟨hP, hJ.step hpc rfl rfl rfl hJ.own id trivial⟩
  | push2 v old =>
    -- `ctx.next := old` on a node nobody else references
    have hv := hJ.own v (mem_hand hpc List.mem_cons_self)
    exact ⟨P_setNext hP hv.1 old, hJ.step hpc rfl rfl rfl hJ.own id (setNext_same s v old)⟩
  | push3 v old =>
    have hfr : fresh t = v :: enqIds t.prog := by unfold fresh; rw [hpc]; rfl
    have hv := hJ.own v (hfr ▸ List.mem_cons_self)
    have hnd := hJ.nodup
    rw [hfr] at hnd
    simp only [exec]
    split
    · next hcas =>
      -- the node, already pointing at the old head, becomes the head
      have hp : s.next v = old := hp
      refine ⟨⟨⟨rfl, by rw [hp, ← hcas]; exact hP.st⟩, List.nodup_cons.mpr ⟨hv.1, hP.nd⟩, hP.bnd,
        List.forall_mem_cons.mpr ⟨hv.2, hP.dj⟩⟩, hJ.finish .ok now (fun x hx => ⟨fun hm => ?_, (ownIds x hx).2⟩) (hidle rfl)⟩
      rcases List.mem_cons.mp hm with e | e
      · exact (List.nodup_cons.mp hnd).1 (e ▸ hx)
      · exact (ownIds x hx).1 e
    · exact ⟨hP, hJ.step hpc rfl rfl rfl hJ.own id trivial⟩
  | deq1 =>
    simp only [exec]
    split
    · exact ⟨hP, hJ.finish _ now ownIds (hidle rfl)⟩
    · exact ⟨hP, hJ.step hpc rfl rfl rfl hJ.own id trivial⟩
  | deq2 =>
    have hi := hJ.is_consumer hpc rfl
    simp only [exec]
    split
    · exact J_afterDrain now hP hJ hpc rfl rfl hJ.own (hidle rfl hi)
    · next b hb =>
      -- the swap: the whole stack becomes the batch
      exact ⟨⟨rfl, List.nodup_nil, nodup_reverse hP.nd, (fun _ h => nomatch h)⟩,
        hJ.goto hpc rfl rfl (fun x hx => ⟨List.not_mem_nil, fun h => (hJ.own x hx).1 (List.mem_reverse.mp h)⟩)
          (fun _ h => nomatch h) ⟨rfl, [], s.stack, List.reverse_reverse _, hb ▸ hP.st, rfl⟩⟩
  | deq3 cur prev =>
    obtain ⟨hd0, A, B, hAB, hB, hA⟩ := hp
    obtain ⟨B', rfl, hB'⟩ := hB.of_some
    exact ⟨hP, hJ.goto hpc rfl rfl hJ.own (fun _ h => nomatch h) ⟨hd0, A, B', hAB, hB', hA⟩⟩
  | deq4 cur prev nxt =>
    obtain ⟨hd0, A, B, hAB, hB, hA⟩ := hp
    -- `cur` is a batch node: not in the stack, not in `A`, not in `B`
    have hbr : (A ++ cur :: B).Nodup := hAB ▸ nodup_reverse hP.bnd
    have hcA : cur ∉ A := fun h => (List.nodup_append.mp hbr).2.2 cur h cur List.mem_cons_self rfl
    have hcB : cur ∉ B := (List.nodup_cons.mp (List.nodup_append.mp hbr).2.1).1
    have hcs : cur ∉ s.stack := fun h =>
      hP.dj cur h (List.mem_reverse.mp (hAB ▸ List.mem_append_right _ List.mem_cons_self))
    have hA' : ChainO (s.setNext cur prev).next (some cur) (A ++ [cur]).reverse := by
      rw [List.reverse_append]
      show ChainO _ (some cur) (cur :: A.reverse)
      exact ⟨rfl, (setNext_same s cur prev).symm ▸ hA.setNext (fun h => hcA (List.mem_reverse.mp h)) prev⟩
    have hB' := hB.setNext hcB prev
    have hP' := P_setNext hP hcs prev
    simp only [exec]
    cases nxt with
    | some nx =>
      exact ⟨hP', hJ.goto hpc rfl rfl hJ.own (fun _ h => nomatch h)
        ⟨hd0, A ++ [cur], B, hAB.trans (List.append_cons A cur B), hB', hA'⟩⟩
    | none =>
      cases ChainO.nil_of_none B hB
      refine ⟨hP', hJ.goto hpc rfl rfl hJ.own (fun _ h => nomatch h) ?_⟩
      show ChainO (s.setNext cur prev).next (some cur) (s.batch.drop s.done)
      rw [hd0, List.drop_zero, ← List.reverse_reverse s.batch, hAB]
      exact hA'
  | deq5 n =>
    obtain ⟨L, hL, hc⟩ := ChainO.of_some (show ChainO s.next (some n) (s.batch.drop s.done) from hp)
    exact ⟨hP, hJ.goto hpc rfl rfl hJ.own (fun _ h => nomatch h) ⟨L, hL, hc⟩⟩
  | deq6 n nxt =>
    obtain ⟨L, hL, hch⟩ := hp
    have hnb : n ∈ s.batch := List.mem_of_mem_drop (hL ▸ List.mem_cons_self)
    have hnL : n ∉ L := (List.nodup_cons.mp (hL ▸ (List.drop_sublist _ _).nodup hP.bnd)).1
    have hL' : s.batch.drop (s.done + 1) = L := by rw [← List.tail_drop, hL]; rfl
    have hlt : s.done < s.batch.length := Nat.lt_of_not_le fun h => by
      rw [List.drop_eq_nil_iff.mpr h] at hL; cases hL
    -- state after the unlink and the heap push
    have hP2 : P (s.moveToHeap k n) :=
      ⟨(P_setNext hP (fun h => hP.dj n h hnb) none).st, hP.nd, hP.bnd, hP.dj⟩
    have hc2 : ChainO (s.setNext n none).next nxt (s.batch.drop (s.done + 1)) := hL' ▸ hch.setNext hnL none
    simp only [exec]
    cases nxt with
    | some nx => exact ⟨hP2, hJ.goto hpc rfl rfl hJ.own (fun _ h => nomatch h) hc2⟩
    | none =>
      -- the batch is exhausted: pop or answer nil
      have hfull : s.done + 1 = s.batch.length :=
        Nat.le_antisymm hlt (List.drop_eq_nil_iff.mp (hL'.trans (ChainO.nil_of_none L hch)))
      exact J_afterDrain now hP2 hJ hpc rfl rfl hJ.own hfull
  | deq7 v => exact ⟨hP, hJ.finish _ now ownIds (hidle rfl)⟩
  | len1 => exact ⟨hP, hJ.finish _ now ownIds (hidle rfl)⟩
  | emp1 => exact ⟨hP, hJ.finish _ now ownIds (hidle rfl)⟩

end GoaktVerif.C04.IntakeInv
