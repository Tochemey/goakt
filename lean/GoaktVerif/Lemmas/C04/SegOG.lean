/-
C04 — `UnboundedSegmentedMailbox`: the Owicki–Gries obligations (`reach_pc`) for the slot discipline and
the segment list together, and the two invariants in every reachable configuration.
-/
import GoaktVerif.Lemmas.C04.SegChain

namespace GoaktVerif.C04.SegInv
open GoaktVerif.Model.C04 GoaktVerif.Model.C04.Segmented

/-- usage assumed: only thread `ct` calls Dequeue -/
def SegWF (ct : Nat) (progs : List (List Op)) : Prop :=
  ∀ (i : Nat) (p : List Op), progs[i]? = some p → i ≠ ct → Op.deq ∉ p

theorem Q_mono {s s' : Sh} {pc : PC} (h : Q s pc) (hS : s'.segSize = s.segSize) (hH : s'.head = s.head)
    (hN : s.nseg ≤ s'.nseg)
    (hf : ∀ g, (s'.segs g).deqIdx = (s.segs g).deqIdx ∧ (s.segs g).writeIdx ≤ (s'.segs g).writeIdx ∧
      (s'.segs g).data = (s.segs g).data ∧ (s'.segs g).linked = (s.segs g).linked ∧ (s'.segs g).next = (s.segs g).next) :
    Q s' pc :=
  ⟨Jpc_mono h.1 hS hH (fun g => (hf g).1) (fun g => (hf g).2.1) (fun g i => by rw [(hf g).2.2.1]),
   J2pc_mono h.2 hS (fun g => (hf g).2.2.2.1) (fun g => (hf g).2.1) hN (fun g => (hf g).2.2.2.2)⟩

theorem Q_same {s s' : Sh} {pc : PC} (h : Q s pc) (hS : s'.segSize = s.segSize) (hH : s'.head = s.head)
    (hN : s.nseg ≤ s'.nseg) (hsegs : s'.segs = s.segs) : Q s' pc :=
  Q_mono h hS hH hN fun g => by rw [hsegs]; exact ⟨rfl, Nat.le_refl _, rfl, rfl, rfl⟩

/-! nobody holds what is about to be claimed -/

theorem claim_unreserved {s : Sh} {pcj : PC} {g idx : Nat} (hj : Jpc s pcj) (h : (s.segs g).writeIdx ≤ idx) :
    claim pcj ≠ some (.slot g idx) := by
  cases pcj with
  | e3 w g' idx' => intro e; cases e; exact Nat.lt_irrefl _ (Nat.lt_of_lt_of_le hj.2.1 h)
  | d6 seg deq w => intro e; cases e; exact Nat.lt_irrefl _ (Nat.lt_of_lt_of_le hj.2.2.2 h)
  | _ => nofun

theorem claim_filled {s : Sh} {pcj : PC} {g idx v : Nat} (hj : Jpc s pcj) (hnd : isDeqPC pcj = false)
    (h : (s.segs g).data idx = some v) : claim pcj ≠ some (.slot g idx) := by
  cases pcj with
  | e3 w g' idx' => intro e; cases e; rw [hj.2.2.2] at h; cases h
  | d6 seg deq w => cases hnd
  | _ => nofun

theorem claim_unallocated {s : Sh} {pcj : PC} (hj : J2pc s pcj) : claim pcj ≠ some (.seg s.nseg) := by
  cases pcj with
  | e6 w g g' => intro e; cases e; exact Nat.lt_irrefl _ hj.2.2.2
  | _ => nofun

theorem seg_step (s : Sh) (pc : PC) (hPP : P s ∧ P2 s) (hQ : Q s pc) :
    (P (exec s pc).1 ∧ P2 (exec s pc).1) ∧
    ∀ pc', (exec s pc).2 = .goto pc' → Q (exec s pc).1 pc' ∧ isDeqPC pc' = isDeqPC pc ∧
      ∀ x, claim pc' = some x → claim pc = some x ∨
        ∀ pcj, Q s pcj → (isDeqPC pc = true → isDeqPC pcj = false) → claim pcj ≠ some x := by
  obtain ⟨hP, h2⟩ := hPP
  obtain ⟨hJ, hJ2⟩ := hQ
  -- updates that touch no segment: `length`, `tail` (to a linked segment), `nseg`
  have same : ∀ s' : Sh, s'.segSize = s.segSize → s'.last = s.last → s.nseg ≤ s'.nseg → s'.head = s.head →
      (s.segs s'.tail).linked = true → s'.segs = s.segs → P s' ∧ P2 s' := by
    intro s' a b c d e f
    exact ⟨P_congr hP a (fun _ => by rw [f]) (fun _ => by rw [f]) (fun _ _ => by rw [f]),
      P2_frame h2 a b c d e (fun _ => by rw [f]; exact ⟨rfl, rfl, rfl⟩) (fun _ => by rw [f]; exact ⟨Nat.le_refl _, fun _ => rfl⟩)
        (fun _ _ => by rw [f])⟩
  cases pc with
  | e1 v => exact ⟨⟨hP, h2⟩, forall_goto rfl ⟨⟨trivial, h2.tl⟩, rfl, claim_none rfl⟩⟩
  | e2 v g =>
    -- `bump`, `putData`, `setDeq` (SegChain) name the segment updates that `exec` writes as lambdas
    have hl : (s.segs g).linked = true := hJ2
    have hdl := hP.deqLe g
    have hPP' : P (s.upd g bump) ∧ P2 (s.upd g bump) :=
      ⟨P_upd hP ⟨hdl.1, Nat.le_succ_of_le hdl.2⟩ fun k hk => hP.unres g k (Nat.le_of_succ_le hk),
       P2_upd h2 g bump ⟨rfl, rfl, rfl⟩ ⟨Nat.le_succ _, fun e => by rw [hl] at e; cases e⟩ fun _ => rfl⟩
    have hl' : ((s.upd g bump).segs g).linked = true := by rw [upd_same]; exact hl
    by_cases hlt : (s.segs g).writeIdx < s.segSize
    · rw [exec_e2_room v g hlt]
      refine ⟨hPP', forall_goto rfl ⟨⟨?_, hl'⟩, rfl, ?_⟩⟩
      · rw [Jpc, upd_same, bump_writeIdx]
        exact ⟨hlt, Nat.lt_succ_self _, hdl.2, hP.unres g _ (Nat.le_refl _)⟩
      · intro x hx; cases hx
        exact Or.inr fun pcj hj _ => claim_unreserved hj.1 (Nat.le_refl _)
    · rw [exec_e2_full v g hlt]
      refine ⟨hPP', forall_goto rfl ⟨⟨trivial, hl', ?_⟩, rfl, claim_none rfl⟩⟩
      rw [upd_same, bump_writeIdx]; exact Nat.le_succ_of_le (Nat.le_of_not_lt hlt)
  | e3 v g idx =>
    obtain ⟨h1, h2', h3, h4⟩ := hJ
    rw [show exec s (.e3 v g idx) = (s.upd g (putData idx (some v)), .goto (.e4 v)) from rfl]
    refine ⟨⟨P_upd hP (hP.deqLe g) fun k hk => ?_, P2_upd h2 g _ ⟨rfl, rfl, rfl⟩ ⟨Nat.le_refl _, fun _ => rfl⟩ fun _ => rfl⟩,
      forall_goto rfl ⟨⟨trivial, trivial⟩, rfl, claim_none rfl⟩⟩
    exact (putData_other _ _ (Nat.ne_of_gt (Nat.lt_of_lt_of_le h2' hk))).trans (hP.unres g k hk)
  | e4 v => exact ⟨same _ rfl rfl (Nat.le_refl _) rfl h2.tl rfl, forall_ret rfl⟩
  | e5 v g =>
    obtain ⟨hl, hw⟩ := hJ2
    cases hn : (s.segs g).next with
    | some nx =>
      rw [show exec s (.e5 v g) = (s, .goto (.e9 v g nx)) by simp only [exec, hn]]
      exact ⟨⟨hP, h2⟩, forall_goto rfl ⟨⟨trivial, (h2.next_linked hl hn).1⟩, rfl, claim_none rfl⟩⟩
    | none =>
      rw [show exec s (.e5 v g) = (s.alloc.1, .goto (.e6 v g s.alloc.2)) by simp only [exec, hn]]
      refine ⟨same _ rfl rfl (Nat.le_succ _) rfl h2.tl rfl, forall_goto rfl ⟨⟨trivial, hl, hw, ?_, Nat.lt_succ_self _⟩, rfl, ?_⟩⟩
      · exact Bool.eq_false_iff.mpr fun hx => absurd (h2.alloc _ hx) (Nat.lt_irrefl _)
      · intro x hx; cases hx
        exact Or.inr fun pcj hj _ => claim_unallocated hj.2
  | e6 v g g' =>
    obtain ⟨hl, hw, hg, hgn⟩ := hJ2
    by_cases hn : (s.segs g).next = none
    · rw [exec_e6_link v g g' hn]
      have htg : g ≠ g' := ne_of_linked hl hg
      refine ⟨⟨P_congr hP rfl (fun j => (link_fields s g g' j).2.1) (fun j => (link_fields s g g' j).1)
          (fun j k => by rw [(link_fields s g g' j).2.2]), P2_link h2 g g' hl hw hg hgn hn⟩,
        forall_goto rfl ⟨⟨trivial, ?_⟩, rfl, claim_none rfl⟩⟩
      show ((s.link g g').segs g').linked = true
      rw [link_seg_g s htg]
    · rw [exec_e6_fail v g g' hn]
      exact ⟨⟨hP, h2⟩, forall_goto rfl ⟨⟨trivial, trivial⟩, rfl, claim_none rfl⟩⟩
  | e7 v g g' =>
    refine ⟨?_, forall_goto rfl ⟨⟨trivial, trivial⟩, rfl, claim_none rfl⟩⟩
    show P (if s.tail = g then { s with tail := g' } else s) ∧ P2 (if s.tail = g then { s with tail := g' } else s)
    split
    · exact same _ rfl rfl (Nat.le_refl _) rfl hJ2 rfl
    · exact ⟨hP, h2⟩
  | e9 v g nx =>
    refine ⟨?_, forall_goto rfl ⟨⟨trivial, trivial⟩, rfl, claim_none rfl⟩⟩
    show P (if s.tail = g then { s with tail := nx } else s) ∧ P2 (if s.tail = g then { s with tail := nx } else s)
    split
    · exact same _ rfl rfl (Nat.le_refl _) rfl hJ2 rfl
    · exact ⟨hP, h2⟩
  | d1 => exact ⟨⟨hP, h2⟩, forall_goto rfl ⟨⟨rfl, trivial⟩, rfl, claim_none rfl⟩⟩
  | d2 seg =>
    exact ⟨⟨hP, h2⟩, forall_goto rfl ⟨⟨⟨hJ, Nat.min_le_right _ _, Nat.min_le_left _ _⟩, trivial⟩, rfl, claim_none rfl⟩⟩
  | d3 seg enq =>
    obtain ⟨hh, he1, he2⟩ := hJ
    have hdl := hP.deqLe seg
    by_cases hlt : (s.segs seg).deqIdx < enq
    · rw [show exec s (.d3 seg enq) = (s, .goto (.d4 seg (s.segs seg).deqIdx)) from if_pos hlt]
      exact ⟨⟨hP, h2⟩, forall_goto rfl ⟨⟨⟨hh, rfl, Nat.lt_of_lt_of_le hlt he1, Nat.lt_of_lt_of_le hlt he2⟩, trivial⟩, rfl, claim_none rfl⟩⟩
    · by_cases hlt' : (s.segs seg).deqIdx < s.segSize
      · rw [show exec s (.d3 seg enq) = (s, .ret .none) by simp only [exec, hlt, hlt', ↓reduceIte]]
        exact ⟨⟨hP, h2⟩, forall_ret rfl⟩
      · rw [show exec s (.d3 seg enq) = (s, .goto (.d8 seg)) by simp only [exec, hlt, hlt', ↓reduceIte]]
        exact ⟨⟨hP, h2⟩, forall_goto rfl ⟨⟨⟨hh, Nat.le_antisymm hdl.1 (Nat.le_of_not_lt hlt')⟩, trivial⟩, rfl, claim_none rfl⟩⟩
  | d4 seg deq =>
    obtain ⟨hh, h1, h2', h3⟩ := hJ
    cases hv : (s.segs seg).data deq with
    | none =>
      rw [exec_d4_none seg deq hv]
      exact ⟨⟨hP, h2⟩, forall_ret rfl⟩
    | some v =>
      rw [exec_d4_some seg deq hv]
      exact ⟨⟨hP, h2⟩, forall_goto rfl ⟨⟨⟨hh, h1, h2', h3, hv⟩, trivial⟩, rfl, claim_none rfl⟩⟩
  | d5 seg deq v =>
    obtain ⟨hh, h1, h2', h3, h4⟩ := hJ
    rw [show exec s (.d5 seg deq v) = (s.upd seg (putData deq none), .goto (.d6 seg deq v)) from rfl]
    refine ⟨⟨P_upd hP (hP.deqLe seg) fun k hk => ?_, P2_upd h2 seg _ ⟨rfl, rfl, rfl⟩ ⟨Nat.le_refl _, fun _ => rfl⟩ fun _ => rfl⟩,
      forall_goto rfl ⟨⟨?_, trivial⟩, rfl, ?_⟩⟩
    · exact putData_none (hP.unres seg k hk)
    · show _ ∧ _ = ((s.upd seg _).segs seg).deqIdx ∧ _ ∧ _ < ((s.upd seg _).segs seg).writeIdx
      rw [upd_same]
      exact ⟨hh, h1, h2', h3⟩
    · intro x hx; cases hx
      exact Or.inr fun pcj hj hd => claim_filled hj.1 (hd rfl) h4
  | d6 seg deq v =>
    obtain ⟨hh, h1, h2', h3⟩ := hJ
    rw [show exec s (.d6 seg deq v) = (s.upd seg (setDeq (deq + 1)), .goto (.d7 v)) from rfl]
    exact ⟨⟨P_upd hP ⟨Nat.succ_le_of_lt h2', Nat.succ_le_of_lt h3⟩ fun k hk => hP.unres seg k hk,
        P2_upd h2 seg _ ⟨rfl, rfl, rfl⟩ ⟨Nat.le_refl _, fun _ => rfl⟩ fun e => absurd hh e⟩,
      forall_goto rfl ⟨⟨trivial, trivial⟩, rfl, claim_none rfl⟩⟩
  | d7 v => exact ⟨same _ rfl rfl (Nat.le_refl _) rfl h2.tl rfl, forall_ret rfl⟩
  | d8 seg =>
    cases hn : (s.segs seg).next with
    | none =>
      rw [show exec s (.d8 seg) = (s, .ret .none) by simp only [exec, hn]]
      exact ⟨⟨hP, h2⟩, forall_ret rfl⟩
    | some nx =>
      rw [show exec s (.d8 seg) = (s, .goto (.d9 seg nx)) by simp only [exec, hn]]
      exact ⟨⟨hP, h2⟩, forall_goto rfl ⟨⟨hJ, hn⟩, rfl, claim_none rfl⟩⟩
  | d9 seg nx =>
    obtain ⟨hh, hfull⟩ := hJ
    cases hh
    exact ⟨⟨P_congr hP rfl (fun _ => rfl) (fun _ => rfl) (fun _ _ => rfl), P2_head h2 nx hJ2 hfull⟩,
      forall_goto rfl ⟨⟨rfl, trivial⟩, rfl, claim_none rfl⟩⟩
  | m1 => exact ⟨⟨hP, h2⟩, forall_goto rfl ⟨⟨trivial, trivial⟩, rfl, claim_none rfl⟩⟩
  | m2 seg => exact ⟨⟨hP, h2⟩, forall_goto rfl ⟨⟨trivial, trivial⟩, rfl, claim_none rfl⟩⟩
  | m3 seg enq =>
    by_cases hlt : (s.segs seg).deqIdx < enq
    · rw [show exec s (.m3 seg enq) = (s, .ret (.bool false)) from if_pos hlt]
      exact ⟨⟨hP, h2⟩, forall_ret rfl⟩
    · rw [show exec s (.m3 seg enq) = (s, .goto (.m4 seg)) from if_neg hlt]
      exact ⟨⟨hP, h2⟩, forall_goto rfl ⟨⟨trivial, trivial⟩, rfl, claim_none rfl⟩⟩
  | m4 seg => exact ⟨⟨hP, h2⟩, forall_ret rfl⟩
  | l1 => exact ⟨⟨hP, h2⟩, forall_ret rfl⟩

theorem seg_frame (s : Sh) (pc pcj : PC) (_hPP : P s ∧ P2 s) (hQ : Q s pc) (hj : Q s pcj)
    (hK : ∀ x, claim pc = some x → claim pcj ≠ some x) (hd : isDeqPC pc = true → isDeqPC pcj = false) :
    Q (exec s pc).1 pcj := by
  -- a step of the consumer, seen by a producer: only the promise at `Store:data` is to be checked
  have producer : ∀ s' : Sh, isDeqPC pc = true → (∀ v g idx, pcj = .e3 v g idx → Jpc s' (.e3 v g idx)) → J2pc s' pcj →
      Q s' pcj :=
    fun s' h he3 h2 => ⟨Jpc_producer (hd h) he3, h2⟩
  cases pc with
  | e2 v g =>
    have : (exec s (.e2 v g)).1 = s.upd g bump := by simp only [exec]; split <;> rfl
    rw [this]
    exact Q_mono hj rfl rfl (Nat.le_refl _)
      (upd_all (R := fun x y => y.deqIdx = x.deqIdx ∧ x.writeIdx ≤ y.writeIdx ∧ y.data = x.data ∧ y.linked = x.linked ∧ y.next = x.next)
        (fun _ => ⟨rfl, Nat.le_refl _, rfl, rfl, rfl⟩) ⟨rfl, Nat.le_succ _, rfl, rfl, rfl⟩)
  | e3 v g idx =>
    exact ⟨Jpc_store v g idx hQ.1.2.2.2 (hK _ rfl) hj.1, J2pc_upd hj.2 g (putData idx (some v)) ⟨rfl, rfl, Nat.le_refl _⟩⟩
  | e4 v => exact Q_same hj rfl rfl (Nat.le_refl _) rfl
  | e5 v g =>
    simp only [exec]; split
    · exact hj
    · exact Q_same hj rfl rfl (Nat.le_succ _) rfl
  | e6 v g g' =>
    obtain ⟨hl, _, hg, _⟩ := hQ.2
    simp only [exec]; split
    · next hn =>
      have htg : g ≠ g' := ne_of_linked hl hg
      exact ⟨Jpc_mono hj.1 rfl rfl (fun j => (link_fields s g g' j).2.1)
          (fun j => by rw [(link_fields s g g' j).1]; exact Nat.le_refl _) (fun j k => by rw [(link_fields s g g' j).2.2]),
        J2pc_link g g' htg hl hn (hK _ rfl) hj.2⟩
    · exact hj
  | e7 v g g' =>
    simp only [exec]; split
    · exact Q_same hj rfl rfl (Nat.le_refl _) rfl
    · exact hj
  | e9 v g g' =>
    simp only [exec]; split
    · exact Q_same hj rfl rfl (Nat.le_refl _) rfl
    · exact hj
  | d5 seg deq v =>
    refine producer (s.upd seg (putData deq none)) rfl (fun v' g idx e => ?_) (J2pc_upd hj.2 seg _ ⟨rfl, rfl, Nat.le_refl _⟩)
    subst e
    obtain ⟨a, b, c, d⟩ := hj.1
    show _ ∧ _ < ((s.upd seg (putData deq none)).segs g).writeIdx ∧ ((s.upd seg (putData deq none)).segs g).deqIdx ≤ _ ∧
      ((s.upd seg (putData deq none)).segs g).data idx = none
    rw [upd_field g]; split
    · next e =>
      subst e
      exact ⟨a, b, c, putData_none d⟩
    · exact ⟨a, b, c, d⟩
  | d6 seg deq v =>
    refine producer (s.upd seg (setDeq (deq + 1))) rfl (fun v' g idx e => ?_) (J2pc_upd hj.2 seg _ ⟨rfl, rfl, Nat.le_refl _⟩)
    subst e
    obtain ⟨a, b, c, d⟩ := hj.1
    show _ ∧ _ < ((s.upd seg (setDeq (deq + 1))).segs g).writeIdx ∧ ((s.upd seg (setDeq (deq + 1))).segs g).deqIdx ≤ _ ∧
      ((s.upd seg (setDeq (deq + 1))).segs g).data idx = none
    rw [upd_field g]; split
    · next e =>
      subst e
      refine ⟨a, b, ?_, d⟩
      -- the slot just emptied is not the one this producer is about to fill
      have hne : deq ≠ idx := fun e' => hK _ rfl (by rw [e']; rfl)
      have : deq ≤ idx := hQ.1.2.1 ▸ c
      exact Nat.lt_of_le_of_ne this hne
    · exact ⟨a, b, c, d⟩
  | d7 v => exact Q_same hj rfl rfl (Nat.le_refl _) rfl
  | d9 seg nx =>
    exact producer _ rfl (fun v g idx e => by subst e; exact hj.1)
      (J2pc_mono hj.2 rfl (fun _ => rfl) (fun _ => Nat.le_refl _) (Nat.le_refl _) (fun _ => rfl))
  | d3 seg enq => simp only [exec]; split <;> (try split) <;> exact hj
  | d4 seg deq => simp only [exec]; split <;> exact hj
  | d8 seg => simp only [exec]; split <;> exact hj
  | m3 seg enq => simp only [exec]; split <;> exact hj
  | _ => exact hj

theorem P_init (n : Nat) : P (Segmented.init n) where
  deqLe := by intro g; obtain ⟨a, b, _⟩ := init_seg n g; rw [a, b]; exact ⟨Nat.zero_le _, Nat.le_refl _⟩
  unres := by intro g i _; obtain ⟨_, _, _, hdat, _⟩ := init_seg n g; exact hdat i

theorem P2_init (n : Nat) : P2 (Segmented.init n) := by
  have hl : ∀ g, ((Segmented.init n).segs g).linked = true → g = 0 := by
    intro g h; obtain ⟨_, _, _, _, hl, _⟩ := init_seg n g; rw [hl] at h; exact of_decide_eq_true h
  have ho : ∀ g, ((Segmented.init n).segs g).ord = 0 := fun g => by obtain ⟨_, _, _, _, _, ho⟩ := init_seg n g; exact ho
  obtain ⟨_, _, hn0, _, hl0, _⟩ := init_seg n 0
  have h0 : ((Segmented.init n).segs 0).linked = true := by rw [hl0]; rfl
  refine ⟨⟨h0, hn0⟩, ?_, ?_, ?_, ?_, ?_, h0, h0, ?_, ?_⟩
  · intro g hg hne; exact absurd (hl g hg) hne
  · intro g _; rw [ho, ho]; exact Nat.le_refl _
  · intro g g' a b _; rw [hl g a, hl g' b]
  · intro g _; obtain ⟨a, b, c, _⟩ := init_seg n g; exact ⟨a, c, b⟩
  · intro g hg; rw [hl g hg]; exact Nat.lt_succ_self 0
  · intro g _ h; rw [ho, ho] at h; exact absurd h (Nat.lt_irrefl _)
  · intro g _ h; rw [ho, ho] at h; exact absurd h (Nat.lt_irrefl _)

theorem seg_inv (ct n : Nat) (progs : List (List Op)) (wf : SegWF ct progs) :
    ∀ c, Reach Segmented.algo (initCfg Segmented.algo (Segmented.init n) progs) c →
      (P c.sh ∧ P2 c.sh) ∧
      (∀ (i : Nat) (t : Th), c.threads[i]? = some t → J ct i c.sh t) ∧
      (∀ (i j : Nat) (ti tj : Th), i ≠ j → c.threads[i]? = some ti → c.threads[j]? = some tj →
        ∀ pci pcj x, ti.pc = some pci → tj.pc = some pcj → claim pci = some x → claim pcj ≠ some x) :=
  reach_pc (A := Segmented.algo) ct (fun s => P s ∧ P2 s) Q claim isDeqPC wf isDeqPC_start ⟨P_init n, P2_init n⟩
    (fun _ op => by cases op <;> exact ⟨trivial, trivial⟩) (fun op => by cases op <;> rfl) seg_step seg_frame

end GoaktVerif.C04.SegInv
