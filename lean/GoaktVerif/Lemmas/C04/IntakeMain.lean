/-
C04 — Treiber intake: non-interference, ownership of ids, and the invariants in every reachable
configuration.
-/
import GoaktVerif.Lemmas.C04.IntakeInv

namespace GoaktVerif.C04.IntakeInv
open GoaktVerif.Model.C04 GoaktVerif.Model.C04.Intake

variable {k : Conf} {s : Sh} {ct j : Nat} {tj : Th}

theorem J.frame {s' : Sh} (hJ : J ct j s tj) (hown : ∀ v ∈ fresh tj, v ∉ s'.stack ∧ v ∉ s'.batch)
    (hpc : ∀ pc, tj.pc = some pc → Jpc s pc → Jpc s' pc)
    (hidle : j = ct → s.done = s.batch.length → s'.done = s'.batch.length) : J ct j s' tj :=
  ⟨hJ.toJC.frame hpc hidle, hown, hJ.nodup⟩

/-- a producer (never dequeues) only cares about its ids and its own `next` field -/
theorem J.producer {s' : Sh} (hJ : J ct j s tj) (hj : j ≠ ct) (hown : ∀ v ∈ fresh tj, v ∉ s'.stack ∧ v ∉ s'.batch)
    (hp3 : ∀ v old, tj.pc = some (.push3 v old) → s'.next v = old) : J ct j s' tj :=
  hJ.frame hown (fun pc hpc _ => by
    have := (hJ.cons hj).1 pc hpc
    cases pc with
    | push3 v old => exact hp3 v old hpc
    | deq3 _ _ | deq4 _ _ _ | deq5 _ | deq6 _ _ => cases this
    | _ => trivial) fun h => absurd h hj

theorem J_congr {s' : Sh} (hJ : J ct j s tj) (h2 : s'.next = s.next) (h3 : s'.stack = s.stack)
    (h4 : s'.batch = s.batch) (h5 : s'.done = s.done) : J ct j s' tj := by
  cases s; cases s'
  cases h2; cases h3; cases h4; cases h5
  exact hJ.frame hJ.own (fun _ _ h => h) (fun _ h => h)

theorem afterDrain_fields (s : Sh) : (afterDrain k s).1.next = s.next ∧ (afterDrain k s).1.stack = s.stack ∧
    (afterDrain k s).1.batch = s.batch ∧ (afterDrain k s).1.done = s.done := by
  unfold afterDrain; split <;> exact ⟨rfl, rfl, rfl, rfl⟩

theorem intake_hframe (ct : Nat) (s : Sh) (i j : Nat) (ti tj : Th) (pc : PC) (hij : i ≠ j)
    (hJi : J ct i s ti) (hJj : J ct j s tj) (hK : K ti tj) (hpc : ti.pc = some pc) : J ct j (exec k s pc).1 tj := by
  have hp := hJi.pc pc hpc
  -- when the consumer steps, `tj` is a producer
  have hprod : isDeqPC pc = true → j ≠ ct := fun h => hJi.is_consumer hpc h ▸ Ne.symm hij
  cases pc with
  | enqU v => exact J_congr hJj rfl rfl rfl rfl
  | enqL v => simp only [exec]; split <;> (try split) <;> exact hJj
  | enqC v l => simp only [exec]; split <;> first | exact hJj | exact J_congr hJj rfl rfl rfl rfl
  | push1 v => exact hJj
  | push2 v old =>
    -- the node written is in `ti`'s hand: not in the batch, not in `tj`'s hand
    have hvi : v ∈ fresh ti := mem_hand hpc List.mem_cons_self
    have hv := hJi.own v hvi
    have fr : ∀ {L : List Nat} {h : Option Nat}, (∀ x ∈ L, x ∈ s.batch) → ChainO s.next h L →
        ChainO (s.setNext v old).next h L := fun hin hc => hc.setNext (fun h => hv.2 (hin v h)) old
    refine hJj.frame hJj.own (fun pcj hpcj h => ?_) (fun _ h => h)
    cases pcj with
    | push3 v' old' => exact (setNext_other s old fun (e : v' = v) => hK v hvi (e ▸ mem_hand hpcj List.mem_cons_self)).trans h
    | deq3 cur prev =>
      obtain ⟨d0, A, B, hAB, hB, hA⟩ := h
      exact ⟨d0, A, B, hAB, fr (fun x hx => List.mem_reverse.mp (hAB ▸ List.mem_append_right _ hx)) hB,
        fr (fun x hx => List.mem_reverse.mp (hAB ▸ List.mem_append_left _ (List.mem_reverse.mp hx))) hA⟩
    | deq4 cur prev nxt =>
      obtain ⟨d0, A, B, hAB, hB, hA⟩ := h
      exact ⟨d0, A, B, hAB,
        fr (fun x hx => List.mem_reverse.mp (hAB ▸ List.mem_append_right _ (List.mem_cons_of_mem _ hx))) hB,
        fr (fun x hx => List.mem_reverse.mp (hAB ▸ List.mem_append_left _ (List.mem_reverse.mp hx))) hA⟩
    | deq5 n => exact fr (fun x hx => List.mem_of_mem_drop hx) h
    | deq6 n nxt =>
      obtain ⟨L, hL, hc⟩ := h
      exact ⟨L, hL, fr (fun x hx => List.mem_of_mem_drop (hL ▸ List.mem_cons_of_mem _ hx)) hc⟩
    | _ => exact h
  | push3 v old =>
    have hvi : v ∈ fresh ti := mem_hand hpc List.mem_cons_self
    simp only [exec]
    split
    · -- the stack gains an id that was in `ti`'s hand, hence not in `tj`'s
      exact hJj.frame (fun x hx => ⟨fun hm => (List.mem_cons.mp hm).elim (fun (e : x = v) => hK v hvi (e ▸ hx))
        (hJj.own x hx).1, (hJj.own x hx).2⟩) (fun _ _ h => h) (fun _ h => h)
    · exact hJj
  | deq1 => simp only [exec]; split <;> exact hJj
  | deq2 =>
    simp only [exec]
    split
    · obtain ⟨f2, f3, f4, f5⟩ := afterDrain_fields (k := k) s
      exact J_congr hJj f2 f3 f4 f5
    · exact hJj.producer (hprod rfl)
        (fun x hx => ⟨List.not_mem_nil, fun h => (hJj.own x hx).1 (List.mem_reverse.mp h)⟩) fun _ _ h => hJj.pc _ h
  | deq3 cur prev => exact hJj
  | deq4 cur prev nxt =>
    obtain ⟨_, A, B, hAB, _, _⟩ := hp
    have hcb : cur ∈ s.batch := List.mem_reverse.mp (hAB ▸ List.mem_append_right _ List.mem_cons_self)
    have key : J ct j (s.setNext cur prev) tj := hJj.producer (hprod rfl) hJj.own fun v' old' h =>
      (setNext_other s prev fun (e : v' = cur) => (hJj.own v' (mem_hand h List.mem_cons_self)).2 (e ▸ hcb)).trans (hJj.pc _ h)
    simp only [exec]; cases nxt <;> exact key
  | deq5 n => exact hJj
  | deq6 n nxt =>
    obtain ⟨L, hL, _⟩ := hp
    have hnb : n ∈ s.batch := List.mem_of_mem_drop (hL ▸ List.mem_cons_self)
    have key : J ct j (s.moveToHeap k n) tj := hJj.producer (hprod rfl) hJj.own fun v' old' h =>
      (setNext_other s none fun (e : v' = n) => (hJj.own v' (mem_hand h List.mem_cons_self)).2 (e ▸ hnb)).trans (hJj.pc _ h)
    simp only [exec]
    cases nxt with
    | some nx => exact key
    | none =>
      obtain ⟨f2, f3, f4, f5⟩ := afterDrain_fields (k := k) (s.moveToHeap k n)
      exact J_congr key f2 f3 f4 f5
  | deq7 v => exact J_congr hJj rfl rfl rfl rfl
  | len1 => exact hJj
  | emp1 => exact hJj

/-- usage assumed: every message id is enqueued once over all programs; only thread `ct` dequeues -/
structure IntakeWF (ct : Nat) (progs : List (List Op)) : Prop where
  each : ∀ (i : Nat) (p : List Op), progs[i]? = some p → (enqIds p).Nodup ∧ (i ≠ ct → Op.deq ∉ p)
  disj : ∀ (i j : Nat) (pi pj : List Op), i ≠ j → progs[i]? = some pi → progs[j]? = some pj →
    ∀ v ∈ enqIds pi, v ∉ enqIds pj

theorem P_init : P Intake.init where
  st := rfl
  nd := List.nodup_nil
  bnd := List.nodup_nil
  dj := fun _ h => nomatch h

theorem intake_inv (ct : Nat) (progs : List (List Op)) (wf : IntakeWF ct progs) :
    ∀ c, Reach (algo k) (initCfg (algo k) Intake.init progs) c →
      P c.sh ∧ (∀ (i : Nat) (t : Th), c.threads[i]? = some t → J ct i c.sh t) ∧
      (∀ (i j : Nat) (ti tj : Th), i ≠ j → c.threads[i]? = some ti → c.threads[j]? = some tj → K ti tj) := by
  refine reach_og2 (A := algo k) P (J ct) K P_init ?_ ?_ ?_ ?_ ?_
  · intro i p n hp
    exact J_parked (parked_mk _ p n) (fun _ _ => ⟨List.not_mem_nil, List.not_mem_nil⟩) (wf.each i p hp).1
      (fun _ => rfl) (wf.each i p hp).2
  · intro i j p q n n' hij hp hq v hv
    rw [fresh_parked (parked_mk (algo k) p n)] at hv
    rw [fresh_parked (parked_mk (algo k) q n')]
    exact wf.disj i j p q hij hp hq v hv
  · intro s i t pc now hP hJ hpc
    have h := intake_hstep (k := k) ct s i t pc now hP hJ hpc
    exact ⟨h.1, h.2.1⟩
  · intro s i j ti tj pc hij _ hJi hJj hK hpc; exact intake_hframe ct s i j ti tj pc hij hJi hJj hK hpc
  · -- ownership is kept: a step takes no new id in hand
    intro s i j ti tj pc now _ hP hJi _ hK hpc
    have sub := (intake_hstep (k := k) ct s i ti pc now hP hJi hpc).2.2
    exact ⟨fun v hv => hK v (sub v hv), fun v hv hv' => hK v (sub v hv') hv⟩

end GoaktVerif.C04.IntakeInv
