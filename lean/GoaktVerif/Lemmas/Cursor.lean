-- The cursor law shared by the router's round-robin (C21) and the client's (C22).
namespace GoaktVerif.Cursor

/-- the first of `k + 1` calls from cursor `a` leaves `k` calls from the reduced cursor `(a % n + 1) % n` -/
theorem unroll {β : Type} (g : Nat → β) (a n k : Nat) :
    (List.range (k + 1)).map (fun j => g ((a + j) % n))
      = g (a % n) :: (List.range k).map (fun j => g (((a % n + 1) % n + j) % n)) := by
  rw [List.range_succ_eq_map, List.map_cons, List.map_map]
  refine congrArg _ (List.map_congr_left fun j _ => ?_)
  show g ((a + (j + 1)) % n) = _
  rw [Nat.mod_add_mod, Nat.add_assoc, Nat.mod_add_mod, Nat.add_comm 1 j]

end GoaktVerif.Cursor
