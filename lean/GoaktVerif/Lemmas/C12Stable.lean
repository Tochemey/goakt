/-
C12: an invariant that is `Stable` is kept by every operation and holds in every reachable state (`Stable.reachable`);
this is the walk through the model's functions, made once for all invariants.  A `Quiet` move is `Silent` for the
event log and keeps the time invariant `FInv`; most functions of the manager and of the PID are quiet.  `Stable` asks
that quiet moves and the six moves that are not quiet keep the invariant.  Instances:
`FInv` together with `Good` (here: `finv_reachable`, `log_sound`), `InvO` (C12Once), `CInv` (C12Count).
-/
import GoaktVerif.Lemmas.C12Fresh
import GoaktVerif.Lemmas.Run

namespace GoaktVerif.C12
open GoaktVerif.Model.C12 GoaktVerif.Model.C12.State

/-- a bookkeeping move of the manager or the PID: silent, and the time invariant survives it -/
structure Quiet (s t : State) : Prop where
  silent : Silent s t
  finv : FInv s → FInv t

theorem Quiet.refl (s : State) : Quiet s s := ⟨.refl s, id⟩

theorem Quiet.trans {s t u : State} (h1 : Quiet s t) (h2 : Quiet t u) : Quiet s u :=
  ⟨h1.silent.trans h2.silent, fun h => h2.finv (h1.finv h)⟩

theorem Quiet.of_eq {s t : State} (hl : t.log = s.log) (ha : t.actors = s.actors) (hc : t.chan = s.chan)
    (ho : t.objs = s.objs) (hnow : t.now = s.now) (hnE : t.nE = s.nE) (he : t.entries = s.entries)
    (hq : t.queue = s.queue) (hx : t.idx = s.idx) : Quiet s t :=
  ⟨.of_eq hl ha hc ho, (SameF.of_eq hnow hnE ho ha he hq hx).finv⟩

/-- an actor update that touches flags and counters only -/
theorem quiet_setA {s : State} {a : Nat} {f : Actor → Actor}
    (hf : ∀ x, f x = { x with
      processed := (f x).processed, stopping := (f x).stopping, suspended := (f x).suspended,
      pausedF := (f x).pausedF, skipNext := (f x).skipNext }) : Quiet s (s.setA a f) :=
  ⟨silent_setA s a f (by rw [hf]; exact ⟨rfl, rfl⟩), (sameF_setA s a f (by rw [hf]; exact ⟨rfl, rfl⟩)).finv⟩

/-- an entry update that writes `pending` (downwards) and `enqueued` only -/
theorem quiet_setE_flags {s : State} {g : Nat} {f : Entry → Entry}
    (hf : ∀ e, f e = { e with pending := (f e).pending, enqueued := (f e).enqueued })
    (h : (f (s.objs g)).pending = true → (s.objs g).pending = true) : Quiet s (s.setE g f) :=
  ⟨silent_setE s g f h, (sameF_setE s g f (by rw [hf]; exact ⟨rfl, rfl, rfl, rfl, rfl⟩)).finv⟩

theorem quiet_enqueue (s : State) (g : Nat) (h : (s.objs g).pending = true) :
    Quiet s ((s.setE g fun e => { e with enqueued := true }).signal g) :=
  (quiet_setE_flags (fun _ => rfl) id).trans
    ⟨silent_signal _ g (by simpa [setE, upd] using h), (sameF_signal _ g).finv⟩

theorem quiet_delEntry {s : State} {a : Nat} : Quiet s (s.delEntry a) := ⟨silent_delEntry s a, finv_delEntry s a⟩
theorem quiet_register {s : State} {a : Nat} {st : Strat} : Quiet s (s.register a st) :=
  ⟨silent_register s a st, finv_register s a st⟩
theorem quiet_unregister {s : State} {a : Nat} : Quiet s (s.unregister a) := ⟨silent_unregister s a, finv_unregister s a⟩
theorem quiet_mpause {s : State} {a : Nat} : Quiet s (s.mpause a) := ⟨silent_mpause s a, finv_mpause s a⟩
theorem quiet_mresumeS {s : State} {a : Nat} : Quiet s (s.mresumeS a) := ⟨silent_mresumeS s a, finv_mresumeS s a⟩
theorem quiet_mtouch {s : State} {a : Nat} : Quiet s (s.mtouch a) := ⟨silent_mtouch s a, finv_mtouch s a⟩
theorem quiet_markActivity {s : State} {a : Nat} : Quiet s (s.markActivity a) :=
  ⟨silent_markActivity s a, finv_markActivity s a⟩

theorem quiet_startPassivation {s : State} {a : Nat} : Quiet s (s.startPassivation a) := by
  -- `fun_cases f args` gives one goal per leaf of `f` in Model/C12.lean, numbered in the order of the leaves there,
  -- with the pattern equations and guard outcomes on the way as hypotheses and a `let` of `f` as a local definition
  fun_cases State.startPassivation s a
  case case1 => exact .refl s -- long-lived: nothing to register
  case case2 => exact quiet_register -- Register with the actor's strategy

theorem quiet_pausePassivation {s : State} {a : Nat} : Quiet s (s.pausePassivation a) :=
  quiet_mpause.trans (quiet_setA fun _ => rfl)

theorem quiet_resumePassivation {s : State} {a : Nat} : Quiet s (s.resumePassivation a) := by
  have h := (quiet_setA (s := s) (a := a) (f := fun x => { x with pausedF := false }) fun _ => rfl).trans (quiet_mresumeS (a := a))
  fun_cases State.resumePassivation s a
  case case1 => exact h -- paused by the flag, the manager knew the actor: Resume
  case case2 => exact h.trans quiet_startPassivation -- paused by the flag, unknown to the manager: Resume, then Register
  case case3 => exact quiet_startPassivation -- not paused by the flag

theorem quiet_suspend {s : State} {a : Nat} : Quiet s (s.suspend a) :=
  (quiet_setA fun _ => rfl).trans quiet_pausePassivation

theorem quiet_reinstate {s : State} {a : Nat} : Quiet s (s.reinstate a) := by
  fun_cases State.reinstate s a
  case case1 => exact .refl s -- running, neither stopping nor suspended
  case case2 => -- otherwise: the flags, markActivity, resumePassivation
    exact ((quiet_setA fun _ => rfl).trans quiet_markActivity).trans quiet_resumePassivation

theorem quiet_nextEntry {f : Nat} {s : State} : Quiet s (nextEntry f s).1 :=
  ⟨silent_nextEntry f s, fun hi => (nextEntry_eq f s hi).symm ▸ hi⟩

/-- `trigger` pops the head it has just looked at -/
theorem quiet_pop (u : State) (g : Nat) (hq : u.queue[0]? = some g) : Quiet u (u.hpop.setIdx g (-1)) :=
  ⟨((sameCore_hpop u).trans (sameCore_setIdx _ _ _)).silent, fun hi =>
    finv_heap_back (heaped_hpop u g hi.core.sync hq).setIdx (fun _ h => h.2) hi⟩

/-- `trigger` re-queues the current, unpaused entry it finds off the heap -/
theorem quiet_requeue (u : State) (a g : Nat) (he : u.entries a = some g) (hp : (u.objs g).paused = false)
    (hx : u.idx g < 0) : Quiet u ((u.refresh g).hpush g) :=
  ⟨silent_refresh.trans (sameCore_hpush _ _).silent, fun hi => finv_requeue u g hi hx (hi.core.entBound a g he) hp⟩

theorem quiet_adv (s : State) (d : Nat) : Quiet s { s with now := s.now + d } :=
  ⟨.of_eq rfl rfl rfl rfl, finv_adv s d⟩

/-- spawning: a fresh actor record has run no PostStop, is running like the records of the empty state, and
    carries no stamps -/
theorem quiet_init (cfg : List (Strat × Bool)) : Quiet {} (init cfg) := by
  suffices h : ∀ s, Quiet {} s → Quiet {} (spawnAll s cfg) from h {} (.refl _)
  induction cfg with
  | nil => exact fun s h => h
  | cons c cfg ih =>
    intro s h
    unfold spawnAll
    refine ih _ (Quiet.trans ?_ quiet_startPassivation)
    refine ⟨⟨h.silent.log, fun a => ?_, h.silent.chan, h.silent.pend⟩, fun h0 => ?_⟩
    · simp only [upd]
      split
      · exact ⟨rfl, rfl⟩
      · exact h.silent.actors a
    · have hi := h.finv h0
      have h1 := SameF.finv (s := s) (t := { s with nA := s.nA + 1 }) (.of_eq rfl rfl rfl rfl rfl rfl rfl) hi
      refine finv_setActor _ s.nA _ h1 nofun nofun nofun fun g he ht hp hx => ?_
      obtain ⟨d, hd, _⟩ := hi.core.fresh s.nA g he ht hp hx
      exact ⟨d, hd, nofun, nofun⟩

/-- an invariant kept by quiet moves and by the six moves that are not: four of `sstep`, two of the manager's loop -/
structure Stable (I : State → Prop) : Prop where
  quiet : ∀ {s t}, Quiet s t → I s → I t
  crossing : ∀ (s : State) a g (p b m : Int), b + m ≤ p →
    I s → I ((s.setE g fun e => { e with pending := true }).emit (.crossed a g p b m))
  /-- `tryPassivation` stopped by a guard: the event shows the flags of `s`, the state the call found, and is logged
      on `u`, which is `s` or `s` with the skip-next flag consumed -/
  blocked : ∀ (s u : State) a src, I u → I (u.emit (s.triedEv a src false))
  stop : ∀ (s : State) a, (s.actors a).running = true → I s → I (s.doStopS a)
  passivated : ∀ (s : State) a src, s.tryBlocked a = false →
    I (s.unregister a) → I (((s.unregister a).doStopS a).emit (s.triedEv a src (s.tryB a)))
  /-- `trigger` decides on the head of the heap, which it has just found due -/
  decide : ∀ (u : State) g, u.queue[0]? = some g → u.dl g ≤ u.now → I u → I (u.emit (u.decideEv g))
  /-- the manager takes an entry from the trigger channel -/
  fire : ∀ (s : State) g rest, s.chan = g :: rest →
    I s → I (({ s with chan := rest }).emit (.countFire (s.objs g).actor g))

namespace Stable
variable {I : State → Prop} (W : Stable I)
include W

theorem mproc (s : State) (a : Nat) (hi : I s) : I (s.mproc a) :=
  mproc_cases s a hi (fun g h => W.crossing s a g _ _ _ h hi) fun t g ht hp => W.quiet (quiet_enqueue t g hp) ht

theorem recordProcessed (s : State) (a : Nat) (hi : I s) : I (s.recordProcessed a) := by
  fun_cases State.recordProcessed s a
  case case1 => exact W.mproc _ _ (W.quiet (quiet_setA fun _ => rfl) hi) -- count-based: MessageProcessed
  case case2 => exact W.quiet (quiet_setA fun _ => rfl) hi -- only the counter

theorem tryS (s : State) (a : Nat) (src : Src) (hi : I s) : I (s.tryS a src) := by
  fun_cases State.tryS s a src
  case case1 => exact W.blocked _ _ _ _ (W.quiet (quiet_setA fun _ => rfl) hi) -- blocked by the skip-next flag, which is consumed
  case case2 => exact W.blocked _ _ _ _ hi -- blocked by another guard
  case case3 h => exact W.passivated s a src (by simpa using h) (W.quiet quiet_unregister hi) -- past the guards

theorem shutdown (s : State) (a : Nat) (hi : I s) : I (s.shutdown a) := by
  fun_cases State.shutdown s a
  case case1 => exact hi -- not running
  case case2 hr => -- running: stopping flag, Unregister, doStop
    have hs := (quiet_setA (s := s) (a := a) (f := fun x => { x with stopping := true }) fun _ => rfl).trans (quiet_unregister (a := a))
    exact W.stop _ _ (by rw [(hs.silent.actors a).2]; simpa using hr) (W.quiet hs hi)

theorem sstep (s : State) (o : SOp) (hi : I s) : I (sstep s o).1 := by
  cases o <;> simp only [Model.C12.sstep]
  case act a => exact W.quiet quiet_markActivity hi
  case recd a => exact W.recordProcessed _ _ hi
  case pause a => exact W.quiet quiet_pausePassivation hi
  case resume a => exact W.quiet quiet_resumePassivation hi
  case susp a => exact W.quiet quiet_suspend hi
  case reinst a => exact W.quiet quiet_reinstate hi
  case stop a => exact W.shutdown _ _ hi
  case mreg a => exact W.quiet quiet_register hi
  case munreg a => exact W.quiet quiet_unregister hi
  case mpause a => exact W.quiet quiet_mpause hi
  case mresume a => exact W.quiet quiet_mresumeS hi
  case mtouch a => exact W.quiet quiet_mtouch hi
  case mproc a => exact W.mproc _ _ hi
  case try_ a => exact W.tryS _ _ _ hi
  case sysstop b => exact W.quiet (s := s) (.of_eq rfl rfl rfl rfl rfl rfl rfl rfl rfl) hi
  case flagstop a b => exact W.quiet (quiet_setA fun _ => rfl) hi
  case deliver a => split; exact W.recordProcessed _ _ (W.quiet quiet_markActivity hi); exact hi
  case pauseMsg a => split; exact W.quiet quiet_pausePassivation hi; exact hi
  case resumeMsg a => split; exact W.quiet quiet_resumePassivation hi; exact hi
  case fail a => split; exact W.quiet quiet_suspend hi; exact hi
  case reinstateApi a => split; exact W.quiet quiet_reinstate hi; exact hi

theorem srun (s : State) (os : List SOp) (hi : I s) : I (srun s os) :=
  Run.inv' (run := Model.C12.srun) (fun _ => rfl) (fun _ _ _ => rfl) W.sstep os s hi

theorem passivateS (s : State) (g : Nat) (src : Src) (pre post : List SOp) (hi : I s) :
    I (passivateS s g src pre post) :=
  W.srun _ _ (W.tryS _ _ _ (W.srun _ _ hi))

theorem pmeTail (t : State) (a g : Nat) (b : Bool) (ht : I t) : I (pmeTail t a g b) :=
  pmeTail_cases t a g b ht
    (W.quiet (quiet_delEntry.trans (quiet_setE_flags (fun _ => rfl) nofun)) ht)
    fun hp => W.quiet (quiet_enqueue _ g hp) ht

theorem processMessageEntry (s : State) (g : Nat) (pre post : List SOp) (hi : I s)
    (hfire : I (s.emit (.countFire (s.objs g).actor g))) : I (processMessageEntry s g pre post) := by
  rw [processMessageEntry_eq]
  split
  · exact hi
  · split
    · exact W.quiet (quiet_setE_flags (fun _ => rfl) id) hi
    · exact W.pmeTail _ _ _ _ (W.quiet (quiet_setE_flags (fun _ => rfl) id)
        (W.passivateS _ g Src.count pre post hfire))

theorem trigger (f : Nat) (s : State) (g : Nat) (pre post : List SOp) (hi : I s) : I (trigger f s g pre post) :=
  trigger_inv g (fun u h => W.quiet (s := u) (.of_eq rfl rfl rfl rfl rfl rfl rfl rfl rfl) h)
    (fun u _ _ hu hq hd => W.passivateS _ _ _ _ _ (W.quiet (quiet_pop _ g hq) (W.decide u g hq hd hu)))
    (fun _ _ h => W.quiet quiet_delEntry h)
    (fun u a h he hp hx => W.quiet (quiet_requeue u a g he hp hx) h) f s pre post hi

theorem step (s : State) (o : Op) (hi : I s) : I (step s o) := by
  fun_cases Model.C12.step s o
  case case1 => exact hi -- halted
  case case2 d => exact W.quiet (quiet_adv s d) hi -- adv
  case case3 o => exact W.sstep _ _ hi -- simple
  case case4 pre post => -- tick
    fun_cases tickStep s pre post
    case case1 => exact W.quiet quiet_nextEntry hi -- nothing due
    case case2 => exact W.trigger _ _ _ _ _ (W.quiet quiet_nextEntry hi) -- the due head: trigger
  case case5 pre post => -- drain
    fun_cases drainStep s pre post
    case case1 => exact hi -- empty channel
    case case2 g rest hc => -- the first entry of the channel
      refine W.processMessageEntry _ g pre post (W.quiet (s := s)
        ⟨⟨rfl, fun _ => ⟨rfl, rfl⟩, fun x hx => .inl ?_, fun _ h => h⟩, SameF.finv (.of_eq rfl rfl rfl rfl rfl rfl rfl)⟩ hi)
        (W.fire s g rest hc hi)
      rw [hc]; exact List.mem_cons_of_mem _ hx

theorem run (s : State) (os : List Op) (hi : I s) : I (run s os) :=
  Run.inv' (fun _ => rfl) (fun _ _ _ => rfl) W.step os s hi

theorem reachable (h0 : I {}) (cfg : List (Strat × Bool)) (ops : List Op) : I (Model.C12.run (init cfg) ops) :=
  W.run _ _ (W.quiet (quiet_init cfg) h0)

end Stable

/-- the time invariant together with the soundness of the log: a `decide` event is sound because of `FInv` -/
theorem stable_fgood : Stable fun s => FInv s ∧ Good s.log where
  quiet h hi := ⟨h.finv hi.1, h.silent.log ▸ hi.2⟩
  crossing s a g p b m h hi :=
    ⟨sameF_emit.finv ((sameF_setE s g _ ⟨rfl, rfl, rfl, rfl, rfl⟩).finv hi.1), hi.2.cons _ (by simpa [evOK] using h) rfl⟩
  blocked s u a src hi := ⟨sameF_emit.finv hi.1, hi.2.cons _ rfl rfl⟩
  stop s a h hi := ⟨finv_doStopS s a hi.1, hi.2.cons _ h rfl⟩
  passivated s a src h hi := by
    refine ⟨sameF_emit.finv (finv_doStopS _ a hi.1), ?_⟩
    have hi := hi.2
    have hr : ((s.unregister a).actors a).running = (s.actors a).running := ((silent_unregister s a).actors a).2
    simp only [tryBlocked, Bool.or_eq_false_iff, Bool.not_eq_false'] at h
    refine ⟨fun e he => ?_, ?_⟩
    · rcases List.mem_cons.mp he with rfl | he
      · simp [triedEv, evOK, h]
      · exact (hi.cons (.postStop a _) (hr.trans h.2) rfl).1 e he
    · show adjOK (s.triedEv a src (s.tryB a) :: .postStop a _ :: (s.unregister a).log) = true
      cases s.tryB a <;> simp [triedEv, adjOK, triedOk, stopOnTop, hi.2]
  decide u g hq hd hu := ⟨sameF_emit.finv hu.1, hu.2.cons _ (evOK_decideEv u g hu.1 hq hd) rfl⟩
  fire s g rest _ hi :=
    ⟨sameF_emit.finv (SameF.finv (s := s) (.of_eq rfl rfl rfl rfl rfl rfl rfl) hi.1), hi.2.cons _ rfl rfl⟩

theorem fgood_reachable (cfg : List (Strat × Bool)) (ops : List Op) :
    FInv (run (init cfg) ops) ∧ Good (run (init cfg) ops).log :=
  stable_fgood.reachable ⟨⟨.of_actors (fun g i => by simp) nofun (fun g h => by simp at h)
    fun a => ⟨nofun, nofun, nofun, nofun⟩, nofun⟩, good_nil⟩ cfg ops

/-- the freshness invariant holds in every state reachable by any op sequence -/
theorem finv_reachable (cfg : List (Strat × Bool)) (ops : List Op) : FInv (run (init cfg) ops) :=
  (fgood_reachable cfg ops).1

theorem log_good (cfg : List (Strat × Bool)) (ops : List Op) : Good (run (init cfg) ops).log :=
  (fgood_reachable cfg ops).2

/-- every event logged by any run from any initial configuration is locally sound -/
theorem log_sound (cfg : List (Strat × Bool)) (ops : List Op) :
    ∀ e ∈ (run (init cfg) ops).log, evOK e = true := (log_good cfg ops).1

end GoaktVerif.C12
