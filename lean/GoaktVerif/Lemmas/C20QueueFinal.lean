import GoaktVerif.Lemmas.C20QueueStep
import GoaktVerif.Lemmas.Run

/-
C20 — the invariant holds initially and along every schedule; what it gives at every configuration reached (`inv_observable`).
-/

namespace GoaktVerif.C20
open GoaktVerif.Model.C20 GoaktVerif.Model.C20.Queue
open GoaktVerif.Spec.C20 (replay)

theorem inv_add_idle {c : Cfg} (h : Inv c) (d : Thread) (hd : d.pc = none) :
    Inv { c with threads := c.threads ++ [d] } := by
  obtain ⟨hmode, pre, post, hheap, hall, hdist⟩ := h
  have sh : Grows c { c with threads := c.threads ++ [d] } := .of_nodes rfl rfl
  have hdo : ownedBy d = none := by rw [ownedBy, hd]
  exact ⟨hmode, pre, post, sh.heapOk hheap hheap.tailIn hheap.lin,
    Pool.forall_snoc ⟨by rw [LocalOk, hd]; trivial, fun n v ho => nomatch hdo.symm.trans ho⟩
      fun j tj hj => threadOk_nodes (c := c) rfl (hall j tj hj),
    (distinct_iff _).mpr (((distinct_iff _).mp hdist).snoc (congrArg (Option.map (·.1)) hdo))⟩

theorem inv_empty : Inv (empty .fresh) := by
  refine ⟨rfl, [], [], ?_, ?_, ?_⟩
  · refine ⟨by simp [empty], by simp [empty], ?_, by simp [empty], by simp, by simp [empty, replay]⟩
    show Linked (empty .fresh) [0]
    simp [Linked, nextOf, empty]
  · intro j tj hj; simp [empty] at hj
  · intro i j ti tj ni vi nj vj _ hi; simp [empty] at hi

theorem inv_spawn (progs : List (List Op)) : ∀ (c : Cfg), Inv c → Inv (spawn c progs) := by
  induction progs with
  | nil => intro c h; exact h
  | cons p ps ih =>
    intro c h
    rw [spawn_cons]
    apply ih
    -- add an idle thread, then let it start its first operation
    generalize hd : idle p = d
    have hdpc : d.pc = none := by rw [← hd]; rfl
    have h1 := inv_add_idle h d hdpc
    obtain ⟨hmode, pre, post, hheap, hall, hdist⟩ := h1
    have hlen : (c.threads ++ [d])[c.threads.length]? = some d := by simp
    have x : Ctx { c with threads := c.threads ++ [d] } c.threads.length d pre post := ⟨hmode, hheap, hall, hdist, hlen⟩
    have h2 := inv_start x (t0 := d) (pick := none)
    rw [startNext_set_threads c (c.threads ++ [d]) d none] at h2
    have hth := (startNext_frame c d none).1
    have e : ((c.threads ++ [d]).set c.threads.length (startNext c d none).2) = c.threads ++ [(startNext c d none).2] := by
      simp
    simp only [upd, e] at h2
    rw [hth]
    exact h2

theorem inv_init (progs : List (List Op)) : Inv (init .fresh progs) := inv_spawn progs _ inv_empty

theorem inv_runP (s : List (Nat × Option Nat)) (c : Cfg) (h : Inv c) : Inv (runP c s) :=
  Run.inv' (P := Inv) (step := fun c a => stepP a.2 c a.1) (fun _ => rfl) (fun _ _ _ => rfl)
    (fun _ a h => inv_step h a.2 a.1) s c h

theorem seqDequeue_fresh (c : Cfg) (y : NodeId) (hm : c.mode = .fresh) (hn : nextOf c c.head = some y) :
    seqDequeue c = (valOf c y,
      { setVal { c with head := y } y none with len := (setVal { c with head := y } y none).len - 1 }) := by
  simp only [seqDequeue, hn]
  split
  · rename_i heq; rw [hm] at heq; cases heq
  · rfl

theorem seqDrain_succ_some {f : Nat} {c c1 : Cfg} {v : Val} (h : seqDequeue c = (some v, c1)) :
    (seqDrain (f + 1) c).1 = v :: (seqDrain f c1).1 := by
  show (match seqDequeue c with
    | (none, c') => ([], c')
    | (some v, c') => (v :: (seqDrain f c').1, (seqDrain f c').2)).1 = _
  rw [h]

theorem seqDrain_chain : ∀ (post : List NodeId) (c : Cfg) (pre : List NodeId), ChainOk c pre post →
    (seqDrain (post.length + 1) c).1 = post.filterMap (valOf c) := by
  intro post
  induction post with
  | nil =>
    intro c pre h
    have hnone : nextOf c c.head = none := h.linked.none_of_last (by simp)
    simp [seqDrain, seqDequeue, hnone]
  | cons y l2 ih =>
    intro c pre h
    have hnext : nextOf c c.head = some y := Linked.next_of_split pre h.linked
    obtain ⟨v, hv⟩ := Option.isSome_iff_exists.mp (h.vals y (List.mem_cons_self ..))
    let c1 : Cfg := { setVal { c with head := y } y none with len := (setVal { c with head := y } y none).len - 1 }
    obtain ⟨h1, hy, _, vx⟩ := h.deq (c1 := c1) rfl rfl rfl
    have hdq : seqDequeue c = (some v, c1) := by rw [seqDequeue_fresh c y h.mode hnext, hv]
    rw [List.length_cons, seqDrain_succ_some hdq, ih c1 _ h1,
      filterMap_congr _ _ _ fun a ha => vx a fun e => hy (e ▸ ha), List.filterMap_cons, hv]

theorem inv_observable {c : Cfg} (h : Inv c) :
    ∃ q, replay (c.lin.reverse.map (·.2)) [] = some q ∧ (seqDrain (q.length + 1) c).1 = q := by
  obtain ⟨hmode, pre, post, hheap, _, _⟩ := h
  refine ⟨post.filterMap (valOf c), hheap.lin, ?_⟩
  rw [List.filterMap_length_eq_length.mpr hheap.vals]
  exact seqDrain_chain post c pre (hheap.chainOk hmode)

end GoaktVerif.C20
