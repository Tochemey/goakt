/-
C12, the "PostStop exactly once" clause: PostStop runs again for an actor only through a stop of an
actor that is no longer running (`postStop a false` events).
-/
import GoaktVerif.Lemmas.C12Stable

namespace GoaktVerif.C12
open GoaktVerif.Model.C12 GoaktVerif.Model.C12.State

/-- PostStop runs of actor `a` on a running actor / on an actor that had already stopped -/
def liveStops (log : List Ev) (a : Nat) : Nat := log.count (.postStop a true)
def deadStops (log : List Ev) (a : Nat) : Nat := log.count (.postStop a false)

/-- PostStop counter = number of postStop events; a stop of a RUNNING actor happened at most once,
    and after any stop the actor is not running (nothing in the model restarts an actor) -/
def InvO (s : State) : Prop :=
  ∀ a, (s.actors a).postStops = liveStops s.log a + deadStops s.log a ∧ liveStops s.log a ≤ 1 ∧
    (1 ≤ liveStops s.log a + deadStops s.log a → (s.actors a).running = false)

theorem InvO.frame {s t : State} (l : List Ev) (hl : t.log = l ++ s.log) (hp : ∀ a w, Ev.postStop a w ∉ l)
    (ha : ∀ a, (t.actors a).postStops = (s.actors a).postStops ∧ (t.actors a).running = (s.actors a).running)
    (hi : InvO s) : InvO t := by
  intro a
  have hc : ∀ w, t.log.count (.postStop a w) = s.log.count (.postStop a w) := fun w => by
    rw [hl, List.count_append, List.count_eq_zero.mpr (hp a w), Nat.zero_add]
  simp only [liveStops, deadStops, hc, (ha a).1, (ha a).2]
  exact hi a

theorem invO_doStopS (s : State) (a : Nat) (hi : InvO s) : InvO (s.doStopS a) := by
  intro b
  have hb := hi b
  have hc : ∀ w, (s.doStopS a).log.count (.postStop b w) =
      s.log.count (.postStop b w) + if a = b ∧ (s.actors a).running = w then 1 else 0 := fun w => by
    show (Ev.postStop a _ :: s.log).count _ = _
    simp [List.count_cons]
  simp only [liveStops, deadStops, hc] at hb ⊢
  by_cases hba : a = b
  · subst hba
    have hs : ((s.doStopS a).actors a).postStops = (s.actors a).postStops + 1 ∧
        ((s.doStopS a).actors a).running = false := by
      simp [doStopS, setA, emit, upd, resetActor]
    rw [hs.1, hs.2]
    -- a running actor has not been stopped before (`hb.2.2`): this is its one live stop
    cases hr : (s.actors a).running <;> simp [hr] at hb ⊢ <;> omega
  · have hs : (s.doStopS a).actors b = s.actors b := by simp [doStopS, setA, emit, upd, Ne.symm hba]
    simpa [hs, hba] using hb

theorem stable_invO : Stable InvO where
  quiet h hi := hi.frame [] h.silent.log nofun h.silent.actors
  crossing s a g p b m _ hi := hi.frame [_] rfl (by simp) fun _ => ⟨rfl, rfl⟩
  blocked s u a src hi := hi.frame [_] rfl (by simp [triedEv]) fun _ => ⟨rfl, rfl⟩
  stop s a _ hi := invO_doStopS s a hi
  passivated s a src _ hi := (invO_doStopS _ a hi).frame [_] rfl (by simp [triedEv]) fun _ => ⟨rfl, rfl⟩
  decide u g _ _ hi := hi.frame [_] rfl (by simp [decideEv]) fun _ => ⟨rfl, rfl⟩
  fire s g rest _ hi := hi.frame [_] rfl (by simp) fun _ => ⟨rfl, rfl⟩

theorem inv_step (s : State) (o : Op) (hi : InvO s) : InvO (step s o) := stable_invO.step s o hi

/-- for every configuration and EVERY op sequence: the PostStop counter of an actor is the number of
    its postStop events, at most one of them hit a running actor, and a stopped actor stays stopped -/
theorem invO_reachable (cfg : List (Strat × Bool)) (ops : List Op) : InvO (run (init cfg) ops) :=
  stable_invO.reachable (fun _ => ⟨rfl, Nat.zero_le 1, nofun⟩) cfg ops

end GoaktVerif.C12
