/-
C10 — the log under environment steps and under the `freeWatchers` walk; `WatchersNodup` (every `watchers` map has
distinct keys), an invariant of the tree kept by every writer like `WF` and `NWF`.
-/
import GoaktVerif.Model.C10
import GoaktVerif.Lemmas.C09.WF

namespace GoaktVerif.Model.C10
open GoaktVerif.Model.C09

@[simp] theorem env_log (s : Sys) (e : Env) : (e.apply s).log = s.log := by
  cases e with
  | watch w x => rfl
  | unwatch w x => rfl
  | setRunning a b => cases b <;> rfl
  | setSuspended a b => cases b <;> rfl

@[simp] theorem envs_log (es : List Env) (s : Sys) : (applyEnvs s es).log = s.log :=
  List.foldlRecOn (motive := fun b => b.log = s.log) es Env.apply rfl fun b hb e _ => (env_log b e).trans hb

theorem notify_count (p w : Nat) (s : Sys) (x : Pid) :
    terminatedCount (Sys.notify p s x).log w p =
      terminatedCount s.log w p + if x.id = w ∧ s.isRunning x.id then 1 else 0 := by
  unfold terminatedCount
  -- `fun_cases f args` gives one goal per leaf of `f` in Model/C09.lean, Model/C09/Stop.lean, numbered in the order of the
  -- leaves there, with the guard outcomes and pattern equations on the way as hypotheses
  fun_cases Sys.notify p s x
  case case1 hr _ => -- the watcher runs: one `Terminated x.id p` is appended
    show ((s.log ++ [Ev.terminated x.id p]).filter _).length = _
    rw [List.filter_append, List.length_append]
    by_cases hx : x.id = w
    · subst hx; simp [hr]
    · simp [hx]
  case case2 hr => simp [hr] -- not running: the log stays

/-- without environment steps the walk is `Sys.freeWatchers`, the one `Sys.shutdown` runs -/
theorem freeWatchersI_nil (s : Sys) (p : Nat) : freeWatchersI s p [] [] = s.freeWatchers p := by
  unfold freeWatchersI Sys.freeWatchers
  simp only [applyEnvs, List.foldl_nil]
  cases s.tree.watchers p with
  | none => rfl
  | some ws =>
    show notifyAll p ws [] s = ws.foldl (Sys.notify p) s
    induction ws generalizing s with
    | nil => rfl
    | cons w ws ih => exact ih _

theorem freeWatchersI_pre (s : Sys) (p : Nat) (pre : List Env) (envs : List (List Env)) :
    freeWatchersI s p pre envs = freeWatchersI (applyEnvs s pre) p [] envs := rfl

theorem runningAtTurn_none (p w : Nat) (ws : List Pid) (envs : List (List Env)) (s : Sys)
    (h : w ∉ ws.map (·.id)) : runningAtTurn p w ws envs s = none := by
  induction ws generalizing envs s with
  | nil => rfl
  | cons x ws ih =>
    simp only [List.map_cons, List.mem_cons, not_or] at h
    simp only [runningAtTurn]
    have : ¬ x.id = w := fun e => h.1 e.symm
    simp only [this, if_false]
    exact ih _ _ h.2

/-- 1 when the walk found the watcher running at its turn -/
def hit : Option Bool → Nat
  | some true => 1
  | _ => 0

/-- the walk sends `Terminated(p)` to `w` exactly when `w` is in the snapshot and was found running at its
    turn; nothing the environment does in between changes that -/
theorem notifyAll_count (p w : Nat) (ws : List Pid) (envs : List (List Env)) (s : Sys)
    (hnd : (ws.map (·.id)).Nodup) :
    terminatedCount (notifyAll p ws envs s).log w p
      = terminatedCount s.log w p + hit (runningAtTurn p w ws envs s) := by
  induction ws generalizing envs s with
  | nil => rfl
  | cons x ws ih =>
    rw [List.map_cons, List.nodup_cons] at hnd
    simp only [notifyAll, runningAtTurn]
    have hlog : (applyEnvs s (envs.headD [])).log = s.log := envs_log _ _
    generalize applyEnvs s (envs.headD []) = s1 at hlog ⊢
    rw [ih _ _ hnd.2, notify_count, hlog, Nat.add_assoc]
    by_cases hx : x.id = w
    · subst hx
      rw [runningAtTurn_none p x.id ws _ _ hnd.1, if_pos rfl]
      cases s1.isRunning x.id <;> simp [hit]
    · simp [hx]

/-- every node's `watchers` is a map (distinct keys); stated apart from `WF`, which is the invariant C09's statements name -/
def WatchersNodup (t : Tree) : Prop := ∀ k n, aget k t.pids = some n → (akeys n.watchers).Nodup

/-- the PID stored under key `k` has id `k`, so the ids in the snapshot `tree.watchers(p)` are the keys of the map -/
theorem snapshot_ids (t : Tree) (p : Nat) (ws : List Pid) (h : WF t) (hn : WatchersNodup t)
    (hs : t.watchers p = some ws) : ∃ n, aget p t.pids = some n ∧ ws.map (·.id) = akeys n.watchers := by
  unfold Tree.watchers at hs
  split at hs
  · cases hs
  · obtain ⟨n, hn0, rfl⟩ := Option.map_eq_some_iff.mp hs
    refine ⟨n, hn0, ?_⟩
    rw [akeys, List.map_map]
    exact List.map_congr_left fun e he => h.wval p n e.1 e.2 hn0 (mem_aget n.watchers e (hn p n hn0) he)

theorem watchers_snapshot_nodup (t : Tree) (p : Nat) (ws : List Pid) (h : WF t) (hn : WatchersNodup t)
    (hs : t.watchers p = some ws) : (ws.map (·.id)).Nodup := by
  obtain ⟨n, hp, e⟩ := snapshot_ids t p ws h hn hs
  exact e ▸ hn p n hp

theorem wn_modNode {t : Tree} {id : Nat} {f : Node → Node}
    (hf : ∀ n, (akeys n.watchers).Nodup → (akeys (f n).watchers).Nodup) (h : WatchersNodup t) :
    WatchersNodup (t.modNode id f) :=
  forall_modNode (P := fun _ n => (akeys n.watchers).Nodup) hf h

theorem wn_same {f : Node → Node} (hf : ∀ n, (f n).watchers = n.watchers) :
    ∀ n, (akeys n.watchers).Nodup → (akeys (f n).watchers).Nodup := fun n h => by rw [hf]; exact h

theorem wn_removeWatcher (t : Tree) (e w : Pid) (h : WatchersNodup t) : WatchersNodup (t.removeWatcher e w) :=
  wn_modNode (fun _ hn => nodup_adel _ _ hn) (wn_modNode (wn_same (Node.delWatchee_watchers _)) h)

theorem wn_removeDescendant (t : Tree) (a c : Nat) (h : WatchersNodup t) : WatchersNodup (t.removeDescendant a c) :=
  wn_modNode (wn_same (Node.delDesc_watchers c)) h

theorem wn_addWatcher (t : Tree) (p w : Pid) (h : WatchersNodup t) : WatchersNodup (t.addWatcher p w) := by
  rcases addWatcher_eq t p w with e | ⟨-, -, e⟩ <;> rw [e]
  · exact h
  · exact wn_modNode (wn_same (Node.setWatchee_watchers _ _)) (wn_modNode (fun _ hn => nodup_aset _ _ _ hn) h)

theorem wn_attach (t : Tree) (a p : Pid) (h : WatchersNodup t) : WatchersNodup (t.attach a p).1 := by
  rcases attach_eq t a p with e | ⟨pn, cn, -, -, e⟩ <;> rw [e]
  · exact h
  · exact wn_modNode (fun _ hn => nodup_aset _ _ _ hn) (wn_modNode (wn_same (Node.setWatchee_watchers _ _))
      (wn_modNode (wn_same (Node.setDesc_watchers _ _)) (wn_modNode (wn_same (Node.setParent_watchers _)) h)))

theorem wn_insert {t : Tree} (h : WatchersNodup t) (k : Nat) {c : Node} (hc : (akeys c.watchers).Nodup) :
    ∀ k' n, aget k' (aset k c t.pids) = some n → (akeys n.watchers).Nodup := by
  intro k' n hk
  rw [aget_aset] at hk
  split at hk
  · cases hk; exact hc
  · exact h k' n hk

theorem wn_addRoot (t : Tree) (p : Pid) (h : WatchersNodup t) : WatchersNodup (t.addRoot p).1 := by
  rcases addRoot_eq t p with e | ⟨-, -, e⟩ <;> rw [e]
  · exact h
  · exact wn_insert h p.id List.nodup_nil

theorem wn_addNode (t : Tree) (a p : Pid) (h : WatchersNodup t) : WatchersNodup (t.addNode a p).1 := by
  rcases addNode_eq t a p with ⟨r, -, e⟩ | ⟨pn, -, -, e⟩ <;> rw [e]
  · exact h
  · exact wn_insert (wn_modNode (wn_same (Node.setWatchee_watchers _ _))
      (wn_modNode (wn_same (Node.setDesc_watchers _ _)) h)) p.id (by simp [akeys])

theorem wn_removeNode (t : Tree) (p : Ptr) (h : WatchersNodup t) : WatchersNodup (t.removeNode p) := by
  cases hl : t.live p with
  | none => rw [removeNode_of_dead hl]; exact h
  | some n =>
    intro k m hk
    rw [aget_removeNode hl] at hk
    split at hk
    · cases hk
    · obtain ⟨m0, hm0, rfl⟩ := Option.map_eq_some_iff.mp hk
      rw [scrub_watchers]
      split
      · exact nodup_adel _ _ (h k m0 hm0)
      · exact h k m0 hm0

theorem wn_step (t : Tree) (o : Op) (h : WatchersNodup t) : WatchersNodup (t.step o).1 :=
  step_induct wn_addRoot wn_addNode wn_attach wn_addWatcher wn_removeWatcher wn_removeDescendant wn_removeNode
    (fun _ _ _ hk => nomatch hk) t o h

theorem wn_run (ops : List Op) (t : Tree) (h : WatchersNodup t) : WatchersNodup (t.run ops) :=
  List.foldlRecOn ops _ h fun t h o _ => wn_step t o h

theorem wn_empty : WatchersNodup Tree.empty := fun _ _ hk => nomatch hk

end GoaktVerif.Model.C10
