import GoaktVerif.Lemmas.C23
/-
The decoders on arbitrary input: a string long enough for a decoder to read its length fields is in header form
`hdr8 T N body` (`exists_hdr8`, `exists_hdr12`), where every checked read is a rewrite and each framing function has a
closed form; hence decoder = framing then `finish`, and Go's runtime bounds checks (`Err.panic`) never fire.
-/
namespace GoaktVerif.C23
open GoaktVerif.Model.C23

theorem mdLoop_cases (data : Bytes) : ∀ (count pos : Nat) (m : Headers),
    mdLoop data count pos m = .error .invalidMetadata ∨
    ∃ pos' m', mdLoop data count pos m = .ok (pos', m') ∧ (pos ≤ data.length → pos' ≤ data.length) := by
  intro count
  induction count with
  | zero => exact fun pos m => .inr ⟨pos, m, rfl, id⟩
  | succ n ih =>
    intro pos m
    unfold mdLoop
    by_cases h1 : MdNeeds pos 2 data.length
    · exact .inl (if_pos h1)
    obtain ⟨kl, hk⟩ := u16At_of_le (d := data) (pos := pos) (by omega)
    rw [if_neg h1, hk]; dsimp only
    by_cases h2 : MdNeeds (pos + 2) kl data.length
    · exact .inl (if_pos h2)
    rw [if_neg h2, slice_of_le (by omega) (by omega)]; dsimp only
    by_cases h3 : MdNeeds (pos + 2 + kl) 2 data.length
    · exact .inl (if_pos h3)
    obtain ⟨vl, hv⟩ := u16At_of_le (d := data) (pos := pos + 2 + kl) (by omega)
    rw [if_neg h3, hv]; dsimp only
    by_cases h4 : MdNeeds (pos + 2 + kl + 2) vl data.length
    · exact .inl (if_pos h4)
    rw [if_neg h4, slice_of_le (by omega) (by omega)]
    exact (ih _ _).imp id fun ⟨pos', m', h, hle⟩ => ⟨pos', m', h, fun _ => hle (by omega)⟩

theorem mdLoop_pos_le (data : Bytes) : ∀ (count pos : Nat) (m : Headers) (pos' : Nat) (m' : Headers),
    pos ≤ data.length → mdLoop data count pos m = .ok (pos', m') → pos' ≤ data.length := by
  intro count pos m pos' m' hp h
  obtain he | ⟨_, _, hok, hle⟩ := mdLoop_cases data count pos m
  · rw [he] at h; cases h
  · rw [hok] at h; cases h; exact hle hp

theorem mdUnmarshal_cases (data : Bytes) :
    mdUnmarshal data = .error .invalidMetadata ∨ ∃ md, mdUnmarshal data = .ok md := by
  unfold mdUnmarshal
  by_cases h1 : MdShort data.length
  · exact .inl (if_pos h1)
  obtain ⟨c, hc⟩ := u16At_of_le (d := data) (pos := 0) (by omega)
  rw [if_neg h1, hc]; dsimp only
  obtain hl | ⟨pos, m, hl, _⟩ := mdLoop_cases data c 2 []
  · rw [hl]; exact .inl rfl
  rw [hl]; dsimp only
  by_cases h2 : MdNeeds pos 8 data.length
  · exact .inl (if_pos h2)
  obtain ⟨r, hr⟩ := u64At_of_le (d := data) (pos := pos) (by omega)
  rw [if_neg h2, hr]
  exact .inr ⟨_, rfl⟩

theorem mdUnmarshal_err {data : Bytes} {e : Err} (h : mdUnmarshal data = .error e) : e = .invalidMetadata := by
  obtain h' | ⟨_, h'⟩ := mdUnmarshal_cases data <;> rw [h'] at h <;> cases h
  rfl

theorem mdUnmarshal_nopanic (data : Bytes) : mdUnmarshal data ≠ .error .panic :=
  fun h => nomatch mdUnmarshal_err h

theorem finish_err {c : Codec} {r : Raw} {e : Err} (h : finish c r = .error e) :
    e = .unknownType ∨ e = .invalidMetadata ∨ e = .unmarshalFailed := by
  unfold finish at h
  split at h
  · cases h; exact .inl rfl
  split at h
  · rename_i e' he
    cases h
    split at he
    · split at he
      · cases he; exact .inr (.inl (mdUnmarshal_err ‹_›))
      · cases he
    · cases he
  · split at h <;> cases h
    exact .inr (.inr rfl)

theorem bind_finish_nopanic {c : Codec} {x : R Raw} (hx : ∀ e, x = .error e → e = .invalidLength) :
    x.bind (finish c) ≠ .error .panic := by
  intro h
  cases x with
  | error e => cases hx e rfl; cases h
  | ok r => obtain h | h | h := finish_err h <;> cases h

theorem ite_ite_same {α} (a b : Prop) [Decidable a] [Decidable b] (x y : α) :
    (if a then x else if b then x else y) = if a ∨ b then x else y := by
  by_cases a <;> by_cases b <;> simp [*]

/-- header form: the two (three) length fields a decoder reads, then the rest -/
abbrev hdr8 (T N : Nat) (body : Bytes) : Bytes := be32 T ++ (be32 N ++ body)
abbrev hdr12 (T N K : Nat) (body : Bytes) : Bytes := hdr8 T N (be32 K ++ body)

theorem hdr8_length (T N : Nat) (body : Bytes) : (hdr8 T N body).length = 8 + body.length := by
  simp only [List.length_append, be32_length]; omega

theorem hdr12_length (T N K : Nat) (body : Bytes) : (hdr12 T N K body).length = 12 + body.length := by
  rw [hdr8_length, List.length_append, be32_length]; omega

theorem exists_hdr8 {d : Bytes} (h : 8 ≤ d.length) : ∃ T N body, T < 2 ^ 32 ∧ N < 2 ^ 32 ∧ d = hdr8 T N body := by
  obtain ⟨T, r, hT, rfl⟩ := exists_be32 (d := d) (by omega)
  obtain ⟨N, body, hN, rfl⟩ := exists_be32 (d := r) (by rw [List.length_append, be32_length] at h; omega)
  exact ⟨T, N, body, hT, hN, rfl⟩

theorem exists_hdr12 {d : Bytes} (h : 12 ≤ d.length) :
    ∃ T N K body, T < 2 ^ 32 ∧ N < 2 ^ 32 ∧ K < 2 ^ 32 ∧ d = hdr12 T N K body := by
  obtain ⟨T, N, r, hT, hN, rfl⟩ := exists_hdr8 (d := d) (by omega)
  obtain ⟨K, body, hK, rfl⟩ := exists_be32 (d := r) (by rw [hdr8_length] at h; omega)
  exact ⟨T, N, K, body, hT, hN, hK, rfl⟩

theorem u32At_hdr4 {N : Nat} (hN : N < 2 ^ 32) (T : Nat) (r : Bytes) : u32At (hdr8 T N r) 4 = .ok N :=
  u32At_of_drop (rest := r) rfl hN

theorem u32At_hdr8 {K : Nat} (hK : K < 2 ^ 32) (T N : Nat) (r : Bytes) : u32At (hdr12 T N K r) 8 = .ok K :=
  u32At_of_drop (rest := r) rfl hK

/-- the three bounds `UnmarshalBinary` tests, on a string of `8 + L` bytes, amount to two -/
theorem bad8_iff (L T N : Nat) : (UmShort (8 + L) ∨ UmTotal (8 + L) T ∨ UmName N T) ↔ (8 + L < T ∨ T < 8 + N) := by
  omega

theorem bad12_iff (L T N K : Nat) :
    (UwmShort (12 + L) ∨ UwmTotal (12 + L) T ∨ UwmBound N K T) ↔ (12 + L < T ∨ T < 12 + N + K) := by
  omega

theorem slices8 {T N : Nat} {body : Bytes} (h : ¬(8 + body.length < T ∨ T < 8 + N)) :
    slice (hdr8 T N body) 8 (8 + N) = .ok (body.take N) ∧
    slice (hdr8 T N body) (8 + N) T = .ok ((body.drop N).take (T - (8 + N))) := by
  rw [slice_of_le (by omega) (by rw [hdr8_length]; omega), slice_of_le (by omega) (by rw [hdr8_length]; omega)]
  simp only [← List.drop_drop, Nat.add_sub_cancel_left]
  exact ⟨rfl, rfl⟩

theorem slices12 {T N K : Nat} {body : Bytes} (h : ¬(12 + body.length < T ∨ T < 12 + N + K)) :
    slice (hdr12 T N K body) 12 (12 + N) = .ok (body.take N) ∧
    slice (hdr12 T N K body) (12 + N) (12 + N + K) = .ok ((body.drop N).take K) ∧
    slice (hdr12 T N K body) (12 + N + K) T = .ok (((body.drop N).drop K).take (T - (12 + N + K))) := by
  rw [slice_of_le (by omega) (by rw [hdr12_length]; omega), slice_of_le (by omega) (by rw [hdr12_length]; omega),
    slice_of_le (by omega) (by rw [hdr12_length]; omega)]
  simp only [← List.drop_drop, Nat.add_sub_cancel_left]
  exact ⟨rfl, rfl, rfl⟩

theorem frameLegacy_hdr {T N : Nat} (hT : T < 2 ^ 32) (hN : N < 2 ^ 32) (body : Bytes) :
    frameLegacy (hdr8 T N body) =
      if 8 + body.length < T ∨ T < 8 + N then .error .invalidLength
      else .ok ⟨body.take N, [], (body.drop N).take (T - (8 + N))⟩ := by
  unfold frameLegacy
  simp only [u32At_hdr0 hT, u32At_hdr4 hN, hdr8_length, ite_ite_same, bad8_iff]
  by_cases h : 8 + body.length < T ∨ T < 8 + N
  · rw [if_pos h, if_pos h]
  · rw [if_neg h, if_neg h, (slices8 h).1, (slices8 h).2]

theorem frameMeta_hdr {T N K : Nat} (hT : T < 2 ^ 32) (hN : N < 2 ^ 32) (hK : K < 2 ^ 32) (body : Bytes) :
    frameMeta (hdr12 T N K body) =
      if 12 + body.length < T ∨ T < 12 + N + K then .error .invalidLength
      else .ok ⟨body.take N, (body.drop N).take K, ((body.drop N).drop K).take (T - (12 + N + K))⟩ := by
  unfold frameMeta
  simp only [u32At_hdr0 hT, u32At_hdr4 hN, u32At_hdr8 hK, hdr12_length, ite_ite_same, bad12_iff]
  by_cases h : 12 + body.length < T ∨ T < 12 + N + K
  · rw [if_pos h, if_pos h]
  · rw [if_neg h, if_neg h, (slices12 h).1, (slices12 h).2.1, (slices12 h).2.2]

theorem clientTriesMeta_hdr {T N K : Nat} (hT : T < 2 ^ 32) (hN : N < 2 ^ 32) (hK : K < 2 ^ 32) (body : Bytes) :
    clientTriesMeta (hdr12 T N K body) = decide (CliDetect T N K) := by
  unfold clientTriesMeta
  rw [if_neg (by rw [hdr12_length]; omega), u32At_hdr0 hT, u32At_hdr4 hN, u32At_hdr8 hK]

theorem unmarshal_eq_finish (c : Codec) (d : Bytes) : unmarshal c d = (frameLegacy d).bind (finish c) := by
  by_cases h8 : d.length < 8
  · unfold unmarshal frameLegacy; rw [if_pos h8, if_pos h8]; rfl
  obtain ⟨T, N, body, hT, hN, rfl⟩ := exists_hdr8 (d := d) (by omega)
  rw [frameLegacy_hdr hT hN]
  -- the walk of `frameLegacy_hdr` once more: the model has the header checks twice, in the decoder and in its framing view
  unfold unmarshal
  simp only [u32At_hdr0 hT, u32At_hdr4 hN, hdr8_length, ite_ite_same, bad8_iff]
  by_cases h : 8 + body.length < T ∨ T < 8 + N
  · rw [if_pos h, if_pos h]; rfl
  · rw [if_neg h, if_neg h, (slices8 h).1, (slices8 h).2]
    simp only [Except.bind, finish, List.length_nil, Nat.lt_irrefl, if_false]

theorem unmarshalWithMeta_eq_finish (c : Codec) (d : Bytes) :
    unmarshalWithMeta c d = (frameMeta d).bind (finish c) := by
  by_cases h12 : d.length < 12
  · unfold unmarshalWithMeta frameMeta; rw [if_pos h12, if_pos h12]; rfl
  obtain ⟨T, N, K, body, hT, hN, hK, rfl⟩ := exists_hdr12 (d := d) (by omega)
  rw [frameMeta_hdr hT hN hK]
  unfold unmarshalWithMeta
  simp only [u32At_hdr0 hT, u32At_hdr4 hN, u32At_hdr8 hK, hdr12_length, ite_ite_same, bad12_iff]
  by_cases h : 12 + body.length < T ∨ T < 12 + N + K
  · rw [if_pos h, if_pos h]; rfl
  · have hlen : ((body.drop N).take K).length = K := by
      rw [List.length_take, List.length_drop]; omega
    rw [if_neg h, if_neg h, (slices12 h).1, (slices12 h).2.1, (slices12 h).2.2]
    simp only [Except.bind, finish, hlen]

theorem frameLegacy_err {d : Bytes} {e : Err} (h : frameLegacy d = .error e) : e = .invalidLength := by
  by_cases h8 : d.length < 8
  · unfold frameLegacy at h; rw [if_pos h8] at h; cases h; rfl
  · obtain ⟨T, N, body, hT, hN, rfl⟩ := exists_hdr8 (d := d) (by omega)
    rw [frameLegacy_hdr hT hN] at h
    split at h <;> cases h
    rfl

theorem frameMeta_err {d : Bytes} {e : Err} (h : frameMeta d = .error e) : e = .invalidLength := by
  by_cases h12 : d.length < 12
  · unfold frameMeta at h; rw [if_pos h12] at h; cases h; rfl
  · obtain ⟨T, N, K, body, hT, hN, hK, rfl⟩ := exists_hdr12 (d := d) (by omega)
    rw [frameMeta_hdr hT hN hK] at h
    split at h <;> cases h
    rfl

theorem serverDecode_eq_finish (c : Codec) (d : Bytes) : serverDecode c d = (serverFrame d).bind (finish c) := by
  unfold serverDecode serverFrame
  rw [unmarshalWithMeta_eq_finish, unmarshal_eq_finish]
  split
  · cases hfm : frameMeta d with
    | error e => cases frameMeta_err hfm; rfl
    | ok r =>
      -- `finish` never reports invalidLength, so no fallback happens after a successful framing
      cases hf : finish c r with
      | error e => obtain h | h | h := finish_err hf <;> subst h <;> simp only [Except.bind, hf]
      | ok v => simp only [Except.bind, hf]
  · rfl

theorem clientDecode_eq (c : Codec) (d : Bytes) :
    clientDecode c d =
      if clientTriesMeta d then
        (match unmarshalWithMeta c d with
         | .ok r => .ok r
         | .error _ => unmarshal c d)
      else unmarshal c d := by
  by_cases h : d.length < 12
  · unfold clientDecode clientTriesMeta; rw [if_pos h, if_pos h]; rfl
  · obtain ⟨T, N, K, body, hT, hN, hK, rfl⟩ := exists_hdr12 (d := d) (by omega)
    rw [clientTriesMeta_hdr hT hN hK]
    unfold clientDecode
    rw [if_neg h, u32At_hdr0 hT, u32At_hdr4 hN, u32At_hdr8 hK]
    by_cases hc : CliDetect T N K
    · rw [if_pos (decide_eq_true hc)]; exact if_pos hc
    · rw [if_neg fun h => hc (of_decide_eq_true h)]; exact if_neg hc

theorem unmarshal_nopanic (c : Codec) (data : Bytes) : unmarshal c data ≠ .error .panic := by
  rw [unmarshal_eq_finish]; exact bind_finish_nopanic fun _ => frameLegacy_err

theorem unmarshalWithMeta_nopanic (c : Codec) (data : Bytes) : unmarshalWithMeta c data ≠ .error .panic := by
  rw [unmarshalWithMeta_eq_finish]; exact bind_finish_nopanic fun _ => frameMeta_err

theorem serverDecode_nopanic (c : Codec) (frame : Bytes) : serverDecode c frame ≠ .error .panic := by
  -- `fun_cases f args` gives one goal per leaf of `f` in Model/C23.lean, numbered in the order of the leaves there,
  -- with the pattern equations and guard outcomes on the way as hypotheses and a `let` of `f` as a local definition
  fun_cases serverDecode c frame
  case case1 | case3 => exact unmarshal_nopanic c frame -- the meta reading reports invalidLength; too short for it: the legacy reading
  case case2 => exact unmarshalWithMeta_nopanic c frame -- the meta reading's own answer

theorem clientDecode_nopanic (c : Codec) (frame : Bytes) : clientDecode c frame ≠ .error .panic := by
  rw [clientDecode_eq]
  split
  · split
    · exact fun h => nomatch h
    · exact unmarshal_nopanic c frame
  · exact unmarshal_nopanic c frame

end GoaktVerif.C23
