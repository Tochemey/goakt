/-
C47: the call-level model of breaker.go simulates the spec state machine (Spec/C47), operation by
operation.
-/
import GoaktVerif.Lemmas.C47Ring
import GoaktVerif.Lemmas.C47Fine

namespace GoaktVerif.C47
open GoaktVerif.Model.C47 GoaktVerif.Spec.C47

def stS : St → SSt
  | .closed => .closed
  | .opened => .opened
  | .halfOpen => .halfOpen

/-- sane options (assumed by the call-level results) -/
def ConfOk (cf : Conf) : Prop := 0 < cf.q ∧ 1 ≤ cf.minReq ∧ 0 < cf.bucketNanos ∧ 1 ≤ cf.num ∧ 1 ≤ cf.hmax

instance (cf : Conf) : Decidable (ConfOk cf) := by unfold ConfOk; infer_instance

structure BRel (cf : Conf) (b : Br) (sb : SBr) : Prop where
  st : stS b.state = sb.state
  ou : b.openUntil = sb.openUntil
  sem : b.sem = sb.probes
  win : RW cf.num b.w sb.win

theorem brel_new (cf : Conf) (h : 1 ≤ cf.num) (t0 : Int) : BRel cf (Br.new cf t0) (SBr.new (toSConf cf) t0) :=
  ⟨rfl, rfl, rfl, rw_new cf.num t0 h⟩

def tryProbe (cf : SConf) (sb : SBr) : (Bool × Bool) × SBr :=
  if sb.probes < cf.hmax then ((true, true), { sb with probes := sb.probes + 1 }) else ((false, false), sb)

theorem tryProbe_state (cf : SConf) (sb : SBr) : (tryProbe cf sb).2.state = sb.state := by
  unfold tryProbe; split <;> rfl

theorem tryProbe_probes (cf : SConf) (sb : SBr) (h : sb.probes ≤ cf.hmax) : (tryProbe cf sb).2.probes ≤ cf.hmax := by
  unfold tryProbe; split
  · exact ‹_›
  · exact h

/-- an admitted probe always holds a slot -/
theorem tryProbe_fst (cf : SConf) (sb : SBr) : (tryProbe cf sb).1.1 = (tryProbe cf sb).1.2 := by
  unfold tryProbe; split <;> rfl

def halfOpened (now : Int) (sb : SBr) : SBr :=
  { sb with state := .halfOpen, win := ⟨sb.win.q.map (fun _ => (0, 0)), now⟩ }

theorem halfOpened_state (now : Int) (sb : SBr) : (halfOpened now sb).state = .halfOpen := rfl

theorem halfOpened_probes (now : Int) (sb : SBr) : (halfOpened now sb).probes = sb.probes := rfl

section
variable {cf : Conf} {now : Int} {b : Br}

theorem tryAcquire_closed (hs : b.state = .closed) :
    tryAcquire cf now b = ((true, false), b) := by
  unfold tryAcquire; rw [hs]

theorem tryAcquire_open_early (hs : b.state = .opened) (hlt : now < b.openUntil) :
    tryAcquire cf now b = ((false, false), b) := by
  unfold tryAcquire; rw [hs]; show afterOpenCheck cf _ = _; rw [openToHalfOpen_early hs hlt]; rfl

theorem tryAcquire_open_late (hs : b.state = .opened) (hge : ¬ now < b.openUntil) :
    tryAcquire cf now b = trySem cf { b with w := b.w.hardReset now, state := .halfOpen } := by
  unfold tryAcquire; rw [hs]; show afterOpenCheck cf _ = _; rw [openToHalfOpen_late hs hge]; rfl

theorem tryAcquire_halfOpen (hs : b.state = .halfOpen) :
    tryAcquire cf now b = trySem cf b := by
  unfold tryAcquire; rw [hs]

end

theorem acquire_closed {cf : SConf} {now : Int} {sb : SBr} (hs : sb.state = .closed) :
    sb.acquire cf now = ((true, false), sb) := by
  unfold SBr.acquire; rw [hs]

/-- while Open and before `openUntil` every admission attempt is rejected and changes nothing -/
theorem acquire_rejects_while_open {cf : SConf} {now : Int} {sb : SBr} (hs : sb.state = .opened) (hlt : now < sb.openUntil) :
    sb.acquire cf now = ((false, false), sb) := by
  unfold SBr.acquire; rw [hs]; exact if_pos hlt

theorem acquire_open_late {cf : SConf} {now : Int} {sb : SBr} (hs : sb.state = .opened) (hge : ¬ now < sb.openUntil) :
    sb.acquire cf now = tryProbe cf (halfOpened now sb) := by
  unfold SBr.acquire; rw [hs]; exact if_neg hge

theorem acquire_halfOpen {cf : SConf} {now : Int} {sb : SBr} (hs : sb.state = .halfOpen) :
    sb.acquire cf now = tryProbe cf sb := by
  obtain ⟨_, _, _, _⟩ := sb; cases hs; rfl

theorem BRel.state_eq {cf : Conf} {b : Br} {sb : SBr} (h : BRel cf b sb) {st : St} (hs : b.state = st) :
    sb.state = stS st := hs ▸ h.st.symm

theorem trySem_sim (cf : Conf) (b : Br) (sb : SBr) (h : BRel cf b sb) :
    (trySem cf b).1 = (tryProbe (toSConf cf) sb).1 ∧ BRel cf (trySem cf b).2 (tryProbe (toSConf cf) sb).2 := by
  unfold trySem tryProbe
  rw [h.sem]
  by_cases hc : sb.probes < cf.hmax
  · rw [if_pos hc, if_pos (show sb.probes < (toSConf cf).hmax from hc)]; exact ⟨rfl, h.st, h.ou, rfl, h.win⟩
  · rw [if_neg hc, if_neg (show ¬ sb.probes < (toSConf cf).hmax from hc)]; exact ⟨rfl, h⟩

theorem halfOpened_sim {cf : Conf} {b : Br} {sb : SBr} (now : Int) (h : BRel cf b sb) :
    BRel cf { b with w := b.w.hardReset now, state := .halfOpen } (halfOpened now sb) :=
  ⟨rfl, h.ou, h.sem, rw_hardReset cf.num now b.w sb.win h.win⟩

theorem tryAcquire_sim (cf : Conf) (now : Int) (b : Br) (sb : SBr) (h : BRel cf b sb) :
    (tryAcquire cf now b).1 = (sb.acquire (toSConf cf) now).1 ∧
    BRel cf (tryAcquire cf now b).2 (sb.acquire (toSConf cf) now).2 := by
  cases hs : b.state with
  | closed => rw [tryAcquire_closed hs, acquire_closed (h.state_eq hs)]; exact ⟨rfl, h⟩
  | halfOpen => rw [tryAcquire_halfOpen hs, acquire_halfOpen (h.state_eq hs)]; exact trySem_sim cf b sb h
  | opened =>
    by_cases hlt : now < b.openUntil
    · rw [tryAcquire_open_early hs hlt, acquire_rejects_while_open (h.state_eq hs) (h.ou ▸ hlt)]; exact ⟨rfl, h⟩
    · rw [tryAcquire_open_late hs hlt, acquire_open_late (h.state_eq hs) (h.ou ▸ hlt)]
      exact trySem_sim cf _ _ (halfOpened_sim now h)

/-- `record` after the counting -/
def recordDecide (cf : Conf) (now : Int) (b1 : Br) (t : Nat × Nat) : Br :=
  if !enough cf t then b1
  else if tripped cf t then transitionTo cf now .opened b1
  else halfOpenToClosed now b1

/-- `SBr.observe` after the counting, on any window -/
def observeDecide (cf : SConf) (now : Int) (b1 : SBr) : SBr :=
  let s := sumS b1.win.q
  let f := sumF b1.win.q
  if s + f < cf.minReq then b1
  else if rateReached cf s f then
    (if b1.state = .opened then b1 else { b1 with state := .opened, openUntil := now + cf.openTimeout })
  else if b1.state = .halfOpen then { b1 with state := .closed, win := ⟨b1.win.q.map (fun _ => (0, 0)), now⟩ }
  else b1

section
variable {cf : Conf} {now : Int} {b : Br} {t : Nat × Nat}

theorem recordDecide_few (h : enough cf t = false) : recordDecide cf now b t = b := by
  unfold recordDecide; rw [h]; rfl

theorem recordDecide_enough (h : enough cf t = true) :
    recordDecide cf now b t = if tripped cf t then transitionTo cf now .opened b else halfOpenToClosed now b := by
  unfold recordDecide; rw [h]; rfl

end

theorem record_eq (cf : Conf) (now : Int) (success : Bool) (b : Br) :
    record cf now success b =
      recordDecide cf now
        (if success then { b with w := (b.w.add cf now success).1, lastSuccess := now }
         else { b with w := (b.w.add cf now success).1, lastFailure := now })
        (b.w.add cf now success).2 := rfl

theorem observe_eq (cf : SConf) (now : Int) (success : Bool) (sb : SBr) :
    sb.observe cf now success =
      observeDecide cf now { sb with win := { (sb.win.advance cf now) with q := bump success (sb.win.advance cf now).q } } := rfl

theorem toOpen_sim (cf : Conf) (now : Int) (b : Br) (sb : SBr) (h : BRel cf b sb) :
    BRel cf (transitionTo cf now .opened b)
      (if sb.state = .opened then sb else { sb with state := .opened, openUntil := now + cf.openTimeout }) := by
  unfold transitionTo
  cases hs : b.state <;> rw [h.state_eq hs]
  · exact ⟨rfl, rfl, h.sem, h.win⟩
  · exact h
  · exact ⟨rfl, rfl, h.sem, h.win⟩

theorem toClosed_sim (cf : Conf) (now : Int) (b : Br) (sb : SBr) (h : BRel cf b sb) :
    BRel cf (halfOpenToClosed now b)
      (if sb.state = .halfOpen then { sb with state := .closed, win := ⟨sb.win.q.map (fun _ => (0, 0)), now⟩ } else sb) := by
  unfold halfOpenToClosed
  cases hs : b.state <;> rw [h.state_eq hs]
  · exact h
  · exact h
  · exact ⟨rfl, h.ou, h.sem, rw_hardReset cf.num now b.w sb.win h.win⟩

theorem enough_cases (cf : Conf) (s f : Nat) :
    (s + f < cf.minReq ∧ enough cf (s, f) = false) ∨ (¬ s + f < cf.minReq ∧ enough cf (s, f) = true) :=
  (Nat.lt_or_ge (s + f) cf.minReq).elim (fun h => .inl ⟨h, decide_eq_false (Nat.not_le.2 h)⟩)
    fun h => .inr ⟨Nat.not_lt.2 h, decide_eq_true h⟩

theorem tripped_eq (cf : Conf) (s f : Nat) : tripped cf (s, f) = rateReached (toSConf cf) s f := rfl

theorem decide_sim (cf : Conf) (now : Int) (b1 : Br) (sb1 : SBr) (h : BRel cf b1 sb1) :
    BRel cf (recordDecide cf now b1 b1.w.totals) (observeDecide (toSConf cf) now sb1) := by
  have htot : b1.w.totals = (sumS sb1.win.q, sumF sb1.win.q) := by
    rw [totals_eq, h.win.totS, h.win.totF]; rfl
  show BRel cf _ (if sumS sb1.win.q + sumF sb1.win.q < cf.minReq then sb1 else
    if rateReached (toSConf cf) (sumS sb1.win.q) (sumF sb1.win.q) then _ else _)
  rw [htot]
  rcases enough_cases cf (sumS sb1.win.q) (sumF sb1.win.q) with ⟨h1, h2⟩ | ⟨h1, h2⟩
  · rw [recordDecide_few h2, if_pos h1]; exact h
  · rw [recordDecide_enough h2, if_neg h1, tripped_eq]
    cases rateReached (toSConf cf) (sumS sb1.win.q) (sumF sb1.win.q)
    · exact toClosed_sim cf now b1 sb1 h
    · exact toOpen_sim cf now b1 sb1 h

theorem record_sim (cf : Conf) (hbn : 0 < cf.bucketNanos) (now : Int) (success : Bool) (b : Br) (sb : SBr) (h : BRel cf b sb) :
    BRel cf (record cf now success b) (sb.observe (toSConf cf) now success) := by
  have hw := rw_bump cf.num success _ _ (rw_advance cf hbn now b.w sb.win h.win)
  rw [record_eq, observe_eq]
  cases success <;> exact decide_sim cf now _ _ ⟨h.st, h.ou, h.sem, hw⟩

theorem finish_sim (cf : Conf) (hbn : 0 < cf.bucketNanos) (now : Int) (o : Outcome) (tok : Bool) (b : Br) (sb : SBr)
    (h : BRel cf b sb) :
    BRel cf (finish cf now o tok b)
      (sb.finish (toSConf cf) now (match o with | .ok => some true | .fail => some false | .cancel => none) tok) := by
  have hrel : ∀ (b1 : Br) (sb1 : SBr), BRel cf b1 sb1 →
      BRel cf (if tok = true then release b1 else b1) (if tok = true then { sb1 with probes := sb1.probes - 1 } else sb1) := by
    intro b1 sb1 h1
    cases tok
    · exact h1
    · exact ⟨h1.st, h1.ou, congrArg (· - 1) h1.sem, h1.win⟩
  cases o
  · exact hrel _ _ (record_sim cf hbn now true b sb h)
  · exact hrel _ _ (record_sim cf hbn now false b sb h)
  · exact hrel _ _ h

theorem metrics_sim (cf : Conf) (hbn : 0 < cf.bucketNanos) (now : Int) (b : Br) (sb : SBr) (h : BRel cf b sb) :
    BRel cf (metrics cf now b).1 { sb with win := sb.win.advance (toSConf cf) now } ∧
    (metrics cf now b).2 = (sumS (sb.win.advance (toSConf cf) now).q, sumF (sb.win.advance (toSConf cf) now).q) := by
  have hw1 := rw_advance cf hbn now b.w sb.win h.win
  unfold metrics BW.snapshot
  refine ⟨⟨h.st, h.ou, h.sem, hw1⟩, ?_⟩
  simp only
  rw [totals_eq, hw1.totS, hw1.totF]; rfl

end GoaktVerif.C47
