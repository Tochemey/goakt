import GoaktVerif.Lemmas.C20QueueInv

/-
C20 — every step of every thread preserves the invariant of the repaired queue (`Mode.fresh`).
-/
namespace GoaktVerif.C20
open GoaktVerif.Model.C20 GoaktVerif.Model.C20.Queue
open GoaktVerif.Spec.C20 (replay)

theorem getItem_fresh (c : Cfg) (pick : Option Nat) (v : Val) (h : c.mode = .fresh) :
    getItem c pick v = (c.nodes.length, alloc c { next := none, val := some v }) := by
  unfold getItem alloc
  split
  · rename_i _ hm; rw [h] at hm; cases hm
  · rfl

theorem Ctx.grows {c ca : Cfg} {tid t pre post} (x : Ctx c tid t pre post) (g : Grows c ca) (hm : ca.mode = c.mode)
    (hth : ca.threads = c.threads) (ht : ca.tail ∈ pre ++ c.head :: post)
    (hl : replay (ca.lin.reverse.map (·.2)) [] = some (post.filterMap (valOf c))) : Ctx ca tid t pre post :=
  ⟨hm.trans x.mode, g.heapOk x.heap ht hl,
    fun j tj hj => threadOk_mono (g.mono pre post none) (x.all j tj (hth ▸ hj)) fun _ _ _ => nofun,
    hth.symm ▸ x.dist, hth.symm ▸ x.ht⟩

theorem inv_pc {c : Cfg} {tid t pre post} (x : Ctx c tid t pre post) {t' : Thread}
    (hloc : LocalOk c (pre ++ c.head :: post) (pre ++ [c.head]) t')
    (hown : ownedBy t' = ownedBy t ∨ ownedBy t' = none) :
    Inv (upd c tid t') := by
  have hsub : ∀ n v, ownedBy t' = some (n, v) → ownedBy t = some (n, v) := fun _ _ => C15C20.held_of hown
  exact inv_update x (c1 := c) x.mode rfl x.heap (Mono.of_nodes rfl)
    ⟨hloc, fun n v ho => (x.all tid t x.ht).own n v (hsub n v ho)⟩ fun n v ho => Or.inl (hsub n v ho)

theorem inv_alloc {c : Cfg} {tid t pre post} (x : Ctx c tid t pre post)
    {t' : Thread} {v : Val} (hpc : t'.pc = some (.enqLoadTail c.nodes.length v)) :
    Inv (upd (alloc c { next := none, val := some v }) tid t') := by
  apply inv_update x (c1 := alloc c _) x.mode rfl ((grows_alloc c _).heapOk x.heap x.heap.tailIn x.heap.lin) ((grows_alloc c _).mono pre post _)
  · refine ⟨by rw [LocalOk, hpc]; trivial, fun n w ho => ?_⟩
    rw [ownedBy, hpc] at ho
    cases ho
    exact ⟨length_alloc c _ ▸ Nat.lt_succ_self _, fun hmem => Nat.lt_irrefl _ (x.heap.bound _ hmem),
      nextOf_alloc_new _ _, valOf_alloc_new _ _⟩
  · intro n w ho
    rw [ownedBy, hpc] at ho
    cases ho
    exact Or.inr (Nat.le_refl _)

theorem inv_start {c : Cfg} {tid t pre post} (x : Ctx c tid t pre post) {t0 : Thread} {pick : Option Nat} :
    Inv (upd (startNext c t0 pick).1 tid (startNext c t0 pick).2) := by
  unfold startNext
  cases t0.prog with
  | nil => exact inv_pc x trivial (Or.inr rfl)
  | cons op rest =>
    cases op with
    | enq v =>
      simp only [getItem_fresh c pick v x.mode]
      exact inv_alloc x rfl
    | _ => exact inv_pc x trivial (Or.inr rfl)

theorem inv_finish {c : Cfg} {tid t pre post} (x : Ctx c tid t pre post) {t0 : Thread} {r : Res} {pick : Option Nat} :
    Inv (upd (finishOp c t0 r pick).1 tid (finishOp c t0 r pick).2) := by
  unfold finishOp
  cases t0.cur <;> exact inv_start x

theorem inv_ret {c : Cfg} {tid t pre post} (x : Ctx c tid t pre post)
    {t0 : Thread} {k : Cont} {r : Option Val} {pick : Option Nat} :
    Inv (upd (ret c t0 k r pick).1 tid (ret c t0 k r pick).2) := by
  unfold ret
  cases k with
  | plain => exact inv_finish x
  | iter rem acc =>
    cases r with
    | none => exact inv_finish x
    | some v =>
      simp only
      split
      · exact inv_finish x
      · exact inv_pc x trivial (Or.inr rfl)

/-- logging `e` runs it on the abstract queue the log has built so far -/
theorem replay_log {lin : List (Nat × Queue.Ev)} {q : List Nat} (h : replay (lin.reverse.map (·.2)) [] = some q) (tid : Nat)
    (e : Queue.Ev) : replay (((tid, e) :: lin).reverse.map (·.2)) [] = replay [e] q := by
  rw [List.reverse_cons, List.map_append, replay_append, h]
  rfl

/-- `CAS:tail` (help or swing): `tail` moves along the chain, nothing else reads it -/
theorem Ctx.tail {c : Cfg} {tid t pre post} (x : Ctx c tid t pre post) {y : NodeId} (hy : y ∈ pre ++ c.head :: post) :
    Ctx { c with tail := y } tid t pre post :=
  x.grows (.of_nodes rfl rfl) rfl rfl hy x.heap.lin

/-- successful `CAS:next`: the enqueuer links its node behind the last node — the linearization point of `Enqueue` -/
theorem inv_link {c : Cfg} {tid t pre post} (x : Ctx c tid t pre post) (n : NodeId) (v : Val) (tl : NodeId)
    (hpc : t.pc = some (.enqLink n v tl)) (hnone : nextOf c tl = none) :
    Inv (upd (logEv (setNext c tl (some n)) tid (.enq v)) tid { t with pc := some (.enqSwing n tl) }) := by
  have hok := x.all tid t x.ht
  have hown : ownedBy t = some (n, v) := by rw [ownedBy, hpc]
  have htl : tl ∈ pre ++ c.head :: post := by have := hok.loc; rwa [LocalOk, hpc] at this
  obtain ⟨hn1, hn2, hn3, hn4⟩ := hok.own n v hown
  have hne : n ≠ tl := fun e => hn2 (e ▸ htl)
  let c1 := logEv (setNext c tl (some n)) tid (.enq v)
  have nx : ∀ i, i ≠ tl → nextOf c1 i = nextOf c i := fun i hi => nextOf_setNext_ne c tl i _ hi
  have vx : ∀ i, valOf c1 i = valOf c i := fun i => valOf_setNext c tl i _
  have chain_eq : pre ++ c1.head :: (post ++ [n]) = (pre ++ c.head :: post) ++ [n] :=
    (List.append_assoc pre (c.head :: post) [n]).symm
  have hmem : ∀ m, m ∈ pre ++ c1.head :: (post ++ [n]) ↔ m ∈ pre ++ c.head :: post ∨ m = n := fun m => by
    rw [chain_eq, List.mem_append, List.mem_singleton]
  apply inv_update x (c1 := c1) (pre' := pre) (post' := post ++ [n]) x.mode rfl
  · refine ⟨?_, fun i hi => ?_, ?_, (hmem _).mpr (Or.inl x.heap.tailIn), fun i hi => ?_, ?_⟩
    · rw [chain_eq]
      exact List.nodup_append.mpr ⟨x.heap.nodup, by simp,
        fun a ha b hb => List.mem_singleton.mp hb ▸ fun e => hn2 (e ▸ ha)⟩
    · show i < (setNext c tl (some n)).nodes.length
      rw [length_setNext]
      exact ((hmem i).mp hi).elim (x.heap.bound i) (· ▸ hn1)
    · rw [chain_eq]
      exact Linked.append x.heap.linked (x.heap.linked.last_of_none htl hnone) (fun i _ hi => nx i hi)
        (nextOf_setNext_self c tl _ (x.heap.bound tl htl)) ((nx n hne).trans hn3)
    · rw [vx]
      rcases List.mem_append.mp hi with h | h
      · exact x.heap.vals i h
      · rw [List.mem_singleton.mp h, hn4]; rfl
    · -- the log gains `enq v`, the abstract queue gains `v`
      have : (post ++ [n]).filterMap (valOf c1) = post.filterMap (valOf c) ++ [v] := by
        rw [List.filterMap_append, filterMap_congr _ _ post fun a _ => vx a]
        simp [vx, hn4]
      exact (replay_log x.heap.lin tid (.enq v)).trans (this ▸ rfl)
  · refine ⟨fun i hi => (hmem i).mpr (Or.inl hi), fun _ hi => hi, fun i y hy => ?_,
      Nat.le_of_eq (length_setNext c tl _).symm, fun m hm _ hsp => ?_⟩
    · rw [nx i fun e => nomatch (e ▸ hnone).symm.trans hy]; exact hy
    · have hmn : m ≠ n := fun e => hsp (by rw [hown, e]; rfl)
      exact ⟨fun hmem' => ((hmem m).mp hmem').elim hm hmn, nx m fun e => hm (e ▸ htl), vx m⟩
  · exact ⟨(hmem n).mpr (Or.inr rfl), fun _ _ ho => nomatch ho⟩
  · exact fun _ _ ho => nomatch ho

/-- successful `CAS:head`: the dequeuer moves head to its successor — the linearization point of a non-empty `Dequeue` -/
theorem inv_deq {c : Cfg} {tid t pre post} (x : Ctx c tid t pre post) (k : Cont) (y : NodeId)
    (hpc : t.pc = some (.deqCas k c.head y)) :
    Inv (upd (logEv (setVal { c with head := y } y none) tid (.deq (valOf c y))) tid { t with pc := some (.deqAdd k (valOf c y)) }) := by
  have hnext : nextOf c c.head = some y := by have := (x.all tid t x.ht).loc; rw [LocalOk, hpc] at this; exact this.2
  obtain ⟨l2, rfl⟩ := x.heap.linked.post_of_next hnext
  obtain ⟨v, hv⟩ := Option.isSome_iff_exists.mp (x.heap.vals y (List.mem_cons_self ..))
  let c1 := logEv (setVal { c with head := y } y none) tid (.deq (valOf c y))
  obtain ⟨ch, hy, nx, vx⟩ := (x.heap.chainOk x.mode).deq (c1 := c1) rfl rfl rfl
  have chain_eq : (pre ++ [c.head]) ++ c1.head :: l2 = pre ++ c.head :: y :: l2 := by
    show (pre ++ [c.head]) ++ y :: l2 = _; simp
  apply inv_update x (c1 := c1) (pre' := pre ++ [c.head]) (post' := l2) x.mode rfl
  · refine ⟨ch.nodup, ch.bound, ch.linked, chain_eq ▸ x.heap.tailIn, ch.vals, ?_⟩
    -- the log gains `deq v`, the abstract queue loses its first value `v`
    have e1 : (y :: l2).filterMap (valOf c) = v :: l2.filterMap (valOf c) := by rw [List.filterMap_cons, hv]
    have e2 : l2.filterMap (valOf c1) = l2.filterMap (valOf c) :=
      filterMap_congr _ _ _ fun a ha => vx a fun e => hy (e ▸ ha)
    refine (replay_log x.heap.lin tid (.deq (valOf c y))).trans ?_
    rw [e1, e2, hv]
    simp [replay]
  · exact ⟨fun i hi => chain_eq ▸ hi, fun i hi => List.mem_append_left _ hi, fun i z hz => nx i ▸ hz,
      Nat.le_of_eq (length_setVal _ y none).symm,
      fun m hm _ _ => ⟨chain_eq ▸ hm, nx m, vx m fun e => hm (by rw [e]; simp)⟩⟩
  · exact ⟨trivial, fun _ _ ho => nomatch ho⟩
  · exact fun _ _ ho => nomatch ho

/-- `Load:next` reads nil: the linearization point of an empty `Dequeue`; yields the situation for `ret` -/
theorem ctx_deq_none {c : Cfg} {tid t pre post} (x : Ctx c tid t pre post) (k : Cont) (h : NodeId)
    (hpc : t.pc = some (.deqLoadNext k h)) (hnone : nextOf c h = none) :
    Ctx (logEv c tid (.deq none)) tid t pre post := by
  have hf : h ∈ pre ++ [c.head] := by have := (x.all tid t x.ht).loc; rwa [LocalOk, hpc] at this
  -- `h` is at or before head and has no successor: nothing of the chain comes after it, so `post` is empty
  obtain ⟨l1, r, e⟩ := List.append_of_mem hf
  have hsplit : pre ++ c.head :: post = l1 ++ h :: (r ++ post) := by
    rw [← List.cons_append, ← List.append_assoc, ← e, List.append_assoc, List.singleton_append]
  have hpost : post = [] :=
    (List.append_eq_nil_iff.mp (List.head?_eq_none_iff.mp ((linked_iff.mp x.heap.linked l1 h _ hsplit).symm.trans hnone))).2
  exact x.grows (.of_nodes rfl rfl) rfl rfl x.heap.tailIn ((replay_log x.heap.lin tid (.deq none)).trans (hpost ▸ rfl))

theorem exec_deqCas_fresh {c : Cfg} {tid : Nat} {t : Thread} {pick : Option Nat} {k : Cont} {y : NodeId}
    (hm : c.mode = .fresh) :
    exec c tid t pick (.deqCas k c.head y) =
      (logEv (setVal { c with head := y } y none) tid (.deq (valOf c y)), { t with pc := some (.deqAdd k (valOf c y)) }) := by
  simp only [exec, if_true, hm]

theorem inv_step {c : Cfg} (hinv : Inv c) (pick : Option Nat) (tid : Nat) : Inv (stepP pick c tid) := by
  cases ht : c.threads[tid]? with
  | none => exact (stepP_none ht).symm ▸ hinv
  | some t =>
    -- with the record spelled out, `LocalOk` and `ownedBy` of the stepping thread compute
    obtain ⟨pc, cur, prog, hist⟩ := t
    cases pc with
    | none => exact (stepP_done ht rfl).symm ▸ hinv
    | some pc =>
      obtain ⟨hmode, pre, post, hheap, hall, hdist⟩ := hinv
      have x : Ctx c tid _ pre post := ⟨hmode, hheap, hall, hdist, ht⟩
      have hloc := (hall tid _ ht).loc
      rw [stepP_eq pick c tid _ pc ht rfl]
      -- `fun_cases exec …` yields one goal per leaf of the model's definition, with the pc substituted and every branch
      -- condition and match equation as hypotheses; `case1`, … follow the leaves of `exec` in Model/C20/Queue.lean.
      fun_cases exec c tid _ pick pc
      -- `enqLoadTail`: the tail it reads is in the chain
      case case1 => exact inv_pc x hheap.tailIn (Or.inl rfl)
      -- `enqLoadNext`: `next` is set
      case case2 n v tl y hn => exact inv_pc x ⟨hloc, hn⟩ (Or.inl rfl)
      -- `enqLoadNext`: `next` is nil
      case case3 => exact inv_pc x hloc (Or.inl rfl)
      -- `enqHelp`: the CAS on `tail` moves it to the successor read, a chain node, or is lost
      case case4 =>
        split
        · exact inv_pc (x.tail (hheap.linked.mem_of_some hloc.1 hloc.2)) trivial (Or.inl rfl)
        · exact inv_pc x trivial (Or.inl rfl)
      -- `enqLink` won: the node is linked behind the tail
      case case5 n v tl hn => exact inv_link x n v tl rfl hn
      -- `enqLink` lost
      case case6 => exact inv_pc x trivial (Or.inl rfl)
      -- `enqSwing`: the CAS on `tail` moves it to the linked node, or is lost
      case case7 =>
        split
        · exact inv_pc (x.tail hloc) trivial (Or.inr rfl)
        · exact inv_pc x trivial (Or.inr rfl)
      -- `enqAdd`
      case case8 => exact inv_finish (x.grows (ca := { c with len := c.len + 1 }) (.of_nodes rfl rfl) rfl rfl hheap.tailIn hheap.lin)
      -- `deqLoadHead`: the head it reads is at the head
      case case9 => exact inv_pc x (List.mem_append_right _ (List.mem_singleton.mpr rfl)) (Or.inr rfl)
      -- `deqLoadNext`: `next` is nil, the empty dequeue returns
      case case10 k h hn => exact inv_ret (ctx_deq_none x k h rfl hn)
      -- `deqLoadNext`: `next` is set
      case case11 k h y hn => exact inv_pc x ⟨hloc, hn⟩ (Or.inr rfl)
      -- `deqCas` won: the mode is `.fresh`, head moves to its successor
      case case12 k y _ _ c2 =>
        dsimp only [c2]
        split
        · exact nomatch hmode.symm.trans ‹c.mode = .pooled›
        · exact inv_deq x k y rfl
      -- `deqCas` lost; `itLen` on a positive length
      case case13 | case21 => exact inv_pc x trivial (Or.inr rfl)
      -- `deqAdd`
      case case14 => exact inv_ret (x.grows (ca := { c with len := c.len - 1 }) (.of_nodes rfl rfl) rfl rfl hheap.tailIn hheap.lin)
      -- `len`, `emp`, `sigActive` on a shut queue, `itLen` on a negative or zero length: the operation returns
      case case15 | case16 | case18 | case19 | case20 => exact inv_finish x
      -- `sigActive` on an active queue: a fresh node is allocated
      case case17 v _ n c' hg =>
        rw [getItem_fresh c pick v hmode] at hg
        cases hg
        exact inv_alloc x rfl
      -- `shut`
      case case22 => exact inv_finish (x.grows (ca := { c with active := false }) (.of_nodes rfl rfl) rfl rfl hheap.tailIn hheap.lin)

end GoaktVerif.C20
