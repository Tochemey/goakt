/-
C27 helper lemmas: inductive invariants of the coalescer model (Model/C27.lean), each proved
preserved by every action, hence true after every schedule of any length with any number of
submitting threads.
-/
import GoaktVerif.Model.C27

namespace GoaktVerif.C27
open GoaktVerif.Model.C27

/-- What one action can do: a record update of the state with the guards the invariants use (`step_sound`).
    A move that does not write what an invariant reads keeps it by unfolding. -/
inductive Move (c : Cfg) (s : St) : St → Prop
  | idle : Move c s s
  | begin (m : Msg) :
    Move c s { s with pend := s.pend ++ [{ msg := m, pc := .pre, ctxDone := false }], begun := s.begun ++ [m] }
  | cancel (t : Nat) : Move c s { s with pend := setCtxDone s t }
  | subNext (t : Nat) (p : Pend) (pc : SubPc) : findPend s t = some p →
    (p.pc = .pre ∧ s.done = false ∨ p.pc = .try) → Move c s { s with pend := setPc s t pc }
  | accept (t : Nat) (p : Pend) : findPend s t = some p → p.pc ≠ .pre → Move c s (accept s t p.msg)
  | finish (t : Nat) (m : Msg) (r : Res) : Move c s (finish s t m r)
  | close : Move c s { s with done := true }
  | toBarrier : s.done = true → Move c s { s with wpc := .barrier }
  | pastBarrier : s.wpc = .barrier → s.pend = [] → Move c s { s with wpc := .drain true }
  | take (m : Msg) (rest : List Msg) (cl : Bool) : s.chan = m :: rest →
    (s.wpc = .select ∧ cl = false ∨ s.wpc = .drain cl) →
    Move c s { s with chan := rest, batch := s.batch ++ [m], wpc := .drain cl }
  | toFlush (cl : Bool) : s.wpc = .drain cl → (s.chan = [] ∨ c.maxBatch ≤ s.batch.length) →
    Move c s { s with wpc := .flush cl }
  | noBatch (cl : Bool) : s.wpc = .flush cl → s.batch = [] → Move c s { s with wpc := afterFlush cl }
  | delivered (cl : Bool) : s.wpc = .flush cl →
    Move c s { s with flushed := s.flushed ++ [(s.batch, true)], batch := [], wpc := afterBatch cl }
  | deadLettered (cl : Bool) : s.wpc = .flush cl →
    Move c s { s with flushed := s.flushed ++ [(s.batch, false)], batch := [], dead := s.dead ++ s.batch,
                      wpc := afterBatch cl }
  | queued (cl : Bool) : s.wpc = .flush cl →
    Move c s { s with flushed := s.flushed ++ [(s.batch, false)], batch := [], fq := s.fq ++ [s.batch],
                      wpc := afterBatch cl }
  | unhandled (cl : Bool) : s.wpc = .flush cl → c.hasHandler = false →
    Move c s { s with flushed := s.flushed ++ [(s.batch, false)], batch := [],
                      unhandled := s.unhandled ++ [s.batch], wpc := afterBatch cl }
  | fdrain (b : List Msg) (rest : List (List Msg)) : s.fq = b :: rest →
    Move c s { s with fq := rest, dead := s.dead ++ b }
  | sysdown : Move c s { s with sysDown := true }

theorem handler_elim {P : St → Prop} (c : Cfg) (s : St) (b : List Msg)
    (dead : P { s with dead := s.dead ++ b }) (queued : P { s with fq := s.fq ++ [b] }) : P (handler c s b) :=
  iteInduction (fun _ => dead) fun _ => iteInduction (fun _ => queued) fun _ => dead

theorem flushBatch_elim {P : St → Prop} (c : Cfg) (s : St)
    (sent : P { s with flushed := s.flushed ++ [(s.batch, true)], batch := [] })
    (dead : P { s with flushed := s.flushed ++ [(s.batch, false)], batch := [], dead := s.dead ++ s.batch })
    (queued : P { s with flushed := s.flushed ++ [(s.batch, false)], batch := [], fq := s.fq ++ [s.batch] })
    (unhandled : c.hasHandler = false →
      P { s with flushed := s.flushed ++ [(s.batch, false)], batch := [], unhandled := s.unhandled ++ [s.batch] }) :
    ∀ ok, P (flushBatch c s ok)
  | true => sent
  | false => iteInduction (fun _ => handler_elim c _ s.batch dead queued) fun hh => unhandled (Bool.eq_false_iff.mpr hh)

theorem subStep_sound (c : Cfg) (s : St) (t pick : Nat) : Move c s (subStep c s t pick) := by
  -- `fun_cases f args` yields one goal per leaf of the model's definition of `f`, with every branch condition and match
  -- equation as hypotheses; `case1`, `case2`, … follow the order of the leaves in Model/C27.lean.
  fun_cases subStep c s t pick
  -- no call of `t` in progress; `.blocked` and the pick falls on no ready case
  case case1 | case6 => exact .idle
  -- `.pre` with `done` set: the call returns `.closed`
  case case2 => exact .finish t _ _
  -- `.pre`, `done` not set: on to `.try`
  case case3 p hp hpc hd => exact .subNext t p _ hp (.inl ⟨hpc, Bool.eq_false_iff.mpr hd⟩)
  -- `.try` with room in the channel; `.blocked` and the send case `.ok` is picked: the send succeeds
  case case4 p hp hpc _ | case7 p hp hpc _ _ => exact .accept t p hp (hpc ▸ nofun)
  -- `.try`, channel full: on to `.blocked`
  case case5 p hp hpc _ => exact .subNext t p _ hp (.inr hpc)
  -- `.blocked` and `.ctxErr` or `.closed` is picked
  case case8 => exact .finish t _ _

theorem wStep_sound (c : Cfg) (s : St) (pick : Nat) (ok : Bool) : Move c s (wStep c s pick ok) := by
  fun_cases wStep c s pick ok
  -- `.exited`; `.select` on an empty channel with `done` not set; `.barrier` with a submit in progress
  case case1 | case2 | case8 => exact .idle
  -- `.select` with `done` set: the channel is empty, or `done` is picked over the waiting message
  case case3 _ _ hd | case5 _ _ _ _ hd _ => exact .toBarrier hd
  -- `.select`: the waiting message is taken (`done` not set, or picked over `done`)
  case case4 hw m rest hc _ | case6 hw m rest hc _ _ => exact .take m rest false hc (.inl ⟨hw, rfl⟩)
  -- `.barrier`, no submit in progress: the write lock is granted
  case case7 hw he => exact .pastBarrier hw (List.isEmpty_iff.mp he)
  -- `.drain` below `maxBatch`: the channel is empty
  case case9 cl hw _ hc => exact .toFlush cl hw (.inl hc)
  -- `.drain` below `maxBatch`: the next message is taken
  case case10 cl hw _ m rest hc =>
    -- this branch of `wStep` leaves `wpc` alone, `Move.take` writes it: make the two records agree
    rw [hw]
    exact .take m rest cl hc (.inr hw)
  -- `.drain`: the batch is full
  case case11 cl hw hn => exact .toFlush cl hw (.inr (Nat.le_of_not_lt hn))
  -- `.flush` of an empty batch
  case case12 cl hw hb => exact .noBatch cl hw hb
  -- `.flush` of a non-empty batch: the outcomes of `flushBatch`
  case case13 cl hw _ _ _ _ =>
    exact flushBatch_elim (P := fun x => Move c s { x with wpc := afterBatch cl }) c s
      (.delivered cl hw) (.deadLettered cl hw) (.queued cl hw) (.unhandled cl hw) ok

theorem step_sound (c : Cfg) (s : St) (a : Act) : Move c s (step c s a) := by
  cases a with
  | begin m => exact iteInduction (fun _ => .idle) fun _ => .begin m
  | cancel t => exact .cancel t
  | sub t pick => exact subStep_sound c s t pick
  | close => exact .close
  | wstep pick ok => exact wStep_sound c s pick ok
  | fdrain =>
    show Move c s (fdrainStep s)
    fun_cases fdrainStep s
    -- the fan-out queue is empty
    case case1 => exact .idle
    -- its head is dead-lettered
    case case2 b rest hfq => exact .fdrain b rest hfq
  | sysdown => exact .sysdown

theorem Move.done_mono {c : Cfg} {s s' : St} (st : Move c s s') (h : s.done = true) : s'.done = true := by
  cases st with
  | close => rfl
  | _ => exact h

theorem run_move {c : Cfg} {P : St → Prop} (hmove : ∀ {s s'}, Move c s s' → P s → P s') (acts : List Act) {s : St}
    (h : P s) : P (run c s acts) :=
  List.foldlRecOn acts (step c) h fun s hs a _ => hmove (step_sound c s a) hs

abbrev Fifo (s : St) : Prop := s.flushedFlat ++ s.batch ++ s.chan = s.log

theorem fifo_init : Fifo St.init := rfl

theorem flushedFlat_append (l : List (List Msg × Bool)) (b : List Msg) (ok : Bool) :
    ((l ++ [(b, ok)]).map (·.1)).flatten = (l.map (·.1)).flatten ++ b := by simp

theorem fifo_step {c : Cfg} {s s' : St} (st : Move c s s') (h : Fifo s) : Fifo s' := by
  have flush (ok : Bool) : ((s.flushed ++ [(s.batch, ok)]).map (·.1)).flatten ++ [] ++ s.chan = s.log := by
    rw [flushedFlat_append, List.append_nil]; exact h
  cases st with
  | accept t p =>
    show s.flushedFlat ++ s.batch ++ (s.chan ++ [p.msg]) = s.log ++ [p.msg]
    rw [← List.append_assoc, h]
  | take m rest cl hc =>
    show s.flushedFlat ++ (s.batch ++ [m]) ++ rest = s.log
    rw [← h, hc]
    simp only [List.append_assoc, List.singleton_append]
  | delivered | deadLettered | queued | unhandled => exact flush _
  | _ => exact h

theorem fifo_run (c : Cfg) (acts : List Act) {s : St} (h : Fifo s) : Fifo (run c s acts) := run_move fifo_step acts h

/-! ### per-thread send order: what thread `t` got accepted, followed by its call in progress,
    is a subsequence of what it began, in the order it began it -/

def ofT (t : Nat) (l : List Msg) : List Msg := l.filter (fun m => m.1 == t)

def pendMsgs (t : Nat) (l : List Pend) : List Msg := (l.filter (fun p => p.msg.1 == t)).map (·.msg)

def ThreadOrder (s : St) : Prop := ∀ t, List.Sublist (ofT t s.log ++ pendMsgs t s.pend) (ofT t s.begun)

theorem threadOrder_init : ThreadOrder St.init := fun _ => .slnil

theorem ofT_append (t : Nat) (l l' : List Msg) : ofT t (l ++ l') = ofT t l ++ ofT t l' := List.filter_append ..

theorem pendMsgs_append (t : Nat) (l l' : List Pend) : pendMsgs t (l ++ l') = pendMsgs t l ++ pendMsgs t l' := by
  simp only [pendMsgs, List.filter_append, List.map_append]

theorem pendMsgs_map_same (t : Nat) (l : List Pend) (f : Pend → Pend) (hf : ∀ p, (f p).msg = p.msg) :
    pendMsgs t (l.map f) = pendMsgs t l := by
  unfold pendMsgs
  rw [List.filter_map, List.map_map]
  simp only [Function.comp_def, hf]

theorem pendMsgs_remove_sub (t t0 : Nat) (l : List Pend) :
    (pendMsgs t (l.filter (fun p => !(p.msg.1 == t0)))).Sublist (pendMsgs t l) :=
  (List.filter_sublist.filter _).map _

theorem pendMsgs_remove_self (t : Nat) (l : List Pend) :
    pendMsgs t (l.filter (fun p => !(p.msg.1 == t))) = [] := by
  unfold pendMsgs
  rw [List.filter_filter]
  simp

theorem findPend_head {s : St} {t : Nat} {p : Pend} (h : findPend s t = some p) :
    p.msg.1 = t ∧ ∃ rest, pendMsgs t s.pend = p.msg :: rest := by
  refine ⟨by simpa using List.find?_some h, ?_⟩
  have h2 : (s.pend.filter (fun p => p.msg.1 == t)).head? = some p := by rw [List.head?_filter]; exact h
  unfold pendMsgs
  cases hf : s.pend.filter (fun p => p.msg.1 == t) with
  | nil => rw [hf] at h2; cases h2
  | cons q qs => rw [hf] at h2; cases h2; exact ⟨_, rfl⟩

theorem threadOrder_step {c : Cfg} {s s' : St} (st : Move c s s') (h : ThreadOrder s) : ThreadOrder s' := by
  have mapped (f : Pend → Pend) (hf : ∀ p, (f p).msg = p.msg) : ThreadOrder { s with pend := s.pend.map f } :=
    fun t => by rw [show pendMsgs t (s.pend.map f) = _ from pendMsgs_map_same t _ f hf]; exact h t
  cases st with
  | begin m =>
    intro t
    have e : pendMsgs t [{ msg := m, pc := .pre, ctxDone := false }] = ofT t [m] := by
      simp only [pendMsgs, ofT, List.filter_cons, List.filter_nil]; split <;> rfl
    show List.Sublist (ofT t s.log ++ pendMsgs t (s.pend ++ _)) (ofT t (s.begun ++ [m]))
    rw [pendMsgs_append, e, ofT_append, ← List.append_assoc]
    exact (h t).append (.refl _)
  | cancel t0 => exact mapped _ fun q => by split <;> rfl
  | subNext t0 p pc => exact mapped _ fun q => by split <;> rfl
  | accept t0 p hp =>
    intro t
    obtain ⟨hp1, rest, hp2⟩ := findPend_head hp
    show List.Sublist (ofT t (s.log ++ [p.msg]) ++ pendMsgs t (removePend s t0)) (ofT t s.begun)
    rw [ofT_append, removePend]
    by_cases ht : t = t0
    · -- the message moves from the head of the pending part to the end of the accepted part
      subst ht
      have h0 := h t
      rw [hp2] at h0
      rw [pendMsgs_remove_self, List.append_nil, show ofT t [p.msg] = [p.msg] by simp [ofT, hp1]]
      exact (List.Sublist.append (.refl _) (List.singleton_sublist.mpr List.mem_cons_self)).trans h0
    · rw [show ofT t [p.msg] = [] by simp [ofT, hp1, Ne.symm ht], List.append_nil]
      exact ((pendMsgs_remove_sub t t0 _).append_left _).trans (h t)
  | finish t0 m r =>
    -- the call in progress of `t0` goes: every thread's pending part shrinks
    exact fun t => ((pendMsgs_remove_sub t t0 _).append_left _).trans (h t)
  | _ => exact h

theorem threadOrder_run (c : Cfg) (acts : List Act) {s : St} (h : ThreadOrder s) : ThreadOrder (run c s acts) :=
  run_move threadOrder_step acts h

-- `dropped` is not among the places: no move writes that ghost list (`Move.dropped`)

def Where (s : St) (m : Msg) : Prop :=
  m ∈ s.delivered ∨ m ∈ s.dead ∨ m ∈ s.fq.flatten ∨ m ∈ s.unhandled.flatten

def FlushedAcc (s : St) : Prop := ∀ m ∈ s.flushedFlat, Where s m

theorem flushedAcc_init : FlushedAcc St.init := nofun

theorem delivered_append (l : List (List Msg × Bool)) (b : List Msg) (ok : Bool) :
    (((l ++ [(b, ok)]).filter (·.2)).map (·.1)).flatten
      = ((l.filter (·.2)).map (·.1)).flatten ++ (if ok then b else []) := by
  cases ok <;> simp [List.filter_append]

theorem mem_flatten_snoc {α : Type} {m : α} {b : List α} (l : List (List α)) (h : m ∈ l.flatten ∨ m ∈ b) :
    m ∈ (l ++ [b]).flatten :=
  List.flatten_concat ▸ List.mem_append.mpr h

theorem flushedAcc_flush {s s' : St} {ok : Bool} (h : FlushedAcc s)
    (hf : s'.flushed = s.flushed ++ [(s.batch, ok)])
    (old : ∀ m, m ∈ s.dead ∨ m ∈ s.fq.flatten ∨ m ∈ s.unhandled.flatten →
      m ∈ s'.dead ∨ m ∈ s'.fq.flatten ∨ m ∈ s'.unhandled.flatten)
    (new : ∀ m ∈ s.batch, Where s' m) : FlushedAcc s' := by
  intro m hm
  rw [St.flushedFlat, hf, flushedFlat_append] at hm
  rcases List.mem_append.mp hm with hm | hm
  · refine (h m hm).imp (fun hd => ?_) (old m)
    rw [St.delivered, hf, delivered_append]
    exact List.mem_append_left _ hd
  · exact new m hm

theorem flushedAcc_step {c : Cfg} {s s' : St} (st : Move c s s') (h : FlushedAcc s) : FlushedAcc s' := by
  cases st with
  | delivered =>
    refine flushedAcc_flush h rfl (fun _ => id) fun m hm => .inl ?_
    rw [St.delivered, delivered_append]
    exact List.mem_append_right _ hm
  | deadLettered =>
    exact flushedAcc_flush h rfl (fun _ => Or.imp_left (List.mem_append_left _))
      fun m hm => .inr (.inl (List.mem_append_right _ hm))
  | queued =>
    exact flushedAcc_flush h rfl (fun _ => Or.imp_right (Or.imp_left fun hq => mem_flatten_snoc _ (.inl hq)))
      fun m hm => .inr (.inr (.inl (mem_flatten_snoc _ (.inr hm))))
  | unhandled =>
    exact flushedAcc_flush h rfl
      (fun _ => Or.imp_right (Or.imp_right fun hu => mem_flatten_snoc _ (.inl hu)))
      fun m hm => .inr (.inr (.inr (mem_flatten_snoc _ (.inr hm))))
  | fdrain b rest hfq =>
    -- the batch `b` goes from the head of the fan-out queue to the dead letters
    intro m hm
    refine (h m hm).imp_right fun h' => ?_
    rw [hfq, List.flatten_cons, List.mem_append] at h'
    rcases h' with h' | (h' | h') | h'
    · exact .inl (List.mem_append_left _ h')
    · exact .inl (List.mem_append_right _ h')
    · exact .inr (.inl h')
    · exact .inr (.inr h')
  | _ => exact h

theorem flushedAcc_run (c : Cfg) (acts : List Act) {s : St} (h : FlushedAcc s) : FlushedAcc (run c s acts) :=
  run_move flushedAcc_step acts h

theorem Move.dropped {c : Cfg} {s s' : St} (st : Move c s s') : s'.dropped = s.dropped := by
  cases st <;> rfl

def NoUnhandled (s : St) : Prop := s.unhandled = []

theorem noUnhandled_step {c : Cfg} (hc : c.hasHandler = true) {s s' : St} (st : Move c s s') (h : NoUnhandled s) :
    NoUnhandled s' := by
  cases st with
  | unhandled _ _ hh => rw [hc] at hh; cases hh
  | _ => exact h

theorem noUnhandled_run (c : Cfg) (hc : c.hasHandler = true) (acts : List Act) {s : St} (h : NoUnhandled s) :
    NoUnhandled (run c s acts) :=
  run_move (noUnhandled_step hc) acts h

def isClosingPc : WPc → Bool
  | .barrier | .drain true | .flush true | .exited => true
  | _ => false

def Closing (s : St) : Prop := isClosingPc s.wpc = true → s.done = true

theorem closing_init : Closing St.init := nofun

theorem closing_step {c : Cfg} {s s' : St} (st : Move c s s') (h : Closing s) : Closing s' := by
  intro hc
  -- `done` was set already: by the guard of the move to the barrier, or because the writer was on the closing path before
  refine st.done_mono ?_
  cases st with
  | toBarrier hd => exact hd
  | pastBarrier hw => exact h (by rw [hw]; rfl)
  | take m rest cl _ hw =>
    rcases hw with ⟨_, rfl⟩ | hw
    · cases hc
    · exact h (hw ▸ hc)
  | toFlush cl hw | noBatch cl hw | delivered cl hw | deadLettered cl hw | queued cl hw | unhandled cl hw =>
    exact h (by rw [hw]; cases cl <;> exact hc)
  | _ => exact h hc

theorem closing_run (c : Cfg) (acts : List Act) {s : St} (h : Closing s) : Closing (run c s acts) :=
  run_move closing_step acts h

/-! ### the barrier (`c.inflight.Lock()` after `done`): past it, every submit call in progress is
    still at its pre-check, the channel only shrinks, and the writer leaves only on an empty channel -/

def isPastBarrier : WPc → Bool
  | .drain true | .flush true | .exited => true
  | _ => false

theorem closing_of_past : ∀ {w : WPc}, isPastBarrier w = true → isClosingPc w = true
  | .drain true, _ | .flush true, _ | .exited, _ => rfl

def PostBarrier (s : St) : Prop := isPastBarrier s.wpc = true → ∀ p ∈ s.pend, p.pc = .pre

def ExitClean (s : St) : Prop :=
  (s.wpc = .exited ∨ (s.wpc = .flush true ∧ s.batch = [])) → s.chan = []

theorem postBarrier_init : PostBarrier St.init := nofun
theorem exitClean_init : ExitClean St.init := nofun

theorem postBarrier_step {c : Cfg} {s s' : St} (st : Move c s s') (hc : Closing s) (h : PostBarrier s) :
    PostBarrier s' := by
  have kept (w : WPc) (hw : isPastBarrier w = true → isPastBarrier s.wpc = true) : PostBarrier { s with wpc := w } :=
    fun hp => h (hw hp)
  cases st with
  | begin m =>
    intro hw p hp
    rcases List.mem_append.mp hp with hp | hp
    · exact h hw p hp
    · cases List.mem_singleton.mp hp; rfl
  | cancel t =>
    intro hw p hp
    obtain ⟨q, hq, rfl⟩ := List.mem_map.mp hp
    have := h hw q hq
    split <;> exact this
  | subNext t p pc hp hg =>
    -- past the barrier `done` is set and the call is at its pre-check: it can only return `closed`
    intro hw
    have hpre := h hw p (List.mem_of_find?_eq_some hp)
    rcases hg with ⟨_, hd⟩ | hg
    · rw [hc (closing_of_past hw)] at hd; cases hd
    · rw [hpre] at hg; cases hg
  | accept t p hp hne => exact fun hw => absurd (h hw p (List.mem_of_find?_eq_some hp)) hne
  | finish t p r => exact fun hw q hq => h hw q (List.mem_filter.mp hq).1
  | pastBarrier _ he => exact fun _ p hp => by rw [show s.pend = [] from he] at hp; cases hp
  | toBarrier => exact kept _ nofun
  | take m rest cl _ hw =>
    refine kept (.drain cl) ?_
    rcases hw with ⟨_, rfl⟩ | hw
    · nofun
    · rw [hw]; exact id
  | toFlush cl hw | noBatch cl hw | delivered cl hw | deadLettered cl hw | queued cl hw | unhandled cl hw =>
    exact kept _ (by rw [hw]; cases cl <;> exact id)
  | _ => exact h

theorem exitClean_step {c : Cfg} (hmb : 0 < c.maxBatch) {s s' : St} (st : Move c s s')
    (hn : PostBarrier s) (he : ExitClean s) : ExitClean s' := by
  cases st with
  | accept t p hp hne =>
    -- no send can succeed once the writer is past the barrier
    intro hw
    refine absurd (hn ?_ p (List.mem_of_find?_eq_some hp)) hne
    rcases hw with hw | ⟨hw, _⟩ <;> rw [show s.wpc = _ from hw] <;> rfl
  | toFlush cl hw hg =>
    -- an empty batch below `maxBatch` is flushed only when the channel is empty
    rintro (ht | ⟨_, hb⟩)
    · cases ht
    · rcases hg with hg | hg
      · exact hg
      · rw [show s.batch = [] from hb] at hg; exact absurd hg (Nat.not_le.mpr hmb)
  | noBatch cl hw hb =>
    cases cl
    · rintro (ht | ⟨ht, _⟩) <;> cases ht
    · exact fun _ => he (.inr ⟨hw, hb⟩)
  | toBarrier | pastBarrier | take => rintro (ht | ⟨ht, _⟩) <;> cases ht
  | delivered cl | deadLettered cl | queued cl | unhandled cl => rintro (ht | ⟨ht, _⟩) <;> cases cl <;> cases ht
  | _ => exact he

theorem barrier_run (c : Cfg) (hmb : 0 < c.maxBatch) (acts : List Act) {s : St}
    (hc : Closing s) (hp : PostBarrier s) (he : ExitClean s) :
    Closing (run c s acts) ∧ PostBarrier (run c s acts) ∧ ExitClean (run c s acts) :=
  run_move (P := fun s => Closing s ∧ PostBarrier s ∧ ExitClean s)
    (fun st ⟨hc, hp, he⟩ => ⟨closing_step st hc, postBarrier_step st hc hp, exitClean_step hmb st hp he⟩) acts ⟨hc, hp, he⟩

/-! ### getCoalescer: at most one coalescer per destination, every caller gets that one -/
namespace GC
open GoaktVerif.Model.C27.GC

def GInv (s : GSt) : Prop :=
  s.created ≤ 1 ∧ (s.map = none ↔ s.created = 0) ∧ (∀ c, s.map = some c → c = 0) ∧
  (∀ th ∈ s.threads, ∀ c, th.got = some c → c = 0) ∧
  (∀ t, s.mu = some (t, .create) → s.map = none)

theorem ginv_init (n : Nat) : GInv (ginit n) :=
  ⟨Nat.zero_le _, ⟨fun _ => rfl, fun _ => rfl⟩, nofun,
    fun th hth c hc => (by cases (List.mem_replicate.mp hth).2; cases hc), nofun⟩

theorem got_set {l : List Thread} (h : ∀ th ∈ l, ∀ c, th.got = some c → c = 0) (t : Nat) {th' : Thread}
    (h' : ∀ c, th'.got = some c → c = 0) : ∀ th ∈ l.set t th', ∀ c, th.got = some c → c = 0 :=
  fun _ hx => (List.mem_or_eq_of_mem_set hx).elim (h _) fun e => e ▸ h'

theorem ginv_step (s : GSt) (a : GAct) (h : GInv s) : GInv (gstep true s a) := by
  obtain ⟨h1, h2, h3, h4, h5⟩ := id h
  fun_cases gstep true s a
  -- `look`: thread not at `.lookup`, no such thread; `acquire`: thread not at `.lock`, mutex held or no such thread;
  -- `cs`: nobody holds the mutex
  case case1 | case4 | case5 | case7 | case13 => exact h
  -- `look`: the map has the entry, the call returns it
  case case2 t th hth _ c hc => exact ⟨h1, h2, h3, got_set h4 t fun c' hc' => by cases hc'; exact h3 c hc, h5⟩
  -- `look`: no entry, on to `.lock`
  case case3 t th hth _ _ => exact ⟨h1, h2, h3, got_set h4 t (h4 th (List.mem_of_getElem? hth)), h5⟩
  -- `acquire`: the mutex is taken, the holder is at `.recheck`
  case case6 t th _ hth _ _ => exact ⟨h1, h2, h3, got_set h4 t (h4 th (List.mem_of_getElem? hth)), nofun⟩
  -- `cs` at `.recheck`: the entry is there by now, the call returns it
  case case8 t _ c hc _ => exact ⟨h1, h2, h3, got_set h4 t fun c' hc' => by cases hc'; exact h3 c hc, nofun⟩
  -- `cs` at `.recheck`: still no entry, on to `.create`
  case case9 t _ hnone => exact ⟨h1, h2, h3, h4, fun _ _ => hnone⟩
  -- `cs` at `.create`: reached only with no entry in the map, hence with nothing created so far
  case case10 t hmu _ =>
    have hc0 : s.created = 0 := h2.mp (h5 t hmu)
    exact ⟨Nat.le_of_eq (by rw [hc0]), ⟨nofun, nofun⟩, fun c hc => by cases hc; exact hc0,
      got_set h4 t fun c hc => by cases hc; exact hc0, nofun⟩
  -- `cs` at `.unlock`: the mutex is freed, the holder goes to `.done`
  case case11 t _ th hth _ => exact ⟨h1, h2, h3, got_set h4 t (h4 th (List.mem_of_getElem? hth)), nofun⟩
  -- `cs` at `.unlock`, no such thread: the mutex is freed
  case case12 => exact ⟨h1, h2, h3, h4, nofun⟩

theorem ginv_run (acts : List GAct) {s : GSt} (h : GInv s) : GInv (grun true s acts) :=
  List.foldlRecOn acts (gstep true) h fun s hs a _ => ginv_step s a hs

end GC

end GoaktVerif.C27
