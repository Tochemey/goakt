/-
C32 — the inductive invariant of `allocateActors`'s loop and of `reassignByRole`'s loop.
Both loops hand each entry to a share or append it to one of two lists; what such a loop keeps true is one
statement (`PlanInv`), with one lemma per destination.
-/
import GoaktVerif.Lemmas.C32
import GoaktVerif.Spec.C32

namespace GoaktVerif.C32
open GoaktVerif.Model.C32
open GoaktVerif.Spec.C32 (eligibleSomewhere)

theorem eligibleSomewhere_eq_false {targets : List (List Role)} {role : Role} :
    eligibleSomewhere targets role = false ↔ ∀ t ∈ targets, eligibleForRole t role = false :=
  List.any_eq_false.trans
    ⟨fun h t ht => Bool.eq_false_iff.mpr (h t ht), fun h t ht => Bool.eq_false_iff.mp (h t ht)⟩

theorem eligibleSomewhere_of_pick {targets : List (List Role)} {loads : List Nat} {role : Role} {o : Option Nat}
    (hp : pickTarget targets loads role = o) : eligibleSomewhere targets role = o.isSome :=
  hp ▸ (pickTarget_isSome targets loads role).symm

theorem initLoads_length (n : Nat) (base : List Nat) : (initLoads n base).length = n := by
  unfold initLoads; split
  · assumption
  · simp

theorem filter_concat_pos {α : Type} {p : α → Bool} {a : α} (l : List α) (h : p a = true) :
    (l ++ [a]).filter p = l.filter p ++ [a] := by
  rw [List.filter_append, List.filter_cons, if_pos h]; rfl

theorem filter_concat_neg {α : Type} {p : α → Bool} {a : α} (l : List α) (h : p a = false) :
    (l ++ [a]).filter p = l.filter p := by
  rw [List.filter_append, List.filter_cons, if_neg (h ▸ Bool.false_ne_true)]; exact List.append_nil _

/-- after the prefix `pre`: one share per target, holding the entries of `pre` to be placed (`P`), each eligible -/
structure SharesInv (targets : List (List Role)) (P : Actor → Bool) (shares : List (List Actor)) (pre : List Actor) :
    Prop where
  len_shares : shares.length = targets.length
  placed_perm : shares.flatten.Perm (pre.filter P)
  elig : ∀ j a, a ∈ shares.getD j [] → eligibleForRole (targets.getD j []) a.role = true

theorem SharesInv.init (targets : List (List Role)) (P : Actor → Bool) :
    SharesInv targets P (List.replicate targets.length []) [] where
  len_shares := List.length_replicate
  placed_perm := by rw [flatten_replicate_nil]; exact .nil
  elig := fun j a h => by rw [getD_replicate_nil] at h; cases h

section
variable {targets : List (List Role)} {P : Actor → Bool} {shares : List (List Actor)} {pre : List Actor} {a : Actor}

theorem SharesInv.skip (h : SharesInv targets P shares pre) (hP : P a = false) :
    SharesInv targets P shares (pre ++ [a]) :=
  { h with placed_perm := (filter_concat_neg pre hP).symm ▸ h.placed_perm }

theorem SharesInv.place (h : SharesInv targets P shares pre) {i : Nat} (hi : i < targets.length)
    (he : eligibleForRole (targets.getD i []) a.role = true) (hP : P a = true) :
    SharesInv targets P (appendAt shares i a) (pre ++ [a]) where
  len_shares := (appendAt_length ..).trans h.len_shares
  placed_perm := by
    rw [filter_concat_pos pre hP]
    exact (appendAt_flatten_perm shares i a (h.len_shares ▸ hi)).trans (h.placed_perm.append_right [a])
  elig := fun j b hb => by
    rw [appendAt_getD] at hb
    split at hb
    · rename_i hc
      rcases List.mem_append.1 hb with hb | hb
      · exact hc.1 ▸ h.elig i b hb
      · rw [List.mem_singleton.1 hb, hc.1]; exact he
    · exact h.elig j b hb

theorem SharesInv.placed (h : SharesInv targets P shares pre) {j : Nat} {b : Actor} (hb : b ∈ shares.getD j []) :
    b ∈ pre ∧ P b = true :=
  List.mem_filter.mp (h.placed_perm.subset (mem_flatten_of_getD hb))

theorem SharesInv.covers (h : SharesInv targets P shares pre) (ha : a ∈ pre) (hP : P a = true) :
    ∃ i, i < targets.length ∧ a ∈ shares.getD i [] :=
  h.len_shares ▸ (mem_flatten_iff_getD shares a).1 (h.placed_perm.mem_iff.2 (List.mem_filter.2 ⟨ha, hP⟩))

theorem SharesInv.unique (h : SharesInv targets P shares pre) (hn : pre.Nodup) {i j : Nat}
    (hi : a ∈ shares.getD i []) (hj : a ∈ shares.getD j []) : i = j :=
  nodup_flatten_unique shares (h.placed_perm.nodup_iff.2 (hn.filter P)) a i j hi hj

end

/-- a loop that hands each entry of `pre` to a share (`P`), to the list `q` (`Q`) or to the list `r` (`R`) -/
structure PlanInv (targets : List (List Role)) (P Q R : Actor → Bool) (shares : List (List Actor)) (q r pre : List Actor) :
    Prop extends SharesInv targets P shares pre where
  q_eq : q = pre.filter Q
  r_eq : r = pre.filter R

section
variable {targets : List (List Role)} {P Q R : Actor → Bool} {shares : List (List Actor)} {q r pre : List Actor} {a : Actor}

theorem PlanInv.init : PlanInv targets P Q R (List.replicate targets.length []) [] [] [] :=
  { toSharesInv := .init targets P, q_eq := rfl, r_eq := rfl }

theorem PlanInv.toShare (h : PlanInv targets P Q R shares q r pre) {i : Nat} (hi : i < targets.length)
    (he : eligibleForRole (targets.getD i []) a.role = true) (hx : OneOf (P a) (Q a) (R a)) (hP : P a = true) :
    PlanInv targets P Q R (appendAt shares i a) q r (pre ++ [a]) :=
  { toSharesInv := h.toSharesInv.place hi he hP
    q_eq := (filter_concat_neg pre (hx.of_first hP).1).symm ▸ h.q_eq
    r_eq := (filter_concat_neg pre (hx.of_first hP).2).symm ▸ h.r_eq }

theorem PlanInv.toQ (h : PlanInv targets P Q R shares q r pre) (hx : OneOf (P a) (Q a) (R a)) (hQ : Q a = true) :
    PlanInv targets P Q R shares (q ++ [a]) r (pre ++ [a]) :=
  { toSharesInv := h.toSharesInv.skip (hx.of_second hQ).1
    q_eq := by rw [filter_concat_pos pre hQ, ← h.q_eq]
    r_eq := (filter_concat_neg pre (hx.of_second hQ).2).symm ▸ h.r_eq }

theorem PlanInv.toR (h : PlanInv targets P Q R shares q r pre) (hx : OneOf (P a) (Q a) (R a)) (hR : R a = true) :
    PlanInv targets P Q R shares q (r ++ [a]) (pre ++ [a]) :=
  { toSharesInv := h.toSharesInv.skip (hx.of_third hR).1
    q_eq := (filter_concat_neg pre (hx.of_third hR).2).symm ▸ h.q_eq
    r_eq := by rw [filter_concat_pos pre hR, ← h.r_eq] }

theorem PlanInv.partition (h : PlanInv targets P Q R shares q r pre) (hx : ∀ a, OneOf (P a) (Q a) (R a)) :
    pre.Perm (shares.flatten ++ q ++ r) := by
  rw [h.q_eq, h.r_eq]
  exact (perm_three P Q R hx pre).trans ((h.placed_perm.symm.append_right _).append_right _)

end

/-! ### allocateActors -/

/-- a non-singleton entry some target can host -/
def placeable (targets : List (List Role)) (a : Actor) : Bool :=
  !a.singleton && eligibleSomewhere targets a.role

/-- a non-singleton entry no target can host -/
def orphan (targets : List (List Role)) (a : Actor) : Bool :=
  !a.singleton && !eligibleSomewhere targets a.role

theorem placeable_iff {targets : List (List Role)} {a : Actor} :
    placeable targets a = true ↔ a.singleton = false ∧ eligibleSomewhere targets a.role = true := by
  rw [placeable, Bool.and_eq_true, Bool.not_eq_true']

theorem orphan_iff {targets : List (List Role)} {a : Actor} :
    orphan targets a = true ↔ a.singleton = false ∧ eligibleSomewhere targets a.role = false := by
  rw [orphan, Bool.and_eq_true, Bool.not_eq_true', Bool.not_eq_true']

theorem alloc_classes (targets : List (List Role)) (a : Actor) :
    OneOf (placeable targets a) a.singleton (orphan targets a) := by
  unfold placeable orphan
  cases a.singleton <;> cases eligibleSomewhere targets a.role <;> decide

/-- invariant of the `for _, actor := range nodeLeftState.GetActors()` loop after the prefix `pre`
    of the iteration order has been processed -/
structure AllocInv (targets : List (List Role)) (base : List Nat) (st : Alloc) (pre : List Actor) : Prop
    extends PlanInv targets (placeable targets) (·.singleton) (orphan targets) st.shares st.singles st.unplaceable pre where
  len_loads : st.loads.length = targets.length
  loads_eq : ∀ j, j < targets.length →
    st.loads.getD j 0 = (initLoads targets.length base).getD j 0 + (st.shares.getD j []).length

theorem AllocInv.singles_eq {targets : List (List Role)} {base : List Nat} {st : Alloc} {pre : List Actor}
    (h : AllocInv targets base st pre) : st.singles = pre.filter (·.singleton) := h.q_eq

theorem AllocInv.unpl_eq {targets : List (List Role)} {base : List Nat} {st : Alloc} {pre : List Actor}
    (h : AllocInv targets base st pre) : st.unplaceable = pre.filter (orphan targets) := h.r_eq

theorem allocInv_init (targets : List (List Role)) (base : List Nat) :
    AllocInv targets base (allocInit targets.length base) [] where
  toPlanInv := .init
  len_loads := initLoads_length ..
  loads_eq := fun j _ => by rw [allocInit, getD_replicate_nil]; rfl

theorem allocStep_single {targets : List (List Role)} {st : Alloc} {a : Actor} (hs : a.singleton = true) :
    allocStep targets st a = { st with singles := st.singles ++ [a] } := by
  rw [allocStep, if_pos hs]

theorem allocStep_none {targets : List (List Role)} {st : Alloc} {a : Actor} (hs : a.singleton = false)
    (hp : pickTarget targets st.loads a.role = none) :
    allocStep targets st a = { st with unplaceable := st.unplaceable ++ [a] } := by
  rw [allocStep, if_neg (hs ▸ Bool.false_ne_true), hp]

theorem allocStep_some {targets : List (List Role)} {st : Alloc} {a : Actor} {i : Nat} (hs : a.singleton = false)
    (hp : pickTarget targets st.loads a.role = some i) :
    allocStep targets st a = { st with shares := appendAt st.shares i a, loads := incAt st.loads i } := by
  rw [allocStep, if_neg (hs ▸ Bool.false_ne_true), hp]

theorem allocInv_step (targets : List (List Role)) (base : List Nat) (st : Alloc) (pre : List Actor)
    (a : Actor) (h : AllocInv targets base st pre) :
    AllocInv targets base (allocStep targets st a) (pre ++ [a]) := by
  have hx := alloc_classes targets a
  cases hs : a.singleton with
  | true =>
    rw [allocStep_single hs]
    exact { h with toPlanInv := h.toPlanInv.toQ hx hs }
  | false =>
    cases hp : pickTarget targets st.loads a.role with
    | none =>
      rw [allocStep_none hs hp]
      exact { h with toPlanInv := h.toPlanInv.toR hx (orphan_iff.2 ⟨hs, eligibleSomewhere_of_pick hp⟩) }
    | some i =>
      rw [allocStep_some hs hp]
      obtain ⟨hi, hie, _⟩ := pickTarget_some hp
      exact {
        toPlanInv := h.toPlanInv.toShare hi hie hx (placeable_iff.2 ⟨hs, eligibleSomewhere_of_pick hp⟩)
        len_loads := (incAt_length ..).trans h.len_loads
        loads_eq := fun j hj => by
          show (incAt st.loads i).getD j 0 = _ + ((appendAt st.shares i a).getD j []).length
          rw [incAt_getD, appendAt_getD, h.len_loads, h.len_shares]
          by_cases hji : j = i ∧ i < targets.length
          · rw [if_pos hji, if_pos hji, List.length_append, ← Nat.add_assoc, ← hji.1, ← h.loads_eq j hj]; rfl
          · rw [if_neg hji, if_neg hji]; exact h.loads_eq j hj }

theorem allocInv_run (targets : List (List Role)) (base : List Nat) (order : List Actor) :
    AllocInv targets base (allocRun targets base order) order :=
  foldl_inv (allocStep targets) (AllocInv targets base) (allocInv_step targets base) order [] _
    (allocInv_init targets base)

/-- the three-way split of the departed node's entries that `allocateActors` computes -/
theorem alloc_partition (targets : List (List Role)) (base : List Nat) (order : List Actor) :
    let st := allocRun targets base order
    order.Perm (order.filter (·.singleton) ++ st.shares.flatten ++ st.unplaceable) := by
  intro st
  have inv := allocInv_run targets base order
  exact (inv.partition (alloc_classes targets)).trans (inv.singles_eq ▸ List.perm_append_comm.append_right _)

theorem allocateActors_sub (leaderRoles : List Role) (peers : List (List Role)) (base : List Nat) (order : List Actor)
    (a : Actor) :
    let out := allocateActors leaderRoles peers base order
    (a ∈ out.1 ∨ (∃ i, a ∈ out.2.1.getD i []) ∨ a ∈ out.2.2) → a ∈ order := by
  intro out
  have inv := allocInv_run (leaderRoles :: peers) base order
  have hsh : ∀ i, a ∈ out.2.1.getD i [] → a ∈ order := fun i h => (inv.placed h).1
  rintro (h | ⟨i, h⟩ | h)
  · rcases List.mem_append.1 h with h | h
    · rw [inv.singles_eq] at h; exact (List.mem_filter.1 h).1
    · exact hsh 0 (by rwa [List.getD_eq_getElem?_getD, ← List.head?_eq_getElem?, ← List.headD_eq_head?_getD])
  · exact hsh i h
  · replace h : a ∈ (allocRun (leaderRoles :: peers) base order).unplaceable := h
    rw [inv.unpl_eq] at h; exact (List.mem_filter.1 h).1

theorem allocFold_mono (targets : List (List Role)) (l : List Actor) (st : Alloc) (b : Actor) (j : Nat)
    (h : b ∈ st.shares.getD j []) : b ∈ (l.foldl (allocStep targets) st).shares.getD j [] := by
  refine List.foldlRecOn (motive := fun st : Alloc => b ∈ st.shares.getD j []) l _ h fun st h a _ => ?_
  cases hs : a.singleton with
  | true => rw [allocStep_single hs]; exact h
  | false =>
    cases hp : pickTarget targets st.loads a.role with
    | none => rw [allocStep_none hs hp]; exact h
    | some i => rw [allocStep_some hs hp]; exact mem_appendAt_getD h

/-! ### reassignByRole -/

/-- entry no survivor can host but the leader can -/
def leaderOnly (survivors : List (List Role)) (leaderRoles : List Role) (a : Actor) : Bool :=
  !eligibleSomewhere survivors a.role && eligibleForRole leaderRoles a.role

/-- entry nobody (survivors, leader) can host -/
def nobody (survivors : List (List Role)) (leaderRoles : List Role) (a : Actor) : Bool :=
  !eligibleSomewhere survivors a.role && !eligibleForRole leaderRoles a.role

theorem leaderOnly_iff {survivors : List (List Role)} {leaderRoles : List Role} {a : Actor} :
    leaderOnly survivors leaderRoles a = true
      ↔ eligibleSomewhere survivors a.role = false ∧ eligibleForRole leaderRoles a.role = true := by
  rw [leaderOnly, Bool.and_eq_true, Bool.not_eq_true']

theorem nobody_iff {survivors : List (List Role)} {leaderRoles : List Role} {a : Actor} :
    nobody survivors leaderRoles a = true
      ↔ eligibleSomewhere survivors a.role = false ∧ eligibleForRole leaderRoles a.role = false := by
  rw [nobody, Bool.and_eq_true, Bool.not_eq_true', Bool.not_eq_true']

theorem reassign_classes (survivors : List (List Role)) (leaderRoles : List Role) (a : Actor) :
    OneOf (eligibleSomewhere survivors a.role) (leaderOnly survivors leaderRoles a) (nobody survivors leaderRoles a) := by
  unfold leaderOnly nobody
  cases eligibleSomewhere survivors a.role <;> cases eligibleForRole leaderRoles a.role <;> decide

/-- invariant of `reassignByRole`'s loop: survivor shares, the leader's list, the failure record -/
abbrev ReassignInv (survivors : List (List Role)) (leaderRoles : List Role) (st : Reassign) (pre : List Actor) : Prop :=
  PlanInv survivors (fun a => eligibleSomewhere survivors a.role) (leaderOnly survivors leaderRoles)
    (nobody survivors leaderRoles) st.shares st.leader st.failed pre

theorem ReassignInv.leader_eq {survivors : List (List Role)} {leaderRoles : List Role} {st : Reassign} {pre : List Actor}
    (h : ReassignInv survivors leaderRoles st pre) : st.leader = pre.filter (leaderOnly survivors leaderRoles) := h.q_eq

theorem ReassignInv.failed_eq {survivors : List (List Role)} {leaderRoles : List Role} {st : Reassign} {pre : List Actor}
    (h : ReassignInv survivors leaderRoles st pre) : st.failed = pre.filter (nobody survivors leaderRoles) := h.r_eq

theorem reassignStep_some {survivors : List (List Role)} {leaderRoles : List Role} {st : Reassign} {a : Actor}
    {i : Nat} (hp : leastLoadedEligibleSurvivor survivors st.shares a.role = some i) :
    reassignStep survivors leaderRoles st a = { st with shares := appendAt st.shares i a } := by
  rw [reassignStep, hp]

theorem reassignStep_none {survivors : List (List Role)} {leaderRoles : List Role} {st : Reassign} {a : Actor}
    (hp : leastLoadedEligibleSurvivor survivors st.shares a.role = none) :
    reassignStep survivors leaderRoles st a =
      if eligibleForRole leaderRoles a.role then { st with leader := st.leader ++ [a] }
      else { st with failed := st.failed ++ [a] } := by
  rw [reassignStep, hp]

theorem reassignInv_step (survivors : List (List Role)) (leaderRoles : List Role) (st : Reassign)
    (pre : List Actor) (a : Actor) (h : ReassignInv survivors leaderRoles st pre) :
    ReassignInv survivors leaderRoles (reassignStep survivors leaderRoles st a) (pre ++ [a]) := by
  have hx := reassign_classes survivors leaderRoles a
  cases hp : leastLoadedEligibleSurvivor survivors st.shares a.role with
  | none =>
    have hnone : eligibleSomewhere survivors a.role = false := eligibleSomewhere_of_pick hp
    rw [reassignStep_none hp]
    cases hl : eligibleForRole leaderRoles a.role with
    | true => exact h.toQ hx (leaderOnly_iff.2 ⟨hnone, hl⟩)
    | false => exact h.toR hx (nobody_iff.2 ⟨hnone, hl⟩)
  | some i =>
    -- `leastLoadedEligibleSurvivor` unfolds to `pickTarget` on the share lengths
    obtain ⟨hi, hie, _⟩ := pickTarget_some hp
    rw [reassignStep_some hp]
    exact h.toShare hi hie hx (eligibleSomewhere_of_pick hp)

theorem reassignInv_run (survivors : List (List Role)) (leaderRoles : List Role) (actors : List Actor) :
    ReassignInv survivors leaderRoles
      (actors.foldl (reassignStep survivors leaderRoles) (reassignInit survivors.length)) actors :=
  foldl_inv _ (ReassignInv survivors leaderRoles) (reassignInv_step survivors leaderRoles) actors [] _ .init

theorem reassign_partition (survivors : List (List Role)) (leaderRoles : List Role) (actors : List Actor) :
    let st := actors.foldl (reassignStep survivors leaderRoles) (reassignInit survivors.length)
    actors.Perm (st.shares.flatten ++ st.leader ++ st.failed) :=
  (reassignInv_run survivors leaderRoles actors).partition (reassign_classes survivors leaderRoles)

theorem reassignFold_mono (survivors : List (List Role)) (leaderRoles : List Role) (l : List Actor)
    (st : Reassign) (b : Actor) (j : Nat) (h : b ∈ st.shares.getD j []) :
    b ∈ (l.foldl (reassignStep survivors leaderRoles) st).shares.getD j [] := by
  refine List.foldlRecOn (motive := fun st : Reassign => b ∈ st.shares.getD j []) l _ h fun st h a _ => ?_
  cases hp : leastLoadedEligibleSurvivor survivors st.shares a.role with
  | some i => rw [reassignStep_some hp]; exact mem_appendAt_getD h
  | none => rw [reassignStep_none hp]; split <;> exact h

end GoaktVerif.C32
