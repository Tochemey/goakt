/-
C48: what each public operation of the TTL map does to the invariant and to the abstraction.
-/
import GoaktVerif.Lemmas.C48

namespace GoaktVerif.C48
open GoaktVerif.Model.C48

/-- the first half of `Set` (before evict/compact): insert or refresh in place -/
def setCore (now : Int) (k : Nat) (v : Int) (s : TTL) : TTL :=
  match s.items.find k with
  | some idx => { s with order := s.order.modify idx (fun e => { e with val := v, exp := now + s.ttl }) }
  | none => { s with items := s.items.put k s.order.length, order := s.order ++ [⟨k, v, now + s.ttl⟩] }

theorem set_eq (now : Int) (k : Nat) (v : Int) (s : TTL) :
    Model.C48.set now k v s = maybeCompact (evict now (setCore now k v s)) := by
  unfold Model.C48.set setCore
  cases s.items.find k <;> rfl

theorem setCore_ttl (now : Int) (k : Nat) (v : Int) (s : TTL) : (setCore now k v s).ttl = s.ttl := by
  unfold setCore; cases s.items.find k <;> rfl

theorem setCore_spec (now : Int) (k : Nat) (v : Int) (s : TTL) (hi : Inv s) :
    Inv (setCore now k v s) ∧
    ∀ k', abs (setCore now k v s) k' = if k' = k then some (v, now + s.ttl) else abs s k' := by
  unfold setCore
  cases hf : s.items.find k with
  | some idx =>
    obtain ⟨hle, e, he, hke⟩ := hi.slot k idx hf
    simp only
    constructor
    · refine ⟨hi.nodup, by simpa using hi.head_le, ?_⟩
      intro k0 i h0
      obtain ⟨hle0, e0, he0, hk0⟩ := hi.slot k0 i h0
      refine ⟨hle0, ?_⟩
      by_cases hii : idx = i
      · subst hii
        rw [List.getElem?_modify_eq, he0]
        exact ⟨_, rfl, hk0⟩
      · rw [List.getElem?_modify_ne _ _ hii]
        exact ⟨e0, he0, hk0⟩
    · intro k'
      simp only [abs]
      by_cases hk : k' = k
      · subst hk
        simp only [hf, List.getElem?_modify_eq, if_true, he]
        rfl
      · simp only [hk, if_false]
        cases hf' : s.items.find k' with
        | none => rfl
        | some i =>
          have hne : idx ≠ i := by
            intro heq; subst heq
            exact hk (slot_inj hi.slot hf' hf)
          simp only [List.getElem?_modify_ne _ _ hne]
  | none =>
    simp only
    constructor
    · refine ⟨nodup_put _ _ hi.nodup, by simp only [List.length_append, List.length_singleton]; have := hi.head_le; omega, ?_⟩
      intro k0 i h0
      simp only at h0 ⊢
      rw [find_put] at h0
      by_cases hk : k0 = k
      · simp only [hk, if_true, Option.some.injEq] at h0
        subst h0
        refine ⟨hi.head_le, ⟨k, v, now + s.ttl⟩, by simp, hk.symm⟩
      · simp only [hk, if_false] at h0
        obtain ⟨hle0, e0, he0, hk0⟩ := hi.slot k0 i h0
        refine ⟨hle0, e0, ?_, hk0⟩
        rw [List.getElem?_append_left (List.getElem?_eq_some_iff.1 he0).1]; exact he0
    · intro k'
      simp only [abs, find_put]
      by_cases hk : k' = k
      · simp [hk]
      · simp only [hk, if_false]
        cases hf' : s.items.find k' with
        | none => rfl
        | some i =>
          obtain ⟨_, e0, he0, _⟩ := hi.slot k' i hf'
          simp only [List.getElem?_append_left (List.getElem?_eq_some_iff.1 he0).1]

/-- `Set`: invariant kept; afterwards every key is what a plain map update gives, except that
    entries already expired at `now` may have been dropped (never a live one, never a revival) -/
theorem set_spec (now : Int) (k : Nat) (v : Int) (s : TTL) (hi : Inv s) :
    Inv (Model.C48.set now k v s) ∧ (Model.C48.set now k v s).ttl = s.ttl ∧
    ∀ k', DropsExpired now (abs (Model.C48.set now k v s) k') (if k' = k then some (v, now + s.ttl) else abs s k') := by
  rw [set_eq]
  obtain ⟨hi1, ha1⟩ := setCore_spec now k v s hi
  have hi2 := inv_evict now _ hi1
  obtain ⟨hi3, ha3⟩ := compact_spec _ hi2
  refine ⟨hi3, by rw [maybeCompact_ttl, evict_ttl, setCore_ttl], ?_⟩
  intro k'
  rw [ha3 k', ← ha1 k']
  exact abs_evict now _ hi1 k'

theorem get_spec (now : Int) (k : Nat) (s : TTL) (hi : Inv s) :
    Inv (Model.C48.get now k s).2 ∧ (Model.C48.get now k s).2.ttl = s.ttl ∧
    (Model.C48.get now k s).1 = liveVal now (abs s k) ∧
    ∀ k', DropsExpired now (abs (Model.C48.get now k s).2 k') (abs s k') := by
  unfold Model.C48.get
  cases hf : s.items.find k with
  | none => exact ⟨hi, rfl, by rw [abs_eq_bind, hf]; rfl, fun _ => .inl rfl⟩
  | some idx =>
    obtain ⟨-, e, he, -⟩ := hi.slot k idx hf
    have hv : liveVal now (abs s k) = if now < e.exp then some e.val else none := by
      rw [abs_eq_bind, hf, Option.bind_some, he]; rfl
    simp only [he]
    split
    · exact ⟨hi, rfl, by rw [hv, if_pos ‹_›], fun _ => .inl rfl⟩
    · -- the lazy delete unmaps only `k`, whose slot `idx` is expired
      refine ⟨inv_filter hi _, rfl, by rw [hv, if_neg ‹_›], drops_filter now hi _ fun k' i e' hf' he' hp => ?_⟩
      cases Decidable.of_not_not (of_decide_eq_false hp)
      cases hf.symm.trans hf'
      cases he.symm.trans he'
      exact Int.not_lt.1 ‹_›

theorem delete_spec (k : Nat) (s : TTL) (hi : Inv s) :
    Inv (delete k s) ∧ (delete k s).ttl = s.ttl ∧
    ∀ k', abs (delete k s) k' = if k' = k then none else abs s k' := by
  refine ⟨inv_filter hi _, rfl, fun k' => ?_⟩
  rw [delete, Items.del, abs_filter hi, abs_eq_bind]
  cases s.items.find k' with
  | none => exact (ite_self _).symm
  | some i => by_cases hk : k' = k <;> simp [Option.filter_some, hk]

theorem reset_spec (s : TTL) :
    Inv (reset s) ∧ (reset s).ttl = s.ttl ∧ ∀ k', abs (reset s) k' = none :=
  ⟨inv_new s.ttl, rfl, fun _ => rfl⟩

theorem activeLen_spec (now : Int) (s : TTL) (hi : Inv s) :
    Inv (activeLen now s).2 ∧ (activeLen now s).2.ttl = s.ttl ∧
    ∀ k', DropsExpired now (abs (activeLen now s).2 k') (abs s k') :=
  ⟨inv_filter hi _, rfl, drops_filter now hi _ fun k i e _ he hp => by
    rw [liveSlot, he] at hp
    exact Int.not_lt.1 (of_decide_eq_false hp)⟩

end GoaktVerif.C48
