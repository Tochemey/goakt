/-
Helper lemmas for C32 (list surgery, the least-loaded scan, fold induction along the processed prefix).
-/
import GoaktVerif.Model.C32
import GoaktVerif.Lemmas.Run
import GoaktVerif.Lemmas.ListFacts

namespace GoaktVerif.C32
open GoaktVerif.Model.C32

/-- fold induction with the processed prefix made explicit:
    `Run.trace` for `foldl`, each step emitting its input -/
theorem foldl_inv {σ α : Type} (step : σ → α → σ) (P : σ → List α → Prop)
    (hs : ∀ st pre a, P st pre → P (step st a) (pre ++ [a])) (l pre : List α) (st : σ) :
    P st pre → P (l.foldl step st) (pre ++ l) :=
  Run.trace (run := fun st l => l.foldl step st) (stepEv := fun _ a => [a]) (tr := fun _ l => l)
    (fun _ => rfl) (fun _ _ _ => rfl) (fun _ => rfl) (fun _ _ _ => rfl) (fun st a pre => hs st pre a) l st pre

abbrev OneOf (p q r : Bool) : Prop :=
  (p = true ∧ q = false ∧ r = false) ∨ (p = false ∧ q = true ∧ r = false) ∨ (p = false ∧ q = false ∧ r = true)

theorem OneOf.of_first {p q r : Bool} (h : OneOf p q r) (hp : p = true) : q = false ∧ r = false :=
  h.elim (·.2) fun h => absurd hp (Bool.eq_false_iff.mp (h.elim (·.1) (·.1)))

theorem OneOf.of_second {p q r : Bool} (h : OneOf p q r) (hq : q = true) : p = false ∧ r = false :=
  h.elim (fun h => absurd hq (Bool.eq_false_iff.mp h.2.1)) fun h =>
    h.elim (fun h => ⟨h.1, h.2.2⟩) fun h => absurd hq (Bool.eq_false_iff.mp h.2.1)

theorem OneOf.of_third {p q r : Bool} (h : OneOf p q r) (hr : r = true) : p = false ∧ q = false :=
  h.elim (fun h => absurd hr (Bool.eq_false_iff.mp h.2.2)) fun h =>
    h.elim (fun h => absurd hr (Bool.eq_false_iff.mp h.2.2)) fun h => ⟨h.1, h.2.1⟩

theorem perm_three {α : Type} (p q r : α → Bool) (h : ∀ a, OneOf (p a) (q a) (r a)) (l : List α) :
    l.Perm (l.filter p ++ l.filter q ++ l.filter r) := by
  induction l with
  | nil => exact .nil
  | cons a l ih =>
    rcases h a with ⟨hp, hq, hr⟩ | ⟨hp, hq, hr⟩ | ⟨hp, hq, hr⟩ <;>
      simp only [List.filter_cons, hp, hq, hr, ↓reduceIte, Bool.false_eq_true, List.cons_append]
    · exact ih.cons a
    · exact (ih.cons a).trans (List.perm_middle.symm.append_right _)
    · exact (ih.cons a).trans List.perm_middle.symm

theorem appendAt_eq_modify {α : Type} (ss : List (List α)) (i : Nat) (a : α) :
    appendAt ss i a = ss.modify i (· ++ [a]) := by
  induction ss generalizing i with
  | nil => cases i <;> rfl
  | cons s ss ih => cases i with
    | zero => rfl
    | succ i => exact congrArg (s :: ·) (ih i)

theorem incAt_eq_modify (l : List Nat) (i : Nat) : incAt l i = l.modify i (· + 1) := by
  induction l generalizing i with
  | nil => cases i <;> rfl
  | cons x xs ih => cases i with
    | zero => rfl
    | succ i => exact congrArg (x :: ·) (ih i)

theorem getD_modify {α : Type} (l : List α) (i j : Nat) (f : α → α) (d : α) :
    (l.modify i f).getD j d = if j = i ∧ i < l.length then f (l.getD i d) else l.getD j d := by
  simp only [List.getD_eq_getElem?_getD, List.getElem?_modify]
  by_cases hji : j = i
  · subst hji
    by_cases hl : j < l.length
    · simp [hl]
    · simp [hl]
  · simp [hji, Ne.symm hji]

theorem appendAt_length {α : Type} (ss : List (List α)) (i : Nat) (a : α) :
    (appendAt ss i a).length = ss.length := by
  rw [appendAt_eq_modify, List.length_modify]

theorem incAt_length (l : List Nat) (i : Nat) : (incAt l i).length = l.length := by
  rw [incAt_eq_modify, List.length_modify]

theorem appendAt_getD {α : Type} (ss : List (List α)) (i j : Nat) (a : α) :
    (appendAt ss i a).getD j [] =
      if j = i ∧ i < ss.length then ss.getD i [] ++ [a] else ss.getD j [] := by
  rw [appendAt_eq_modify, getD_modify]

theorem incAt_getD (l : List Nat) (i j : Nat) :
    (incAt l i).getD j 0 = if j = i ∧ i < l.length then l.getD i 0 + 1 else l.getD j 0 := by
  rw [incAt_eq_modify, getD_modify]

theorem appendAt_flatten_perm {α : Type} (ss : List (List α)) (i : Nat) (a : α) (h : i < ss.length) :
    (appendAt ss i a).flatten.Perm (ss.flatten ++ [a]) := by
  induction ss generalizing i with
  | nil => cases h
  | cons s ss ih =>
    cases i with
    | zero =>
      simp only [appendAt, List.flatten_cons, List.append_assoc]
      exact List.Perm.append_left s List.perm_append_comm
    | succ i =>
      simp only [appendAt, List.flatten_cons, List.append_assoc]
      exact List.Perm.append_left s (ih i (Nat.lt_of_succ_lt_succ h))

theorem mem_appendAt_getD {α : Type} {ss : List (List α)} {i j : Nat} {a b : α}
    (h : b ∈ ss.getD j []) : b ∈ (appendAt ss i a).getD j [] := by
  rw [appendAt_getD]
  split
  · rename_i hc; rw [← hc.1]; exact List.mem_append_left _ h
  · exact h

theorem mem_appendAt_self {α : Type} {ss : List (List α)} {i : Nat} (a : α) (h : i < ss.length) :
    a ∈ (appendAt ss i a).getD i [] := by
  rw [appendAt_getD, if_pos ⟨rfl, h⟩]
  exact List.mem_append_right _ (List.mem_singleton.2 rfl)

theorem getD_of_lt {α : Type} {l : List α} {i : Nat} (d : α) (h : i < l.length) : l.getD i d = l[i] :=
  (List.getElem_eq_getD d).symm

theorem getD_replicate_nil {α : Type} (n j : Nat) : (List.replicate n ([] : List α)).getD j [] = [] := by
  rw [List.getD_eq_getElem?_getD, List.getElem?_replicate]
  split <;> rfl

theorem flatten_replicate_nil {α : Type} (n : Nat) : (List.replicate n ([] : List α)).flatten = [] :=
  List.flatten_replicate_nil

theorem getD_map_length {α : Type} (ss : List (List α)) (j : Nat) :
    (ss.map List.length).getD j 0 = (ss.getD j []).length := by
  rw [List.getD_eq_getElem?_getD, List.getD_eq_getElem?_getD, List.getElem?_map]
  cases ss[j]? <;> rfl

theorem headD_append_flatten_tail {α : Type} (ss : List (List α)) :
    ss.headD [] ++ (ss.drop 1).flatten = ss.flatten := by
  cases ss <;> simp

theorem getD_piece {α : Type} {ss : List (List α)} {a : α} {i : Nat} (h : a ∈ ss.getD i []) :
    ∃ s, ss[i]? = some s ∧ a ∈ s := by
  rw [List.getD_eq_getElem?_getD] at h
  cases hs : ss[i]? with
  | none => rw [hs] at h; cases h
  | some s => rw [hs] at h; exact ⟨s, rfl, h⟩

theorem mem_flatten_of_getD {α : Type} {ss : List (List α)} {a : α} {i : Nat} (h : a ∈ ss.getD i []) :
    a ∈ ss.flatten :=
  have ⟨s, hs, ha⟩ := getD_piece h
  List.mem_flatten.mpr ⟨s, List.mem_of_getElem? hs, ha⟩

theorem mem_flatten_iff_getD {α : Type} (ss : List (List α)) (a : α) :
    a ∈ ss.flatten ↔ ∃ i, i < ss.length ∧ a ∈ ss.getD i [] := by
  refine ⟨fun h => ?_, fun ⟨_, _, h⟩ => mem_flatten_of_getD h⟩
  obtain ⟨s, hs, ha⟩ := List.mem_flatten.mp h
  obtain ⟨i, hi, rfl⟩ := List.getElem_of_mem hs
  exact ⟨i, hi, by rwa [getD_of_lt _ hi]⟩

theorem nodup_flatten_unique {α : Type} (ss : List (List α)) (hn : ss.flatten.Nodup) (a : α) (i j : Nat)
    (hi : a ∈ ss.getD i []) (hj : a ∈ ss.getD j []) : i = j :=
  have ⟨s, hs, ha⟩ := getD_piece hi
  have ⟨t, ht, hb⟩ := getD_piece hj
  Decidable.byContradiction fun hne =>
    nodup_flatMap_disjoint id ss (List.flatMap_id ▸ hn) i j s t a hne hs ht ha hb

/-! ### the least-loaded scan -/

/-- what the scan over the first `k` targets returns: the lowest index among the least loaded
    eligible ones, or `none` when no target among them is eligible -/
def FirstMin (targets : List (List Role)) (loads : List Nat) (role : Role) (k : Nat) : Option Nat → Prop
  | none => ∀ j, j < k → eligibleForRole (targets.getD j []) role = false
  | some i => i < k ∧ eligibleForRole (targets.getD i []) role = true ∧
      ∀ j, j < k → eligibleForRole (targets.getD j []) role = true →
        loads.getD i 0 ≤ loads.getD j 0 ∧ (loads.getD i 0 = loads.getD j 0 → i ≤ j)

theorem pickUpTo_spec (targets : List (List Role)) (loads : List Nat) (role : Role) (k : Nat) :
    FirstMin targets loads role k (pickUpTo targets loads role k) := by
  induction k with
  | zero => exact fun j hj => absurd hj (Nat.not_lt_zero j)
  | succ k ih =>
    have hlast : ∀ {j}, j < k + 1 → j < k ∨ j = k := Nat.lt_succ_iff_lt_or_eq.mp
    have hself : loads.getD k 0 ≤ loads.getD k 0 ∧ (loads.getD k 0 = loads.getD k 0 → k ≤ k) :=
      ⟨Nat.le_refl _, fun _ => Nat.le_refl _⟩
    rw [pickUpTo, better.eq_def]
    cases he : eligibleForRole (targets.getD k []) role with
    | false =>
      rw [Bool.not_false, if_pos rfl]
      cases hp : pickUpTo targets loads role k with
      | none =>
        rw [hp] at ih
        exact fun j hj => (hlast hj).elim (ih j) (· ▸ he)
      | some b =>
        rw [hp] at ih
        exact ⟨Nat.lt_succ_of_lt ih.1, ih.2.1, fun j hj hje =>
          (hlast hj).elim (ih.2.2 j · hje) (fun e => by rw [e, he] at hje; cases hje)⟩
    | true =>
      rw [Bool.not_true, if_neg Bool.false_ne_true]
      cases hp : pickUpTo targets loads role k with
      | none =>
        rw [hp] at ih
        exact ⟨Nat.lt_succ_self k, he, fun j hj hje =>
          (hlast hj).elim (fun hj => by rw [ih j hj] at hje; cases hje) (· ▸ hself)⟩
      | some b =>
        rw [hp] at ih
        obtain ⟨hb, hbe, hmin⟩ := ih
        by_cases hlt : loads.getD k 0 < loads.getD b 0
        · -- strictly lighter than the best so far, hence than everything before it
          simp only [hlt, ↓reduceIte]
          exact ⟨Nat.lt_succ_self k, he, fun j hj hje =>
            (hlast hj).elim
              (fun hj =>
                have h := Nat.lt_of_lt_of_le hlt (hmin j hj hje).1
                ⟨Nat.le_of_lt h, fun e => absurd (e ▸ h) (Nat.lt_irrefl _)⟩)
              (· ▸ hself)⟩
        · -- not lighter: the earlier index keeps the place
          simp only [hlt, ↓reduceIte]
          exact ⟨Nat.lt_succ_of_lt hb, hbe, fun j hj hje =>
            (hlast hj).elim (hmin j · hje) (· ▸ ⟨Nat.le_of_not_lt hlt, fun _ => Nat.le_of_lt hb⟩)⟩

theorem any_eligible_iff (targets : List (List Role)) (role : Role) :
    targets.any (fun t => eligibleForRole t role) = true ↔
      ∃ j, j < targets.length ∧ eligibleForRole (targets.getD j []) role = true := by
  rw [List.any_eq_true]
  constructor
  · rintro ⟨t, ht, he⟩
    obtain ⟨j, hj, rfl⟩ := List.getElem_of_mem ht
    exact ⟨j, hj, by rwa [getD_of_lt _ hj]⟩
  · rintro ⟨j, hj, he⟩
    rw [getD_of_lt _ hj] at he
    exact ⟨_, List.getElem_mem hj, he⟩

theorem pickTarget_some {targets : List (List Role)} {loads : List Nat} {role : Role} {i : Nat}
    (h : pickTarget targets loads role = some i) :
    i < targets.length ∧ eligibleForRole (targets.getD i []) role = true
    ∧ ∀ j, j < targets.length → eligibleForRole (targets.getD j []) role = true →
        loads.getD i 0 ≤ loads.getD j 0 ∧ (loads.getD i 0 = loads.getD j 0 → i ≤ j) := by
  have hs := pickUpTo_spec targets loads role targets.length
  rwa [show pickUpTo targets loads role targets.length = some i from h] at hs

theorem pickTarget_none {targets : List (List Role)} {loads : List Nat} {role : Role}
    (h : pickTarget targets loads role = none) :
    ∀ j, j < targets.length → eligibleForRole (targets.getD j []) role = false := by
  have hs := pickUpTo_spec targets loads role targets.length
  rwa [show pickUpTo targets loads role targets.length = none from h] at hs

theorem pickTarget_isSome (targets : List (List Role)) (loads : List Nat) (role : Role) :
    (pickTarget targets loads role).isSome = targets.any (fun t => eligibleForRole t role) := by
  cases hp : pickTarget targets loads role with
  | none =>
    refine (Bool.eq_false_iff.mpr fun ha => ?_).symm
    obtain ⟨j, hj, he⟩ := (any_eligible_iff targets role).1 ha
    rw [pickTarget_none hp j hj] at he; cases he
  | some i =>
    obtain ⟨hi, hie, _⟩ := pickTarget_some hp
    exact ((any_eligible_iff targets role).2 ⟨i, hi, hie⟩).symm

end GoaktVerif.C32
