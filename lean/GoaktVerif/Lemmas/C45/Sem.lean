/-
C45 lemmas: the per-element transform closures of flow.go, folded over a list
(`xfRun`), compute the list functions of the spec (`stageSem`).
-/
import GoaktVerif.Model.C45.Basic
import GoaktVerif.Spec.C45

namespace GoaktVerif.C45
open GoaktVerif.Model.C45 GoaktVerif.Spec.C45

theorem xfRun_nil (st : Stage) (t : TS) : xfRun st t [] = ([], none) := rfl

theorem xfRun_cons_ok {st : Stage} {t t' : TS} {x : Val} {ys : List Val} (xs : List Val)
    (h : xfStep st t x = .ok (t', ys)) :
    xfRun st t (x :: xs) = (ys ++ (xfRun st t' xs).1, (xfRun st t' xs).2) := by
  simp [xfRun, h]

theorem xfRun_cons_err {st : Stage} {t : TS} {x : Val} {e : Err} (xs : List Val)
    (h : xfStep st t x = .error e) : xfRun st t (x :: xs) = ([], some e) := by
  simp [xfRun, h]

theorem xfRun_scan (t : TS) (vs : List Val) :
    xfRun .scan t vs = ((scanSums t.acc (ints vs).1).map .int, tyErr (ints vs).2) := by
  induction vs generalizing t with
  | nil => rfl
  | cons v vs ih =>
    cases v with
    | int x => simp [xfRun, xfStep, ih, ints, scanSums]
    | list l => simp [xfRun, xfStep, ints, tyErr, scanSums]

theorem xfRun_dedup (t : TS) (vs : List Val) :
    xfRun .dedup t vs = ((dedupFrom t.last (ints vs).1).map .int, tyErr (ints vs).2) := by
  induction vs generalizing t with
  | nil => rfl
  | cons v vs ih =>
    cases v with
    | int x =>
      by_cases h : t.last = some x <;> simp [xfRun, xfStep, ih, ints, dedupFrom, h]
    | list l => simp [xfRun, xfStep, ints, tyErr, dedupFrom]

/-- the transform closures compute the list semantics of their stage (the closure starts with
    `acc = 0`, `hasLast = false`; only Scan and Deduplicate ever change these) -/
theorem xfRun_eq_stageSem (st : Stage) (h : st.isFlow = true) (vs : List Val) :
    xfRun st {} vs = stageSem st vs := by
  cases st with
  | scan => simpa [stageSem] using xfRun_scan {} vs
  | dedup => simpa [stageSem] using xfRun_dedup {} vs
  | batch n => cases h
  | opmap w k b e => cases h
  | pmap w k b e => cases h
  | tryMap k bad e =>
    induction vs with
    | nil => rfl
    | cons v vs ih =>
      cases v with
      | int x =>
        by_cases hx : x = bad
        · subst hx; simp [xfRun, xfStep, stageSem, ints, beforeBad]
        · have hx' : (bad = x) = False := eq_false fun hh => hx hh.symm
          simp [xfRun, xfStep, ih, stageSem, ints, beforeBad, hx, hx']
      | list l => simp [xfRun, xfStep, stageSem, ints, tyErr, beforeBad]
  | filter m r =>
    induction vs with
    | nil => rfl
    | cons v vs ih =>
      cases v with
      | int x => by_cases hx : x.emod m = r <;> simp [xfRun, xfStep, ih, stageSem, ints, hx]
      | list l => simp [xfRun, xfStep, stageSem, ints, tyErr]
  | _ =>
    -- one output list per element, the closure's variables untouched
    induction vs with
    | nil => rfl
    | cons v vs ih => cases v <;> simp [xfRun, xfStep, ih, stageSem, ints, lists, show tyErr true = some typeErr from rfl]

end GoaktVerif.C45
