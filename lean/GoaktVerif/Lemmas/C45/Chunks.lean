/-
C45 lemmas: the spec's `chunks` against windows cut off at the front.
-/
import GoaktVerif.Spec.C45

namespace GoaktVerif.C45
open GoaktVerif.Spec.C45

/-- the size of a full batch: `max maxSize 1` -/
def bsize (n : Nat) : Nat := max n 1

theorem bsize_pos (n : Nat) : 0 < bsize n := Nat.le_max_right n 1

theorem length_ge_iff_bsize (n : Nat) (l : List Int) (hl : l ≠ []) : l.length ≥ n ↔ bsize n ≤ l.length := by
  have := List.length_pos_iff.mpr hl
  unfold bsize; omega

theorem chunksAux_absorb (n : Nat) (acc w rest : List Int) (hlen : acc.length + w.length < bsize n) :
    chunksAux n acc (w ++ rest) = chunksAux n (acc ++ w) rest := by
  induction w generalizing acc with
  | nil => rw [List.nil_append, List.append_nil]
  | cons x w ih =>
    have hl : (acc ++ [x]).length + w.length < bsize n := by
      rw [List.length_append, List.length_singleton]; rw [List.length_cons] at hlen; omega
    rw [List.cons_append, chunksAux, if_neg fun h => by have := (length_ge_iff_bsize n _ (by simp)).mp h; omega, ih (acc ++ [x]) hl,
      List.append_assoc, List.singleton_append]

theorem chunksAux_fill (n : Nat) (acc c b : List Int) (hc : c ≠ [])
    (hlen : acc.length + c.length = bsize n) :
    chunksAux n acc (c ++ b) = (acc ++ c) :: chunksAux n [] b := by
  obtain ⟨c0, x, rfl⟩ : ∃ c0 x, c = c0 ++ [x] := ⟨_, _, (List.dropLast_concat_getLast hc).symm⟩
  rw [List.length_append, List.length_singleton] at hlen
  rw [List.append_assoc, chunksAux_absorb n acc c0 _ (by omega), List.singleton_append, chunksAux,
    if_pos ((length_ge_iff_bsize n _ (by simp)).mpr (by simp; omega)),
    List.append_assoc]

theorem chunks_full (n : Nat) (c b : List Int) (hlen : c.length = bsize n) :
    chunks n (c ++ b) = c :: chunks n b :=
  chunksAux_fill n [] c b (fun h => by rw [h] at hlen; exact absurd hlen.symm (Nat.ne_of_gt (bsize_pos n)))
    (by rw [List.length_nil, Nat.zero_add]; exact hlen)

theorem chunksAux_short (n : Nat) (acc w : List Int) (hlen : acc.length + w.length < bsize n) :
    chunksAux n acc w = if (acc ++ w).isEmpty then [] else [acc ++ w] := by
  have := chunksAux_absorb n acc w [] hlen
  rwa [List.append_nil, chunksAux] at this

theorem chunks_short (n : Nat) (w : List Int) (hlen : w.length < bsize n) (hw : w ≠ []) :
    chunks n w = [w] := by
  rw [chunks, chunksAux_short n [] w (by rw [List.length_nil, Nat.zero_add]; exact hlen), List.nil_append,
    if_neg (by rw [List.isEmpty_iff]; exact hw)]

theorem chunks_nil (n : Nat) : chunks n [] = [] := rfl

theorem chunks_cut_full (n : Nat) (w rest : List Int) (h : bsize n ≤ w.length) :
    chunks n (w ++ rest) = w.take (bsize n) :: chunks n (w.drop (bsize n) ++ rest) := by
  have := chunks_full n (w.take (bsize n)) (w.drop (bsize n) ++ rest)
    (by rw [List.length_take]; exact Nat.min_eq_left h)
  rwa [← List.append_assoc, List.take_append_drop] at this

theorem chunks_cut (n : Nat) (w : List Int) (hne : w ≠ []) :
    chunks n w = w.take (min w.length (bsize n)) :: chunks n (w.drop (min w.length (bsize n))) := by
  by_cases h : bsize n ≤ w.length
  · rw [Nat.min_eq_right h]
    simpa using chunks_cut_full n w [] h
  · rw [Nat.min_eq_left (Nat.le_of_not_le h), List.take_length, List.drop_length, chunks_nil]
    exact chunks_short n w (Nat.lt_of_not_le h) hne

end GoaktVerif.C45
