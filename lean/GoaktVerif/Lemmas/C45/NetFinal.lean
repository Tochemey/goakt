/-
C45 lemmas: from the network invariant to what the sink observes.
-/
import GoaktVerif.Lemmas.C45.NetStep

namespace GoaktVerif.C45
open GoaktVerif.Model.C45

/-- the ideal list flowing on link `i` (what the stages above it produce from the whole input before their
    first failure) and the candidate errors of the stages above it; `Fs[0]` belongs to the source and is not used -/
def idealAt (Fs : List SemFn) (input : List Val) : Nat → List Val × List Err
  | 0 => (input, [])
  | i + 1 =>
    match Fs[i + 1]? with
    | some F => ((F (idealAt Fs input i).1).1, (idealAt Fs input i).2 ++ (F (idealAt Fs input i).1).2.toList)
    | none => idealAt Fs input i

theorem hist_split (net : Net) (i : Nat) : hist net i = insOf net (i + 1) ++ (hist net i).drop (pos net i) := by
  simp only [insOf, Nat.add_sub_cancel]; exact (List.take_append_drop _ _).symm

theorem GInv.approx_link {P : List Val → Prop} {input : List Val} {net : Net} (h : GInv P input net)
    (hP : ∀ j, P (idealAt (semsOf net) input j).1) (i : Nat)
    (hi : i + 1 < net.nodes.length)
    (hu : ∀ (j : Nat) nd, j ≤ i → net.nodes[j]? = some nd → isUnord nd = false) :
    Approx (hist net i) (idealAt (semsOf net) input i).1 (idealAt (semsOf net) input i).2 := by
  induction i with
  | zero => obtain ⟨s, _, hap, _⟩ := h.src; exact hap
  | succ i ih =>
    have hi' : i + 1 < net.nodes.length := Nat.lt_of_succ_lt hi
    obtain ⟨nd, hn⟩ : ∃ nd, net.nodes[i + 1]? = some nd := ⟨net.nodes[i + 1], List.getElem?_eq_getElem hi'⟩
    obtain ⟨_, hsp, _⟩ := h.mid (i + 1) nd (Nat.succ_pos i) hi hn
    have hF : (semsOf net)[i + 1]? = some (midF nd) := by simp [semsOf, hn]
    simp only [idealAt, hF]
    exact (ih hi' fun j nd hj => hu j nd (Nat.le_succ_of_le hj)).step (hist_split net i)
      (hsp.specM (hu (i + 1) nd (Nat.le_refl _) hn)) (hP i)

/-- what the sink may have observed, against an ideal output list and a list of candidate errors -/
def SinkOKAt (Y : List Val) (es : List Err) (s : SinkSt) : Prop :=
  s.hooks ≤ 1 ∧ (s.alive = false → s.hooks = 1) ∧
  s.received <+: Y ∧
  (s.alive = false → s.termErr = none → s.received = Y ∧ es = []) ∧
  (∀ e, s.termErr = some e → e ∈ es)

/-- What the sink knows, in terms of the link above it (`L` = index of that link): its hook ran at most once
    (once when it has stopped), what it received is a prefix of the link's content, and when it has stopped the
    link carries the terminal it recorded, everything before which it has received. -/
theorem GInv.sink_view {P : List Val → Prop} {input : List Val} {net : Net} (h : GInv P input net) (s : SinkSt)
    (hs : net.sink? = some s) {L : Nat} (hL : L + 2 = net.nodes.length) :
    s.hooks ≤ 1 ∧ (s.alive = false → s.hooks = 1) ∧ s.received <+: elemsOf (hist net L) ∧
    (s.alive = false → s.termErr = none → termOf (hist net L) = some none ∧ s.received = elemsOf (hist net L)) ∧
    (∀ e, s.termErr = some e → termOf (hist net L) = some (some e)) := by
  obtain ⟨c, s0, hs0, hsi⟩ := h.sink
  have hlast : net.nodes.getLast? = some (.sink c s0) := by rw [List.getLast?_eq_getElem?]; exact hs0
  cases Option.some.inj ((show net.sink? = some s0 by simp only [Net.sink?, hlast]).symm.trans hs)
  rw [show net.nodes.length - 1 = L + 1 from hL ▸ rfl] at hsi
  have hsplit := hist_split net L
  have hclosed : ∀ t, termOf (insOf net (L + 1)) = some t →
      termOf (hist net L) = some t ∧ elemsOf (hist net L) = elemsOf (insOf net (L + 1)) := fun t ht => by
    rw [hsplit]; exact ⟨(closed_append ht _).2.1, (closed_append ht _).1⟩
  refine ⟨?_, fun ha => (hsi.dead ha).1, ?_, fun ha he => ?_, fun e he => ?_⟩
  · cases ha : s.alive with
    | true => rw [(hsi.live ha).2.1]; exact Nat.zero_le 1
    | false => rw [(hsi.dead ha).1]; exact Nat.le_refl 1
  · rw [hsi.recv, hsplit]; exact elemsOf_prefix _ _
  · rcases (hsi.dead ha).2.2 with ⟨ht, _⟩ | ⟨e, _, hte⟩
    · exact ⟨(hclosed none ht).1, by rw [hsi.recv, (hclosed none ht).2]⟩
    · rw [he] at hte; cases hte
  · cases ha : s.alive with
    | true => rw [(hsi.live ha).2.2.2] at he; cases he
    | false =>
      rcases (hsi.dead ha).2.2 with ⟨_, hn⟩ | ⟨e', ht, hte⟩
      · rw [hn] at he; cases he
      · cases he.symm.trans hte
        exact (hclosed (some e) ht).1

theorem GInv.sink_of_approx {P : List Val → Prop} {input : List Val} {net : Net} (h : GInv P input net) (s : SinkSt)
    (hs : net.sink? = some s) {L : Nat} (hL : L + 2 = net.nodes.length) {Y : List Val} {es : List Err}
    (hap : Approx (hist net L) Y es) : SinkOKAt Y es s := by
  obtain ⟨v1, v2, v3, v4, v5⟩ := h.sink_view s hs hL
  refine ⟨v1, v2, v3.trans hap.pre, fun ha he => ?_, fun e he => hap.err e (v5 e he)⟩
  obtain ⟨h1, h2⟩ := v4 ha he
  rw [h2]; exact hap.compl h1

/-- the sink's record, in every state of every run, against the ideal content of the last link (`L`) -/
theorem GInv.sink_ok {P : List Val → Prop} {input : List Val} {net : Net} (h : GInv P input net)
    (hP : ∀ j, P (idealAt (semsOf net) input j).1) (s : SinkSt) (hs : net.sink? = some s)
    (hu : ∀ (j : Nat) nd, net.nodes[j]? = some nd → isUnord nd = false) (L : Nat) (hL : L + 2 = net.nodes.length) :
    SinkOKAt (idealAt (semsOf net) input L).1 (idealAt (semsOf net) input L).2 s :=
  h.sink_of_approx s hs hL (h.approx_link hP L (hL ▸ Nat.lt_succ_self _) fun j nd _ => hu j nd)

theorem Approx.stepU {P : List Val → Prop} {up ins rest outs : List Down} {X : List Val} {es : List Err}
    {k : Int} {bad : Option Int} {e : Err}
    (hup : Approx up X es) (hlink : up = ins ++ rest) (hs : SpecU k bad e P ins outs) (hP : P X) :
    SubPerm (elemsOf outs) (okAll k bad e X) ∧
    (termOf outs = some none →
      List.Perm (elemsOf outs) (parRun k bad e X).1 ∧ es = [] ∧ (parRun k bad e X).2 = none) ∧
    (∀ er, termOf outs = some (some er) → er ∈ es ++ (parRun k bad e X).2.toList) := by
  obtain ⟨hxs, hcompl, herr⟩ := hup.consumed hlink
  refine ⟨hs.sub X hxs, fun ho => ?_,
    fun er ho => Approx.err_mem (g := fun X => (parRun k bad e X).2) hxs herr hP (hs.err er ho)⟩
  obtain ⟨hti, he, hy⟩ := hs.compl ho
  obtain ⟨hX, hes⟩ := hcompl hti
  rw [← hX]; exact ⟨hy, hes, he⟩

/-- what the sink may have observed below an unordered last stage: `X`, `es` are the ideal content and the
    candidate errors of the link ABOVE that stage -/
def SinkOKU (k : Int) (bad : Option Int) (e : Err) (X : List Val) (es : List Err) (s : SinkSt) : Prop :=
  s.hooks ≤ 1 ∧ (s.alive = false → s.hooks = 1) ∧
  SubPerm s.received (okAll k bad e X) ∧
  (s.alive = false → s.termErr = none →
    List.Perm s.received (parRun k bad e X).1 ∧ es = [] ∧ (parRun k bad e X).2 = none) ∧
  (∀ er, s.termErr = some er → er ∈ es ++ (parRun k bad e X).2.toList)

/-- the sink's record below an unordered last stage, against any approximation of the link ABOVE that stage (`L`) -/
theorem GInv.sink_below_unord {P : List Val → Prop} {input : List Val} {net : Net} (h : GInv P input net) (s : SinkSt)
    (hs : net.sink? = some s) {L : Nat} (hL : L + 3 = net.nodes.length)
    {w : Nat} {k : Int} {bad : Option Int} {e : Err} {st : PMapSt}
    (hn : net.nodes[L + 1]? = some (.pmap false w k bad e st)) {X : List Val} {es : List Err}
    (hap : Approx (hist net L) X es) (hX : P X) : SinkOKU k bad e X es s := by
  obtain ⟨v1, v2, v3, v4, v5⟩ := h.sink_view s hs (L := L + 1) hL
  obtain ⟨_, hsp, _⟩ := h.mid (L + 1) _ (Nat.succ_pos L) (hL ▸ Nat.lt_succ_self _) hn
  obtain ⟨u1, u2, u3⟩ := hap.stepU (hist_split net _) (show SpecU k bad e P _ _ from hsp) hX
  refine ⟨v1, v2, SubPerm.of_prefix v3 u1, fun ha he => ?_, fun er he => u3 er (v5 er he)⟩
  obtain ⟨h1, h2⟩ := v4 ha he
  rw [h2]; exact u2 h1

theorem GInv.sink_okU {P : List Val → Prop} {input : List Val} {net : Net} (h : GInv P input net)
    (hP : ∀ j, P (idealAt (semsOf net) input j).1) (s : SinkSt)
    (hs : net.sink? = some s)
    (w : Nat) (k : Int) (bad : Option Int) (e : Err) (st : PMapSt)
    (h3 : 3 ≤ net.nodes.length)
    (hlastU : net.nodes[net.nodes.length - 2]? = some (.pmap false w k bad e st))
    (hu : ∀ (j : Nat) nd, j ≤ net.nodes.length - 3 → net.nodes[j]? = some nd → isUnord nd = false) :
    SinkOKU k bad e (idealAt (semsOf net) input (net.nodes.length - 3)).1
            (idealAt (semsOf net) input (net.nodes.length - 3)).2 s := by
  obtain ⟨L, hL⟩ : ∃ L, net.nodes.length = L + 3 := ⟨_, (Nat.sub_add_cancel h3).symm⟩
  rw [hL, Nat.add_sub_cancel] at hu ⊢
  rw [hL] at hlastU
  exact h.sink_below_unord s hs hL.symm hlastU
    (h.approx_link hP L (hL ▸ Nat.lt_succ_of_lt (Nat.lt_succ_self _)) hu) (hP _)

end GoaktVerif.C45
