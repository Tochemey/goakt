/-
C45 lemmas: sinkActor — what it records is the content of what it handled, and its completion hook runs
exactly once, when it stops.
-/
import GoaktVerif.Model.C45.Actors
import GoaktVerif.Lemmas.C45.Hist

namespace GoaktVerif.C45
open GoaktVerif.Model.C45

structure SinkInv (s : SinkSt) (ins : List Down) : Prop where
  recv : s.received = elemsOf ins
  live : s.alive = true → termOf ins = none ∧ s.hooks = 0 ∧ s.once = false ∧ s.termErr = none
  dead : s.alive = false → s.hooks = 1 ∧ s.once = true ∧
    ((termOf ins = some none ∧ s.termErr = none) ∨ (∃ e, termOf ins = some (some e) ∧ s.termErr = some e))

theorem SinkInv.init : SinkInv {} [] :=
  ⟨rfl, fun _ => ⟨rfl, rfl, rfl, rfl⟩, nofun⟩

theorem SinkInv.down {s : SinkSt} {ins : List Down} (cfg : Cfg) (d : Down) (h : SinkInv s ins) (ha : s.alive = true) :
    SinkInv (sinkStep cfg s (.down d)).1 (ins ++ [d]) := by
  obtain ⟨hio, hh, ho, he⟩ := h.live ha
  cases d with
  | elem v =>
    have key : ∀ s' : SinkSt, s'.received = s.received ++ [v] → s'.alive = s.alive → s'.hooks = s.hooks →
        s'.once = s.once → s'.termErr = s.termErr → SinkInv s' (ins ++ [.elem v]) := fun s' h1 h2 h3 h4 h5 =>
      ⟨by rw [h1, h.recv, elemsOf_snoc_elem hio], fun _ => ⟨termOf_snoc hio _, h3 ▸ hh, h4 ▸ ho, h5 ▸ he⟩,
        fun hd => by rw [h2, ha] at hd; cases hd⟩
    simp only [sinkStep]
    by_cases hc : s.credit - 1 ≤ cfg.refill
    · rw [if_pos hc]; exact key _ rfl rfl rfl rfl rfl
    · rw [if_neg hc]; exact key _ rfl rfl rfl rfl rfl
  | complete =>
    simp only [sinkStep, SinkSt.shutdown, SinkSt.callOnComplete, ho, hh]
    exact ⟨by rw [elemsOf_snoc_complete _]; exact h.recv, nofun,
      fun _ => ⟨rfl, rfl, Or.inl ⟨termOf_snoc hio _, he⟩⟩⟩
  | error e =>
    simp only [sinkStep, SinkSt.shutdown, SinkSt.callOnComplete, ho, hh]
    exact ⟨by rw [elemsOf_snoc_error _ e]; exact h.recv, nofun,
      fun _ => ⟨rfl, rfl, Or.inr ⟨e, termOf_snoc hio _, rfl⟩⟩⟩

theorem SinkInv.step_down {s : SinkSt} {ins : List Down} (cfg : Cfg) (d : Down)
    (h : SinkInv s ins) (ha : s.alive = true) (hw : wf (ins ++ [d]) = true) :
    SinkInv (sinkStep cfg s (.down d)).1 (ins ++ [d]) := h.down cfg d ha

/-- requests / cancels / timers are not handled by a sink -/
theorem SinkInv.step_other {s : SinkSt} {ins : List Down} (cfg : Cfg) (ev : Ev)
    (h : SinkInv s ins) (hev : ∀ d, ev ≠ .down d) :
    SinkInv (sinkStep cfg s ev).1 ins := by
  cases ev with
  | down d => exact absurd rfl (hev d)
  | wire => exact ⟨h.recv, h.live, h.dead⟩
  | _ => exact h

theorem SinkInv.step {s : SinkSt} {ins : List Down} (cfg : Cfg) (ev : Ev)
    (h : SinkInv s ins) (ha : s.alive = true) : SinkInv (sinkStep cfg s ev).1 (ins ++ evDown ev) := by
  cases ev with
  | down d => exact h.down cfg d ha
  | _ => exact (List.append_nil ins).symm ▸ h.step_other cfg _ nofun

/-- the completion hook never runs twice, whatever messages (duplicates included) arrive -/
theorem sink_hooks_le_one (cfg : Cfg) (s : SinkSt) (ev : Ev) (h : s.hooks ≤ 1 ∧ (s.hooks = 1 → s.once = true)) :
    (sinkStep cfg s ev).1.hooks ≤ 1 ∧ ((sinkStep cfg s ev).1.hooks = 1 → (sinkStep cfg s ev).1.once = true) := by
  -- `callOnComplete` runs the hook only if `once` is not set, and then sets it
  have hcall : ∀ s0 : SinkSt, (s0.hooks ≤ 1 ∧ (s0.hooks = 1 → s0.once = true)) →
      s0.callOnComplete.hooks ≤ 1 ∧ (s0.callOnComplete.hooks = 1 → s0.callOnComplete.once = true) := fun s0 h0 => by
    unfold SinkSt.callOnComplete
    cases ho : s0.once with
    | true => rw [if_pos rfl, ho]; exact ⟨h0.1, fun _ => rfl⟩
    | false =>
      have : s0.hooks ≠ 1 := fun hh => by rw [h0.2 hh] at ho; cases ho
      rw [if_neg (by simp)]; exact ⟨by show s0.hooks + 1 ≤ 1; omega, fun _ => rfl⟩
  cases ev with
  | down d =>
    cases d with
    | elem v =>
      simp only [sinkStep]
      by_cases hc : s.credit - 1 ≤ cfg.refill
      · rw [if_pos hc]; exact h
      · rw [if_neg hc]; exact h
    | complete => exact hcall _ (hcall s h)
    | error e => exact hcall _ (hcall { s with termErr := some e } h)
  | _ => exact h

end GoaktVerif.C45
