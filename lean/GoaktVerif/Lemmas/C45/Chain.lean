/-
C45 lemmas: the stage specification in "content" form (`SpecM`), closed under further
input, and its composition along a chain of stages connected by FIFO links.
-/
import GoaktVerif.Lemmas.C45.Hist

namespace GoaktVerif.C45
open GoaktVerif.Model.C45

theorem elemsOf_prefix (a b : List Down) : elemsOf a <+: elemsOf (a ++ b) := by
  cases h : termOf a with
  | none => rw [elemsOf_append_open h]; exact List.prefix_append _ _
  | some c => rw [elemsOf_append_closed (by rw [h]; simp)]; exact List.prefix_refl _

/-- the semantic function of a stage: outputs before the first failure, and that failure -/
abbrev SemFn := List Val → List Val × Option Err

/-- what a stage has sent (`outs`) against what it has handled (`ins`), as contents; `P` restricts the ideal
    inputs `X` the error clause speaks about (e.g. homogeneous element types) -/
structure SpecM (P : List Val → Prop) (F : SemFn) (ins outs : List Down) : Prop where
  wfOut : wf outs = true
  pre1 : elemsOf outs <+: (F (elemsOf ins)).1
  pre2 : termOf ins ≠ some none → ∀ X, elemsOf ins <+: X → elemsOf outs <+: (F X).1
  compl : termOf outs = some none →
    termOf ins = some none ∧ (F (elemsOf ins)).2 = none ∧ elemsOf outs = (F (elemsOf ins)).1
  err : ∀ e, termOf outs = some (some e) →
    termOf ins = some (some e) ∨ ∀ X, elemsOf ins <+: X → P X → (F X).2 = some e

/-- the specification survives further input (the stage's output frozen) -/
theorem SpecM.extend {P : List Val → Prop} {F : SemFn} {ins outs : List Down} (h : SpecM P F ins outs) (t : List Down) :
    SpecM P F (ins ++ t) outs := by
  cases hc : termOf ins with
  | some c =>
    obtain ⟨h2, h1, _⟩ := closed_append hc t
    refine ⟨h.wfOut, by rw [h2]; exact h.pre1, ?_, ?_, ?_⟩
    · intro hn X hX
      rw [h2] at hX
      exact h.pre2 (by rw [hc]; rw [h1] at hn; exact hn) X hX
    · intro ho; rw [h1, h2]; rw [← hc]; exact h.compl ho
    · intro e ho; rw [h1, h2]; rw [← hc]; exact h.err e ho
  | none =>
    have hpre := elemsOf_prefix ins t
    have hopen : termOf ins ≠ some none := by rw [hc]; simp
    refine ⟨h.wfOut, h.pre2 hopen _ hpre, ?_, ?_, ?_⟩
    · intro _ X hX; exact h.pre2 hopen X (hpre.trans hX)
    · intro ho; have := (h.compl ho).1; rw [hc] at this; simp at this
    · intro e ho
      rcases h.err e ho with h1 | h1
      · rw [hc] at h1; simp at h1
      · exact Or.inr fun X hX hP => h1 X (hpre.trans hX) hP

/-- a stage whose output is open or closed by an error -/
theorem SpecM.of_ext {P : List Val → Prop} {F : SemFn} {ins outs : List Down} (hw : wf outs = true)
    (hp : ∀ rest, elemsOf outs <+: (F (elemsOf ins ++ rest)).1) (hnc : termOf outs ≠ some none)
    (he : ∀ e, termOf outs = some (some e) →
      termOf ins = some (some e) ∨ ∀ X, elemsOf ins <+: X → P X → (F X).2 = some e) : SpecM P F ins outs :=
  ⟨hw, List.append_nil (elemsOf ins) ▸ hp [], fun _ _ ⟨rest, hX⟩ => hX ▸ hp rest, fun ho => absurd ho hnc, he⟩

theorem SpecM.of_open {P : List Val → Prop} {F : SemFn} {ins outs : List Down} (hw : wf outs = true)
    (ho : termOf outs = none) (hp : ∀ rest, elemsOf outs <+: (F (elemsOf ins ++ rest)).1) : SpecM P F ins outs :=
  .of_ext hw hp (by rw [ho]; exact nofun) fun e he => by rw [ho] at he; cases he

/-- a running stage whose input has completed and that still owes output -/
theorem SpecM.of_closing {P : List Val → Prop} {F : SemFn} {ins outs : List Down} (hw : wf outs = true)
    (ho : termOf outs = none) (hi : termOf ins = some none) (hp : elemsOf outs <+: (F (elemsOf ins)).1) :
    SpecM P F ins outs :=
  ⟨hw, hp, fun hn => absurd hi hn, fun h => (by rw [ho] at h; cases h), fun e h => (by rw [ho] at h; cases h)⟩

theorem SpecM.of_done {P : List Val → Prop} {F : SemFn} {ins outs : List Down} (hw : wf outs = true)
    (ho : termOf outs = some none) (hi : termOf ins = some none) (hF : F (elemsOf ins) = (elemsOf outs, none)) :
    SpecM P F ins outs :=
  ⟨hw, by rw [hF]; exact List.prefix_refl _, fun hn => absurd hi hn, fun _ => ⟨hi, by rw [hF], by rw [hF]⟩,
    fun e h => by rw [ho] at h; cases h⟩

theorem err_of_stable {P : List Val → Prop} {F : SemFn} {xs : List Val} {e : Err}
    (hstab : ∀ rest, (F xs).2 = some e → F (xs ++ rest) = F xs) (h : (F xs).2 = some e) :
    ∀ X, xs <+: X → P X → (F X).2 = some e :=
  fun _ ⟨rest, hX⟩ _ => by rw [← hX, hstab rest h]; exact h

/-- the error clause for a larger class of ideal inputs implies the one for a smaller class -/
theorem SpecM.weaken {P Q : List Val → Prop} {F : SemFn} {ins outs : List Down} (hPQ : ∀ X, P X → Q X)
    (h : SpecM Q F ins outs) : SpecM P F ins outs :=
  ⟨h.wfOut, h.pre1, h.pre2, h.compl, fun e he => (h.err e he).imp id fun h1 X hX hP => h1 X hX (hPQ X hP)⟩

/-- what is known about a history `up` relative to the ideal list `X` flowing on that link and the
    candidate errors `es` of the stages above it -/
structure Approx (up : List Down) (X : List Val) (es : List Err) : Prop where
  pre : elemsOf up <+: X
  compl : termOf up = some none → elemsOf up = X ∧ es = []
  err : ∀ e, termOf up = some (some e) → e ∈ es

theorem Approx.consumed {up ins rest : List Down} {X : List Val} {es : List Err} (hup : Approx up X es)
    (hlink : up = ins ++ rest) :
    elemsOf ins <+: X ∧ (termOf ins = some none → elemsOf ins = X ∧ es = []) ∧
    ∀ e, termOf ins = some (some e) → e ∈ es := by
  subst hlink
  refine ⟨(elemsOf_prefix ins rest).trans hup.pre, fun hc => ?_, fun e hi => hup.err e (closed_append hi rest).2.1⟩
  rw [← (closed_append hc rest).1]; exact hup.compl (closed_append hc rest).2.1

theorem Approx.err_mem {P : List Val → Prop} {ins : List Down} {X : List Val} {es : List Err} {g : List Val → Option Err}
    {e : Err} (hpre : elemsOf ins <+: X) (herr : ∀ e, termOf ins = some (some e) → e ∈ es) (hP : P X)
    (h : termOf ins = some (some e) ∨ ∀ X, elemsOf ins <+: X → P X → g X = some e) : e ∈ es ++ (g X).toList :=
  h.elim (fun hi => List.mem_append_left _ (herr e hi)) fun hi =>
    List.mem_append_right _ (by rw [hi X hpre hP]; exact List.mem_singleton_self e)

/-- one stage: its input history is a prefix of what the upstream link carries -/
theorem Approx.step {P : List Val → Prop} {up ins rest outs : List Down} {X : List Val} {es : List Err} {F : SemFn}
    (hup : Approx up X es) (hlink : up = ins ++ rest) (hs : SpecM P F ins outs) (hP : P X) :
    Approx outs (F X).1 (es ++ (F X).2.toList) := by
  obtain ⟨hxs, hcompl, herr⟩ := hup.consumed hlink
  refine ⟨?_, fun ho => ?_, fun e ho => Approx.err_mem (g := fun X => (F X).2) hxs herr hP (hs.err e ho)⟩
  · by_cases hc : termOf ins = some none
    · rw [← (hcompl hc).1]; exact hs.pre1
    · exact hs.pre2 hc X hxs
  · obtain ⟨hti, he, hy⟩ := hs.compl ho
    obtain ⟨hX, hes⟩ := hcompl hti
    rw [← hX, hy, he, hes]; exact ⟨rfl, rfl⟩

end GoaktVerif.C45
