/-
C45 lemmas: the ideal content of the last link of an un-fused pipeline without the unordered ParallelMap is
the list semantics `sem` of the pipeline.
-/
import GoaktVerif.Lemmas.C45.NetFinal
import GoaktVerif.Lemmas.C45.Sem

namespace GoaktVerif.C45
open GoaktVerif.Model.C45 GoaktVerif.Spec.C45

/-- `sem` over arbitrary stage functions -/
def semF : List SemFn → List Val → List Val × List Err
  | [], xs => (xs, [])
  | F :: rest, xs => ((semF rest (F xs).1).1, (F xs).2.toList ++ (semF rest (F xs).1).2)

theorem semF_snoc (Fs : List SemFn) (F : SemFn) (xs : List Val) :
    semF (Fs ++ [F]) xs = ((F (semF Fs xs).1).1, (semF Fs xs).2 ++ (F (semF Fs xs).1).2.toList) := by
  induction Fs generalizing xs with
  | nil => simp [semF]
  | cons G Fs ih => simp [semF, ih, List.append_assoc]

/-- walking the links from the source = composing the stage functions -/
theorem idealAt_eq_semF (F0 : SemFn) (Fs tl : List SemFn) (input : List Val) :
    idealAt (F0 :: (Fs ++ tl)) input Fs.length = semF Fs input := by
  suffices h : ∀ k, k ≤ Fs.length → idealAt (F0 :: (Fs ++ tl)) input k = semF (Fs.take k) input by
    rw [h Fs.length (Nat.le_refl _), List.take_length]
  intro k hk
  induction k with
  | zero => simp [idealAt, semF]
  | succ k ih =>
    have hlt : k < Fs.length := by omega
    have hget : (F0 :: (Fs ++ tl))[k + 1]? = some Fs[k] := by
      simp only [List.getElem?_cons_succ]
      rw [List.getElem?_append_left hlt, List.getElem?_eq_getElem hlt]
    have htake : Fs.take (k + 1) = Fs.take k ++ [Fs[k]] := List.take_succ_eq_append_getElem hlt
    simp only [idealAt, hget]
    rw [ih (by omega), htake, semF_snoc]

/-- every stage but the unordered ParallelMap -/
def Stage.covered : Stage → Bool
  | .pmap _ _ _ _ => false
  | _ => true

/-- the semantic function of the node `mkNode` builds for a stage -/
def stageF : Stage → SemFn
  | .batch n => stageSem (.batch n)
  | .opmap _ k bad e => parRun k bad e
  | st => xfRun st {}

/-- the sequential semantics of the ordered parallel map is the spec's list function -/
theorem parRun_eq_stageSem (w : Nat) (k : Int) (bad : Option Int) (e : Err) (vs : List Val) :
    parRun k bad e vs = stageSem (.opmap w k bad e) vs := by
  induction vs with
  | nil => rfl
  | cons v vs ih =>
    cases v with
    | int x =>
      by_cases hx : bad = some x
      · simp [parRun, parFn, hx, stageSem, ints, beforeBad]
      · simp only [stageSem] at ih
        simp [parRun, parFn, hx, ih, stageSem, ints, beforeBad]
    | list l => simp [parRun, parFn, stageSem, ints, tyErr, beforeBad]

theorem stageF_eq_stageSem (st : Stage) (h : Stage.covered st = true) (xs : List Val) :
    stageF st xs = stageSem st xs := by
  cases st with
  | pmap w k b e => cases h
  | batch n => rfl
  | opmap w k b e => exact parRun_eq_stageSem w k b e xs
  | _ => exact xfRun_eq_stageSem _ rfl xs

theorem semF_eq_sem (stages : List Stage) (h : ∀ st ∈ stages, Stage.covered st = true) (xs : List Val) :
    semF (stages.map stageF) xs = sem stages xs := by
  induction stages generalizing xs with
  | nil => rfl
  | cons st rest ih =>
    have h1 := stageF_eq_stageSem st (h st (by simp)) xs
    have ih' := ih (fun s hs => h s (by simp [hs]))
    simp only [List.map_cons, semF, sem, h1, ih']

theorem midF_mkNode (st : Stage) (h : Stage.covered st = true) : midF (mkNode st) = stageF st := by
  cases st <;> simp [Stage.covered] at h <;> rfl

end GoaktVerif.C45
