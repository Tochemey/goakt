/-
C45 lemmas: with stage fusion on, the ideal content of the last link is still the list
semantics of the pipeline (same elements; fails iff `sem` has a candidate error, with one of them).
-/
import GoaktVerif.Lemmas.C45.FusedSem
import GoaktVerif.Lemmas.C45.Bridge

namespace GoaktVerif.C45
open GoaktVerif.Model.C45 GoaktVerif.Spec.C45

def accGroup (acc : List Stage) : List (List Stage) :=
  match acc with
  | [] => []
  | _ => [acc.reverse]

/-- the stages behind each node `fuseRuns` builds -/
def groupRuns : List Stage → List Stage → List (List Stage)
  | [], acc => accGroup acc
  | s :: rest, acc =>
    if s.fusable then groupRuns rest (s :: acc)
    else accGroup acc ++ [s] :: groupRuns rest []

def nodeOfGroup (g : List Stage) : Node :=
  match g with
  | [a] => mkNode a
  | g => .fused defaultCfg g {}

theorem accGroup_nodes (acc : List Stage) :
    (match acc with
      | [] => []
      | [a] => [mkNode a]
      | _ => [Node.fused defaultCfg acc.reverse {}]) = (accGroup acc).map nodeOfGroup := by
  match acc with
  | [] => rfl
  | [a] => rfl
  | a :: b :: r =>
    simp only [accGroup, List.map_cons, List.map_nil, nodeOfGroup]
    -- the reversed list has at least two elements, so it is not a singleton
    split
    · rename_i x heq
      have := congrArg List.length heq
      simp at this
    · rfl

theorem fuseRuns_eq (stages acc : List Stage) :
    fuseRuns stages acc = (groupRuns stages acc).map nodeOfGroup := by
  -- `fun_induction groupRuns stages acc` follows the recursion of `groupRuns` (which is that of `fuseRuns`): one goal per leaf,
  -- in the order of the definition, with the guard as hypothesis and the statement for the recursive call
  fun_induction groupRuns stages acc
  case case1 acc => simp only [fuseRuns]; exact accGroup_nodes acc   -- no stage left: the pending run is closed
  case case2 s rest acc hf ih => simp only [fuseRuns, if_pos hf]; exact ih   -- `s` fusable: it joins the pending run
  case case3 s rest acc hnf ih =>   -- `s` not fusable: the pending run is closed, `s` is a node of its own
    simp only [fuseRuns, if_neg hnf]
    rw [List.map_append, List.map_cons, ← accGroup_nodes acc, ih]
    rfl

theorem accGroup_flatten (acc : List Stage) : (accGroup acc).flatten = acc.reverse := by
  cases acc <;> simp [accGroup]

theorem groupRuns_flatten (stages acc : List Stage) : (groupRuns stages acc).flatten = acc.reverse ++ stages := by
  fun_induction groupRuns stages acc
  case case1 acc => simp [accGroup_flatten]   -- no stage left
  case case2 s rest acc hf ih => rw [ih]; simp   -- `s` fusable
  case case3 s rest acc hnf ih => rw [List.flatten_append, accGroup_flatten, List.flatten_cons, ih]; simp   -- `s` not fusable

/-- a group is a single covered stage or a run of fusable stages -/
def GoodGroup (g : List Stage) : Prop :=
  (∃ a, g = [a] ∧ Stage.covered a = true) ∨ (∀ st ∈ g, st.fusable = true)

theorem fusable_covered (st : Stage) (h : st.fusable = true) : Stage.covered st = true := by
  cases st <;> simp [Stage.fusable] at h <;> rfl

theorem groupRuns_good (stages acc : List Stage) (hs : ∀ st ∈ stages, Stage.covered st = true)
    (ha : ∀ st ∈ acc, st.fusable = true) : ∀ g ∈ groupRuns stages acc, GoodGroup g := by
  -- a closed run consists of fusable stages
  have run : ∀ acc : List Stage, (∀ st ∈ acc, st.fusable = true) → ∀ g ∈ accGroup acc, GoodGroup g := fun acc ha g hg => by
    cases acc with
    | nil => simp [accGroup] at hg
    | cons a r =>
      simp only [accGroup, List.mem_singleton] at hg
      subst hg
      exact Or.inr fun st hst => ha st (by simp at hst; rcases hst with h | h <;> simp [h])
  fun_induction groupRuns stages acc
  case case1 acc => exact run acc ha   -- no stage left
  case case2 s rest acc hf ih =>   -- `s` fusable: the pending run stays fusable
    exact ih (fun st h => hs st (by simp [h])) fun st h => by
      rcases List.mem_cons.mp h with rfl | h
      · exact hf
      · exact ha st h
  case case3 s rest acc hnf ih =>   -- `s` not fusable: the closed run, `[s]` (covered), or a later group
    intro g hg
    rcases List.mem_append.mp hg with h1 | h1
    · exact run acc ha g h1
    · rcases List.mem_cons.mp h1 with rfl | h2
      · exact Or.inl ⟨s, rfl, hs s (by simp)⟩
      · exact ih (fun st h => hs st (by simp [h])) (by simp) g h2

theorem sem_append (a b : List Stage) (xs : List Val) :
    sem (a ++ b) xs = ((sem b (sem a xs).1).1, (sem a xs).2 ++ (sem b (sem a xs).1).2) := by
  induction a generalizing xs with
  | nil => simp [sem]
  | cons s a ih => simp [sem, ih, List.append_assoc]

theorem midF_nodeOfGroup (g : List Stage) (h : GoodGroup g) (xs : List Val) :
    SemRel ((midF (nodeOfGroup g) xs).1, (midF (nodeOfGroup g) xs).2.toList) (sem g xs) := by
  have single : ∀ a, Stage.covered a = true →
      SemRel ((midF (mkNode a) xs).1, (midF (mkNode a) xs).2.toList) (sem [a] xs) := fun a ha => by
    rw [midF_mkNode a ha, stageF_eq_stageSem a ha xs]
    exact ⟨rfl, by simp [sem], fun e he => by simpa [sem] using he⟩
  match g, h with
  | [a], h => exact single a (h.elim (fun ⟨b, hb, hc⟩ => by cases hb; exact hc)
      fun hf => fusable_covered a (hf a List.mem_cons_self))
  | [], h => exact fusedRel [] (h.elim (fun ⟨b, hb, _⟩ => nomatch hb) id) xs
  | a :: b :: r, h => exact fusedRel _ (h.elim (fun ⟨c, hc, _⟩ => by cases hc) id) xs

theorem semF_groups (groups : List (List Stage)) (h : ∀ g ∈ groups, GoodGroup g) (xs : List Val) :
    SemRel (semF (groups.map fun g => midF (nodeOfGroup g)) xs) (sem groups.flatten xs) := by
  induction groups generalizing xs with
  | nil => exact ⟨rfl, Iff.rfl, nofun⟩
  | cons g rest ih =>
    have h1 := midF_nodeOfGroup g (h g List.mem_cons_self) xs
    have h2 := ih (fun g' hg' => h g' (List.mem_cons_of_mem _ hg')) (sem g xs).1
    rw [List.map_cons, semF, List.flatten_cons, sem_append, show (midF (nodeOfGroup g) xs).1 = (sem g xs).1 from h1.1]
    exact SemRel.append h1 h2

end GoaktVerif.C45
