/-
C45 lemmas: histories of downstream messages on a link and their abstract content
(the elements before the first terminal, and that terminal).
-/
import GoaktVerif.Model.C45.Basic

namespace GoaktVerif.C45
open GoaktVerif.Model.C45

/-- elements carried before the first terminal message -/
def elemsOf : List Down → List Val
  | [] => []
  | .elem v :: r => v :: elemsOf r
  | _ :: _ => []

/-- the first terminal message: `none` = still open, `some none` = complete, `some (some e)` = failed with e -/
def termOf : List Down → Option (Option Err)
  | [] => none
  | .elem _ :: r => termOf r
  | .complete :: _ => some none
  | .error e :: _ => some (some e)

def allEq (t : Down) : List Down → Bool
  | [] => true
  | d :: r => decide (d = t) && allEq t r

/-- well-formed: after the first terminal only repetitions of that terminal follow
    (flowActor repeats streamComplete; nobody sends anything else after a terminal) -/
def wf : List Down → Bool
  | [] => true
  | .elem _ :: r => wf r
  | t :: r => allEq t r

def toMsg : Option Err → Down
  | none => .complete
  | some e => .error e

def termOfMsg : Down → Option (Option Err)
  | .elem _ => none
  | .complete => some none
  | .error e => some (some e)

/-- the down-stream message an event carries (requests, cancels, timers carry none) -/
def evDown : Ev → List Down
  | .down d => [d]
  | _ => []

theorem allEq_append (t : Down) (a b : List Down) : allEq t (a ++ b) = (allEq t a && allEq t b) := by
  induction a with
  | nil => simp [allEq]
  | cons d r ih => simp [allEq, ih, Bool.and_assoc]

theorem elemsOf_map_elem (zs : List Val) : elemsOf (zs.map Down.elem) = zs := by
  induction zs with
  | nil => rfl
  | cons z zs ih => simp [elemsOf, ih]

theorem termOf_map_elem (zs : List Val) : termOf (zs.map Down.elem) = none := by
  induction zs with
  | nil => rfl
  | cons z zs ih => simp [termOf, ih]

theorem wf_map_elem (zs : List Val) : wf (zs.map Down.elem) = true := by
  induction zs with
  | nil => rfl
  | cons z zs ih => simp [wf, ih]

/-- an open history consists of elements only: what follows it is read as if it stood alone -/
theorem open_append {h : List Down} (ho : termOf h = none) (t : List Down) :
    elemsOf (h ++ t) = elemsOf h ++ elemsOf t ∧ termOf (h ++ t) = termOf t ∧ wf (h ++ t) = wf t := by
  induction h with
  | nil => exact ⟨rfl, rfl, rfl⟩
  | cons d r ih =>
    cases d with
    | elem v => exact ⟨congrArg (List.cons v) (ih ho).1, (ih ho).2.1, (ih ho).2.2⟩
    | complete => cases ho
    | error e => cases ho

theorem elemsOf_append_open {h : List Down} (ho : termOf h = none) (t : List Down) :
    elemsOf (h ++ t) = elemsOf h ++ elemsOf t := (open_append ho t).1

theorem termOf_append_open {h : List Down} (ho : termOf h = none) (t : List Down) :
    termOf (h ++ t) = termOf t := (open_append ho t).2.1

theorem wf_of_open {h : List Down} (ho : termOf h = none) : wf h = true := by
  have := (open_append ho []).2.2; rwa [List.append_nil] at this

theorem wf_append_open {h : List Down} (ho : termOf h = none) (t : List Down) :
    wf (h ++ t) = (wf h && wf t) := by
  rw [(open_append ho t).2.2, wf_of_open ho, Bool.true_and]

/-- a closed history: nothing appended changes its content, and only repetitions of its terminal may follow -/
theorem closed_append {h : List Down} {c : Option Err} (hc : termOf h = some c) (t : List Down) :
    elemsOf (h ++ t) = elemsOf h ∧ termOf (h ++ t) = some c ∧ wf (h ++ t) = (wf h && allEq (toMsg c) t) := by
  induction h with
  | nil => cases hc
  | cons d r ih =>
    cases d with
    | elem v => exact ⟨congrArg (List.cons v) (ih hc).1, (ih hc).2.1, (ih hc).2.2⟩
    | complete => cases hc; exact ⟨rfl, rfl, allEq_append _ _ _⟩
    | error e => cases hc; exact ⟨rfl, rfl, allEq_append _ _ _⟩

theorem elemsOf_append_closed {h : List Down} (hc : termOf h ≠ none) (t : List Down) :
    elemsOf (h ++ t) = elemsOf h := by
  cases hc' : termOf h with
  | none => exact absurd hc' hc
  | some c => exact (closed_append hc' t).1

theorem termOf_append_closed {h : List Down} (hc : termOf h ≠ none) (t : List Down) :
    termOf (h ++ t) = termOf h := by
  cases hc' : termOf h with
  | none => exact absurd hc' hc
  | some c => exact (closed_append hc' t).2.1

theorem wf_append_closed {h : List Down} {c : Option Err} (hc : termOf h = some c) (t : List Down) :
    wf (h ++ t) = (wf h && allEq (toMsg c) t) := (closed_append hc t).2.2

theorem wf_append_left {a b : List Down} (h : wf (a ++ b) = true) : wf a = true := by
  cases ho : termOf a with
  | none => exact wf_of_open ho
  | some c => rw [wf_append_closed ho] at h; simp at h; exact h.1

theorem wf_take {h : List Down} (hw : wf h = true) (n : Nat) : wf (h.take n) = true :=
  wf_append_left (b := h.drop n) (by rwa [List.take_append_drop])

theorem eq_of_wf_snoc_closed {h : List Down} {c : Option Err} {d : Down} (hc : termOf h = some c)
    (hw : wf (h ++ [d]) = true) : d = toMsg c := by
  rw [wf_append_closed hc] at hw; simp [allEq] at hw; exact hw.2

theorem open_of_wf_snoc_elem {h : List Down} {v : Val} (hw : wf (h ++ [.elem v]) = true) :
    termOf h = none := by
  cases ho : termOf h with
  | none => rfl
  | some c =>
    have := eq_of_wf_snoc_closed ho hw
    cases c <;> simp [toMsg] at this

theorem elemsOf_snoc_elem {h : List Down} (ho : termOf h = none) (v : Val) :
    elemsOf (h ++ [.elem v]) = elemsOf h ++ [v] := by
  rw [elemsOf_append_open ho]; rfl

theorem termOf_snoc {h : List Down} (ho : termOf h = none) (d : Down) :
    termOf (h ++ [d]) = termOfMsg d := by
  rw [termOf_append_open ho]; cases d <;> rfl

theorem wf_snoc_open {h : List Down} (ho : termOf h = none) (d : Down) : wf (h ++ [d]) = true := by
  rw [wf_append_open ho, wf_of_open ho]; cases d <;> rfl

theorem elemsOf_snoc_complete (h : List Down) : elemsOf (h ++ [.complete]) = elemsOf h := by
  cases ho : termOf h with
  | none => rw [elemsOf_append_open ho]; exact List.append_nil _
  | some c => exact (closed_append ho _).1

theorem elemsOf_snoc_error (h : List Down) (e : Err) : elemsOf (h ++ [.error e]) = elemsOf h := by
  cases ho : termOf h with
  | none => rw [elemsOf_append_open ho]; exact List.append_nil _
  | some c => exact (closed_append ho _).1

theorem snoc_complete {h : List Down} (ho : termOf h = none ∨ termOf h = some none) :
    termOf (h ++ [.complete]) = some none ∧ elemsOf (h ++ [.complete]) = elemsOf h := by
  rcases ho with ho | hc
  · exact ⟨termOf_snoc ho _, elemsOf_snoc_complete _⟩
  · exact ⟨(closed_append hc _).2.1, (closed_append hc _).1⟩

end GoaktVerif.C45
