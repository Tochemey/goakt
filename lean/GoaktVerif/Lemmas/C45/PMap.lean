/-
C45 lemmas: the message handling of parallelMapActor, for both modes at once.  A mode contributes what a worker's result
and the last flush do to the resequencer and send (`ParMode.emit`, `last`; two equations with the code), and a relation
between task counter / heap / worker pool and the elements consumed and emitted (`ParMode.C`) whose laws do not mention
the actor's state.
-/
import GoaktVerif.Model.C45.Actors
import GoaktVerif.Lemmas.C45.Hist

namespace GoaktVerif.C45
open GoaktVerif.Model.C45

section
variable (k : Int) (bad : Option Int) (e : Err)

/-- What a mode `o` of the parallel stage supplies.  `emit` / `last` are what a successful reply `(seqNo, result)` and
    the final flush do to the resequencer `(nextEmit, pending)` and send (`emit_eq`, `last_eq`: that is what the code
    computes, and nothing else of the state changes).  `C inSeq nextEmit pending outst xs em` relates the task counter,
    the resequencer and the pool to the elements consumed and emitted while the stage runs; `Done` / `Part` are what is
    left of it after completion / failure. -/
structure ParMode (o : Bool) where
  emit : Nat → List (Nat × Val) → Nat × Val → Nat × List (Nat × Val) × List Val
  last : Nat → List (Nat × Val) → List Val
  emit_eq : ∀ (s : PMapSt) (r : Nat × Val),
    (if o then ({ s with pending := r :: s.pending }).flushOrdered else (s, [Down.elem r.2])) =
      ({ s with nextEmit := (emit s.nextEmit s.pending r).1, pending := (emit s.nextEmit s.pending r).2.1 },
        (emit s.nextEmit s.pending r).2.2.map Down.elem)
  last_eq : ∀ s : PMapSt, (if o then s.flushOrdered else (s, [])).2 = (last s.nextEmit s.pending).map Down.elem
  C : Nat → Nat → List (Nat × Val) → List (Nat × Val) → List Val → List Val → Prop
  Done : List Val → List Val → Prop
  Part : List Val → List Val → Prop
  part : ∀ {q ne p os xs em} (t : List Val), C q ne p os xs em → Part (xs ++ t) em
  mem : ∀ {q ne p os xs em t}, C q ne p os xs em → t ∈ os → t.2 ∈ xs
  push : ∀ {q ne p os xs em} (v : Val), C q ne p os xs em → C (q + 1) ne p (os ++ [(q + 1, v)]) (xs ++ [v]) em
  reply : ∀ {q ne p os xs em t y}, C q ne p os xs em → t ∈ os → parFn k bad e t.2 = .ok y →
    C q (emit ne p (t.1, y)).1 (emit ne p (t.1, y)).2.1 (os.filter fun u => u.1 != t.1) xs (em ++ (emit ne p (t.1, y)).2.2)
  finish : ∀ {q ne p xs em}, C q ne p [] xs em → Done xs (em ++ last ne p)

variable {k bad e}

structure PG {o : Bool} (M : ParMode k bad e o) (s : PMapSt) (ins outs : List Down) : Prop where
  wfOut : wf outs = true
  live : s.alive = true →
    termOf outs = none ∧
    ((termOf ins = none ∧ s.upDone = false) ∨ (termOf ins = some none ∧ s.upDone = true)) ∧
    (s.outst.length : Int) ≤ s.inFlight ∧ M.C s.inSeq s.nextEmit s.pending s.outst (elemsOf ins) (elemsOf outs)
  dead : s.alive = false →
    (termOf outs = some none ∧ termOf ins = some none ∧ M.Done (elemsOf ins) (elemsOf outs))
    ∨ (∃ er, termOf outs = some (some er) ∧ M.Part (elemsOf ins) (elemsOf outs) ∧
        (termOf ins = some (some er) ∨ ∃ v ∈ elemsOf ins, parFn k bad e v = .error er))

variable {o : Bool} {M : ParMode k bad e o}

theorem PG.fail {s : PMapSt} {ins ins' outs : List Down} {er : Err} (h : PG M s ins outs)
    (ha : s.alive = true) {s' : PMapSt} (hs' : s'.alive = false) (extra : List Val)
    (hins : elemsOf ins' = elemsOf ins ++ extra)
    (hwhy : termOf ins' = some (some er) ∨ ∃ v ∈ elemsOf ins', parFn k bad e v = .error er) :
    PG M s' ins' (outs ++ [.error er]) := by
  obtain ⟨hto, _, _, hc⟩ := h.live ha
  refine ⟨wf_snoc_open hto _, fun h1 => (by rw [hs'] at h1; cases h1),
    fun _ => Or.inr ⟨er, termOf_snoc hto _, ?_, hwhy⟩⟩
  rw [elemsOf_snoc_error _ er, hins]
  exact M.part extra hc

/-- the stage completes, having emitted `zs1` and then `zs` in its last step -/
theorem PG.finish_of {s' : PMapSt} {ins outs : List Down} (zs1 zs : List Val)
    (hto : termOf outs = none) (hti : termOf ins = some none) (hs' : s'.alive = false)
    (hd : M.Done (elemsOf ins) (elemsOf outs ++ zs1 ++ zs)) :
    PG M s' ins (outs ++ (zs1.map Down.elem ++ zs.map Down.elem ++ [Down.complete])) := by
  have t1 : termOf (outs ++ (zs1 ++ zs).map Down.elem) = none := by rw [termOf_append_open hto, termOf_map_elem]
  have e0 : outs ++ (zs1.map Down.elem ++ zs.map Down.elem ++ [Down.complete]) =
      (outs ++ (zs1 ++ zs).map Down.elem) ++ [Down.complete] := by
    rw [List.map_append]; simp only [List.append_assoc]
  rw [e0]
  refine ⟨wf_snoc_open t1 _, fun h1 => (by rw [hs'] at h1; cases h1), fun _ => Or.inl ⟨termOf_snoc t1 _, hti, ?_⟩⟩
  rw [elemsOf_snoc_complete _, elemsOf_append_open hto, elemsOf_map_elem, ← List.append_assoc]
  exact hd

/-- nothing is outstanding and upstream is done: the heap (ordered mode) is flushed and the stage completes -/
theorem PG.finish {s : PMapSt} {ins outs : List Down} (zs1 : List Val)
    (hto : termOf outs = none) (hti : termOf ins = some none)
    (hc : M.C s.inSeq s.nextEmit s.pending [] (elemsOf ins) (elemsOf outs ++ zs1)) :
    PG M { (if o then s.flushOrdered else (s, [])).1 with alive := false } ins
      (outs ++ (zs1.map Down.elem ++ (if o then s.flushOrdered else (s, [])).2 ++ [Down.complete])) := by
  rw [M.last_eq s]
  exact PG.finish_of zs1 _ hto hti rfl (M.finish hc)

theorem PG.step_down {s : PMapSt} {ins outs : List Down} (w : Nat) (d : Down)
    (h : PG M s ins outs) (ha : s.alive = true) (hw : wf (ins ++ [d]) = true) :
    PG M (pmapStep o w s (.down d)).1 (ins ++ [d]) (outs ++ (pmapStep o w s (.down d)).2.down) := by
  obtain ⟨hto, hin, hfl, hc⟩ := h.live ha
  cases d with
  | elem v =>
    have hio : termOf ins = none := open_of_wf_snoc_elem hw
    have hud : s.upDone = false := hin.elim (·.2) fun h1 => by rw [hio] at h1; cases h1.1
    cases v with
    | int x =>
      rw [pmapStep, List.append_nil]
      refine ⟨h.wfOut, fun _ => ⟨hto, Or.inl ⟨termOf_snoc hio _, hud⟩, ?_, ?_⟩, fun h1 => by rw [ha] at h1; cases h1⟩
      · show ((s.outst ++ [(s.inSeq + 1, Val.int x)]).length : Int) ≤ s.inFlight + 1
        rw [List.length_append, List.length_singleton]; omega
      · rw [elemsOf_snoc_elem hio]; exact M.push (.int x) hc
    | list l =>
      exact h.fail ha rfl [.list l] (elemsOf_snoc_elem hio _)
        (Or.inr ⟨.list l, by rw [elemsOf_snoc_elem hio]; simp, rfl⟩)
  | complete =>
    have hti := snoc_complete (hin.imp (·.1) (·.1))
    rw [pmapStep]
    by_cases hz : s.inFlight = 0
    · rw [if_pos (by simp [hz])]
      have hout : s.outst = [] := List.length_eq_zero_iff.mp (by omega)
      have := PG.finish (M := M) (s := { s with upDone := true }) (ins := ins ++ [.complete]) [] hto hti.1
        (by rw [hti.2, List.append_nil]; exact hout ▸ hc)
      simpa using this
    · rw [if_neg (by simp [hz]), List.append_nil]
      exact ⟨h.wfOut, fun _ => ⟨hto, Or.inr ⟨hti.1, rfl⟩, hfl, hti.2 ▸ hc⟩,
        fun h1 => by rw [ha] at h1; cases h1⟩
  | error er =>
    have hio : termOf ins = none := hin.elim (·.1) fun h1 => by cases eq_of_wf_snoc_closed h1.1 hw
    exact h.fail ha rfl [] (by rw [elemsOf_snoc_error _ er, List.append_nil]) (Or.inl (termOf_snoc hio _))


theorem PG.step_result {s : PMapSt} {ins outs : List Down} (w : Nat) (t : Nat × Val)
    (h : PG M s ins outs) (ha : s.alive = true) (ht : t ∈ s.outst) :
    PG M (pmapStep o w s (.result t.1 (parFn k bad e t.2))).1 ins
      (outs ++ (pmapStep o w s (.result t.1 (parFn k bad e t.2))).2.down) := by
  obtain ⟨hto, hin, hfl, hc⟩ := h.live ha
  cases hf : parFn k bad e t.2 with
  | error er => exact h.fail ha rfl [] (List.append_nil _).symm (Or.inr ⟨t.2, M.mem hc ht, hf⟩)
  | ok y =>
    have hfl1 : (s.outst.filter fun u => u.1 != t.1).length < s.outst.length :=
      List.length_filter_lt_length_iff_exists.mpr ⟨t, ht, by simp⟩
    have h1 := M.emit_eq { s with inFlight := s.inFlight - 1, outst := s.outst.filter fun u => u.1 != t.1 } (t.1, y)
    have hc1 := M.reply hc ht hf
    generalize M.emit s.nextEmit s.pending (t.1, y) = r at h1 hc1
    obtain ⟨ne', p', zs⟩ := r
    have t1 : termOf (outs ++ zs.map Down.elem) = none := by rw [termOf_append_open hto, termOf_map_elem]
    rw [pmapStep]
    simp only [h1]
    by_cases hfin : s.upDone = true ∧ s.inFlight - 1 = 0
    · rw [if_pos (by simp [hfin.1, hfin.2])]
      have hti : termOf ins = some none := hin.elim (fun h2 => by rw [hfin.1] at h2; cases h2.2) (·.1)
      have hout : (s.outst.filter fun u => u.1 != t.1) = [] :=
        List.length_eq_zero_iff.mp (show (s.outst.filter _).length = 0 by omega)
      exact PG.finish zs hto hti (hout ▸ hc1)
    · rw [if_neg (by simpa using hfin)]
      refine ⟨wf_of_open t1, fun _ => ⟨t1, hin, ?_, ?_⟩, fun h1 => nomatch ha.symm.trans h1⟩
      · show ((s.outst.filter _).length : Int) ≤ s.inFlight - 1; omega
      · rw [elemsOf_append_open hto, elemsOf_map_elem]; exact hc1

theorem PG.step {s : PMapSt} {ins outs : List Down} (w : Nat) (ev : Ev)
    (h : PG M s ins outs) (ha : s.alive = true) (hw : wf (ins ++ evDown ev) = true)
    (hr : ∀ q r, ev = .result q r → ∃ t ∈ s.outst, q = t.1 ∧ r = parFn k bad e t.2) (hc : ev ≠ .up .cancel) :
    PG M (pmapStep o w s ev).1 (ins ++ evDown ev) (outs ++ (pmapStep o w s ev).2.down) := by
  cases ev with
  | down d => exact h.step_down w d ha hw
  | up u =>
    cases u with
    | req n =>
      -- only the first request is acted upon, by pulling upstream; nothing in the invariant reads `started`
      simp only [pmapStep, evDown, List.append_nil]
      exact iteInduction (motive := fun r : PMapSt × Out => PG M r.1 ins (outs ++ r.2.down))
        (fun _ => (List.append_nil outs).symm ▸ h) fun _ => (List.append_nil outs).symm ▸
          ⟨h.wfOut, h.live, h.dead⟩
    | cancel => exact absurd rfl hc
  | result q r =>
    obtain ⟨t, ht, rfl, rfl⟩ := hr q r rfl
    exact (List.append_nil ins).symm ▸ h.step_result w t ha ht
  | wire => simpa [pmapStep, evDown] using h
  | flush => simpa [pmapStep, evDown] using h

end

end GoaktVerif.C45
