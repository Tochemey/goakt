/-
C45 lemmas: parallelMapActor in ordered mode (OrderedParallelMap) is a FIFO transducer for `parRun`, whatever the
order in which the workers reply.  `PInv` is the invariant of `Lemmas/C45/PMap.lean` for the mode whose relation is the
resequencing core (`Core`).
-/
import GoaktVerif.Lemmas.C45.PMapCore
import GoaktVerif.Lemmas.C45.PMap

namespace GoaktVerif.C45
open GoaktVerif.Model.C45

section
variable (k : Int) (bad : Option Int) (e : Err)

structure PInv (s : PMapSt) (ins outs : List Down) : Prop where
  wfOut : wf outs = true
  live : s.alive = true →
    termOf outs = none ∧
    ((termOf ins = none ∧ s.upDone = false) ∨ (termOf ins = some none ∧ s.upDone = true)) ∧
    s.inSeq = (elemsOf ins).length ∧ (s.outst.length : Int) ≤ s.inFlight ∧
    Core k bad e (elemsOf ins) s.nextEmit s.pending s.outst (elemsOf outs)
  dead : s.alive = false →
    (termOf outs = some none ∧ termOf ins = some none ∧
      OkPrefix k bad e (elemsOf ins) (elemsOf ins).length (elemsOf outs))
    ∨ (∃ er, termOf outs = some (some er) ∧ (∃ m, OkPrefix k bad e (elemsOf ins) m (elemsOf outs)) ∧
        (termOf ins = some (some er) ∨ ∃ v ∈ elemsOf ins, parFn k bad e v = .error er))

theorem PInv.init : PInv k bad e {} [] [] :=
  ⟨rfl, fun _ => ⟨rfl, Or.inl ⟨rfl, rfl⟩, rfl, Int.le_refl 0,
    ⟨⟨rfl, Nat.le_refl _, fun i hi => absurd hi (Nat.not_lt_zero i)⟩, nofun, nofun, nofun,
      fun q h1 h2 => absurd (Nat.lt_of_lt_of_le h1 h2) (Nat.not_lt_zero _)⟩⟩, nofun⟩

/-- nothing outstanding and nothing flushable left: everything has been emitted -/
theorem Core.all_emitted {xs : List Val} {ne : Nat} {pend : List (Nat × Val)} {em : List Val}
    (hc : Core k bad e xs ne pend [] em) (hp : ∀ x ∈ pend, x.1 ≠ ne + 1) : ne = xs.length := by
  refine Nat.le_antisymm hc.ok.2.1 (Nat.le_of_not_lt fun hlt => ?_)
  rcases hc.cover (ne + 1) (Nat.lt_succ_self ne) hlt with ⟨p, hp1, hp2⟩ | ⟨t, ht, _⟩
  · exact hp p hp1 hp2
  · cases ht

/-- a new element is dispatched to a worker -/
theorem Core.push {xs : List Val} {ne : Nat} {pend outst : List (Nat × Val)} {em : List Val}
    (hc : Core k bad e xs ne pend outst em) (v : Val) :
    Core k bad e (xs ++ [v]) ne pend (outst ++ [(xs.length + 1, v)]) em := by
  have hlen : (xs ++ [v]).length = xs.length + 1 := List.length_append
  have hold : ∀ {i w}, i ≤ xs.length → xs[i - 1]? = some w → i ≤ (xs ++ [v]).length ∧ (xs ++ [v])[i - 1]? = some w :=
    fun hi hw => ⟨hlen ▸ Nat.le_succ_of_le hi, by rw [List.getElem?_append_left (List.getElem?_eq_some_iff.mp hw).1]; exact hw⟩
  refine ⟨okPrefix_mono k bad e hc.ok [v], fun p hp => ?_, fun t ht => ?_, fun t ht p hp => ?_, fun q h1 h2 => ?_⟩
  · obtain ⟨a, b, w, hw, hf⟩ := hc.hpend p hp
    exact ⟨a, (hold b hw).1, w, (hold b hw).2, hf⟩
  · rcases List.mem_append.mp ht with ht | ht
    · obtain ⟨a, b, c⟩ := hc.houtst t ht
      exact ⟨a, hold b c⟩
    · cases List.mem_singleton.mp ht
      exact ⟨Nat.lt_succ_of_le hc.ok.2.1, Nat.le_of_eq hlen.symm,
        by rw [Nat.add_sub_cancel, List.getElem?_append_right (Nat.le_refl _), Nat.sub_self]; rfl⟩
  · rcases List.mem_append.mp ht with ht | ht
    · exact hc.disj t ht p hp
    · cases List.mem_singleton.mp ht
      exact Nat.ne_of_gt (Nat.lt_succ_of_le (hc.hpend p hp).2.1)
  · rw [hlen] at h2
    rcases Nat.lt_or_ge xs.length q with hq | hq
    · exact Or.inr ⟨(xs.length + 1, v), List.mem_append_right _ (List.mem_singleton_self _),
        Nat.le_antisymm hq h2⟩
    · exact (hc.cover q h1 hq).imp id fun ⟨t, ht, htq⟩ => ⟨t, List.mem_append_left _ ht, htq⟩

/-- a worker's successful reply moves its seqNo from outstanding to the heap -/
theorem Core.reply {xs : List Val} {ne : Nat} {pend outst : List (Nat × Val)} {em : List Val}
    (hc : Core k bad e xs ne pend outst em) {t : Nat × Val} (ht : t ∈ outst) {y : Val}
    (hf : parFn k bad e t.2 = .ok y) :
    Core k bad e xs ne ((t.1, y) :: pend) (outst.filter fun u => u.1 != t.1) em := by
  obtain ⟨a, b, c⟩ := hc.houtst t ht
  refine ⟨hc.ok, fun p hp => ?_, fun u hu => hc.houtst u (List.mem_filter.mp hu).1, fun u hu p hp => ?_,
    fun q h1 h2 => ?_⟩
  · rcases List.mem_cons.mp hp with rfl | hp
    · exact ⟨a, b, t.2, c, hf⟩
    · exact hc.hpend p hp
  · obtain ⟨hu1, hu2⟩ := List.mem_filter.mp hu
    rcases List.mem_cons.mp hp with rfl | hp
    · simpa using hu2
    · exact hc.disj u hu1 p hp
  · rcases hc.cover q h1 h2 with ⟨p, hp, hpq⟩ | ⟨u, hu, huq⟩
    · exact Or.inl ⟨p, List.mem_cons_of_mem _ hp, hpq⟩
    · by_cases hqt : u.1 = t.1
      · exact Or.inl ⟨(t.1, y), List.mem_cons_self, hqt ▸ huq⟩
      · exact Or.inr ⟨u, List.mem_filter.mpr ⟨hu, by simpa using hqt⟩, huq⟩

theorem Core.mem_of_outst {xs : List Val} {ne : Nat} {pend outst : List (Nat × Val)} {em : List Val}
    (hc : Core k bad e xs ne pend outst em) {t : Nat × Val} (ht : t ∈ outst) : t.2 ∈ xs :=
  List.mem_of_getElem? (hc.houtst t ht).2.2

/-- the last flush: nothing is outstanding, so the heap empties and everything has been emitted -/
theorem Core.finish {xs : List Val} {ne : Nat} {pend : List (Nat × Val)} {em : List Val}
    (hc : Core k bad e xs ne pend [] em) :
    OkPrefix k bad e xs xs.length (em ++ (flushOrd pend.length ne pend).2.2) := by
  obtain ⟨hc', hpost⟩ := flushOrd_spec k bad e xs [] pend.length ne pend em hc (Nat.le_refl _)
  exact Core.all_emitted k bad e hc' hpost ▸ hc'.ok

/-- the ordered mode: the seqNos are counted, and partitioned into emitted / heap / outstanding -/
def ordMode : ParMode k bad e true where
  emit ne p r := flushOrd (r :: p).length ne (r :: p)
  last ne p := (flushOrd p.length ne p).2.2
  emit_eq _ _ := rfl
  last_eq _ := rfl
  C q ne p os xs em := q = xs.length ∧ Core k bad e xs ne p os em
  Done xs em := OkPrefix k bad e xs xs.length em
  Part xs em := ∃ m, OkPrefix k bad e xs m em
  part t hc := ⟨_, okPrefix_mono k bad e hc.2.ok t⟩
  mem hc ht := Core.mem_of_outst k bad e hc.2 ht
  push v hc := ⟨by rw [List.length_append, ← hc.1]; rfl, by rw [hc.1]; exact Core.push k bad e hc.2 v⟩
  reply hc ht hf := ⟨hc.1, (flushOrd_spec k bad e _ _ _ _ _ _ (Core.reply k bad e hc.2 ht hf) (Nat.le_refl _)).1⟩
  finish hc := Core.finish k bad e hc.2

theorem PInv_iff {s : PMapSt} {ins outs : List Down} : PInv k bad e s ins outs ↔ PG (ordMode k bad e) s ins outs :=
  ⟨fun h => ⟨h.wfOut, fun ha => have ⟨a, b, c, d, f⟩ := h.live ha; ⟨a, b, d, c, f⟩, h.dead⟩,
    fun h => ⟨h.wfOut, fun ha => have ⟨a, b, d, c, f⟩ := h.live ha; ⟨a, b, c, d, f⟩, h.dead⟩⟩

theorem PInv.step_wire {s : PMapSt} {ins outs : List Down} (w : Nat) (h : PInv k bad e s ins outs) :
    PInv k bad e (pmapStep true w s .wire).1 ins (outs ++ (pmapStep true w s .wire).2.down) := by
  simpa [pmapStep] using h

/-- the actor completes: everything outstanding has been answered and flushed -/
theorem PInv.finish {s : PMapSt} {ins outs : List Down} (pre : List Down) (zs1 : List Val)
    (hwf : wf outs = true) (hto : termOf outs = none) (hti : termOf ins = some none)
    (hpre : pre = zs1.map Down.elem)
    (hc : Core k bad e (elemsOf ins) s.nextEmit s.pending s.outst (elemsOf outs ++ zs1))
    (hout : s.outst = []) :
    PInv k bad e { (s.flushOrdered).1 with alive := false } ins
      (outs ++ (pre ++ (s.flushOrdered).2 ++ [Down.complete])) := by
  rw [hpre]
  exact (PInv_iff k bad e).mpr (PG.finish_of zs1 _ hto hti rfl (Core.finish k bad e (hout ▸ hc)))

theorem PInv.step_down {s : PMapSt} {ins outs : List Down} (w : Nat) (d : Down)
    (h : PInv k bad e s ins outs) (ha : s.alive = true) (hw : wf (ins ++ [d]) = true) :
    PInv k bad e (pmapStep true w s (.down d)).1 (ins ++ [d]) (outs ++ (pmapStep true w s (.down d)).2.down) :=
  (PInv_iff k bad e).mpr (((PInv_iff k bad e).mp h).step_down w d ha hw)

theorem PInv.step_result {s : PMapSt} {ins outs : List Down} (w : Nat) (t : Nat × Val)
    (h : PInv k bad e s ins outs) (ha : s.alive = true) (ht : t ∈ s.outst) :
    PInv k bad e (pmapStep true w s (.result t.1 (parFn k bad e t.2))).1 ins
      (outs ++ (pmapStep true w s (.result t.1 (parFn k bad e t.2))).2.down) :=
  (PInv_iff k bad e).mpr (((PInv_iff k bad e).mp h).step_result w t ha ht)

theorem PInv.specM {s : PMapSt} {ins outs : List Down} (h : PInv k bad e s ins outs) :
    SpecM Homog (parRun k bad e) ins outs := by
  have hpre : ∀ {m}, OkPrefix k bad e (elemsOf ins) m (elemsOf outs) →
      ∀ rest, elemsOf outs <+: (parRun k bad e (elemsOf ins ++ rest)).1 :=
    fun hm rest => okPrefix_prefix k bad e (okPrefix_mono k bad e hm rest)
  cases ha : s.alive with
  | true => exact .of_open h.wfOut (h.live ha).1 (hpre (h.live ha).2.2.2.2.ok)
  | false =>
    rcases h.dead ha with ⟨h1, h2, h3⟩ | ⟨er, h1, ⟨m, hm⟩, h3⟩
    · exact .of_done h.wfOut h1 h2 (okPrefix_all k bad e h3)
    · refine .of_ext h.wfOut (hpre hm) (by rw [h1]; exact nofun) fun e' ho => ?_
      cases h1.symm.trans ho
      exact h3.imp id fun ⟨v, hv, hfv⟩ X ⟨rest, hX⟩ hH => hX ▸ parRun_err k bad e (hX ▸ hH) (List.mem_append_left _ hv) hfv

end

end GoaktVerif.C45
