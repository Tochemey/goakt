/-
C45 lemmas: every link of a pipeline carries elements of one type (all ints or all lists)
when the input does — the list semantics of every stage preserves homogeneity.
-/
import GoaktVerif.Lemmas.C45.FusedBridge

namespace GoaktVerif.C45
open GoaktVerif.Model.C45 GoaktVerif.Spec.C45

theorem stageSem_homog (st : Stage) (X : List Val) (hX : Homog X) : Homog (stageSem st X).1 := by
  cases st with
  | buffer n => exact hX
  | batch n =>
    refine Or.inr fun v hv => ?_
    simp only [stageSem, List.mem_map] at hv
    obtain ⟨l, _, rfl⟩ := hv; rfl
  | flatMap r =>
    refine Or.inl fun v hv => ?_
    simp only [stageSem, List.mem_flatMap, List.mem_replicate] at hv
    obtain ⟨x, _, _, rfl⟩ := hv; rfl
  | flatten =>
    refine Or.inl fun v hv => ?_
    simp only [stageSem, List.mem_flatMap, List.mem_map] at hv
    obtain ⟨l, _, x, _, rfl⟩ := hv; rfl
  | _ =>
    -- the outputs are `.int` of something, mapped over a list
    refine Or.inl fun v hv => ?_
    simp only [stageSem, List.mem_map] at hv
    obtain ⟨x, _, rfl⟩ := hv; rfl

theorem sem_homog (stages : List Stage) (X : List Val) (hX : Homog X) : Homog (sem stages X).1 := by
  induction stages generalizing X with
  | nil => exact hX
  | cons st rest ih => simp only [sem]; exact ih _ (stageSem_homog st X hX)

/-- the function of a node built for a good group preserves homogeneity -/
theorem group_homog (g : List Stage) (hg : GoodGroup g) (X : List Val) (hX : Homog X) :
    Homog (midF (nodeOfGroup g) X).1 := by
  rw [(midF_nodeOfGroup g hg X).1]; exact sem_homog g X hX

theorem idealAt_homog (Fs : List SemFn) (input : List Val)
    (hF : ∀ F ∈ Fs, ∀ X, Homog X → Homog (F X).1) (hin : Homog input) :
    ∀ j, Homog (idealAt Fs input j).1 := by
  intro j
  induction j with
  | zero => exact hin
  | succ j ih =>
    simp only [idealAt]
    cases hget : Fs[j + 1]? with
    | none => exact ih
    | some F => exact hF F (List.mem_of_getElem? hget) _ ih

end GoaktVerif.C45
