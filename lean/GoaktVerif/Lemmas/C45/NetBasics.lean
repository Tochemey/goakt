/-
C45 lemmas: what `Net.deliver` (one node handling one message) does to the components of the network.
-/
import GoaktVerif.Model.C45.Net

namespace GoaktVerif.C45
open GoaktVerif.Model.C45

def hist (net : Net) (i : Nat) : List Down := (net.links[i]?.map (·.hist)).getD []
def pos (net : Net) (i : Nat) : Nat := (net.links[i]?.map (·.pos)).getD 0
def upq (net : Net) (i : Nat) : List Up := (net.links[i]?.map (·.upq)).getD []

/-- the history node `i ≥ 1` has handled: the consumed prefix of the link above it -/
def insOf (net : Net) (i : Nat) : List Down := (hist net (i - 1)).take (pos net (i - 1))

theorem updLink_length (links : List Link) (i : Nat) (f : Link → Link) :
    (updLink links i f).length = links.length := by simp [updLink]

theorem updLink_get (links : List Link) (i j : Nat) (f : Link → Link) :
    (updLink links i f)[j]? = if i = j then links[j]?.map f else links[j]? := by
  simp only [updLink, List.getElem?_modify]
  split <;> simp

theorem field_updLink {α : Type} (g : Link → α) (d : α) (links : List Link) (i j : Nat) (f : Link → Link) :
    ((updLink links i f)[j]?.map g).getD d =
      if i = j then (links[j]?.map fun l => g (f l)).getD d else (links[j]?.map g).getD d := by
  rw [updLink_get]; split <;> simp [Option.map_map, Function.comp_def]

theorem field_updLink_same {α : Type} (g : Link → α) (d : α) (links : List Link) (i j : Nat) {f : Link → Link}
    (hf : ∀ l, g (f l) = g l) : ((updLink links i f)[j]?.map g).getD d = (links[j]?.map g).getD d := by
  rw [field_updLink]; simp only [hf, ite_self]

theorem field_updLink_append {α : Type} (g : Link → List α) (links : List Link) (i j : Nat) {f : Link → Link}
    (x : List α) (hf : ∀ l, g (f l) = g l ++ x) :
    ((updLink links i f)[j]?.map g).getD [] =
      if j = i ∧ i < links.length then (links[j]?.map g).getD [] ++ x else (links[j]?.map g).getD [] := by
  rw [field_updLink]
  by_cases hij : i = j
  · subst hij
    by_cases hi : i < links.length
    · simp [hf, hi]
    · simp [hi]
  · have : ¬ j = i := fun h => hij h.symm
    simp [hij, this]

structure DeliverEffect (net : Net) (i : Nat) (nd : Node) (ev : Ev) (net' : Net) : Prop where
  nodes : net'.nodes = net.nodes.set i (nd.step ev).1
  len : net'.links.length = net.links.length
  hist : ∀ j, hist net' j =
    if j = i ∧ net.aliveAt (i + 1) = true ∧ i < net.links.length then hist net j ++ (nd.step ev).2.down
    else hist net j
  pos : ∀ j, pos net' j = pos net j
  upq : ∀ j, upq net' j =
    if j + 1 = i ∧ net.aliveAt (i - 1) = true ∧ j < net.links.length then upq net j ++ (nd.step ev).2.up else upq net j
  tasks : net'.tasks = net.tasks

/-- `deliver` appends what the node sends to the link below it (if that neighbour runs) and to the request
    queue of the link above it (if there is one and that neighbour runs); nothing else changes -/
theorem deliver_effect (net : Net) (i : Nat) (nd : Node) (ev : Ev) (hn : net.nodes[i]? = some nd) :
    DeliverEffect net i nd ev (net.deliver i ev) := by
  have hlinks : (net.deliver i ev).links =
      updLink (updLink net.links i fun l =>
          { l with hist := l.hist ++ if net.aliveAt (i + 1) then (nd.step ev).2.down else [] })
        (i - 1) fun l => { l with upq := l.upq ++ if i = 0 || !net.aliveAt (i - 1) then [] else (nd.step ev).2.up } := by
    have hid : ∀ ls k, updLink ls k (fun l => l) = ls := fun ls k => List.modify_id k ls
    simp only [Net.deliver, hn]
    split <;> split <;> simp [hid]
  refine ⟨by simp [Net.deliver, hn], by rw [hlinks, updLink_length, updLink_length], fun j => ?_, fun j => ?_,
    fun j => ?_, by simp [Net.deliver, hn]⟩
  · simp only [hist, hlinks]
    rw [field_updLink_same _ _ _ _ _ ?_, field_updLink_append _ _ _ _ _ ?_]
    any_goals exact fun _ => rfl
    by_cases ha : net.aliveAt (i + 1) = true <;> simp [ha]
  · simp only [pos, hlinks]
    rw [field_updLink_same _ _ _ _ _ ?_, field_updLink_same _ _ _ _ _ ?_]
    all_goals exact fun _ => rfl
  · simp only [upq, hlinks]
    rw [field_updLink_append _ _ _ _ _ ?_, updLink_length, field_updLink_same _ _ _ _ _ ?_]
    any_goals exact fun _ => rfl
    by_cases hj : j + 1 = i
    · subst hj
      by_cases ha : net.aliveAt j = true <;> simp [ha]
    · have h1 : ¬ j = i - 1 ∨ i = 0 := by
        cases i with
        | zero => exact Or.inr rfl
        | succ i => exact Or.inl fun h => hj (h ▸ rfl)
      rcases h1 with h1 | h1 <;> simp [h1, hj]

end GoaktVerif.C45
