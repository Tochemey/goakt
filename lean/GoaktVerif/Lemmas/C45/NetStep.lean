/-
C45 lemmas: `GInv` is preserved whenever a node handles a message of its mailbox, hence by every enabled
scheduler pick and along every run.
-/
import GoaktVerif.Lemmas.C45.NetInv

namespace GoaktVerif.C45
open GoaktVerif.Model.C45

/-- node `k` handles `ev`, which the scheduler took from its mailbox (`hup`: an upstream message was queued).
    While the neighbour below runs, no cancel is pending, the node's own invariant steps and what it sends is
    appended to its link; once that neighbour has stopped the link is frozen and only the content specification,
    closed under further input, is kept. -/
theorem GInv.deliver {P : List Val → Prop} {input : List Val} {net net1 : Net} {k : Nat} {nd : Node} {ev : Ev}
    (h : GInv P input net) (hd : Dequeued net net1 k ev) (hn : net.nodes[k]? = some nd) (ha : nd.alive = true)
    (hev : Handles nd ev) (hup : ∀ u, ev = .up u → u ∈ upq net k) : GInv P input (net1.deliver k ev) := by
  have hf := frame_of_deliver hd hn h.len h.posle
  have hak : net.aliveAt k = true := by simp [Net.aliveAt, hn, ha]
  have hc : net.aliveAt (k + 1) = true → ev ≠ .up .cancel := fun hal he => by
    have := h.cancel k (hup _ he); rw [hal] at this; cases this
  have hh : hist (net1.deliver k ev) k =
      if net.aliveAt (k + 1) = true then hist net k ++ (nd.step ev).2.down else hist net k := by
    rw [hf.hist]; simp
  -- the consumed history with the new message is a prefix of the link above, hence well-formed
  have hwin : 1 ≤ k → wf (insOf net k ++ evDown ev) = true := fun hk1 => by
    have := hd.ins k hk1
    rw [if_pos rfl] at this
    rw [← this, insOf, hd.hist_eq]
    exact wf_take (h.wfh _) _
  rcases h.role hn with ⟨rfl, s, rfl⟩ | ⟨hk0, hk1, hok⟩ | ⟨hk1, c, s, rfl⟩
  · obtain ⟨s0, hs0, hap, hsi⟩ := h.src
    cases Option.some.inj (hn.symm.trans hs0)
    have hstep : (Node.src s).step ev = (.src (srcStep s ev).1, (srcStep s ev).2) := Node.step_alive ha ev
    refine h.of_frame hf hn hak (fun _ _ => ⟨_, congrArg Prod.fst hstep, ?_⟩) (fun hok => by cases hok)
      (fun _ _ hs => by cases hs)
    rw [hh]
    by_cases hal : net.aliveAt 1 = true
    · have hst := (hsi hal).step ev ha (hc hal)
      rw [if_pos hal, hstep]
      exact ⟨hst.wfOut, hst.approx, fun _ => hst⟩
    · rw [if_neg hal]
      exact ⟨h.wfh 0, hap, fun hal' => absurd hal' hal⟩
  · obtain ⟨_, hsp, hmi⟩ := h.mid k nd hk0 hk1 hn
    refine h.of_frame hf hn hak (fun s hs => by subst hs; cases hok) (fun _ => ?_)
      (fun c s hs => by subst hs; cases hok)
    rw [hh]
    by_cases hal : net.aliveAt (k + 1) = true
    · have hst := (hmi hal).step ev ha (hwin hk0) hev (hc hal)
      have hpar : (∀ X, P X → Homog X) ∨ isPar (nd.step ev).1 = false :=
        h.par.imp id fun hp => by rw [(Node.step_static nd ev).par]; exact hp k nd hn
      rw [if_pos hal]
      exact ⟨(Node.step_static nd ev).spec P _ _ ▸ hst.specM hpar, fun _ => hst⟩
    · rw [if_neg hal]
      exact ⟨hsp.extend _, fun hal' => absurd hal' hal⟩
  · obtain ⟨c0, s0, hs0, hsi⟩ := h.sink
    rw [show net.nodes.length - 1 = k from hk1 ▸ rfl] at hs0 hsi
    cases Option.some.inj (hn.symm.trans hs0)
    have hstep : (Node.sink c s).step ev = (.sink c (sinkStep c s ev).1, (sinkStep c s ev).2) :=
      Node.step_alive ha ev
    exact h.of_frame hf hn hak (fun _ hs => by cases hs) (fun hok => by cases hok)
      (fun _ _ hs => by cases hs; exact ⟨_, congrArg Prod.fst hstep, hsi.step c ev ha⟩)

/-- an enabled pick: the scheduler takes a message `ev` out of the mailbox of a running node `k`, which handles it -/
theorem Net.step_cases {net net' : Net} {p : Pick} (h : net.step p = some net') :
    ∃ net1 k nd ev, Dequeued net net1 k ev ∧ net.nodes[k]? = some nd ∧ nd.alive = true ∧ Handles nd ev ∧
      (∀ u, ev = .up u → u ∈ upq net k) ∧ net' = net1.deliver k ev := by
  -- `fun_cases Net.step net p`: one goal per leaf of `Net.step` (numbered as the leaves stand in Model/C45/Net.lean), with the
  -- matches and guards on the way as hypotheses
  revert h
  fun_cases Net.step net p
  -- the pick is not enabled (no such link / nothing to read / receiver stopped / no pmap or no such task): `none`
  case case1 | case2 | case3 | case5 | case6 | case7 | case9 | case11 | case12 => exact nofun
  case case4 i l hl d hd ha _ =>   -- down i: link `i` holds `d` at its read position, node `i + 1` runs
    intro h
    obtain ⟨nd, hn, hnda⟩ := aliveAt_some (by simpa using ha)
    refine ⟨{ net with links := updLink net.links i fun l => { l with pos := l.pos + 1 } }, i + 1, nd, .down d,
      ⟨rfl, rfl, updLink_length _ _ _, ?_, ?_, ?_, ?_⟩, hn, hnda, .of_mailbox nd _ trivial,
      (fun u hu => by cases hu), (Option.some.inj h).symm⟩
    · intro d' hd'
      cases hd'
      exact ⟨Nat.succ_pos i, by simp only [hist, pos, Nat.add_sub_cancel, hl]; exact hd⟩
    · exact fun j => field_updLink_same _ _ _ _ _ fun _ => rfl
    · intro j
      simp only [pos]
      rw [field_updLink]
      by_cases hij : i = j
      · subst hij; simp [hl, evDown]
      · simp [hij, Ne.symm hij]
    · intro j x hx
      simp only [upq] at hx ⊢
      rw [field_updLink_same _ _ _ _ _ ?_] at hx
      · exact hx
      · exact fun _ => rfl
  case case8 i l hl u rest hq ha _ =>   -- up i: `u` heads the upward queue of link `i`, node `i` runs
    intro h
    obtain ⟨nd, hn, hnda⟩ := aliveAt_some (by simpa using ha)
    have hupq : upq net i = u :: rest := by simp [upq, hl, hq]
    refine ⟨{ net with links := updLink net.links i fun l => { l with upq := rest } }, i, nd, .up u,
      ⟨rfl, rfl, updLink_length _ _ _, (fun d hd' => by cases hd'), ?_, ?_, ?_⟩, hn, hnda,
      .of_mailbox nd _ trivial, (fun u' hu => by cases hu; simp [hupq]), (Option.some.inj h).symm⟩
    · exact fun j => field_updLink_same _ _ _ _ _ fun _ => rfl
    · intro j
      simp only [pos, evDown, List.length_nil, ite_self, Nat.add_zero]
      exact field_updLink_same _ _ _ _ _ fun _ => rfl
    · intro j x hx
      simp only [upq] at hx ⊢
      rw [field_updLink] at hx
      split at hx
      · rename_i hij
        subst hij
        rw [hl] at hx ⊢
        simp only [Option.map_some, Option.getD_some, hq] at hx ⊢
        exact List.mem_cons_of_mem _ hx
      · exact hx
  case case10 i q o w k bad e st hn hsa t hfind =>   -- result i q: node `i` is a running pmap with task `q` outstanding
    intro h
    have ht := List.find?_some hfind
    exact ⟨net, i, _, .result q (parFn k bad e t.2), Dequeued.refl net i rfl, hn, (by simpa [Node.alive] using hsa),
      ⟨t, List.mem_of_find?_eq_some hfind, Eq.symm (by simpa using ht), rfl⟩, (fun u hu => by cases hu),
      (Option.some.inj h).symm⟩

theorem GInv.step {P : List Val → Prop} {input : List Val} {net net' : Net} (h : GInv P input net) (p : Pick)
    (hstep : net.step p = some net') : GInv P input net' := by
  obtain ⟨net1, k, nd, ev, hd, hn, ha, hev, hup, rfl⟩ := Net.step_cases hstep
  exact h.deliver hd hn ha hev hup

theorem GInv.step_up {P : List Val → Prop} {input : List Val} {net net' : Net} (h : GInv P input net) (i : Nat)
    (hstep : net.step (.up i) = some net') : GInv P input net' :=
  h.step _ hstep

theorem GInv.step_down {P : List Val → Prop} {input : List Val} {net net' : Net} (h : GInv P input net) (i : Nat)
    (hstep : net.step (.down i) = some net') : GInv P input net' :=
  h.step _ hstep

theorem GInv.step_result {P : List Val → Prop} {input : List Val} {net net' : Net} (h : GInv P input net) (i q : Nat)
    (hstep : net.step (.result i q) = some net') : GInv P input net' :=
  h.step _ hstep

theorem Net.run_ind {Q : Net → Prop} (hstep : ∀ n p n', Q n → n.step p = some n' → Q n') {net : Net} (h : Q net)
    (picks : List Pick) : Q (net.run picks) := by
  induction picks generalizing net with
  | nil => exact h
  | cons p ps ih =>
    rw [Net.run]
    cases hs : net.step p with
    | some n => exact ih (hstep _ _ _ h hs)
    | none => exact ih h

theorem GInv.run {P : List Val → Prop} {input : List Val} {net : Net} (h : GInv P input net) (picks : List Pick) :
    GInv P input (net.run picks) :=
  Net.run_ind (fun _ p _ hn hs => hn.step p hs) h picks

-- what is read off the kinds and parameters of the nodes (`hf`) is the same in every state of every run
section
variable {α : Type} (f : Node → α) (hf : ∀ nd ev, f (nd.step ev).1 = f nd)
include hf

theorem map_nodes_deliver (net : Net) (k : Nat) (ev : Ev) : (net.deliver k ev).nodes.map f = net.nodes.map f := by
  fun_cases Net.deliver net k ev
  case case1 => rfl   -- no node `k`
  case case2 nd hn _ _ _ =>   -- node `k` is `nd`: it alone is replaced, by `(nd.step ev).1`
    obtain ⟨hk, rfl⟩ := List.getElem?_eq_some_iff.mp hn
    rw [List.map_set, hf, ← List.getElem_map f (h := by simpa using hk), List.set_getElem_self]

theorem map_nodes_step {net net' : Net} {p : Pick} (h : net.step p = some net') :
    net'.nodes.map f = net.nodes.map f := by
  obtain ⟨net1, k, nd, ev, hd, _, _, _, _, rfl⟩ := Net.step_cases h
  rw [map_nodes_deliver f hf, hd.nodes]

theorem map_nodes_run (net : Net) (picks : List Pick) : (net.run picks).nodes.map f = net.nodes.map f :=
  Net.run_ind (Q := fun n => n.nodes.map f = net.nodes.map f)
    (fun _ _ _ hn hs => (map_nodes_step f hf hs).trans hn) rfl picks

theorem map_nodes_wireAll (k : Nat) (net : Net) : (wireAll k net).nodes.map f = net.nodes.map f := by
  induction k with
  | zero => rfl
  | succ k ih => rw [wireAll, map_nodes_deliver f hf, ih]

end

end GoaktVerif.C45
