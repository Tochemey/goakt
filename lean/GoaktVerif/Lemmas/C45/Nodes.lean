/-
C45 lemmas: the flowActor and fusedFlowActor stages satisfy `SpecM` for their semantic functions; the source
`Of(input)` against its input list.
-/
import GoaktVerif.Lemmas.C45.Flow
import GoaktVerif.Lemmas.C45.Chain

namespace GoaktVerif.C45
open GoaktVerif.Model.C45

theorem FlowInv.specM {P : List Val → Prop} {st : Stage} {s : FlowSt} {ins outs : List Down} (h : FlowInv st s ins outs) :
    SpecM P (xfRun st {}) ins outs := by
  have hp := fun rest => h.prefix.trans (xfRun_prefix st {} (elemsOf ins) rest)
  cases ha : s.alive with
  | true => exact .of_open h.wfOut (h.out_open ha) hp
  | false =>
    rcases h.dead ha with ⟨h1, h2, h3⟩ | ⟨e, h1, _, h3⟩ | ⟨h1, _⟩
    · exact .of_done h.wfOut h1 h2 h3
    · exact .of_ext h.wfOut hp (by rw [h1]; exact nofun) fun e' ho => by
        cases h1.symm.trans ho; exact h3.imp id (err_of_stable fun rest => xfRun_err_stable st {} _ rest e)
    · exact .of_open h.wfOut h1 hp

def fusedRun (fs : List Stage) : SemFn
  | [] => ([], none)
  | x :: xs =>
    match fusedFn fs x with
    | .error e => ([], some e)
    | .ok r => (r.toList ++ (fusedRun fs xs).1, (fusedRun fs xs).2)

theorem fusedRun_append (fs : List Stage) (xs ys : List Val) :
    fusedRun fs (xs ++ ys) = match (fusedRun fs xs).2 with
      | none => ((fusedRun fs xs).1 ++ (fusedRun fs ys).1, (fusedRun fs ys).2)
      | some _ => fusedRun fs xs := by
  induction xs with
  | nil => simp [fusedRun]
  | cons x xs ih =>
    cases hx : fusedFn fs x with
    | error e => simp [fusedRun, hx]
    | ok r =>
      simp only [List.cons_append, fusedRun, hx, ih]
      cases h2 : (fusedRun fs xs).2 with
      | none => simp only [List.append_assoc]
      | some e => simp only [h2]

theorem fusedRun_prefix (fs : List Stage) (xs rest : List Val) :
    (fusedRun fs xs).1 <+: (fusedRun fs (xs ++ rest)).1 := by
  rw [fusedRun_append]
  cases (fusedRun fs xs).2 with
  | none => exact List.prefix_append _ _
  | some e => exact List.prefix_refl _

/-- fused stage: no buffer, so what was sent IS the semantics of what was handled -/
structure FusedInv (fs : List Stage) (s : FusedSt) (ins outs : List Down) : Prop where
  wfOut : wf outs = true
  live : s.alive = true → termOf ins = none ∧ termOf outs = none ∧
    fusedRun fs (elemsOf ins) = (elemsOf outs, none)
  dead : s.alive = false →
    (termOf outs = some none ∧ termOf ins = some none ∧ fusedRun fs (elemsOf ins) = (elemsOf outs, none))
    ∨ (∃ e, termOf outs = some (some e) ∧ elemsOf outs <+: (fusedRun fs (elemsOf ins)).1 ∧
        (termOf ins = some (some e) ∨ (fusedRun fs (elemsOf ins)).2 = some e))

theorem FusedInv.init (fs : List Stage) : FusedInv fs {} [] [] :=
  ⟨rfl, fun _ => ⟨rfl, rfl, rfl⟩, fun h => by simp at h⟩

theorem FusedInv.down {fs : List Stage} {s : FusedSt} {ins outs : List Down} (cfg : Cfg) (d : Down)
    (h : FusedInv fs s ins outs) (ha : s.alive = true) :
    FusedInv fs (fusedStep cfg fs s (.down d)).1 (ins ++ [d]) (outs ++ (fusedStep cfg fs s (.down d)).2.down) := by
  obtain ⟨hio, ho, hr⟩ := h.live ha
  cases d with
  | elem v =>
    have hrun := fusedRun_append fs (elemsOf ins) [v]
    simp only [hr] at hrun
    simp only [fusedStep]
    cases hx : fusedFn fs v with
    | error e =>
      have h1 : fusedRun fs [v] = ([], some e) := by simp [fusedRun, hx]
      rw [h1, List.append_nil] at hrun
      refine ⟨wf_snoc_open ho _, nofun, fun _ => Or.inr ⟨e, termOf_snoc ho _, ?_, Or.inr ?_⟩⟩
      · rw [elemsOf_snoc_error _ e, elemsOf_snoc_elem hio, hrun]; exact List.prefix_refl _
      · rw [elemsOf_snoc_elem hio, hrun]
    | ok r =>
      have h1 : fusedRun fs [v] = (r.toList, none) := by simp [fusedRun, hx]
      rw [h1] at hrun
      -- the same elements go out whether or not a refill request accompanies them
      have key : ∀ s' : FusedSt, s'.alive = true →
          FusedInv fs s' (ins ++ [.elem v]) (outs ++ r.toList.map Down.elem) := fun s' hs' => by
        have t1 : termOf (outs ++ r.toList.map Down.elem) = none := by
          rw [termOf_append_open ho, termOf_map_elem]
        refine ⟨wf_of_open t1, fun _ => ⟨termOf_snoc hio _, t1, ?_⟩, fun hh => by rw [hs'] at hh; cases hh⟩
        rw [elemsOf_snoc_elem hio, hrun, elemsOf_append_open ho, elemsOf_map_elem]
      dsimp only
      by_cases hc : s.credit - 1 ≤ cfg.refill
      · rw [if_pos hc]; exact key _ ha
      · rw [if_neg hc]; exact key _ ha
  | complete =>
    refine ⟨wf_snoc_open ho _, nofun, fun _ => Or.inl ⟨termOf_snoc ho _, termOf_snoc hio _, ?_⟩⟩
    rw [fusedStep, elemsOf_snoc_complete _, elemsOf_snoc_complete _, hr]
  | error e =>
    refine ⟨wf_snoc_open ho _, nofun, fun _ => Or.inr ⟨e, termOf_snoc ho _, ?_, Or.inl (termOf_snoc hio _)⟩⟩
    rw [fusedStep, elemsOf_snoc_error _ e, elemsOf_snoc_error _ e, hr]
    exact List.prefix_refl _

theorem FusedInv.step_down {fs : List Stage} {s : FusedSt} {ins outs : List Down} (cfg : Cfg) (d : Down)
    (h : FusedInv fs s ins outs) (ha : s.alive = true) (hw : wf (ins ++ [d]) = true) :
    FusedInv fs (fusedStep cfg fs s (.down d)).1 (ins ++ [d]) (outs ++ (fusedStep cfg fs s (.down d)).2.down) :=
  h.down cfg d ha

theorem FusedInv.step {fs : List Stage} {s : FusedSt} {ins outs : List Down} (cfg : Cfg) (ev : Ev)
    (h : FusedInv fs s ins outs) (ha : s.alive = true) (hc : ev ≠ .up .cancel) :
    FusedInv fs (fusedStep cfg fs s ev).1 (ins ++ evDown ev) (outs ++ (fusedStep cfg fs s ev).2.down) := by
  cases ev with
  | down d => exact h.down cfg d ha
  | up u =>
    cases u with
    | req n =>
      -- only the first request is acted upon, by pulling upstream
      simp only [fusedStep, evDown, List.append_nil]
      by_cases hs : s.started = true
      · rw [if_pos hs, List.append_nil]; exact h
      · rw [if_neg hs, List.append_nil]; exact ⟨h.wfOut, h.live, h.dead⟩
    | cancel => exact absurd rfl hc
  | wire => simpa [fusedStep, evDown] using h
  | result q r => simpa [fusedStep, evDown] using h
  | flush => simpa [fusedStep, evDown] using h

theorem FusedInv.specM {P : List Val → Prop} {fs : List Stage} {s : FusedSt} {ins outs : List Down} (h : FusedInv fs s ins outs) :
    SpecM P (fusedRun fs) ins outs := by
  cases ha : s.alive with
  | true =>
    obtain ⟨_, ho, hr⟩ := h.live ha
    exact .of_open h.wfOut ho fun rest => by have := fusedRun_prefix fs (elemsOf ins) rest; rwa [hr] at this
  | false =>
    rcases h.dead ha with ⟨h1, h2, h3⟩ | ⟨e, h1, h2, h3⟩
    · exact .of_done h.wfOut h1 h2 h3
    · exact .of_ext h.wfOut (fun rest => h2.trans (fusedRun_prefix fs _ rest)) (by rw [h1]; exact nofun) fun e' ho => by
        cases h1.symm.trans ho; exact h3.imp id (err_of_stable fun rest h => by rw [fusedRun_append, h])

structure SrcInv (input : List Val) (s : SrcSt) (outs : List Down) : Prop where
  wfOut : wf outs = true
  live : s.alive = true → termOf outs = none ∧ elemsOf outs ++ s.rest = input
  dead : s.alive = false → termOf outs = some none ∧ elemsOf outs = input

theorem SrcInv.init (input : List Val) : SrcInv input { rest := input } [] :=
  ⟨rfl, fun _ => ⟨rfl, rfl⟩, fun h => by simp at h⟩

theorem SrcInv.step_req {input : List Val} {s : SrcSt} {outs : List Down} (n : Int)
    (h : SrcInv input s outs) (ha : s.alive = true) :
    SrcInv input (srcStep s (.up (.req n))).1 (outs ++ (srcStep s (.up (.req n))).2.down) := by
  obtain ⟨ho, hr⟩ := h.live ha
  simp only [srcStep]
  cases hrest : s.rest with
  | nil =>
    refine ⟨wf_snoc_open ho _, nofun, fun _ => ⟨termOf_snoc ho _, ?_⟩⟩
    rw [elemsOf_snoc_complete _, ← hr, hrest, List.append_nil]
  | cons x xs =>
    have hsplit := List.take_append_drop (min n.toNat (x :: xs).length) (x :: xs)
    have t1 : termOf (outs ++ List.map Down.elem ((x :: xs).take (min n.toNat (x :: xs).length))) = none := by
      rw [termOf_append_open ho, termOf_map_elem]
    have e1 : elemsOf (outs ++ List.map Down.elem ((x :: xs).take (min n.toNat (x :: xs).length))) ++
        (x :: xs).drop (min n.toNat (x :: xs).length) = input := by
      rw [elemsOf_append_open ho, elemsOf_map_elem, List.append_assoc, hsplit, ← hrest]; exact hr
    simp only
    split
    · rename_i hemp
      rw [List.isEmpty_iff.mp hemp, List.append_nil] at e1
      rw [← List.append_assoc]
      exact ⟨wf_snoc_open t1 _, nofun, fun _ => ⟨termOf_snoc t1 _,
        by rw [elemsOf_snoc_complete _]; exact e1⟩⟩
    · exact ⟨wf_of_open t1, fun _ => ⟨t1, e1⟩, fun h1 => by rw [ha] at h1; cases h1⟩

theorem SrcInv.step {input : List Val} {s : SrcSt} {outs : List Down} (ev : Ev)
    (h : SrcInv input s outs) (ha : s.alive = true) (hc : ev ≠ .up .cancel) :
    SrcInv input (srcStep s ev).1 (outs ++ (srcStep s ev).2.down) := by
  cases ev with
  | up u =>
    cases u with
    | req n => exact h.step_req n ha
    | cancel => exact absurd rfl hc
  | wire => simpa [srcStep] using h
  | down d => simpa [srcStep] using h
  | result q r => simpa [srcStep] using h
  | flush => simpa [srcStep] using h

theorem SrcInv.approx {input : List Val} {s : SrcSt} {outs : List Down} (h : SrcInv input s outs) :
    Approx outs input [] := by
  by_cases ha : s.alive = true
  · obtain ⟨ho, hr⟩ := h.live ha
    refine ⟨by rw [← hr]; exact List.prefix_append _ _, fun hc => by rw [ho] at hc; simp at hc,
      fun e he => by rw [ho] at he; simp at he⟩
  · obtain ⟨ho, hr⟩ := h.dead (by simpa using ha)
    exact ⟨by rw [hr]; exact List.prefix_refl _, fun _ => ⟨hr, rfl⟩, fun e he => by rw [ho] at he; simp at he⟩

end GoaktVerif.C45
