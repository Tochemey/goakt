/-
C45 lemmas: batchFlowActor (after fix 688097a) is a FIFO transducer computing `chunks`,
whatever the demand pattern: nothing is dropped, batches have exactly `max n 1` elements except the last.
(The maxWait timer is outside this file: `Ev.flush` is never produced by the network scheduler.)
-/
import GoaktVerif.Lemmas.C45.Chunks
import GoaktVerif.Lemmas.C45.Chain
import GoaktVerif.Model.C45.Actors

namespace GoaktVerif.C45
open GoaktVerif.Model.C45 GoaktVerif.Spec.C45

def batchMsgs (cs : List (List Int)) : List Down := cs.map fun c => Down.elem (.list c)

structure FlushSpec (n : Nat) (part : Bool) (s s' : BatchSt) (out : List Down) : Prop where
  cs : ∃ cs : List (List Int), out = batchMsgs cs ∧ s.window = cs.flatten ++ s'.window ∧
    (part = false → ∀ rest, chunks n (s.window ++ rest) = cs ++ chunks n (s'.window ++ rest)) ∧
    (chunks n s.window = cs ++ chunks n s'.window)
  credit : s'.credit = s.credit
  completing : s'.completing = s.completing
  alive : s'.alive = s.alive
  due : part = false → s.flushDue = false → s'.flushDue = false

theorem FlushSpec.none {n : Nat} {part : Bool} {s s' : BatchSt} (hw : s'.window = s.window)
    (hc : s'.credit = s.credit) (hcp : s'.completing = s.completing) (hal : s'.alive = s.alive)
    (hdue : part = false → s.flushDue = false → s'.flushDue = false) : FlushSpec n part s s' [] :=
  ⟨⟨[], rfl, by rw [hw]; rfl, fun _ rest => by rw [hw]; rfl, by rw [hw]; rfl⟩, hc, hcp, hal, hdue⟩

theorem batchFlush_spec (n : Nat) (part : Bool) (f : Nat) (s : BatchSt) (hf : s.window.length ≤ f) :
    FlushSpec n part s (batchFlush (bsize n) part f s).1 (batchFlush (bsize n) part f s).2 := by
  have hidle : ∀ s : BatchSt, FlushSpec n part s (if s.window.isEmpty then { s with flushDue := false } else s) [] := by
    intro s
    by_cases he : s.window.isEmpty = true
    · rw [if_pos he]; exact FlushSpec.none rfl rfl rfl rfl fun _ _ => rfl
    · rw [if_neg he]; exact FlushSpec.none rfl rfl rfl rfl fun _ h => h
  induction f generalizing s with
  | zero => exact hidle s
  | succ f ih =>
    rw [batchFlush]
    by_cases hgo : (!s.window.isEmpty && (part || decide (s.window.length ≥ bsize n))) = true
    · rw [if_pos hgo]
      by_cases hd : s.demand ≤ 0
      · rw [if_pos hd]
        exact FlushSpec.none rfl rfl rfl rfl fun hp hfd => by rw [hp, hfd]; rfl
      · rw [if_neg hd]
        obtain ⟨hne, hsz⟩ := Bool.and_eq_true_iff.mp hgo
        have hne : s.window ≠ [] := fun h => by rw [h] at hne; cases hne
        have hlen : 0 < s.window.length := List.length_pos_iff.mpr hne
        have hrec := ih { s with window := s.window.drop (min s.window.length (bsize n)), demand := s.demand - 1 }
          (by have := bsize_pos n; simp only [List.length_drop]; omega)
        obtain ⟨cs, hout, hwin, hext, hch⟩ := hrec.cs
        refine ⟨⟨s.window.take (min s.window.length (bsize n)) :: cs, congrArg (List.cons _) hout, ?_, fun hp rest => ?_, ?_⟩,
          hrec.credit, hrec.completing, hrec.alive, hrec.due⟩
        · rw [List.flatten_cons, List.append_assoc, ← hwin, List.take_append_drop]
        · have hfull : bsize n ≤ s.window.length := by
            rw [hp, Bool.false_or, decide_eq_true_eq] at hsz; exact hsz
          have h1 := hext hp rest
          rw [Nat.min_eq_right hfull] at h1 ⊢
          rw [chunks_cut_full n _ rest hfull]
          exact congrArg _ h1
        · rw [chunks_cut n _ hne]
          exact congrArg _ hch
    · rw [if_neg hgo]; exact hidle s

theorem flush_spec (n : Nat) (part : Bool) (s : BatchSt) :
    FlushSpec n part s (s.flush n part).1 (s.flush n part).2 := by
  unfold BatchSt.flush
  have : max n 1 = bsize n := rfl
  rw [this]
  exact batchFlush_spec n part _ s (Nat.le_refl _)

theorem batch_maybeReq_shape (cfg : Cfg) (s : BatchSt) :
    ∃ c u, s.maybeReq cfg = ({ s with credit := c }, u) ∧ Up.cancel ∉ u := by
  unfold BatchSt.maybeReq
  by_cases h1 : s.completing = true
  · exact ⟨s.credit, [], by rw [if_pos h1], List.not_mem_nil⟩
  · rw [if_neg h1]
    dsimp only
    by_cases h2 : cfg.init - s.credit - s.window.length ≤ 0
    · exact ⟨s.credit, [], by rw [if_pos h2], List.not_mem_nil⟩
    · rw [if_neg h2]
      by_cases h3 : s.credit > cfg.refill
      · exact ⟨s.credit, [], by rw [if_pos h3], List.not_mem_nil⟩
      · exact ⟨_, _, by rw [if_neg h3], by simp⟩

def intVals (xs : List Int) : List Val := xs.map Val.int
def listVals (ys : List (List Int)) : List Val := ys.map Val.list

theorem elemsOf_batchMsgs (cs : List (List Int)) : elemsOf (batchMsgs cs) = listVals cs := by
  induction cs with
  | nil => rfl
  | cons c cs ih => simp [batchMsgs, elemsOf, listVals] at ih ⊢; exact ih

theorem termOf_batchMsgs (cs : List (List Int)) : termOf (batchMsgs cs) = none := by
  induction cs with
  | nil => rfl
  | cons c cs ih => simp [batchMsgs, termOf] at ih ⊢; exact ih

theorem ints_intVals_append (xs : List Int) (rest : List Val) :
    ints (intVals xs ++ rest) = (xs ++ (ints rest).1, (ints rest).2) := by
  induction xs with
  | nil => simp [intVals]
  | cons x xs ih => simp [intVals, ints] at ih ⊢; rw [ih]; exact ⟨rfl, rfl⟩

theorem ints_intVals (xs : List Int) : ints (intVals xs) = (xs, false) := by
  have := ints_intVals_append xs []; simpa [ints] using this

theorem ints_blocked (xs : List Int) (l : List Int) (rest : List Val) :
    ints (intVals xs ++ Val.list l :: rest) = (xs, true) := by
  rw [ints_intVals_append]; simp [ints]

/-- "extendable": after consuming `xs` and emitting the batches `ys`, the window `w` holds exactly what is left -/
def Ext (n : Nat) (xs : List Int) (ys : List (List Int)) (w : List Int) : Prop :=
  ∀ rest, chunks n (xs ++ rest) = ys ++ chunks n (w ++ rest)

theorem Ext.now {n : Nat} {xs : List Int} {ys : List (List Int)} {w : List Int} (h : Ext n xs ys w) :
    chunks n xs = ys ++ chunks n w := by
  have := h []; simpa using this

structure BatchInv (n : Nat) (s : BatchSt) (ins outs : List Down) : Prop where
  wfOut : wf outs = true
  live : s.alive = true → s.completing = false →
    termOf ins = none ∧ termOf outs = none ∧ s.flushDue = false ∧
    ∃ xs ys, elemsOf ins = intVals xs ∧ elemsOf outs = listVals ys ∧ Ext n xs ys s.window
  compl : s.alive = true → s.completing = true →
    termOf ins = some none ∧ termOf outs = none ∧
    ∃ xs ys, elemsOf ins = intVals xs ∧ elemsOf outs = listVals ys ∧ chunks n xs = ys ++ chunks n s.window
  dead : s.alive = false →
    (termOf outs = some none ∧ termOf ins = some none ∧
      ∃ xs ys, elemsOf ins = intVals xs ∧ elemsOf outs = listVals ys ∧ chunks n xs = ys)
    ∨ (∃ e, termOf outs = some (some e) ∧ ∃ xs ys w, elemsOf outs = listVals ys ∧ Ext n xs ys w ∧
        ((termOf ins = some (some e) ∧ elemsOf ins = intVals xs) ∨
         (e = typeErr ∧ ∃ l, elemsOf ins = intVals xs ++ [Val.list l])))

theorem BatchInv.init (n : Nat) : BatchInv n {} [] [] :=
  ⟨rfl, fun _ _ => ⟨rfl, rfl, rfl, [], [], rfl, rfl, fun rest => by simp⟩, fun _ h => by simp at h,
    fun h => by simp at h⟩

theorem BatchInv.out_open {n : Nat} {s : BatchSt} {ins outs : List Down} (h : BatchInv n s ins outs)
    (ha : s.alive = true) : termOf outs = none := by
  cases hc : s.completing with
  | true => exact (h.compl ha hc).2.1
  | false => exact (h.live ha hc).2.1

theorem BatchInv.maybeReq {n : Nat} {s : BatchSt} {ins outs : List Down} (h : BatchInv n s ins outs) (cfg : Cfg) :
    BatchInv n (s.maybeReq cfg).1 ins outs := by
  obtain ⟨c, u, hs, _⟩ := batch_maybeReq_shape cfg s
  rw [hs]; exact ⟨h.wfOut, h.live, h.compl, h.dead⟩

/-- `flush(partial)` in a running actor whose window content is accounted for: whole batches leave the window
    while the input is open (`part = false`); once it has completed the remainder goes too -/
theorem BatchInv.flushed {n : Nat} {s : BatchSt} {ins outs : List Down} (part : Bool)
    (ho : termOf outs = none) (ha : s.alive = true)
    (hlive : s.completing = false → part = false ∧ termOf ins = none ∧ s.flushDue = false ∧
      ∃ xs ys, elemsOf ins = intVals xs ∧ elemsOf outs = listVals ys ∧ Ext n xs ys s.window)
    (hcompl : s.completing = true → termOf ins = some none ∧
      ∃ xs ys, elemsOf ins = intVals xs ∧ elemsOf outs = listVals ys ∧ chunks n xs = ys ++ chunks n s.window) :
    BatchInv n (s.flush n part).1 ins (outs ++ (s.flush n part).2) := by
  have hfs := flush_spec n part s
  obtain ⟨cs, hout, _, hextf, hchk⟩ := hfs.cs
  have e1 : ∀ ys, elemsOf outs = listVals ys → elemsOf (outs ++ batchMsgs cs) = listVals (ys ++ cs) := fun ys hys => by
    rw [elemsOf_append_open ho, hys, elemsOf_batchMsgs]; simp [listVals]
  have t1 : termOf (outs ++ batchMsgs cs) = none := by rw [termOf_append_open ho, termOf_batchMsgs]
  rw [hout]
  refine ⟨wf_of_open t1, fun _ h2 => ?_, fun _ h2 => ?_, fun h1 => by rw [hfs.alive, ha] at h1; cases h1⟩
  · obtain ⟨rfl, hti, hfd, xs, ys, hxs, hys, hext⟩ := hlive (hfs.completing ▸ h2)
    exact ⟨hti, t1, hfs.due rfl hfd, xs, ys ++ cs, hxs, e1 ys hys,
      fun rest => by rw [hext rest, hextf rfl rest, List.append_assoc]⟩
  · obtain ⟨hti, xs, ys, hxs, hys, hch⟩ := hcompl (hfs.completing ▸ h2)
    exact ⟨hti, t1, xs, ys ++ cs, hxs, e1 ys hys, by rw [hch, hchk, List.append_assoc]⟩

theorem BatchInv.finish {n : Nat} {s : BatchSt} {ins outs : List Down} (h : BatchInv n s ins outs)
    (ha : s.alive = true) (hc : s.completing = true) (hwe : s.window = []) :
    BatchInv n { s with alive := false } ins (outs ++ [.complete]) := by
  obtain ⟨hti, hto, xs, ys, hxs, hys, hch⟩ := h.compl ha hc
  refine ⟨(by rw [wf_append_open hto, h.wfOut]; rfl), nofun, nofun,
    fun _ => Or.inl ⟨termOf_snoc hto _, hti, xs, ys, hxs, ?_, ?_⟩⟩
  · rw [elemsOf_snoc_complete _]; exact hys
  · rw [hch, hwe, chunks_nil, List.append_nil]

theorem BatchInv.step_req {n : Nat} {s : BatchSt} {ins outs : List Down} (cfg : Cfg) (k : Int)
    (h : BatchInv n s ins outs) (ha : s.alive = true) :
    BatchInv n (batchStep cfg n s (.up (.req k))).1 ins (outs ++ (batchStep cfg n s (.up (.req k))).2.down) := by
  have hfl := BatchInv.flushed (s := { s with demand := s.demand + k }) (s.flushDue || s.completing)
    (h.out_open ha) ha
    (fun hc => have hl := h.live ha hc
      ⟨by rw [hl.2.2.1, hc]; rfl, hl.1, hl.2.2.1, hl.2.2.2⟩)
    (fun hc => ⟨(h.compl ha hc).1, (h.compl ha hc).2.2⟩)
  simp only [batchStep]
  by_cases hfin : (({ s with demand := s.demand + k } : BatchSt).flush n (s.flushDue || s.completing)).1.completing = true ∧
      (({ s with demand := s.demand + k } : BatchSt).flush n (s.flushDue || s.completing)).1.window.isEmpty = true
  · rw [if_pos (Bool.and_eq_true_iff.mpr hfin), ← List.append_assoc]
    exact hfl.finish ((flush_spec n _ _).alive.trans ha) hfin.1 (List.isEmpty_iff.mp hfin.2)
  · rw [if_neg (fun hh => hfin (Bool.and_eq_true_iff.mp hh))]
    exact hfl.maybeReq cfg

theorem intVals_snoc (xs : List Int) (x : Int) : intVals xs ++ [Val.int x] = intVals (xs ++ [x]) := by
  simp [intVals]

theorem BatchInv.step_down {n : Nat} {s : BatchSt} {ins outs : List Down} (cfg : Cfg) (d : Down)
    (h : BatchInv n s ins outs) (ha : s.alive = true) (hw : wf (ins ++ [d]) = true) :
    BatchInv n (batchStep cfg n s (.down d)).1 (ins ++ [d]) (outs ++ (batchStep cfg n s (.down d)).2.down) := by
  have hto := h.out_open ha
  cases d with
  | elem v =>
    have hio : termOf ins = none := open_of_wf_snoc_elem hw
    have hc' : s.completing = false :=
      Bool.eq_false_iff.mpr fun hc => nomatch hio.symm.trans (h.compl ha hc).1
    obtain ⟨_, _, hfd, xs, ys, hxs, hys, hext⟩ := h.live ha hc'
    cases v with
    | int x =>
      have hfl := BatchInv.flushed (s := { s with credit := s.credit - 1, window := s.window ++ [x] })
        (ins := ins ++ [.elem (.int x)]) s.flushDue hto ha
        (fun _ => ⟨hfd, termOf_snoc hio _, hfd, xs ++ [x], ys, by rw [elemsOf_snoc_elem hio, hxs, intVals_snoc], hys,
          fun rest => by rw [List.append_assoc, hext ([x] ++ rest), List.append_assoc]⟩)
        (fun hc => by rw [hc'] at hc; cases hc)
      exact hfl.maybeReq cfg
    | list l =>
      simp only [batchStep]
      refine ⟨(by rw [wf_append_open hto, h.wfOut]; rfl), nofun, nofun,
        fun _ => Or.inr ⟨typeErr, by rw [termOf_append_open hto]; rfl, xs, ys, s.window, ?_, hext, Or.inr ⟨rfl, l, ?_⟩⟩⟩
      · rw [elemsOf_append_open hto, hys]; simp [elemsOf]
      · rw [elemsOf_snoc_elem hio, hxs]
  | complete =>
    have hins : termOf (ins ++ [.complete]) = some none ∧
        ∃ xs ys, elemsOf (ins ++ [.complete]) = intVals xs ∧ elemsOf outs = listVals ys ∧
          chunks n xs = ys ++ chunks n s.window := by
      cases hc : s.completing with
      | true =>
        obtain ⟨h1, _, xs, ys, h3, h4, h5⟩ := h.compl ha hc
        exact ⟨(snoc_complete (Or.inr h1)).1, xs, ys, (snoc_complete (Or.inr h1)).2 ▸ h3, h4, h5⟩
      | false =>
        obtain ⟨h1, _, _, xs, ys, h3, h4, h5⟩ := h.live ha hc
        exact ⟨(snoc_complete (Or.inl h1)).1, xs, ys, (snoc_complete (Or.inl h1)).2 ▸ h3, h4, h5.now⟩
    have hfl := BatchInv.flushed (s := { s with completing := true }) true hto ha
      (fun hc => by cases hc) (fun _ => hins)
    simp only [batchStep]
    by_cases hwe : (({ s with completing := true } : BatchSt).flush n true).1.window.isEmpty = true
    · rw [if_pos hwe, ← List.append_assoc]
      exact hfl.finish ((flush_spec n _ _).alive.trans ha) (flush_spec n _ _).completing (List.isEmpty_iff.mp hwe)
    · rw [if_neg hwe]; exact hfl
  | error e =>
    simp only [batchStep]
    have hc' : s.completing = false :=
      Bool.eq_false_iff.mpr fun hc => nomatch eq_of_wf_snoc_closed (h.compl ha hc).1 hw
    obtain ⟨hio, _, _, xs, ys, hxs, hys, hext⟩ := h.live ha hc'
    refine ⟨(by rw [wf_append_open hto, h.wfOut]; rfl), nofun, nofun,
      fun _ => Or.inr ⟨e, by rw [termOf_append_open hto]; rfl, xs, ys, s.window, ?_, hext, Or.inl ⟨termOf_snoc hio _, ?_⟩⟩⟩
    · rw [elemsOf_append_open hto, hys]; simp [elemsOf]
    · rw [elemsOf_snoc_error _ e, hxs]

theorem BatchInv.step {n : Nat} {s : BatchSt} {ins outs : List Down} (cfg : Cfg) (ev : Ev)
    (h : BatchInv n s ins outs) (ha : s.alive = true) (hw : wf (ins ++ evDown ev) = true)
    (hf : ev ≠ .flush) (hc : ev ≠ .up .cancel) :
    BatchInv n (batchStep cfg n s ev).1 (ins ++ evDown ev) (outs ++ (batchStep cfg n s ev).2.down) := by
  cases ev with
  | down d => exact h.step_down cfg d ha hw
  | up u =>
    cases u with
    | req k => simpa [evDown] using h.step_req cfg k ha
    | cancel => exact absurd rfl hc
  | flush => exact absurd rfl hf
  | wire => simpa [batchStep, evDown] using h
  | result q r => simpa [batchStep, evDown] using h

theorem listVals_prefix {a b : List (List Int)} (h : a <+: b) : listVals a <+: listVals b := by
  obtain ⟨t, rfl⟩ := h
  simp [listVals]

theorem BatchInv.specM {P : List Val → Prop} {n : Nat} {s : BatchSt} {ins outs : List Down} (h : BatchInv n s ins outs) :
    SpecM P (stageSem (.batch n)) ins outs := by
  -- input open, or cut short by an error (`tail` = the ill-typed element): only whole batches have gone out,
  -- so what was sent is a prefix of the chunks of every extension
  have hA : ∀ {xs ys w tail}, elemsOf outs = listVals ys → Ext n xs ys w → elemsOf ins = intVals xs ++ tail →
      (tail = [] ∨ ∃ l, tail = [Val.list l]) → ∀ rest, elemsOf outs <+: (stageSem (.batch n) (elemsOf ins ++ rest)).1 := by
    intro xs ys w tail h4 h5 h3 ht rest
    rw [h4, h3]
    rcases ht with rfl | ⟨l, rfl⟩
    · simp only [List.append_nil, stageSem, ints_intVals_append]
      rw [h5 (ints rest).1]; exact listVals_prefix (List.prefix_append _ _)
    · simp only [List.append_assoc, List.singleton_append, stageSem, ints_blocked]
      rw [h5.now]; exact listVals_prefix (List.prefix_append _ _)
  -- input complete: `ys` has gone out and `rem` (the remainder of the window, possibly a short batch) has not
  have hB : ∀ {xs ys rem}, elemsOf ins = intVals xs → elemsOf outs = listVals ys → chunks n xs = ys ++ rem →
      stageSem (.batch n) (elemsOf ins) = (elemsOf outs ++ listVals rem, none) := by
    intro xs ys rem h3 h4 h5
    rw [h3, h4]; simp only [stageSem, ints_intVals]; rw [h5]; simp [listVals, tyErr]
  cases ha : s.alive with
  | true =>
    cases hc : s.completing with
    | true =>
      obtain ⟨h1, h2, xs, ys, h3, h4, h5⟩ := h.compl ha hc
      exact .of_closing h.wfOut h2 h1 (by rw [hB h3 h4 h5]; exact List.prefix_append _ _)
    | false =>
      obtain ⟨_, h2, _, xs, ys, h3, h4, h5⟩ := h.live ha hc
      exact .of_open h.wfOut h2 (hA h4 h5 (by rw [h3, List.append_nil]) (Or.inl rfl))
  | false =>
    rcases h.dead ha with ⟨h1, h2, xs, ys, h3, h4, h5⟩ | ⟨e, h1, xs, ys, w, h4, h5, h6⟩
    · exact .of_done h.wfOut h1 h2 (by rw [hB (rem := []) h3 h4 (by rw [h5, List.append_nil])]; simp [listVals])
    · obtain ⟨tail, h3, ht⟩ : ∃ tail, elemsOf ins = intVals xs ++ tail ∧ (tail = [] ∨ ∃ l, tail = [Val.list l]) :=
        h6.elim (fun h7 => ⟨[], by rw [h7.2, List.append_nil], Or.inl rfl⟩) fun ⟨_, l, h7⟩ => ⟨_, h7, Or.inr ⟨l, rfl⟩⟩
      refine .of_ext h.wfOut (hA h4 h5 h3 ht) (by rw [h1]; exact nofun) fun e' ho => ?_
      cases h1.symm.trans ho
      refine h6.imp (·.1) fun ⟨he, l, h7⟩ X ⟨rest, hX⟩ _ => ?_
      rw [← hX, h7, he]
      simp [stageSem, ints_blocked, tyErr]

end GoaktVerif.C45
