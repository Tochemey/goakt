/-
C45 lemmas: a fused run of Map, TryMap and Filter stages delivers the same elements as the stage-by-stage list
semantics, and fails exactly when some stage of the run fails, with one of those stages' errors.
The run is the element-wise composition that `applyFusion` builds.
-/
import GoaktVerif.Lemmas.C45.Nodes
import GoaktVerif.Lemmas.C45.Sem
import GoaktVerif.Model.C45.Net

namespace GoaktVerif.C45
open GoaktVerif.Model.C45 GoaktVerif.Spec.C45

/-- a fusable stage's closure keeps no state and yields at most one output -/
theorem fusable_step (st : Stage) (h : st.fusable = true) (t : TS) (v : Val) :
    (∃ e, xfStep st t v = .error e ∧ xfStep st {} v = .error e) ∨
    (xfStep st t v = .ok (t, []) ∧ xfStep st {} v = .ok ({}, [])) ∨
    (∃ w, xfStep st t v = .ok (t, [w]) ∧ xfStep st {} v = .ok ({}, [w])) := by
  cases st <;> simp [Stage.fusable] at h
  · -- map
    cases v with
    | int x => exact Or.inr (Or.inr ⟨_, rfl, rfl⟩)
    | list l => exact Or.inl ⟨_, rfl, rfl⟩
  · -- tryMap
    rename_i k bad e
    cases v with
    | int x =>
      by_cases hx : x = bad
      · exact Or.inl ⟨e, by simp [xfStep, hx], by simp [xfStep, hx]⟩
      · exact Or.inr (Or.inr ⟨.int (x + k), by simp [xfStep, hx], by simp [xfStep, hx]⟩)
    | list l => exact Or.inl ⟨_, rfl, rfl⟩
  · -- filter
    rename_i m r
    cases v with
    | int x =>
      by_cases hx : x.emod m = r
      · exact Or.inr (Or.inl ⟨by simp [xfStep, hx], by simp [xfStep, hx]⟩)
      · exact Or.inr (Or.inr ⟨.int x, by simp [xfStep, hx], by simp [xfStep, hx]⟩)
    | list l => exact Or.inl ⟨_, rfl, rfl⟩

/-- the closure state of a fusable stage never changes, so any starting state gives the same run -/
theorem xfRun_fusable_state (st : Stage) (h : st.fusable = true) (t : TS) (xs : List Val) :
    xfRun st t xs = xfRun st {} xs := by
  induction xs generalizing t with
  | nil => rfl
  | cons v xs ih =>
    rcases fusable_step st h t v with ⟨e, h1, h2⟩ | ⟨h1, h2⟩ | ⟨w, h1, h2⟩
    · rw [xfRun_cons_err xs h1, xfRun_cons_err xs h2]
    · rw [xfRun_cons_ok xs h1, xfRun_cons_ok xs h2, ih t, ih {}]
    · rw [xfRun_cons_ok xs h1, xfRun_cons_ok xs h2, ih t, ih {}]

/-- combining the failure of the rest of the run (seen first, element-wise) with the head stage's own -/
def firstErr (e2 e1 : Option Err) : Option Err := match e2 with | some e => some e | none => e1

/-- element-wise composition = head stage over the list, then the rest of the run over its outputs -/
theorem fusedRun_cons (st : Stage) (rest : List Stage) (h : st.fusable = true) (xs : List Val) :
    fusedRun (st :: rest) xs =
      ((fusedRun rest (xfRun st {} xs).1).1, firstErr (fusedRun rest (xfRun st {} xs).1).2 (xfRun st {} xs).2) := by
  induction xs with
  | nil => simp [fusedRun, xfRun, firstErr]
  | cons v xs ih =>
    rcases fusable_step st h {} v with ⟨e, h1, _⟩ | ⟨h1, _⟩ | ⟨w, h1, _⟩
    · simp [fusedRun, fusedFn, xfRun, h1, firstErr]
    · have hx : xfRun st {} (v :: xs) = xfRun st {} xs := by simp [xfRun, h1]
      simp only [fusedRun, fusedFn, h1, hx, ih, Option.toList, List.nil_append]
    · have hx : xfRun st {} (v :: xs) = (w :: (xfRun st {} xs).1, (xfRun st {} xs).2) := by
        simp [xfRun, h1]
      rw [hx]
      simp only [fusedRun, fusedFn, h1]
      cases hr : fusedFn rest w with
      | error e => simp [firstErr]
      | ok r =>
        simp only [ih]

structure FusedSem (fs : List Stage) (xs : List Val) : Prop where
  out : (fusedRun fs xs).1 = (sem fs xs).1
  none_iff : (fusedRun fs xs).2 = none ↔ (sem fs xs).2 = []
  mem : ∀ e, (fusedRun fs xs).2 = some e → e ∈ (sem fs xs).2

theorem fusedRun_nil (xs : List Val) : fusedRun [] xs = (xs, none) := by
  induction xs with
  | nil => rfl
  | cons v xs ih => simp [fusedRun, fusedFn, ih]

theorem fusable_isFlow (st : Stage) (h : st.fusable = true) : st.isFlow = true := by
  cases st <;> simp [Stage.fusable] at h <;> rfl

/-- same elements; fails iff the list semantics has a candidate error, with one of them -/
def SemRel (p q : List Val × List Err) : Prop :=
  p.1 = q.1 ∧ (p.2 = [] ↔ q.2 = []) ∧ ∀ e ∈ p.2, e ∈ q.2

theorem SemRel.append {a b c d : List Val × List Err} (h1 : SemRel a b) (h2 : SemRel c d) :
    SemRel (c.1, a.2 ++ c.2) (d.1, b.2 ++ d.2) :=
  ⟨h2.1, by simp only [List.append_eq_nil_iff, h1.2.1, h2.2.1], fun e he =>
    (List.mem_append.mp he).elim (fun h => List.mem_append_left _ (h1.2.2 e h))
      fun h => List.mem_append_right _ (h2.2.2 e h)⟩

/-- `SemRel.append` when the second failure, seen first, hides the first (`firstErr`) -/
theorem SemRel.firstErr {e1 e2 : Option Err} {ys : List Val} {d : List Val × List Err} (h2 : SemRel (ys, e2.toList) d) :
    SemRel (ys, (firstErr e2 e1).toList) (d.1, e1.toList ++ d.2) := by
  obtain ⟨a, b, m⟩ := h2
  cases e2 with
  | some e =>
    have hd : d.2 ≠ [] := fun hd => nomatch b.mpr hd
    exact ⟨a, ⟨nofun, fun h => absurd (List.append_eq_nil_iff.mp h).2 hd⟩,
      fun x hx => List.mem_append_right _ (m x hx)⟩
  | none =>
    have hd : d.2 = [] := b.mp rfl
    simp only [C45.firstErr, hd, List.append_nil]
    exact ⟨a, Iff.rfl, fun _ hx => hx⟩

theorem fusedRel (fs : List Stage) (h : ∀ st ∈ fs, st.fusable = true) (xs : List Val) :
    SemRel ((fusedRun fs xs).1, (fusedRun fs xs).2.toList) (sem fs xs) := by
  induction fs generalizing xs with
  | nil => rw [fusedRun_nil]; exact ⟨rfl, Iff.rfl, nofun⟩
  | cons st rest ih =>
    have hst := h st List.mem_cons_self
    rw [fusedRun_cons st rest hst xs, xfRun_eq_stageSem st (fusable_isFlow st hst) xs]
    exact SemRel.firstErr (ih (fun s hs => h s (List.mem_cons_of_mem _ hs)) (stageSem st xs).1)

theorem fusedSem (fs : List Stage) (h : ∀ st ∈ fs, st.fusable = true) (xs : List Val) : FusedSem fs xs := by
  obtain ⟨a, b, m⟩ := fusedRel fs h xs
  refine ⟨a, ?_, fun e he => m e (by simp only [he]; exact List.mem_singleton_self e)⟩
  cases ho : (fusedRun fs xs).2 with
  | none => exact ⟨fun _ => b.mp (by simp only [ho]; rfl), fun _ => rfl⟩
  | some e => exact ⟨nofun, fun hq => by have := b.mpr hq; simp only [ho] at this; cases this⟩

end GoaktVerif.C45
