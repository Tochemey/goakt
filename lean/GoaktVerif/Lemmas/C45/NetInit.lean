/-
C45 lemmas: a source, any freshly constructed stage actors and a sink, joined by empty links (`rawNet`), satisfy the
network invariant, and still do once every node has handled its stageWire (`wireAll`).  What `applyFusion` +
`materialize` build (`mkNet`) is such a network: `mkNet_eq`, `midsOf_fresh` in Props/C45.
-/
import GoaktVerif.Lemmas.C45.NetStep

namespace GoaktVerif.C45
open GoaktVerif.Model.C45

/-- a stage actor as the materializer constructs it -/
def Fresh (nd : Node) : Prop := middleOK nd = true ∧ MidInv nd [] [] ∧ nd.alive = true

theorem fresh_mkNode (st : Stage) : Fresh (mkNode st) := by
  cases st with
  | batch n => exact ⟨rfl, BatchInv.init n, rfl⟩
  | opmap w k b e => exact ⟨rfl, PInv.init k b e, rfl⟩
  | pmap w k b e => exact ⟨rfl, PInvU.init k b e, rfl⟩
  | _ => exact ⟨rfl, FlowInv.init _, rfl⟩

/-- the un-wired network -/
def rawNet (mids : List Node) (input : List Val) : Net :=
  { nodes := .src { rest := input } :: (mids ++ [.sink defaultCfg {}]),
    links := List.replicate (mids.length + 1) {} }

theorem rawNet_hist (mids : List Node) (input : List Val) (j : Nat) : hist (rawNet mids input) j = [] := by
  simp only [hist, rawNet, List.getElem?_replicate]
  split <;> rfl

theorem rawNet_pos (mids : List Node) (input : List Val) (j : Nat) : pos (rawNet mids input) j = 0 := by
  simp only [pos, rawNet, List.getElem?_replicate]
  split <;> rfl

theorem rawNet_upq (mids : List Node) (input : List Val) (j : Nat) : upq (rawNet mids input) j = [] := by
  simp only [upq, rawNet, List.getElem?_replicate]
  split <;> rfl

theorem rawNet_node {mids : List Node} {input : List Val} {j : Nat} {nd : Node}
    (hn : (rawNet mids input).nodes[j]? = some nd) :
    (j = 0 ∧ nd = .src { rest := input }) ∨ (nd ∈ mids ∧ 0 < j ∧ j ≤ mids.length) ∨
    (j = mids.length + 1 ∧ nd = .sink defaultCfg {}) := by
  cases j with
  | zero => exact Or.inl ⟨rfl, (Option.some.inj hn).symm⟩
  | succ j =>
    have hn' : (mids ++ [Node.sink defaultCfg {}])[j]? = some nd := hn
    by_cases hj : j < mids.length
    · rw [List.getElem?_append_left hj] at hn'
      exact Or.inr (Or.inl ⟨List.mem_of_getElem? hn', Nat.succ_pos j, hj⟩)
    · rw [List.getElem?_append_right (Nat.le_of_not_lt hj)] at hn'
      cases hjl : j - mids.length with
      | zero =>
        rw [hjl] at hn'
        exact Or.inr (Or.inr ⟨congrArg _ (Nat.le_antisymm (Nat.le_of_sub_eq_zero hjl) (Nat.le_of_not_lt hj)),
          (Option.some.inj hn').symm⟩)
      | succ m => rw [hjl] at hn'; cases hn'

theorem GInv.raw {P : List Val → Prop} (mids : List Node) (input : List Val) (hm : ∀ nd ∈ mids, Fresh nd)
    (hpar : (∀ X, P X → Homog X) ∨ ∀ nd ∈ mids, isPar nd = false) :
    GInv P input (rawNet mids input) := by
  have hlen : (rawNet mids input).nodes.length = mids.length + 2 := by simp [rawNet]
  have hins : ∀ i, insOf (rawNet mids input) i = [] := fun i => by rw [insOf, rawNet_hist]; exact List.take_nil
  refine ⟨by simp [rawNet], hlen ▸ Nat.le_add_left 2 _, rfl, fun j => by rw [rawNet_pos]; exact Nat.zero_le _,
    fun j => by rw [rawNet_hist]; rfl, ?_, fun i nd hi0 hi1 hn => ?_, ?_, fun j hc => ?_, ?_⟩
  · rw [rawNet_hist]
    exact ⟨{ rest := input }, rfl, ⟨List.nil_prefix, nofun, nofun⟩, fun _ => SrcInv.init input⟩
  · rw [hins, rawNet_hist]
    rcases rawNet_node hn with ⟨rfl, _⟩ | ⟨hmem, _, _⟩ | ⟨rfl, _⟩
    · cases hi0
    · obtain ⟨hok, hmi, _⟩ := hm nd hmem
      exact ⟨hok, hmi.specM (hpar.imp id fun hp => hp nd hmem), fun _ => hmi⟩
    · exact absurd (hlen ▸ hi1) (Nat.lt_irrefl _)
  · refine ⟨defaultCfg, {}, ?_, by rw [hins]; exact SinkInv.init⟩
    rw [hlen]
    show (mids ++ [Node.sink defaultCfg {}])[mids.length]? = _
    rw [List.getElem?_append_right (Nat.le_refl _), Nat.sub_self]; rfl
  · rw [rawNet_upq] at hc; cases hc
  · refine hpar.imp id fun hp j nd hn => ?_
    rcases rawNet_node hn with ⟨_, rfl⟩ | ⟨hmem, _⟩ | ⟨_, rfl⟩
    · rfl
    · exact hp nd hmem
    · rfl

def AllAlive (net : Net) : Prop := ∀ j, j < net.nodes.length → net.aliveAt j = true

theorem rawNet_allAlive (mids : List Node) (input : List Val) (hm : ∀ nd ∈ mids, Fresh nd) :
    AllAlive (rawNet mids input) := by
  intro j hj
  have hn := List.getElem?_eq_getElem hj
  rw [Net.aliveAt, hn]
  rcases rawNet_node hn with ⟨_, h⟩ | ⟨hmem, _⟩ | ⟨_, h⟩
  · rw [h]; rfl
  · exact (hm _ hmem).2.2
  · rw [h]; rfl

theorem wire_alive {nd : Node} (ha : nd.alive = true) : (nd.step .wire).1.alive = true := by
  rw [Node.step_alive ha]
  cases nd <;> exact ha

theorem GInv.step_wire {P : List Val → Prop} {input : List Val} {net : Net} (h : GInv P input net) (hal : AllAlive net) (k : Nat)
    (hk : k < net.nodes.length) :
    GInv P input (net.deliver k .wire) ∧ AllAlive (net.deliver k .wire) := by
  obtain ⟨nd, hn, hnda⟩ := aliveAt_some (hal k hk)
  have hd := Dequeued.refl net k (ev := .wire) rfl
  refine ⟨h.deliver hd hn hnda (.of_mailbox nd _ trivial) (fun u hu => by cases hu), fun j hj => ?_⟩
  have hf := frame_of_deliver hd hn h.len h.posle
  rw [hf.nlen] at hj
  rw [hf.alive]
  split
  · exact wire_alive hnda
  · exact hal j hj

theorem wireAll_inv {P : List Val → Prop} {input : List Val} (net : Net) (h : GInv P input net) (hal : AllAlive net) (k : Nat)
    (hk : k ≤ net.nodes.length) :
    GInv P input (wireAll k net) ∧ AllAlive (wireAll k net) ∧ (wireAll k net).nodes.length = net.nodes.length := by
  induction k with
  | zero => exact ⟨h, hal, rfl⟩
  | succ k ih =>
    obtain ⟨h1, h2, h3⟩ := ih (Nat.le_of_succ_le hk)
    have hk' : k < (wireAll k net).nodes.length := h3 ▸ hk
    obtain ⟨h4, h5⟩ := h1.step_wire h2 k hk'
    refine ⟨h4, h5, ?_⟩
    rw [wireAll, (deliver_effect _ k _ .wire (List.getElem?_eq_getElem hk')).nodes, List.length_set, h3]

end GoaktVerif.C45
