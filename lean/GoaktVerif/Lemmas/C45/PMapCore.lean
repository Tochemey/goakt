/-
C45 lemmas: the resequencing core of OrderedParallelMap.  Every seqNo is exactly one of
emitted / waiting in the heap / still with a worker; `flushOrd`, the loop of `flushOrdered`, emits in seqNo order.
-/
import GoaktVerif.Model.C45.Actors
import GoaktVerif.Lemmas.C45.Chain

namespace GoaktVerif.C45
open GoaktVerif.Model.C45

/-- the sequential semantics of a parallel map: results up to the first failing element, and its error -/
def parRun (k : Int) (bad : Option Int) (e : Err) : SemFn
  | [] => ([], none)
  | v :: vs =>
    match parFn k bad e v with
    | .error er => ([], some er)
    | .ok y => (y :: (parRun k bad e vs).1, (parRun k bad e vs).2)

def isInt : Val → Bool
  | .int _ => true
  | _ => false

/-- all elements are ints, or all are lists (what a typed Go stream carries) -/
def Homog (X : List Val) : Prop := (∀ v ∈ X, isInt v = true) ∨ (∀ v ∈ X, isInt v = false)

section
variable (k : Int) (bad : Option Int) (e : Err)

/-- in a homogeneous list every failing element fails with the same error -/
theorem parFn_err_unique {X : List Val} (hX : Homog X) {v w : Val} (hv : v ∈ X) (hw : w ∈ X) {a b : Err}
    (ha : parFn k bad e v = .error a) (hb : parFn k bad e w = .error b) : a = b := by
  cases v with
  | int x =>
    cases w with
    | int y =>
      simp only [parFn] at ha hb
      split at ha <;> split at hb <;> simp_all
    | list l =>
      rcases hX with h | h
      · have := h _ hw; simp [isInt] at this
      · have := h _ hv; simp [isInt] at this
  | list l =>
    cases w with
    | int y =>
      rcases hX with h | h
      · have := h _ hv; simp [isInt] at this
      · have := h _ hw; simp [isInt] at this
    | list l' => simp only [parFn] at ha hb; cases ha; cases hb; rfl

theorem parRun_err {X : List Val} (hX : Homog X) {v : Val} (hv : v ∈ X) {a : Err}
    (ha : parFn k bad e v = .error a) : (parRun k bad e X).2 = some a := by
  induction X with
  | nil => simp at hv
  | cons w ws ih =>
    simp only [parRun]
    cases hw : parFn k bad e w with
    | error b =>
      have := parFn_err_unique k bad e hX hv (List.mem_cons_self) ha hw
      simp [this]
    | ok y =>
      simp only
      have hv' : v ∈ ws := by
        rcases List.mem_cons.mp hv with rfl | h
        · rw [ha] at hw; simp at hw
        · exact h
      have hX' : Homog ws := by
        rcases hX with h | h
        · exact Or.inl fun u hu => h u (List.mem_cons_of_mem _ hu)
        · exact Or.inr fun u hu => h u (List.mem_cons_of_mem _ hu)
      exact ih hX' hv'

/-- `em` are the results of the first elements of `X`, all of which succeed -/
def OkPrefix (X : List Val) (m : Nat) (em : List Val) : Prop :=
  em.length = m ∧ m ≤ X.length ∧ ∀ i (hi : i < m), ∃ v, X[i]? = some v ∧ ∃ y, em[i]? = some y ∧ parFn k bad e v = .ok y

theorem okPrefix_cons {w : Val} {ws : List Val} {m : Nat} {em : List Val} (h : OkPrefix k bad e (w :: ws) (m + 1) em) :
    ∃ y ys, em = y :: ys ∧ parFn k bad e w = .ok y ∧ OkPrefix k bad e ws m ys := by
  obtain ⟨h1, h2, h3⟩ := h
  cases em with
  | nil => cases h1
  | cons y ys =>
    obtain ⟨v, hv, y', hy', hf⟩ := h3 0 (Nat.succ_pos m)
    cases hv; cases hy'
    refine ⟨y, ys, rfl, hf, Nat.succ.inj h1, Nat.le_of_succ_le_succ h2, fun i hi => ?_⟩
    exact h3 (i + 1) (Nat.succ_lt_succ hi)

theorem okPrefix_prefix {X : List Val} {m : Nat} {em : List Val} (h : OkPrefix k bad e X m em) :
    em <+: (parRun k bad e X).1 := by
  induction X generalizing m em with
  | nil =>
    cases Nat.le_zero.mp h.2.1
    cases List.length_eq_zero_iff.mp h.1
    exact List.nil_prefix
  | cons w ws ih =>
    cases m with
    | zero => cases List.length_eq_zero_iff.mp h.1; exact List.nil_prefix
    | succ m =>
      obtain ⟨y, ys, rfl, hf, h'⟩ := okPrefix_cons k bad e h
      simp only [parRun, hf]
      exact (List.prefix_cons_inj _).mpr (ih h')

theorem okPrefix_all {X : List Val} {em : List Val} (h : OkPrefix k bad e X X.length em) :
    parRun k bad e X = (em, none) := by
  induction X generalizing em with
  | nil => cases List.length_eq_zero_iff.mp h.1; rfl
  | cons w ws ih =>
    obtain ⟨y, ys, rfl, hf, h'⟩ := okPrefix_cons k bad e h
    simp only [parRun, hf, ih h']

theorem okPrefix_mono {X : List Val} {m : Nat} {em : List Val} (h : OkPrefix k bad e X m em) (t : List Val) :
    OkPrefix k bad e (X ++ t) m em := by
  obtain ⟨h1, h2, h3⟩ := h
  refine ⟨h1, Nat.le_trans h2 (by rw [List.length_append]; exact Nat.le_add_right _ _), fun i hi => ?_⟩
  obtain ⟨v, hv, r⟩ := h3 i hi
  exact ⟨v, by rw [List.getElem?_append_left (Nat.lt_of_lt_of_le hi h2)]; exact hv, r⟩

/-- emitted / pending / outstanding partition the seqNos `1..|xs|` -/
structure Core (xs : List Val) (ne : Nat) (pend outst : List (Nat × Val)) (em : List Val) : Prop where
  ok : OkPrefix k bad e xs ne em
  hpend : ∀ p ∈ pend, ne < p.1 ∧ p.1 ≤ xs.length ∧ ∃ v, xs[p.1 - 1]? = some v ∧ parFn k bad e v = .ok p.2
  houtst : ∀ t ∈ outst, ne < t.1 ∧ t.1 ≤ xs.length ∧ xs[t.1 - 1]? = some t.2
  disj : ∀ t ∈ outst, ∀ p ∈ pend, t.1 ≠ p.1
  cover : ∀ q, ne < q → q ≤ xs.length → (∃ p ∈ pend, p.1 = q) ∨ (∃ t ∈ outst, t.1 = q)

theorem minEntry_none {p : List (Nat × Val)} (h : minEntry p = none) : p = [] := by
  cases p with
  | nil => rfl
  | cons x xs => simp only [minEntry] at h; split at h <;> (try split at h) <;> simp at h

theorem minEntry_some {p : List (Nat × Val)} {t : Nat × Val} (h : minEntry p = some t) :
    t ∈ p ∧ ∀ x ∈ p, t.1 ≤ x.1 := by
  induction p generalizing t with
  | nil => simp [minEntry] at h
  | cons x xs ih =>
    simp only [minEntry] at h
    cases hm : minEntry xs with
    | none =>
      have := minEntry_none hm
      subst this
      simp only [hm] at h
      cases h
      exact ⟨by simp, fun y hy => by simp at hy; subst hy; exact Nat.le_refl _⟩
    | some y =>
      simp only [hm] at h
      obtain ⟨hy1, hy2⟩ := ih hm
      split at h
      · rename_i hle
        cases h
        refine ⟨by simp, fun z hz => ?_⟩
        rcases List.mem_cons.mp hz with rfl | hz
        · exact Nat.le_refl _
        · exact Nat.le_trans hle (hy2 z hz)
      · rename_i hle
        cases h
        refine ⟨List.mem_cons_of_mem _ hy1, fun z hz => ?_⟩
        rcases List.mem_cons.mp hz with rfl | hz
        · omega
        · exact hy2 z hz

/-- `flushOrd` (the loop of `flushOrdered`): keeps the partition, appends results in seqNo order, and leaves no entry for the next seqNo -/
theorem flushOrd_spec (xs : List Val) (outst : List (Nat × Val)) :
    ∀ (fuel ne : Nat) (p : List (Nat × Val)) (em : List Val), Core k bad e xs ne p outst em → p.length ≤ fuel →
      Core k bad e xs (flushOrd fuel ne p).1 (flushOrd fuel ne p).2.1 outst (em ++ (flushOrd fuel ne p).2.2) ∧
      (∀ x ∈ (flushOrd fuel ne p).2.1, x.1 ≠ (flushOrd fuel ne p).1 + 1) := by
  intro fuel
  induction fuel with
  | zero =>
    intro ne p em hc hl
    cases List.length_eq_zero_iff.mp (Nat.le_zero.mp hl)
    exact ⟨(List.append_nil em).symm ▸ hc, nofun⟩
  | succ fuel ih =>
    intro ne p em hc hl
    simp only [flushOrd]
    cases hm : minEntry p with
    | none =>
      cases minEntry_none hm
      exact ⟨(List.append_nil em).symm ▸ hc, nofun⟩
    | some top =>
      obtain ⟨htop, hmin⟩ := minEntry_some hm
      obtain ⟨q, y⟩ := top
      simp only
      by_cases hne : q = ne + 1
      · subst hne
        rw [if_neg (fun h => h rfl)]
        obtain ⟨_, hle, v, hv, hf⟩ := hc.hpend _ htop
        have hc' : Core k bad e xs (ne + 1) (p.filter fun x => x.1 != ne + 1) outst (em ++ [y]) := by
          obtain ⟨o1, o2, o3⟩ := hc.ok
          refine ⟨⟨by rw [List.length_append, o1]; rfl, hle, fun i hi => ?_⟩, fun x hx => ?_, fun t ht => ?_,
            fun t ht x hx => hc.disj t ht x (List.mem_filter.mp hx).1, fun r h1 h2 => ?_⟩
          · rcases Nat.lt_succ_iff_lt_or_eq.mp hi with hi' | rfl
            · obtain ⟨w, hw, y', hy, hfy⟩ := o3 i hi'
              exact ⟨w, hw, y', by rw [List.getElem?_append_left (o1 ▸ hi')]; exact hy, hfy⟩
            · exact ⟨v, hv, y, by rw [List.getElem?_append_right (Nat.le_of_eq o1), o1, Nat.sub_self]; rfl, hf⟩
          · obtain ⟨hx1, hx2⟩ := List.mem_filter.mp hx
            obtain ⟨a, b, c⟩ := hc.hpend x hx1
            exact ⟨Nat.lt_of_le_of_ne a fun h => by simp [← h] at hx2, b, c⟩
          · obtain ⟨a, b, c⟩ := hc.houtst t ht
            exact ⟨Nat.lt_of_le_of_ne a fun h => hc.disj t ht _ htop h.symm, b, c⟩
          · rcases hc.cover r (Nat.lt_of_succ_lt h1) h2 with ⟨x, hx, hxq⟩ | r'
            · exact Or.inl ⟨x, List.mem_filter.mpr ⟨hx, by rw [hxq]; simpa using Nat.ne_of_gt h1⟩, hxq⟩
            · exact Or.inr r'
        have hlen : (p.filter fun x => x.1 != ne + 1).length ≤ fuel :=
          Nat.le_of_lt_succ (Nat.lt_of_lt_of_le
            (List.length_filter_lt_length_iff_exists.mpr ⟨_, htop, by simp⟩) hl)
        obtain ⟨r1, r2⟩ := ih (ne + 1) _ _ hc' hlen
        exact ⟨by simpa [List.append_assoc] using r1, r2⟩
      · rw [if_pos hne]
        -- every entry is at least `top`, which lies above `ne + 1`
        exact ⟨(List.append_nil em).symm ▸ hc, fun x hx => Nat.ne_of_gt
          (Nat.lt_of_lt_of_le (Nat.lt_of_le_of_ne (hc.hpend _ htop).1 (Ne.symm hne)) (hmin x hx))⟩

end

end GoaktVerif.C45
