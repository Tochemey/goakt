/-
C45 lemmas: flowActor is a FIFO transducer whatever the demand pattern.
`FlowInv` relates the actor's state to the full history of downstream messages it has handled
(`ins`) and sent (`outs`); it is preserved by every handled message.
-/
import GoaktVerif.Model.C45.Actors
import GoaktVerif.Lemmas.C45.Hist

namespace GoaktVerif.C45
open GoaktVerif.Model.C45

theorem xfRun_prefix (st : Stage) (t : TS) (xs rest : List Val) :
    (xfRun st t xs).1 <+: (xfRun st t (xs ++ rest)).1 := by
  induction xs generalizing t with
  | nil => simp [xfRun]
  | cons x xs ih =>
    cases h : xfStep st t x with
    | error e => simp [xfRun, h]
    | ok p =>
      obtain ⟨t', ys⟩ := p
      simp only [List.cons_append, xfRun, h]
      exact (List.prefix_append_right_inj ys).mpr (ih t')

theorem xfRun_err_stable (st : Stage) (t : TS) (xs rest : List Val) (e : Err)
    (h : (xfRun st t xs).2 = some e) : xfRun st t (xs ++ rest) = xfRun st t xs := by
  induction xs generalizing t with
  | nil => simp [xfRun] at h
  | cons x xs ih =>
    cases hx : xfStep st t x with
    | error e' => simp [xfRun, hx]
    | ok p =>
      obtain ⟨t', ys⟩ := p
      simp only [xfRun, hx] at h
      simp only [List.cons_append, xfRun, hx, ih t' h]

/-- `Fut st xs out ts`: after consuming `xs` the closure holds `ts` and has produced `out` -/
def Fut (st : Stage) (xs out : List Val) (ts : TS) : Prop :=
  ∀ rest, xfRun st {} (xs ++ rest) = (out ++ (xfRun st ts rest).1, (xfRun st ts rest).2)

theorem Fut.init (st : Stage) : Fut st [] [] {} := by
  intro rest; simp

theorem Fut.now {st : Stage} {xs out : List Val} {ts : TS} (h : Fut st xs out ts) :
    xfRun st {} xs = (out, none) := by
  have := h []; simpa [xfRun] using this

theorem Fut.step_ok {st : Stage} {xs out : List Val} {ts ts' : TS} {v : Val} {ys : List Val}
    (h : Fut st xs out ts) (hx : xfStep st ts v = .ok (ts', ys)) : Fut st (xs ++ [v]) (out ++ ys) ts' := by
  intro rest
  have := h (v :: rest)
  simp only [List.append_assoc, List.singleton_append, this, xfRun, hx]

theorem Fut.step_err {st : Stage} {xs out : List Val} {ts : TS} {v : Val} {e : Err}
    (h : Fut st xs out ts) (hx : xfStep st ts v = .error e) :
    xfRun st {} (xs ++ [v]) = (out, some e) := by
  have := h [v]
  simpa [xfRun, hx] using this

theorem tryFlush_spec (s : FlowSt) :
    ∃ zs, zs ++ (s.tryFlush).1.buf = s.buf ∧ (s.tryFlush).1.ts = s.ts ∧
      (s.tryFlush).1.completing = s.completing ∧
      ((s.completing = true ∧ (s.tryFlush).1.buf = [] ∧ (s.tryFlush).1.alive = false ∧
          (s.tryFlush).2 = zs.map Down.elem ++ [.complete]) ∨
       (¬ (s.completing = true ∧ (s.tryFlush).1.buf = []) ∧ (s.tryFlush).1.alive = s.alive ∧
          (s.tryFlush).2 = zs.map Down.elem)) := by
  refine ⟨s.buf.take (min s.demand.toNat s.buf.length), ?_⟩
  unfold FlowSt.tryFlush
  dsimp only
  split
  · rename_i h
    obtain ⟨hc, hb⟩ := Bool.and_eq_true_iff.mp h
    exact ⟨List.take_append_drop _ _, rfl, rfl, Or.inl ⟨hc, List.isEmpty_iff.mp hb, rfl, rfl⟩⟩
  · rename_i h
    exact ⟨List.take_append_drop _ _, rfl, rfl,
      Or.inr ⟨fun ⟨hc, hb⟩ => h (Bool.and_eq_true_iff.mpr ⟨hc, List.isEmpty_iff.mpr hb⟩), rfl, rfl⟩⟩

theorem maybeReq_shape (cfg : Cfg) (s : FlowSt) :
    ∃ c u, s.maybeReq cfg = ({ s with credit := c }, u) ∧ Up.cancel ∉ u := by
  unfold FlowSt.maybeReq
  by_cases h1 : s.completing = true
  · exact ⟨s.credit, [], by rw [if_pos h1], List.not_mem_nil⟩
  · rw [if_neg h1]
    dsimp only
    by_cases h2 : cfg.init - s.credit - s.buf.length ≤ 0
    · exact ⟨s.credit, [], by rw [if_pos h2], List.not_mem_nil⟩
    · rw [if_neg h2]
      by_cases h3 : s.credit > cfg.refill
      · exact ⟨s.credit, [], by rw [if_pos h3], List.not_mem_nil⟩
      · exact ⟨_, _, by rw [if_neg h3], by simp⟩

structure FlowInv (st : Stage) (s : FlowSt) (ins outs : List Down) : Prop where
  wfOut : wf outs = true
  live : s.alive = true → s.completing = false →
    termOf ins = none ∧ termOf outs = none ∧ Fut st (elemsOf ins) (elemsOf outs ++ s.buf) s.ts
  compl : s.alive = true → s.completing = true →
    termOf ins = some none ∧ termOf outs = none ∧
      xfRun st {} (elemsOf ins) = (elemsOf outs ++ s.buf, none)
  dead : s.alive = false →
    (termOf outs = some none ∧ termOf ins = some none ∧ xfRun st {} (elemsOf ins) = (elemsOf outs, none))
    ∨ (∃ e, termOf outs = some (some e) ∧ elemsOf outs <+: (xfRun st {} (elemsOf ins)).1 ∧
        (termOf ins = some (some e) ∨ (xfRun st {} (elemsOf ins)).2 = some e))
    ∨ (termOf outs = none ∧ elemsOf outs <+: (xfRun st {} (elemsOf ins)).1)

theorem FlowInv.init (st : Stage) : FlowInv st {} [] [] where
  wfOut := rfl
  live := fun _ _ => ⟨rfl, rfl, by simpa [elemsOf] using Fut.init st⟩
  compl := fun _ h => by simp at h
  dead := fun h => by simp at h

/-- what the actor has emitted so far is, in every state, a prefix of the list semantics of what it consumed -/
theorem FlowInv.prefix {st : Stage} {s : FlowSt} {ins outs : List Down} (h : FlowInv st s ins outs) :
    elemsOf outs <+: (xfRun st {} (elemsOf ins)).1 := by
  by_cases ha : s.alive = true
  · by_cases hc : s.completing = true
    · have := (h.compl ha hc).2.2; rw [this]; exact List.prefix_append _ _
    · have hc' : s.completing = false := by simpa using hc
      have := (h.live ha hc').2.2.now; rw [this]; exact List.prefix_append _ _
  · have ha' : s.alive = false := by simpa using ha
    rcases h.dead ha' with ⟨_, _, h3⟩ | ⟨e, _, h2, _⟩ | ⟨_, h2⟩
    · rw [h3]; exact List.prefix_refl _
    · exact h2
    · exact h2

theorem FlowInv.out_open {st : Stage} {s : FlowSt} {ins outs : List Down} (h : FlowInv st s ins outs)
    (ha : s.alive = true) : termOf outs = none := by
  cases hc : s.completing with
  | true => exact (h.compl ha hc).2.1
  | false => exact (h.live ha hc).2.1

theorem FlowInv.stopped {st : Stage} {s : FlowSt} {ins outs : List Down} (h : FlowInv st s ins outs)
    (ho : termOf outs ≠ none) : s.alive = false := by
  cases ha : s.alive with
  | false => rfl
  | true => exact absurd (h.out_open ha) ho

/-- the invariant does not read the credit, which is all `maybeRequestUpstream` writes -/
theorem FlowInv.maybeReq {st : Stage} {s : FlowSt} {ins outs : List Down} (h : FlowInv st s ins outs) (cfg : Cfg) :
    FlowInv st (s.maybeReq cfg).1 ins outs := by
  obtain ⟨c, u, hs, _⟩ := maybeReq_shape cfg s
  rw [hs]; exact ⟨h.wfOut, h.live, h.compl, h.dead⟩

/-- `tryFlushOutput` in a running actor whose buffer content is accounted for: elements leave the buffer in
    order; when completing with an empty buffer, streamComplete follows and the actor stops -/
theorem FlowInv.flush {st : Stage} {s : FlowSt} {ins outs : List Down}
    (hw : wf outs = true) (ho : termOf outs = none) (ha : s.alive = true)
    (hlive : s.completing = false → termOf ins = none ∧ Fut st (elemsOf ins) (elemsOf outs ++ s.buf) s.ts)
    (hcompl : s.completing = true → termOf ins = some none ∧
        xfRun st {} (elemsOf ins) = (elemsOf outs ++ s.buf, none)) :
    FlowInv st (s.tryFlush).1 ins (outs ++ (s.tryFlush).2) := by
  obtain ⟨zs, hz, hts, hcp, hcase⟩ := tryFlush_spec s
  rcases hcase with ⟨hc, hb, hal, hout⟩ | ⟨hnc, hal, hout⟩
  · obtain ⟨hti, hrun⟩ := hcompl hc
    have hzs : zs = s.buf := by simpa [hb] using hz
    refine ⟨?_, fun h1 => (by rw [hal] at h1; cases h1), fun h1 => (by rw [hal] at h1; cases h1), fun _ => Or.inl ⟨?_, hti, ?_⟩⟩
    · rw [hout, wf_append_open ho, hw]; simp [wf_append_open (termOf_map_elem zs), wf_map_elem, wf, allEq]
    · rw [hout, termOf_append_open ho, termOf_append_open (termOf_map_elem zs)]; rfl
    · rw [hout, elemsOf_append_open ho, elemsOf_append_open (termOf_map_elem zs), elemsOf_map_elem, hrun, hzs]
      simp [elemsOf]
  · have e1 : elemsOf (outs ++ (s.tryFlush).2) ++ (s.tryFlush).1.buf = elemsOf outs ++ s.buf := by
      rw [hout, elemsOf_append_open ho, elemsOf_map_elem, List.append_assoc, hz]
    have t1 : termOf (outs ++ (s.tryFlush).2) = none := by
      rw [hout, termOf_append_open ho, termOf_map_elem]
    refine ⟨wf_of_open t1, fun _ h2 => ?_, fun _ h2 => ?_, fun h1 => by rw [hal, ha] at h1; cases h1⟩
    · obtain ⟨hti, hf⟩ := hlive (hcp ▸ h2)
      exact ⟨hti, t1, by rw [e1, hts]; exact hf⟩
    · obtain ⟨hti, hr⟩ := hcompl (hcp ▸ h2)
      exact ⟨hti, t1, by rw [e1]; exact hr⟩

theorem FlowInv.after_flush {st : Stage} {s : FlowSt} {ins outs : List Down} (cfg : Cfg)
    (hw : wf outs = true) (ho : termOf outs = none) (ha : s.alive = true)
    (hlive : s.completing = false → termOf ins = none ∧ Fut st (elemsOf ins) (elemsOf outs ++ s.buf) s.ts)
    (hcompl : s.completing = true → termOf ins = some none ∧
        xfRun st {} (elemsOf ins) = (elemsOf outs ++ s.buf, none)) :
    FlowInv st ((s.tryFlush).1.maybeReq cfg).1 ins (outs ++ (s.tryFlush).2) := by
  exact (FlowInv.flush hw ho ha hlive hcompl).maybeReq cfg

/-- the handler of `streamComplete` sends it a second time when the flush has drained the buffer -/
theorem FlowInv.again {st : Stage} {s : FlowSt} {ins outs : List Down} (h : FlowInv st s ins outs)
    (ha : s.alive = false) (hc : termOf outs = some none) :
    FlowInv st { s with alive := false } ins (outs ++ [.complete]) := by
  have hne : termOf outs ≠ none := by rw [hc]; simp
  refine ⟨(by rw [wf_append_closed hc, h.wfOut]; rfl), nofun, nofun, fun _ => ?_⟩
  rw [termOf_append_closed hne, elemsOf_append_closed hne]
  exact h.dead ha

/-- one handled message of any kind preserves the invariant, provided the upstream history stays well-formed -/
theorem FlowInv.step {st : Stage} {s : FlowSt} {ins outs : List Down} (cfg : Cfg) (ev : Ev)
    (h : FlowInv st s ins outs) (ha : s.alive = true) (hw : wf (ins ++ evDown ev) = true) :
    FlowInv st (flowStep cfg st s ev).1 (ins ++ evDown ev) (outs ++ (flowStep cfg st s ev).2.down) := by
  have ho := h.out_open ha
  -- the actor stops, forwarding or raising `e`
  have fails : ∀ (e : Err) (ins' : List Down), elemsOf outs <+: (xfRun st {} (elemsOf ins')).1 →
      (termOf ins' = some (some e) ∨ (xfRun st {} (elemsOf ins')).2 = some e) →
      FlowInv st { s with alive := false } ins' (outs ++ [.error e]) := fun e ins' hp hwhy =>
    ⟨wf_snoc_open ho _, nofun, nofun, fun _ => Or.inr (Or.inl ⟨e, termOf_snoc ho _,
      by rw [elemsOf_snoc_error _ e]; exact hp, hwhy⟩)⟩
  cases ev with
  | wire => simpa [flowStep, evDown] using h
  | flush => simpa [flowStep, evDown] using h
  | result q r => simpa [flowStep, evDown] using h
  | up u =>
    simp only [evDown, List.append_nil]
    cases u with
    | req n =>
      exact FlowInv.after_flush (s := { s with demand := s.demand + n }) cfg h.wfOut ho ha
        (fun hc => ⟨(h.live ha hc).1, (h.live ha hc).2.2⟩) (fun hc => ⟨(h.compl ha hc).1, (h.compl ha hc).2.2⟩)
    | cancel =>
      -- forwarded upstream, the actor stops without a terminal
      rw [flowStep, List.append_nil]
      exact ⟨h.wfOut, nofun, nofun, fun _ => Or.inr (Or.inr ⟨ho, h.prefix⟩)⟩
  | down d =>
    cases d with
    | elem v =>
      have hio : termOf ins = none := open_of_wf_snoc_elem hw
      have hc : s.completing = false :=
        Bool.eq_false_iff.mpr fun hc => nomatch hio.symm.trans (h.compl ha hc).1
      obtain ⟨_, _, hf⟩ := h.live ha hc
      simp only [flowStep, evDown]
      cases hx : xfStep st s.ts v with
      | error e =>
        have hr := hf.step_err hx
        exact fails e _ (by rw [elemsOf_snoc_elem hio, hr]; exact List.prefix_append _ _)
          (Or.inr (by rw [elemsOf_snoc_elem hio, hr]))
      | ok p =>
        obtain ⟨ts', ys⟩ := p
        refine FlowInv.after_flush (s := { s with ts := ts', credit := s.credit - 1, buf := s.buf ++ ys }) cfg
          h.wfOut ho ha (fun _ => ⟨termOf_snoc hio _, ?_⟩) (fun h2 => by rw [hc] at h2; cases h2)
        rw [elemsOf_snoc_elem hio]
        simpa [List.append_assoc] using hf.step_ok hx
    | complete =>
      -- content of the input after this message
      have hins : termOf (ins ++ [.complete]) = some none ∧
          xfRun st {} (elemsOf (ins ++ [.complete])) = (elemsOf outs ++ s.buf, none) := by
        cases hc : s.completing with
        | true =>
          obtain ⟨h1, _, h3⟩ := h.compl ha hc
          exact ⟨(snoc_complete (Or.inr h1)).1, (snoc_complete (Or.inr h1)).2 ▸ h3⟩
        | false =>
          obtain ⟨h1, _, h3⟩ := h.live ha hc
          exact ⟨(snoc_complete (Or.inl h1)).1, (snoc_complete (Or.inl h1)).2 ▸ h3.now⟩
      have hfl := FlowInv.flush (s := { s with completing := true }) h.wfOut ho ha (fun hc => by cases hc) (fun _ => hins)
      simp only [flowStep, evDown]
      split
      · rename_i hb
        -- drained: `tryFlushOutput` has sent streamComplete and stopped the actor
        obtain ⟨zs, _, _, _, hcase⟩ := tryFlush_spec { s with completing := true }
        rcases hcase with ⟨_, _, hal, hout⟩ | ⟨hnc, _⟩
        · rw [← List.append_assoc]
          refine hfl.again hal ?_
          rw [hout, termOf_append_open ho, termOf_append_open (termOf_map_elem zs)]; rfl
        · exact absurd ⟨rfl, List.isEmpty_iff.mp hb⟩ hnc
      · exact hfl
    | error e =>
      -- forwarded, the buffer is discarded; a well-formed upstream never sends an error after complete
      cases hc : s.completing with
      | true => cases eq_of_wf_snoc_closed (h.compl ha hc).1 hw
      | false =>
        exact fails e (ins ++ [.error e]) (by rw [elemsOf_snoc_error _ e]; exact h.prefix)
          (Or.inl (termOf_snoc (h.live ha hc).1 _))

def NoStall (s : FlowSt) : Prop :=
  s.alive = true → s.completing = false → s.buf = [] → s.demand > 0 → s.credit > 0

theorem noStall_maybeReq (cfg : Cfg) (hc : 0 < cfg.init) (hr : 0 ≤ cfg.refill) (s : FlowSt) :
    NoStall (s.maybeReq cfg).1 := by
  intro _ hcp hb _
  obtain ⟨c, u, hs, _⟩ := maybeReq_shape cfg s
  rw [hs] at hcp hb
  replace hcp : s.completing = false := hcp
  replace hb : s.buf = [] := hb
  unfold FlowSt.maybeReq
  rw [if_neg (by rw [hcp]; simp), hb]
  dsimp only [List.length_nil]
  by_cases h2 : cfg.init - s.credit - (0 : Nat) ≤ 0
  · rw [if_pos h2]; show s.credit > 0; omega
  · rw [if_neg h2]
    by_cases h3 : s.credit > cfg.refill
    · rw [if_pos h3]; show s.credit > 0; omega
    · rw [if_neg h3]; show s.credit + (cfg.init - s.credit - (0 : Nat)) > 0; omega

/-- every handler that leaves the actor running and not completing ends with `maybeRequestUpstream` -/
theorem noStall_step (cfg : Cfg) (hc : 0 < cfg.init) (hr : 0 ≤ cfg.refill) (st : Stage) (s : FlowSt) (ev : Ev)
    (h : NoStall s) : NoStall (flowStep cfg st s ev).1 := by
  cases ev with
  | wire => simpa [flowStep] using h
  | flush => simpa [flowStep] using h
  | result q r => simpa [flowStep] using h
  | up u =>
    cases u with
    | req n => simp only [flowStep]; exact noStall_maybeReq cfg hc hr _
    | cancel => intro h1; simp [flowStep] at h1
  | down d =>
    cases d with
    | elem v =>
      simp only [flowStep]
      cases hx : xfStep st s.ts v with
      | error e => intro h1; simp at h1
      | ok p => obtain ⟨ts', ys⟩ := p; exact noStall_maybeReq cfg hc hr _
    | complete =>
      simp only [flowStep]
      obtain ⟨zs, _, _, hcp, _⟩ := tryFlush_spec { s with completing := true }
      split
      · intro h1; simp at h1
      · intro _ h2; rw [hcp] at h2; simp at h2
    | error e => intro h1; simp [flowStep] at h1

end GoaktVerif.C45
