/-
C45 lemmas: the network invariant — every stage satisfies its content specification against the prefix of its
upstream link it has handled — and its bookkeeping when one node handles one message.
-/
import GoaktVerif.Lemmas.C45.NetBasics
import GoaktVerif.Lemmas.C45.Nodes
import GoaktVerif.Lemmas.C45.Sink
import GoaktVerif.Lemmas.C45.Batch
import GoaktVerif.Lemmas.C45.PMapO
import GoaktVerif.Lemmas.C45.PMapU

namespace GoaktVerif.C45
open GoaktVerif.Model.C45

def middleOK : Node → Bool
  | .flow _ _ _ | .fused _ _ _ | .batch _ _ _ | .pmap _ _ _ _ _ _ => true
  | _ => false

def MidInv : Node → List Down → List Down → Prop
  | .flow _ st s, ins, outs => FlowInv st s ins outs
  | .fused _ fs s, ins, outs => FusedInv fs s ins outs
  | .batch _ n s, ins, outs => BatchInv n s ins outs
  | .pmap true _ k bad e s, ins, outs => PInv k bad e s ins outs
  | .pmap false _ k bad e s, ins, outs => PInvU k bad e s ins outs
  | _, _, _ => False

def midF : Node → SemFn
  | .flow _ st _ => xfRun st {}
  | .fused _ fs _ => fusedRun fs
  | .batch _ n _ => GoaktVerif.Spec.C45.stageSem (.batch n)
  | .pmap _ _ k bad e _ => parRun k bad e
  | _ => fun xs => (xs, none)

/-- parallel stages: their error clause needs homogeneous ideal inputs -/
def isPar : Node → Bool
  | .pmap _ _ _ _ _ _ => true
  | _ => false

/-- the unordered ParallelMap: its outputs are specified as a multiset -/
def isUnord : Node → Bool
  | .pmap false _ _ _ _ _ => true
  | _ => false

def ukind : Node → Option (Int × Option Int × Err)
  | .pmap false _ k bad e _ => some (k, bad, e)
  | _ => none

theorem isUnord_eq_ukind (nd : Node) : isUnord nd = (ukind nd).isSome := by
  cases nd with
  | pmap o w k b e s => cases o <;> rfl
  | _ => rfl

theorem ukind_some {nd : Node} {k : Int} {bad : Option Int} {e : Err} (h : ukind nd = some (k, bad, e)) :
    ∃ w st, nd = .pmap false w k bad e st := by
  cases nd with
  | pmap o w k' b e' s =>
    cases o with
    | false => cases h; exact ⟨w, s, rfl⟩
    | true => cases h
  | _ => cases h

/-- the content specification of a middle node: `SpecM` (ordered), `SpecU` for the unordered parallel stage -/
def NodeSpec (P : List Val → Prop) : Node → List Down → List Down → Prop
  | .pmap false _ k bad e _, ins, outs => SpecU k bad e P ins outs
  | nd, ins, outs => SpecM P (midF nd) ins outs

theorem NodeSpec.extend {P : List Val → Prop} {nd : Node} {ins outs : List Down} (h : NodeSpec P nd ins outs)
    (t : List Down) : NodeSpec P nd (ins ++ t) outs := by
  cases nd with
  | pmap o w k b e s =>
    cases o with
    | false => exact SpecU.extend k b e h t
    | true => exact SpecM.extend h t
  | _ => exact SpecM.extend h t

theorem NodeSpec.wfOut {P : List Val → Prop} {nd : Node} {ins outs : List Down} (h : NodeSpec P nd ins outs) :
    wf outs = true := by
  cases nd with
  | pmap o w k b e s =>
    cases o with
    | false => exact SpecU.wfOut h
    | true => exact SpecM.wfOut h
  | _ => exact SpecM.wfOut h

theorem NodeSpec.specM {P : List Val → Prop} {nd : Node} {ins outs : List Down} (h : NodeSpec P nd ins outs)
    (hu : isUnord nd = false) : SpecM P (midF nd) ins outs := by
  cases nd with
  | pmap o w k b e s =>
    cases o with
    | false => cases hu
    | true => exact h
  | _ => exact h

theorem MidInv.specM {P : List Val → Prop} {nd : Node} {ins outs : List Down} (h : MidInv nd ins outs)
    (hp : (∀ X, P X → Homog X) ∨ isPar nd = false) : NodeSpec P nd ins outs := by
  cases nd with
  | flow c st s => exact FlowInv.specM h
  | fused c fs s => exact FusedInv.specM h
  | batch c n s => exact BatchInv.specM h
  | pmap o w k b e s =>
    have hH : ∀ X, P X → Homog X := hp.resolve_right (by simp [isPar])
    cases o with
    | false => exact SpecU.weaken k b e hH (PInvU.specU k b e h)
    | true => exact SpecM.weaken hH (PInv.specM k b e h)
  | _ => exact h.elim

theorem Node.step_alive {nd : Node} (ha : nd.alive = true) (ev : Ev) :
    nd.step ev = match nd with
      | .src s => (.src (srcStep s ev).1, (srcStep s ev).2)
      | .flow c st s => (.flow c st (flowStep c st s ev).1, (flowStep c st s ev).2)
      | .fused c fs s => (.fused c fs (fusedStep c fs s ev).1, (fusedStep c fs s ev).2)
      | .batch c n s => (.batch c n (batchStep c n s ev).1, (batchStep c n s ev).2)
      | .pmap o w k b e s => (.pmap o w k b e (pmapStep o w s ev).1, (pmapStep o w s ev).2)
      | .sink c s => (.sink c (sinkStep c s ev).1, (sinkStep c s ev).2) := by
  unfold Node.step
  rw [if_neg (by simp [ha])]
  cases nd <;> rfl

/-- `nd'` is of the kind of `nd`, with the same parameters: everything read off a node but its state agrees -/
structure SameKind (nd nd' : Node) : Prop where
  sem : midF nd' = midF nd
  mid : middleOK nd' = middleOK nd
  par : isPar nd' = isPar nd
  kind : ukind nd' = ukind nd
  spec : ∀ P ins outs, NodeSpec P nd' ins outs = NodeSpec P nd ins outs

theorem Node.step_static (nd : Node) (ev : Ev) : SameKind nd (nd.step ev).1 := by
  -- `fun_cases Node.step nd ev`: one goal per leaf of `Node.step` (numbered as in Model/C45/Actors.lean: stopped, then the
  -- six kinds of node), the leaf's result in place of the call
  fun_cases Node.step nd ev
  case case6 o _ _ _ _ _ _ _ => cases o <;> exact ⟨rfl, rfl, rfl, rfl, fun _ _ _ => rfl⟩   -- pmap: ordered or not
  -- stopped (the node itself); src, flow, fused, batch, sink: same constructor, same parameters
  case case1 | case2 | case3 | case4 | case5 | case7 => exact ⟨rfl, rfl, rfl, rfl, fun _ _ _ => rfl⟩

/-- the messages the network hands to a stage: never the maxWait timer, and a worker's reply only for a task
    that is outstanding -/
def Handles : Node → Ev → Prop
  | _, .flush => False
  | .pmap _ _ k bad e s, .result q r => ∃ t ∈ s.outst, q = t.1 ∧ r = parFn k bad e t.2
  | _, .result _ _ => False
  | _, _ => True

theorem Handles.of_mailbox (nd : Node) (ev : Ev) (h : match ev with | .result _ _ | .flush => False | _ => True) :
    Handles nd ev := by
  cases ev with
  | result q r => exact h.elim
  | flush => exact h.elim
  | _ => cases nd <;> trivial

theorem MidInv.alive_of {nd : Node} (hok : middleOK nd = true) : True := trivial

/-- a middle node handles a message (a cancel is handled only after the downstream neighbour has stopped,
    when the node invariant is no longer needed) -/
theorem MidInv.step {nd : Node} {ins outs : List Down} (ev : Ev) (h : MidInv nd ins outs)
    (ha : nd.alive = true) (hw : wf (ins ++ evDown ev) = true) (hev : Handles nd ev) (hc : ev ≠ .up .cancel) :
    MidInv (nd.step ev).1 (ins ++ evDown ev) (outs ++ (nd.step ev).2.down) := by
  rw [Node.step_alive ha]
  cases nd with
  | flow c st s => exact FlowInv.step c ev h ha hw
  | fused c fs s => exact FusedInv.step c ev h ha hc
  | batch c n s => exact BatchInv.step c ev h ha hw (fun he => by subst he; exact hev) hc
  | pmap o w k b e s =>
    have hr : ∀ q r, ev = .result q r → ∃ t ∈ s.outst, q = t.1 ∧ r = parFn k b e t.2 :=
      fun q r he => by subst he; exact hev
    cases o with
    | false => exact (PInvU_iff k b e).mpr (((PInvU_iff k b e).mp h).step w ev ha hw hr hc)
    | true => exact (PInv_iff k b e).mpr (((PInv_iff k b e).mp h).step w ev ha hw hr hc)
  | _ => exact h.elim

theorem MidInv.step_down {nd : Node} {ins outs : List Down} (d : Down) (h : MidInv nd ins outs)
    (ha : nd.alive = true) (hw : wf (ins ++ [d]) = true) :
    MidInv (nd.step (.down d)).1 (ins ++ [d]) (outs ++ (nd.step (.down d)).2.down) :=
  h.step (.down d) ha hw (.of_mailbox nd _ trivial) (by simp)

/-- a node stops in the step in which it sends a cancel upstream: a handler sends nothing upstream, or a
    request, or it stops -/
def Dies {σ : Type} (alive : σ → Bool) (r : σ × Out) : Prop := Up.cancel ∈ r.2.up → alive r.1 = false

theorem Dies.none {σ : Type} {alive : σ → Bool} {r : σ × Out} (h : r.2.up = []) : Dies alive r :=
  fun hc => by rw [h] at hc; cases hc

theorem Dies.req {σ : Type} {alive : σ → Bool} {r : σ × Out} {n : Int} (h : r.2.up = [.req n]) : Dies alive r :=
  fun hc => by rw [h] at hc; cases hc with | tail _ h' => cases h'

theorem Dies.dead {σ : Type} {alive : σ → Bool} {r : σ × Out} (h : alive r.1 = false) : Dies alive r := fun _ => h

theorem Dies.ite {σ : Type} {alive : σ → Bool} {c : Prop} [Decidable c] {a b : σ × Out} (ha : Dies alive a) (hb : Dies alive b) :
    Dies alive (if c then a else b) := iteInduction (fun _ => ha) fun _ => hb

theorem src_cancel_dies (s : SrcSt) (ev : Ev) : Dies SrcSt.alive (srcStep s ev) := by
  cases ev with
  | up u =>
    cases u with
    | req n =>
      rw [srcStep]
      cases s.rest with
      | nil => exact .none rfl
      | cons x xs => exact .ite (.none rfl) (.none rfl)
    | cancel => exact .none rfl
  | _ => exact .none rfl

theorem flow_cancel_dies (cfg : Cfg) (st : Stage) (s : FlowSt) (ev : Ev) : Dies FlowSt.alive (flowStep cfg st s ev) := by
  -- requests come from `maybeRequestUpstream`, which never cancels
  have hreq : ∀ (s' : FlowSt) (d : List Down), Dies FlowSt.alive ((s'.maybeReq cfg).1, { down := d, up := (s'.maybeReq cfg).2 }) :=
    fun s' d hc => by obtain ⟨c, u, hs, hu⟩ := maybeReq_shape cfg s'; rw [hs] at hc; exact absurd hc hu
  cases ev with
  | up u =>
    cases u with
    | req n => exact hreq _ _
    | cancel => exact .dead rfl
  | down d =>
    cases d with
    | elem v =>
      rw [flowStep]
      cases xfStep st s.ts v with
      | error e => exact .dead rfl
      | ok p => exact hreq _ _
    | complete => exact .ite (.none rfl) (.none rfl)
    | error e => exact .dead rfl
  | _ => exact .none rfl

theorem fused_cancel_dies (cfg : Cfg) (fs : List Stage) (s : FusedSt) (ev : Ev) :
    Dies FusedSt.alive (fusedStep cfg fs s ev) := by
  cases ev with
  | up u =>
    cases u with
    | req n => exact .ite (.none rfl) (.req rfl)
    | cancel => exact .dead rfl
  | down d =>
    cases d with
    | elem v =>
      rw [fusedStep]
      cases fusedFn fs v with
      | error e => exact .dead rfl
      | ok r => exact .ite (.req rfl) (.none rfl)
    | complete => exact .dead rfl
    | error e => exact .dead rfl
  | _ => exact .none rfl

theorem batch_cancel_dies (cfg : Cfg) (n : Nat) (s : BatchSt) (ev : Ev) : Dies BatchSt.alive (batchStep cfg n s ev) := by
  have hreq : ∀ (s' : BatchSt) (d : List Down), Dies BatchSt.alive ((s'.maybeReq cfg).1, { down := d, up := (s'.maybeReq cfg).2 }) :=
    fun s' d hc => by obtain ⟨c, u, hs, hu⟩ := batch_maybeReq_shape cfg s'; rw [hs] at hc; exact absurd hc hu
  cases ev with
  | up u =>
    cases u with
    | req k => exact .ite (.none rfl) (hreq _ _)
    | cancel => exact .dead rfl
  | down d =>
    cases d with
    | elem v =>
      cases v with
      | int x => exact hreq _ _
      | list l => exact .dead rfl
    | complete => exact .ite (.none rfl) (.none rfl)
    | error e => exact .dead rfl
  | _ => exact .none rfl

theorem pmap_cancel_dies (o : Bool) (w : Nat) (s : PMapSt) (ev : Ev) : Dies PMapSt.alive (pmapStep o w s ev) := by
  cases ev with
  | up u =>
    cases u with
    | req n => exact .ite (.none rfl) (.req rfl)
    | cancel => exact .dead rfl
  | down d =>
    cases d with
    | elem v =>
      cases v with
      | int x => exact .none rfl
      | list l => exact .dead rfl
    | complete => exact .ite (.none rfl) (.none rfl)
    | error e => exact .dead rfl
  | result q r =>
    cases r with
    | error er => exact .dead rfl
    | ok v =>
      -- both outcomes send the same requests: none once upstream is done, else one more
      have hu : ∀ (c : Prop) [Decidable c] (s' : PMapSt) (d : List Down),
          Dies PMapSt.alive (s', { down := d, up := if c then [] else [Up.req 1] }) := fun c _ s' d =>
        iteInduction (motive := fun u => Dies PMapSt.alive (s', { down := d, up := u })) (fun _ => .none rfl) fun _ => .req rfl
      exact .ite (hu _ _ _) (hu _ _ _)
  | _ => exact .none rfl

theorem sink_cancel_dies (cfg : Cfg) (s : SinkSt) (ev : Ev) : Dies SinkSt.alive (sinkStep cfg s ev) := by
  cases ev with
  | wire => exact .req rfl
  | down d =>
    cases d with
    | elem v => exact .ite (.req rfl) (.none rfl)
    | complete => exact .none rfl
    | error e => exact .dead rfl
  | _ => exact .none rfl

theorem cancel_dies (nd : Node) (ev : Ev) : Up.cancel ∈ (nd.step ev).2.up → (nd.step ev).1.alive = false := by
  by_cases ha : nd.alive = true
  · rw [Node.step_alive ha]
    cases nd with
    | src s => exact src_cancel_dies s ev
    | flow c st s => exact flow_cancel_dies c st s ev
    | fused c fs s => exact fused_cancel_dies c fs s ev
    | batch c n s => exact batch_cancel_dies c n s ev
    | pmap o w k b e s => exact pmap_cancel_dies o w s ev
    | sink c s => exact sink_cancel_dies c s ev
  · unfold Node.step; rw [if_pos (by simp [ha])]; exact nofun

structure GInv (P : List Val → Prop) (input : List Val) (net : Net) : Prop where
  len : net.links.length + 1 = net.nodes.length
  two : 2 ≤ net.nodes.length
  notasks : net.tasks = []
  posle : ∀ j, pos net j ≤ (hist net j).length
  wfh : ∀ j, wf (hist net j) = true
  src : ∃ s, net.nodes[0]? = some (.src s) ∧ Approx (hist net 0) input [] ∧
    (net.aliveAt 1 = true → SrcInv input s (hist net 0))
  mid : ∀ i nd, 0 < i → i + 1 < net.nodes.length → net.nodes[i]? = some nd →
    middleOK nd = true ∧ NodeSpec P nd (insOf net i) (hist net i) ∧
    (net.aliveAt (i + 1) = true → MidInv nd (insOf net i) (hist net i))
  sink : ∃ c s, net.nodes[net.nodes.length - 1]? = some (.sink c s) ∧
    SinkInv s (insOf net (net.nodes.length - 1))
  cancel : ∀ j, Up.cancel ∈ upq net j → net.aliveAt (j + 1) = false
  /-- parallel stages need homogeneous ideal inputs for their error clause -/
  par : (∀ X, P X → Homog X) ∨ ∀ (j : Nat) (nd : Node), net.nodes[j]? = some nd → isPar nd = false

theorem take_append_of_le {α : Type} (l t : List α) (k : Nat) (h : k ≤ l.length) :
    (l ++ t).take k = l.take k := List.take_append_of_le_length h

def semsOf (net : Net) : List SemFn := net.nodes.map midF

theorem aliveAt_some {net : Net} {k : Nat} (h : net.aliveAt k = true) :
    ∃ nd, net.nodes[k]? = some nd ∧ nd.alive = true := by
  unfold Net.aliveAt at h
  cases hn : net.nodes[k]? with
  | none => simp [hn] at h
  | some nd => exact ⟨nd, rfl, by simpa [hn] using h⟩

theorem GInv.role {P : List Val → Prop} {input : List Val} {net : Net} (h : GInv P input net) {k : Nat} {nd : Node}
    (hn : net.nodes[k]? = some nd) :
    (k = 0 ∧ ∃ s, nd = .src s) ∨ (0 < k ∧ k + 1 < net.nodes.length ∧ middleOK nd = true) ∨
    (k + 1 = net.nodes.length ∧ ∃ c s, nd = .sink c s) := by
  have hk := (List.getElem?_eq_some_iff.mp hn).1
  by_cases h0 : k = 0
  · subst h0
    obtain ⟨s, hs, _⟩ := h.src
    exact Or.inl ⟨rfl, s, Option.some.inj (hn.symm.trans hs)⟩
  · by_cases hl : k + 1 = net.nodes.length
    · obtain ⟨c, s, hs, _⟩ := h.sink
      rw [show net.nodes.length - 1 = k from hl ▸ rfl] at hs
      exact Or.inr (Or.inr ⟨hl, c, s, Option.some.inj (hn.symm.trans hs)⟩)
    · have h1 := Nat.pos_of_ne_zero h0
      have h2 := Nat.lt_of_le_of_ne (Nat.succ_le_of_lt hk) hl
      exact Or.inr (Or.inl ⟨h1, h2, (h.mid k nd h1 h2 hn).1⟩)

/-- `net1` is `net` after the scheduler took `ev` out of the mailbox of node `k`: the position of the link above
    `k` advances past a downstream message, an upstream message leaves its queue, nothing else differs -/
structure Dequeued (net net1 : Net) (k : Nat) (ev : Ev) : Prop where
  nodes : net1.nodes = net.nodes
  tasks : net1.tasks = net.tasks
  llen : net1.links.length = net.links.length
  head : ∀ d, ev = .down d → 1 ≤ k ∧ (hist net (k - 1))[pos net (k - 1)]? = some d
  hist_eq : ∀ j, hist net1 j = hist net j
  pos_eq : ∀ j, pos net1 j = pos net j + if j + 1 = k then (evDown ev).length else 0
  upq_sub : ∀ j, ∀ x ∈ upq net1 j, x ∈ upq net j

theorem Dequeued.refl (net : Net) (k : Nat) {ev : Ev} (h : evDown ev = []) : Dequeued net net k ev :=
  ⟨rfl, rfl, rfl, fun d hd => by simp [hd, evDown] at h, fun _ => rfl, fun _ => by simp [h], fun _ _ hx => hx⟩

theorem Dequeued.posle {net net1 : Net} {k : Nat} {ev : Ev} (hd : Dequeued net net1 k ev)
    (hle : ∀ j, pos net j ≤ (hist net j).length) (j : Nat) : pos net1 j ≤ (hist net j).length := by
  rw [hd.pos_eq]
  by_cases hj : j + 1 = k
  · subst hj
    rw [if_pos rfl]
    cases ev with
    | down d => exact (List.getElem?_eq_some_iff.mp (hd.head d rfl).2).1
    | _ => exact hle j
  · rw [if_neg hj]; exact hle j

theorem Dequeued.ins {net net1 : Net} {k : Nat} {ev : Ev} (hd : Dequeued net net1 k ev) (j : Nat) (hj : 1 ≤ j) :
    insOf net1 j = insOf net j ++ if j = k then evDown ev else [] := by
  simp only [insOf]
  rw [hd.hist_eq, hd.pos_eq, Nat.sub_add_cancel hj]
  by_cases hjk : j = k
  · subst hjk
    cases ev with
    | down d =>
      simp only [evDown, List.length_singleton, if_true]
      rw [List.take_add_one, (hd.head d rfl).2]; rfl
    | _ => simp [evDown]
  · simp [hjk]

structure Frame (net net' : Net) (k : Nat) (nd : Node) (ev : Ev) : Prop where
  nodes : ∀ j, net'.nodes[j]? = if j = k then some (nd.step ev).1 else net.nodes[j]?
  nlen : net'.nodes.length = net.nodes.length
  llen : net'.links.length = net.links.length
  alive : ∀ j, net'.aliveAt j = if j = k then (nd.step ev).1.alive else net.aliveAt j
  posle : ∀ j, pos net' j ≤ (hist net' j).length
  hist : ∀ j, hist net' j =
    if j = k ∧ net.aliveAt (k + 1) = true then hist net j ++ (nd.step ev).2.down else hist net j
  ins : ∀ j, 1 ≤ j → insOf net' j = insOf net j ++ if j = k then evDown ev else []
  upq : ∀ j, ∀ x ∈ upq net' j, x ∈ upq net j ∨ (j + 1 = k ∧ x ∈ (nd.step ev).2.up)
  tasks : net'.tasks = net.tasks

theorem frame_of_deliver {net net1 : Net} {k : Nat} {nd : Node} {ev : Ev}
    (hd : Dequeued net net1 k ev) (hn : net.nodes[k]? = some nd)
    (hlen : net.links.length + 1 = net.nodes.length) (hle : ∀ j, pos net j ≤ (hist net j).length) :
    Frame net (net1.deliver k ev) k nd ev := by
  have he := deliver_effect net1 k nd ev (hd.nodes ▸ hn)
  have hk := (List.getElem?_eq_some_iff.mp hn).1
  have hnodes : ∀ j, (net1.deliver k ev).nodes[j]? = if j = k then some (nd.step ev).1 else net.nodes[j]? := by
    intro j
    rw [he.nodes, hd.nodes, List.getElem?_set]
    by_cases h : j = k
    · subst h; simp [hk]
    · simp [h, Ne.symm h]
  have hal : ∀ j, net1.aliveAt j = net.aliveAt j := fun j => by simp [Net.aliveAt, hd.nodes]
  have hhist : ∀ j, hist (net1.deliver k ev) j =
      if j = k ∧ net.aliveAt (k + 1) = true then hist net j ++ (nd.step ev).2.down else hist net j := by
    intro j
    rw [he.hist, hd.hist_eq, hal, hd.llen]
    by_cases ha : net.aliveAt (k + 1) = true
    · have := (List.getElem?_eq_some_iff.mp (aliveAt_some ha).choose_spec.1).1
      rw [← hlen] at this
      simp [ha, Nat.lt_of_succ_lt_succ this]
    · simp [ha]
  have hle1 := hd.posle hle
  refine ⟨hnodes, by rw [he.nodes, hd.nodes, List.length_set], by rw [he.len, hd.llen], fun j => ?_, fun j => ?_,
    hhist, fun j hj => ?_, fun j x hx => ?_, by rw [he.tasks, hd.tasks]⟩
  · by_cases h : j = k <;> simp [Net.aliveAt, hnodes, h]
  · rw [he.pos, hhist]
    split
    · rw [List.length_append]; exact Nat.le_trans (hle1 j) (Nat.le_add_right _ _)
    · exact hle1 j
  · rw [← hd.ins j hj]
    simp only [insOf]
    rw [he.pos, hhist, hd.hist_eq]
    split
    · exact List.take_append_of_le_length (hle1 _)
    · rfl
  · rw [he.upq] at hx
    split at hx
    · rename_i hc
      exact (List.mem_append.mp hx).imp (hd.upq_sub j x) fun h => ⟨hc.1, h⟩
    · exact Or.inl (hd.upq_sub j x hx)

/-- the invariant of the stepped net follows from the frame and the obligations of the
    stepping node itself — the content of its own link, and its own invariant while its neighbour below runs -/
theorem GInv.of_frame {P : List Val → Prop} {input : List Val} {net net' : Net} {k : Nat} {nd : Node} {ev : Ev}
    (h : GInv P input net) (hf : Frame net net' k nd ev) (hn : net.nodes[k]? = some nd)
    (ha : net.aliveAt k = true)
    (hsrc : ∀ s, nd = .src s → ∃ s', (nd.step ev).1 = .src s' ∧ wf (hist net' 0) = true ∧
        Approx (hist net' 0) input [] ∧ (net.aliveAt 1 = true → SrcInv input s' (hist net' 0)))
    (hmid : middleOK nd = true → NodeSpec P nd (insOf net k ++ evDown ev) (hist net' k) ∧
        (net.aliveAt (k + 1) = true → MidInv (nd.step ev).1 (insOf net k ++ evDown ev) (hist net' k)))
    (hsink : ∀ c s, nd = .sink c s → ∃ s', (nd.step ev).1 = .sink c s' ∧ SinkInv s' (insOf net k ++ evDown ev)) :
    GInv P input net' := by
  have hother : ∀ j, j ≠ k → hist net' j = hist net j := fun j hj => by rw [hf.hist]; simp [hj]
  have hinso : ∀ j, j ≠ k → 1 ≤ j → insOf net' j = insOf net j := fun j hj h1 => by rw [hf.ins j h1]; simp [hj]
  have halive : ∀ j, j ≠ k → net'.aliveAt j = net.aliveAt j := fun j hj => by rw [hf.alive]; simp [hj]
  -- a neighbour of the stepping node that runs afterwards ran before
  have hbelow : ∀ j, net'.aliveAt (j + 1) = true → net.aliveAt (j + 1) = true := fun j hal => by
    by_cases hj : j + 1 = k
    · rw [hj]; exact ha
    · rwa [halive _ hj] at hal
  have hrole := h.role hn
  refine ⟨by rw [hf.llen, hf.nlen]; exact h.len, by rw [hf.nlen]; exact h.two, by rw [hf.tasks, h.notasks],
    hf.posle, fun j => ?_, ?_, fun i ndi hi0 hi1 hni => ?_, ?_, fun j hc => ?_, ?_⟩
  · by_cases hj : j = k
    · subst hj
      rcases hrole with ⟨rfl, s, hs⟩ | ⟨_, _, hok⟩ | ⟨hl, _⟩
      · exact (hsrc s hs).choose_spec.2.1
      · exact (hmid hok).1.wfOut
      · -- below the sink there is no link
        rw [hf.hist, if_neg fun hc => Nat.lt_irrefl _ (hl ▸ (List.getElem?_eq_some_iff.mp (aliveAt_some hc.2).choose_spec.1).1)]
        exact h.wfh j
    · rw [hother j hj]; exact h.wfh j
  · obtain ⟨s, hs0, hap, hsi⟩ := h.src
    by_cases hk0 : k = 0
    · subst hk0
      obtain ⟨s', h1, _, h2, h3⟩ := hsrc s (Option.some.inj (hn.symm.trans hs0))
      exact ⟨s', by rw [hf.nodes, h1]; rfl, h2, fun hal => h3 (hbelow 0 hal)⟩
    · have h0k : (0 : Nat) ≠ k := fun hh => hk0 hh.symm
      refine ⟨s, by rw [hf.nodes, if_neg h0k]; exact hs0, by rw [hother 0 h0k]; exact hap, fun hal => ?_⟩
      rw [hother 0 h0k]; exact hsi (hbelow 0 hal)
  · rw [hf.nlen] at hi1
    rw [hf.nodes] at hni
    by_cases hik : i = k
    · subst hik
      rw [if_pos rfl] at hni
      obtain ⟨hok, _, _⟩ := h.mid i nd hi0 hi1 hn
      obtain ⟨h1, h2⟩ := hmid hok
      rw [hf.ins i hi0, if_pos rfl, ← Option.some.inj hni, (Node.step_static nd ev).mid,
        (Node.step_static nd ev).spec]
      exact ⟨hok, h1, fun hal => h2 (hbelow i hal)⟩
    · rw [if_neg hik] at hni
      obtain ⟨hok, hsp, hmi⟩ := h.mid i ndi hi0 hi1 hni
      rw [hinso i hik hi0, hother i hik]
      exact ⟨hok, hsp, fun hal => hmi (hbelow i hal)⟩
  · obtain ⟨c, s, hsn, hsi⟩ := h.sink
    rw [hf.nlen]
    have hlast : 1 ≤ net.nodes.length - 1 := Nat.le_sub_one_of_lt h.two
    by_cases hkl : net.nodes.length - 1 = k
    · rw [hkl] at hsn hsi ⊢
      obtain ⟨s', h1, h2⟩ := hsink c s (Option.some.inj (hn.symm.trans hsn))
      exact ⟨c, s', by rw [hf.nodes, if_pos rfl, h1], by rw [hf.ins k (hkl ▸ hlast), if_pos rfl]; exact h2⟩
    · exact ⟨c, s, by rw [hf.nodes, if_neg hkl]; exact hsn, by rw [hinso _ hkl hlast]; exact hsi⟩
  · -- a pending cancel means the sender has stopped
    rcases hf.upq j _ hc with h1 | ⟨h1, h2⟩
    · have := h.cancel j h1
      rw [halive (j + 1) (fun hjk => by rw [hjk, ha] at this; cases this)]; exact this
    · rw [hf.alive, if_pos h1]; exact cancel_dies nd ev h2
  · refine h.par.imp id fun hp j nd' hn' => ?_
    rw [hf.nodes] at hn'
    split at hn'
    · rename_i hjk
      rw [← Option.some.inj hn', (Node.step_static nd ev).par]; exact hp k nd hn
    · exact hp j nd' hn'

end GoaktVerif.C45
