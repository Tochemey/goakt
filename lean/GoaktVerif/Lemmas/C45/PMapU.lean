/-
C45 lemmas: parallelMapActor in UNORDERED mode (ParallelMap): results are forwarded in the
order the workers reply, so the stage computes its list semantics as a MULTISET — whatever the reply order.
-/
import GoaktVerif.Lemmas.C45.PMapCore
import GoaktVerif.Lemmas.C45.PMap

namespace GoaktVerif.C45
open GoaktVerif.Model.C45

/-- sub-multiset: `a` plus something is a permutation of `b` -/
def SubPerm {α : Type} (a b : List α) : Prop := ∃ t, List.Perm (a ++ t) b

theorem SubPerm.append_right {α : Type} {a b : List α} (h : SubPerm a b) (r : List α) : SubPerm a (b ++ r) := by
  obtain ⟨t, ht⟩ := h
  exact ⟨t ++ r, by rw [← List.append_assoc]; exact ht.append_right r⟩

theorem SubPerm.of_prefix {α : Type} {a b c : List α} (hab : a <+: b) (h : SubPerm b c) : SubPerm a c := by
  obtain ⟨r, rfl⟩ := hab
  obtain ⟨t, ht⟩ := h
  exact ⟨r ++ t, by rw [← List.append_assoc]; exact ht⟩

theorem SubPerm.filter {α : Type} (p : α → Bool) {a b : List α} (h : SubPerm a b) :
    SubPerm (a.filter p) (b.filter p) := by
  obtain ⟨t, ht⟩ := h
  exact ⟨t.filter p, by rw [← List.filter_append]; exact ht.filter p⟩

theorem SubPerm.map {α β : Type} (f : α → β) {a b : List α} (h : SubPerm a b) : SubPerm (a.map f) (b.map f) := by
  obtain ⟨t, ht⟩ := h
  exact ⟨t.map f, by rw [← List.map_append]; exact ht.map f⟩

section
variable (k : Int) (bad : Option Int) (e : Err)

/-- the worker's result on an element that does not fail -/
def gRes (v : Val) : Val := match parFn k bad e v with | .ok y => y | .error _ => v
def okb (v : Val) : Bool := match parFn k bad e v with | .ok _ => true | .error _ => false

/-- the results of all elements of `X` that do not fail (an unordered stage may emit results of elements
    that FOLLOW a failing one) -/
def okAll (X : List Val) : List Val := (X.filter (okb k bad e)).map (gRes k bad e)

theorem parFn_ok_of_okb {v : Val} (h : okb k bad e v = true) : parFn k bad e v = .ok (gRes k bad e v) := by
  unfold okb at h; unfold gRes
  cases hf : parFn k bad e v with
  | ok y => rfl
  | error er => rw [hf] at h; simp at h

theorem parRun_all_ok {xs : List Val} (h : ∀ v ∈ xs, okb k bad e v = true) :
    parRun k bad e xs = (xs.map (gRes k bad e), none) := by
  induction xs with
  | nil => rfl
  | cons v vs ih =>
    have hv := parFn_ok_of_okb k bad e (h v (by simp))
    have := ih (fun w hw => h w (by simp [hw]))
    simp [parRun, hv, this]

/-- answered inputs (in reply order) ++ outstanding inputs = consumed inputs, as multisets -/
def CoreU (xs : List Val) (outst : List (Nat × Val)) (em : List Val) : Prop :=
  ∃ ds, em = ds.map (gRes k bad e) ∧ (∀ v ∈ ds, okb k bad e v = true) ∧ List.Perm (ds ++ outst.map (·.2)) xs

theorem CoreU.sub {xs : List Val} {outst : List (Nat × Val)} {em : List Val} (h : CoreU k bad e xs outst em)
    (rest : List Val) : SubPerm em (okAll k bad e (xs ++ rest)) := by
  obtain ⟨ds, rfl, hok, hp⟩ := h
  have h1 : SubPerm ds (xs ++ rest) := SubPerm.append_right ⟨_, hp⟩ rest
  have h2 := (h1.filter (okb k bad e)).map (gRes k bad e)
  rw [List.filter_eq_self.mpr hok] at h2
  exact h2

theorem CoreU.done {xs : List Val} {em : List Val} (h : CoreU k bad e xs [] em) :
    (parRun k bad e xs).2 = none ∧ List.Perm em (parRun k bad e xs).1 := by
  obtain ⟨ds, rfl, hok, hp⟩ := h
  simp only [List.map_nil, List.append_nil] at hp
  have hall : ∀ v ∈ xs, okb k bad e v = true := fun v hv => hok v (hp.mem_iff.mpr hv)
  rw [parRun_all_ok k bad e hall]
  exact ⟨rfl, hp.map _⟩

theorem perm_remove {l : List (Nat × Val)} (hn : (l.map (·.1)).Nodup) {t : Nat × Val} (ht : t ∈ l) :
    List.Perm l (t :: l.filter fun u => u.1 != t.1) := by
  induction l with
  | nil => simp at ht
  | cons a l ih =>
    simp only [List.map_cons, List.nodup_cons] at hn
    rcases List.mem_cons.mp ht with rfl | ht
    · have : (l.filter fun u => u.1 != t.1) = l := by
        apply List.filter_eq_self.mpr
        intro u hu
        have : u.1 ≠ t.1 := fun h => hn.1 (by rw [← h]; exact List.mem_map_of_mem hu)
        simpa using this
      simp [this]
    · have hat : a.1 ≠ t.1 := fun h => hn.1 (by rw [h]; exact List.mem_map_of_mem ht)
      have := ih hn.2 ht
      simp only [List.filter_cons, bne_iff_ne, ne_eq, hat, not_false_eq_true, if_true]
      exact (this.cons a).trans (List.Perm.swap _ _ _)

structure PInvU (s : PMapSt) (ins outs : List Down) : Prop where
  wfOut : wf outs = true
  live : s.alive = true →
    termOf outs = none ∧
    ((termOf ins = none ∧ s.upDone = false) ∨ (termOf ins = some none ∧ s.upDone = true)) ∧
    (s.outst.length : Int) ≤ s.inFlight ∧ (s.outst.map (·.1)).Nodup ∧ (∀ t ∈ s.outst, t.1 ≤ s.inSeq) ∧
    CoreU k bad e (elemsOf ins) s.outst (elemsOf outs)
  dead : s.alive = false →
    (termOf outs = some none ∧ termOf ins = some none ∧ CoreU k bad e (elemsOf ins) [] (elemsOf outs))
    ∨ (∃ er, termOf outs = some (some er) ∧ (∃ os, CoreU k bad e (elemsOf ins) os (elemsOf outs)) ∧
        (termOf ins = some (some er) ∨ ∃ v ∈ elemsOf ins, parFn k bad e v = .error er))

theorem PInvU.init : PInvU k bad e {} [] [] :=
  ⟨rfl, fun _ => ⟨rfl, Or.inl ⟨rfl, rfl⟩, by simp, by simp, fun t ht => by simp at ht,
    ⟨[], rfl, fun v hv => by simp at hv, by simp [elemsOf]⟩⟩, fun h => by simp at h⟩

theorem PInvU.step_wire {s : PMapSt} {ins outs : List Down} (w : Nat) (h : PInvU k bad e s ins outs) :
    PInvU k bad e (pmapStep false w s .wire).1 ins (outs ++ (pmapStep false w s .wire).2.down) := by
  simpa [pmapStep] using h

/-- the unordered mode: distinct seqNos in the pool; results emitted ++ inputs in the pool = inputs taken, as multisets -/
def unordMode : ParMode k bad e false where
  emit ne p r := (ne, p, [r.2])
  last _ _ := []
  emit_eq _ _ := rfl
  last_eq _ := rfl
  C q _ _ os xs em := (os.map (·.1)).Nodup ∧ (∀ t ∈ os, t.1 ≤ q) ∧ CoreU k bad e xs os em
  Done xs em := CoreU k bad e xs [] em
  Part xs em := ∃ os, CoreU k bad e xs os em
  part {_ _ _ os _ _} t := fun ⟨_, _, ds, hem, hok, hp⟩ => ⟨os ++ t.map fun v => (0, v), ds, hem, hok, by
    rw [List.map_append, List.map_map, ← List.append_assoc]
    exact hp.append (List.Perm.of_eq (List.map_id' t))⟩
  mem := fun ⟨_, _, ds, _, _, hp⟩ ht => hp.mem_iff.mp (List.mem_append_right _ (List.mem_map_of_mem ht))
  push {q _ _ os _ _} v := fun ⟨hnd, hbd, ds, hem, hok, hp⟩ => by
    refine ⟨?_, fun t ht => ?_, ds, hem, hok, ?_⟩
    · -- the new seqNo is above all outstanding ones
      rw [List.map_append]
      refine List.nodup_append.mpr ⟨hnd, by simp, fun a ha' b hb => ?_⟩
      obtain ⟨t, ht, rfl⟩ := List.mem_map.mp ha'
      cases List.mem_singleton.mp hb
      exact Nat.ne_of_lt (Nat.lt_succ_of_le (hbd t ht))
    · rcases List.mem_append.mp ht with ht | ht
      · exact Nat.le_succ_of_le (hbd t ht)
      · cases List.mem_singleton.mp ht; exact Nat.le_refl _
    · rw [List.map_append, ← List.append_assoc]
      exact hp.append_right _
  reply {_ _ _ os _ _ t y} := fun ⟨hnd, hbd, ds, hem, hok, hp⟩ ht hf => by
    have hy : y = gRes k bad e t.2 := by simp [gRes, hf]
    have hokt : okb k bad e t.2 = true := by simp [okb, hf]
    refine ⟨(List.filter_sublist.map _).nodup hnd,
      fun u hu => hbd u (List.mem_filter.mp hu).1, ds ++ [t.2], by rw [List.map_append, hem, hy]; rfl, fun v hv => ?_, ?_⟩
    · rcases List.mem_append.mp hv with hv | hv
      · exact hok v hv
      · cases List.mem_singleton.mp hv; exact hokt
    · have h1 : List.Perm (os.map (·.2)) (t.2 :: (os.filter fun u => u.1 != t.1).map (·.2)) :=
        (perm_remove hnd ht).map (·.2)
      rw [List.append_assoc]
      exact (h1.append_left ds).symm.trans hp
  finish hc := by rw [List.append_nil]; exact hc.2.2

theorem PInvU_iff {s : PMapSt} {ins outs : List Down} : PInvU k bad e s ins outs ↔ PG (unordMode k bad e) s ins outs :=
  ⟨fun h => ⟨h.wfOut, h.live, h.dead⟩, fun h => ⟨h.wfOut, h.live, h.dead⟩⟩

theorem PInvU.step_down {s : PMapSt} {ins outs : List Down} (w : Nat) (d : Down)
    (h : PInvU k bad e s ins outs) (ha : s.alive = true) (hw : wf (ins ++ [d]) = true) :
    PInvU k bad e (pmapStep false w s (.down d)).1 (ins ++ [d]) (outs ++ (pmapStep false w s (.down d)).2.down) :=
  (PInvU_iff k bad e).mpr (((PInvU_iff k bad e).mp h).step_down w d ha hw)

theorem PInvU.step_result {s : PMapSt} {ins outs : List Down} (w : Nat) (t : Nat × Val)
    (h : PInvU k bad e s ins outs) (ha : s.alive = true) (ht : t ∈ s.outst) :
    PInvU k bad e (pmapStep false w s (.result t.1 (parFn k bad e t.2))).1 ins
      (outs ++ (pmapStep false w s (.result t.1 (parFn k bad e t.2))).2.down) :=
  (PInvU_iff k bad e).mpr (((PInvU_iff k bad e).mp h).step_result w t ha ht)

/-- the content specification of the unordered stage: a sub-multiset of the results of the non-failing
    elements at every moment; at completion a permutation of the list semantics -/
structure SpecU (P : List Val → Prop) (ins outs : List Down) : Prop where
  wfOut : wf outs = true
  sub : ∀ X, elemsOf ins <+: X → SubPerm (elemsOf outs) (okAll k bad e X)
  compl : termOf outs = some none →
    termOf ins = some none ∧ (parRun k bad e (elemsOf ins)).2 = none ∧
      List.Perm (elemsOf outs) (parRun k bad e (elemsOf ins)).1
  err : ∀ er, termOf outs = some (some er) →
    termOf ins = some (some er) ∨ ∀ X, elemsOf ins <+: X → P X → (parRun k bad e X).2 = some er

theorem SpecU.extend {P : List Val → Prop} {ins outs : List Down} (h : SpecU k bad e P ins outs) (t : List Down) :
    SpecU k bad e P (ins ++ t) outs := by
  cases hc : termOf ins with
  | some c =>
    obtain ⟨h2, h1, _⟩ := closed_append hc t
    exact ⟨h.wfOut, fun X hX => h.sub X (by rw [h2] at hX; exact hX),
      fun ho => by rw [h1, h2, ← hc]; exact h.compl ho, fun er ho => by rw [h1, h2, ← hc]; exact h.err er ho⟩
  | none =>
    have hpre := elemsOf_prefix ins t
    refine ⟨h.wfOut, fun X hX => h.sub X (hpre.trans hX), ?_, ?_⟩
    · intro ho; have := (h.compl ho).1; rw [hc] at this; simp at this
    · intro er ho
      rcases h.err er ho with h1 | h1
      · rw [hc] at h1; simp at h1
      · exact Or.inr fun X hX hP => h1 X (hpre.trans hX) hP

theorem SpecU.weaken {P Q : List Val → Prop} {ins outs : List Down} (hPQ : ∀ X, P X → Q X)
    (h : SpecU k bad e Q ins outs) : SpecU k bad e P ins outs :=
  ⟨h.wfOut, h.sub, h.compl, fun er he => (h.err er he).imp id fun h1 X hX hP => h1 X hX (hPQ X hP)⟩

theorem PInvU.specU {s : PMapSt} {ins outs : List Down} (h : PInvU k bad e s ins outs) :
    SpecU k bad e Homog ins outs := by
  have hcore : ∃ os, CoreU k bad e (elemsOf ins) os (elemsOf outs) := by
    by_cases ha : s.alive = true
    · exact ⟨_, (h.live ha).2.2.2.2.2⟩
    · rcases h.dead (by simpa using ha) with ⟨_, _, h3⟩ | ⟨_, _, h3, _⟩
      · exact ⟨_, h3⟩
      · exact h3
  obtain ⟨os, hcr⟩ := hcore
  refine ⟨h.wfOut, ?_, ?_, ?_⟩
  · intro X hX
    obtain ⟨rest, rfl⟩ := hX
    exact hcr.sub k bad e rest
  · intro ho
    by_cases ha : s.alive = true
    · have := (h.live ha).1; rw [ho] at this; simp at this
    · rcases h.dead (by simpa using ha) with ⟨_, h2, h3⟩ | ⟨er, h1, _⟩
      · exact ⟨h2, (h3.done k bad e).1, (h3.done k bad e).2⟩
      · rw [ho] at h1; simp at h1
  · intro er ho
    by_cases ha : s.alive = true
    · have := (h.live ha).1; rw [ho] at this; simp at this
    · rcases h.dead (by simpa using ha) with ⟨h1, _⟩ | ⟨er', h1, _, h3⟩
      · rw [ho] at h1; simp at h1
      · rw [ho] at h1
        have : er = er' := by simpa using h1
        subst this
        rcases h3 with h3 | ⟨v, hv, hfv⟩
        · exact Or.inl h3
        · refine Or.inr fun X hX hH => ?_
          obtain ⟨rest, rfl⟩ := hX
          exact parRun_err k bad e hH (List.mem_append_left _ hv) hfv

end

end GoaktVerif.C45
