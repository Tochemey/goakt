/-
C47: the ring buffer of bucket.go refines the queue-shaped rolling window of Spec/C47.
-/
import GoaktVerif.Model.C47
import GoaktVerif.Spec.C47
import GoaktVerif.Lemmas.NatMod

namespace GoaktVerif.C47
open GoaktVerif.Model.C47 GoaktVerif.Spec.C47

def sumBy (f : Nat × Nat → Nat) (l : List (Nat × Nat)) : Nat := (l.map f).sum

theorem foldl_totals (l : List (Nat × Nat)) (acc : Nat × Nat) :
    l.foldl (fun acc b => (acc.1 + b.1, acc.2 + b.2)) acc
      = (acc.1 + sumBy Prod.fst l, acc.2 + sumBy Prod.snd l) := by
  induction l generalizing acc with
  | nil => rfl
  | cons a rest ih => rw [List.foldl_cons, ih, Nat.add_assoc, Nat.add_assoc]; rfl

theorem totals_eq (w : BW) : w.totals = (sumBy Prod.fst w.buf, sumBy Prod.snd w.buf) := by
  rw [BW.totals, foldl_totals, Nat.zero_add, Nat.zero_add]

theorem sumS_eq (q : List (Nat × Nat)) : sumS q = sumBy Prod.fst q := rfl
theorem sumF_eq (q : List (Nat × Nat)) : sumF q = sumBy Prod.snd q := rfl

/-- index in the ring of the bucket that is `j` buckets old -/
def slot (cursor num j : Nat) : Nat := if j ≤ cursor then cursor - j else cursor + num - j

section
variable {c num j : Nat}

theorem slot_zero (c num : Nat) : slot c num 0 = c := if_pos (Nat.zero_le c)

theorem slot_lt (hc : c < num) (hj : j < num) : slot c num j < num := by
  unfold slot; split
  · exact Nat.lt_of_le_of_lt (Nat.sub_le _ _) hc
  · omega

theorem slot_rot (hc : c < num) (hj : j + 1 < num) :
    slot ((c + 1) % num) num (j + 1) = slot c num j := by
  unfold slot
  rw [NatMod.succ_mod hc]
  split
  · next e =>
    subst e
    rw [if_neg (Nat.not_succ_le_zero j), if_pos (Nat.le_of_lt_succ (Nat.lt_of_succ_lt hj)), Nat.zero_add,
      Nat.add_sub_add_right]
  · simp only [Nat.add_le_add_iff_right, Nat.add_sub_add_right, Nat.add_right_comm c 1 num]

theorem slot_succ_ne (hj : j + 1 < num) : slot c num (j + 1) ≠ c := by
  unfold slot; split
  · exact Nat.ne_of_lt (Nat.sub_lt (Nat.lt_of_lt_of_le (Nat.succ_pos j) ‹_›) (Nat.succ_pos j))
  · exact Nat.ne_of_gt (Nat.lt_sub_of_add_lt (Nat.add_lt_add_left hj c))

end

theorem wrap_idx {c j num : Nat} (h1 : c + 1 ≤ j) (hj : j < num) :
    c + 1 + (num - (c + 1) - 1 - (j - (c + 1))) = c + num - j := by
  -- with `num = j + e + 1` both sides are `c + 1 + e`; `omega` proves it too, at several times the cost of checking
  obtain ⟨e, rfl⟩ := Nat.exists_eq_add_of_lt hj
  rw [Nat.sub_sub, Nat.sub_sub, Nat.add_left_comm (c + 1) 1, Nat.add_sub_cancel' h1, Nat.add_comm 1 j,
    Nat.add_right_comm j e 1, Nat.add_sub_cancel_left, Nat.add_assoc j 1 e, Nat.add_left_comm c j,
    Nat.add_sub_cancel_left, Nat.add_assoc]

/-- the queue is the ring read backwards from the cursor, wrapping round once -/
theorem queue_eq {buf q : List (Nat × Nat)} {c num : Nat} (lenB : buf.length = num) (lenQ : q.length = num)
    (hc : c < num) (pos : ∀ j, j < num → q[j]? = buf[slot c num j]?) :
    q = (buf.take (c + 1)).reverse ++ (buf.drop (c + 1)).reverse := by
  have lt : (buf.take (c + 1)).length = c + 1 := by rw [List.length_take, lenB]; exact Nat.min_eq_left hc
  have ld : (buf.drop (c + 1)).length = num - (c + 1) := by rw [List.length_drop, lenB]
  refine List.ext_getElem? fun j => ?_
  rw [List.getElem?_append, List.length_reverse, lt]
  by_cases h1 : j < c + 1
  · have hj : j < num := Nat.lt_of_lt_of_le h1 hc
    rw [pos j hj, slot, if_pos h1, if_pos (Nat.le_of_lt_succ h1), List.getElem?_reverse (lt.symm ▸ h1), lt,
      Nat.add_sub_cancel, List.getElem?_take, if_pos (Nat.lt_succ_of_le (Nat.sub_le _ _))]
  · rw [if_neg h1]
    by_cases hj : j < num
    · rw [pos j hj, slot, if_neg (fun h => h1 (Nat.lt_succ_of_le h)),
        List.getElem?_reverse (ld.symm ▸ Nat.sub_lt_sub_right (Nat.not_lt.1 h1) hj), ld, List.getElem?_drop,
        wrap_idx (Nat.not_lt.1 h1) hj]
    · rw [List.getElem?_eq_none (lenQ ▸ Nat.not_lt.1 hj), List.getElem?_eq_none]
      rw [List.length_reverse, ld]
      exact Nat.sub_le_sub_right (Nat.not_lt.1 hj) _

theorem sumBy_of_pos (f : Nat × Nat → Nat) {buf q : List (Nat × Nat)} {c num : Nat} (lenB : buf.length = num)
    (lenQ : q.length = num) (hc : c < num) (pos : ∀ j, j < num → q[j]? = buf[slot c num j]?) :
    sumBy f buf = sumBy f q := by
  rw [queue_eq lenB lenQ hc pos, sumBy, sumBy, List.map_append, List.map_reverse, List.map_reverse, List.sum_append,
    List.sum_reverse, List.sum_reverse, ← List.sum_append, ← List.map_append, List.take_append_drop]

structure RW (num : Nat) (w : BW) (sw : SWin) : Prop where
  lenB : w.buf.length = num
  lenQ : sw.q.length = num
  cur : w.cursor < num
  lu : w.lastUpdate = sw.lastUpdate
  pos : ∀ j, j < num → sw.q[j]? = w.buf[slot w.cursor num j]?
  totS : sumBy Prod.fst w.buf = sumBy Prod.fst sw.q
  totF : sumBy Prod.snd w.buf = sumBy Prod.snd sw.q

theorem RW.pos_num (h : RW num w sw) : 0 < num := Nat.zero_lt_of_lt h.cur

theorem RW.q_ne_nil (h : RW num w sw) : sw.q ≠ [] :=
  List.ne_nil_of_length_pos (h.lenQ ▸ h.pos_num)

/-- the two sum clauses follow from `pos` -/
theorem RW.of_pos {num : Nat} {w : BW} {sw : SWin} (lenB : w.buf.length = num) (lenQ : sw.q.length = num)
    (cur : w.cursor < num) (lu : w.lastUpdate = sw.lastUpdate)
    (pos : ∀ j, j < num → sw.q[j]? = w.buf[slot w.cursor num j]?) : RW num w sw :=
  ⟨lenB, lenQ, cur, lu, pos, sumBy_of_pos _ lenB lenQ cur pos, sumBy_of_pos _ lenB lenQ cur pos⟩

theorem rw_zero (num : Nat) (now : Int) (h : 1 ≤ num) (buf q : List (Nat × Nat)) (hb : buf.length = num)
    (hq : q.length = num) :
    RW num ⟨buf.map (fun _ => (0, 0)), 0, now⟩ ⟨q.map (fun _ => (0, 0)), now⟩ := by
  refine RW.of_pos (by rw [List.length_map, hb]) (by rw [List.length_map, hq]) h rfl fun j hj => ?_
  show (q.map _)[j]? = (buf.map _)[slot 0 num j]?
  rw [List.getElem?_map, List.getElem?_map, List.getElem?_eq_getElem (hq ▸ hj),
    List.getElem?_eq_getElem (by rw [hb]; exact slot_lt h hj)]
  rfl

theorem rw_new (num : Nat) (now : Int) (h : 1 ≤ num) : RW num (BW.new num now) (SWin.fresh num now) := by
  have := rw_zero num now h (List.replicate num (0, 0)) (List.replicate num (0, 0)) List.length_replicate
    List.length_replicate
  rwa [List.map_replicate] at this

/-- one rotation of the ring = one shift of the queue -/
theorem rw_rotate1 (num : Nat) (bn : Int) (w : BW) (sw : SWin) (h : RW num w sw) :
    RW num ⟨w.buf.set ((w.cursor + 1) % num) (0, 0), (w.cursor + 1) % num, w.lastUpdate + bn⟩
      ⟨shift1 sw.q, sw.lastUpdate + bn⟩ := by
  have hc : (w.cursor + 1) % num < num := Nat.mod_lt _ h.pos_num
  have hrot := @slot_rot w.cursor num
  generalize (w.cursor + 1) % num = c at hc hrot ⊢
  refine RW.of_pos (by rw [List.length_set, h.lenB]) ?_ hc (by rw [h.lu]) fun j hj => ?_
  · show (sw.q.dropLast.length + 1) = num
    rw [List.length_dropLast, h.lenQ, Nat.sub_add_cancel h.pos_num]
  · show (shift1 sw.q)[j]? = (w.buf.set c (0, 0))[slot c num j]?
    cases j with
    | zero => rw [slot_zero, shift1, List.getElem?_cons_zero, List.getElem?_set_self (h.lenB ▸ hc)]
    | succ j =>
      rw [shift1, List.getElem?_cons_succ, List.getElem?_dropLast, h.lenQ, if_pos (Nat.lt_sub_of_add_lt hj),
        h.pos j (Nat.lt_of_succ_lt hj), List.getElem?_set_ne (slot_succ_ne hj).symm, hrot h.cur hj]

theorem rw_rotate (num : Nat) (bn : Int) (n : Nat) : ∀ (w : BW) (sw : SWin), RW num w sw →
    RW num (BW.rotate num bn n w) ⟨shiftN n sw.q, sw.lastUpdate + n * bn⟩ := by
  induction n with
  | zero => intro w sw h; simpa [BW.rotate, shiftN] using h
  | succ n ih =>
    intro w sw h
    have e : sw.lastUpdate + bn + (n : Int) * bn = sw.lastUpdate + ((n + 1 : Nat) : Int) * bn := by
      rw [Int.natCast_add, Int.add_mul]; omega
    exact e ▸ ih _ _ (rw_rotate1 num bn w sw h)

theorem rw_hardReset (num : Nat) (now : Int) (w : BW) (sw : SWin) (h : RW num w sw) :
    RW num (w.hardReset now) ⟨sw.q.map (fun _ => (0, 0)), now⟩ :=
  rw_zero num now h.pos_num w.buf sw.q h.lenB h.lenQ

/-- the configuration as the spec sees it -/
def toSConf (cf : Conf) : SConf := ⟨cf.p, cf.q, cf.minReq, cf.openTimeout, cf.bucketNanos, cf.num, cf.hmax⟩

/-- `advanceLocked` = `SWin.advance` -/
theorem rw_advance (cf : Conf) (hbn : 0 < cf.bucketNanos) (now : Int) (w : BW) (sw : SWin) (h : RW cf.num w sw) :
    RW cf.num (w.advance cf now) (sw.advance (toSConf cf) now) := by
  unfold BW.advance SWin.advance
  simp only [toSConf, h.lu]
  by_cases h1 : now - sw.lastUpdate < cf.bucketNanos
  · simp only [h1, if_true]; exact h
  · -- elapsed ≥ one bucket > 0, so `tdiv` is `/` and `steps` is a natural number
    have hnn : 0 ≤ now - sw.lastUpdate := by omega
    simp only [h1, if_false]
    rw [Int.tdiv_eq_ediv_of_nonneg hnn]
    by_cases h2 : (now - sw.lastUpdate) / cf.bucketNanos ≥ (cf.num : Int)
    · simp only [h2, if_true]; exact rw_hardReset cf.num now w sw h
    · simp only [h2, if_false]
      have := rw_rotate cf.num cf.bucketNanos ((now - sw.lastUpdate) / cf.bucketNanos).toNat w sw h
      rwa [Int.toNat_of_nonneg (Int.ediv_nonneg hnn (Int.le_of_lt hbn))] at this

/-- counting an outcome in the current bucket = bumping the head of the queue -/
theorem rw_bump (num : Nat) (success : Bool) (w : BW) (sw : SWin) (h : RW num w sw) :
    RW num { w with buf := w.buf.modify w.cursor (bumpBucket success) } { sw with q := bump success sw.q } := by
  obtain ⟨a, rest, hq⟩ := List.exists_cons_of_ne_nil h.q_ne_nil
  have hpos := h.pos
  have h0 : w.buf[w.cursor]? = some a := by
    rw [← slot_zero w.cursor num, ← h.pos 0 h.pos_num, hq]; rfl
  have hlen := h.lenQ
  rw [hq] at hpos hlen
  show RW num ⟨w.buf.modify w.cursor (bumpBucket success), w.cursor, w.lastUpdate⟩ ⟨bump success sw.q, sw.lastUpdate⟩
  rw [hq]
  refine RW.of_pos (by rw [List.length_modify, h.lenB]) hlen h.cur h.lu fun j hj => ?_
  show (bumpBucket success a :: rest)[j]? = (w.buf.modify w.cursor (bumpBucket success))[slot w.cursor num j]?
  cases j with
  | zero => rw [slot_zero, List.getElem?_modify_eq, h0]; rfl
  | succ j => rw [List.getElem?_modify_ne _ _ (slot_succ_ne hj).symm, ← hpos (j + 1) hj]; rfl

end GoaktVerif.C47
