/-
C21 helper lemmas: the ring's sort + search + map lookup computes the successor vnode.
-/
import GoaktVerif.Model.C21
import GoaktVerif.Spec.C21
import GoaktVerif.Lemmas.ListFacts
namespace GoaktVerif.C21L
open GoaktVerif.Model.C21 GoaktVerif.Spec.C21

theorem isSucc_unique {hs : List Nat} {h x x' : Nat} (a : IsSucc hs h x) (b : IsSucc hs h x') : x = x' := by
  obtain ⟨ax, a1, a2⟩ := a
  obtain ⟨bx, b1, b2⟩ := b
  by_cases e : ∃ y ∈ hs, h ≤ y
  · exact Nat.le_antisymm ((a1 e).2 x' bx (b1 e).1) ((b1 e).2 x ax (a1 e).1)
  · exact Nat.le_antisymm (a2 e x' bx) (b2 e x ax)

theorem isSucc_subset {hs hs' : List Nat} (hsub : ∀ y, y ∈ hs' → y ∈ hs) {h x : Nat}
    (a : IsSucc hs h x) (hx : x ∈ hs') : IsSucc hs' h x := by
  obtain ⟨ax, a1, a2⟩ := a
  refine ⟨hx, ?_, ?_⟩
  · rintro ⟨y, hy, hle⟩
    have := a1 ⟨y, hsub y hy, hle⟩
    exact ⟨this.1, fun z hz hzle => this.2 z (hsub z hz) hzle⟩
  · intro nex y hy
    by_cases e : ∃ y ∈ hs, h ≤ y
    · exact absurd ⟨x, hx, (a1 e).1⟩ nex
    · exact a2 e y (hsub y hy)

theorem isSucc_congr {hs hs' : List Nat} (hm : ∀ y, y ∈ hs ↔ y ∈ hs') {h x : Nat} :
    IsSucc hs h x ↔ IsSucc hs' h x :=
  ⟨fun a => isSucc_subset (fun y hy => (hm y).mpr hy) a ((hm x).mp a.1),
   fun a => isSucc_subset (fun y hy => (hm y).mp hy) a ((hm x).mpr a.1)⟩

theorem sorted_getElem_le {keys : List Nat} (hs : keys.Pairwise (· ≤ ·)) {i j : Nat} (hij : i ≤ j)
    (hj : j < keys.length) : keys[i]'(Nat.lt_of_le_of_lt hij hj) ≤ keys[j] := by
  rcases Nat.eq_or_lt_of_le hij with rfl | hlt
  · exact Nat.le_refl _
  · exact List.pairwise_iff_getElem.mp hs i j _ hj hlt

/-- on a sorted non-empty slice, `search` + wrap-to-0 selects the successor -/
theorem search_isSucc (keys : List Nat) (hsorted : keys.Pairwise (· ≤ ·)) (h : Nat) (hne : keys ≠ []) :
    ∃ k, keys[(if search keys h ≥ keys.length then 0 else search keys h)]? = some k ∧ IsSucc keys h k := by
  by_cases hfound : search keys h < keys.length
  · -- the first key ≥ h
    rw [if_neg (Nat.not_le_of_lt hfound), List.getElem?_eq_getElem hfound]
    have hp : h ≤ keys[search keys h] := of_decide_eq_true (List.findIdx_getElem (w := hfound))
    refine ⟨_, rfl, List.getElem_mem _, fun _ => ⟨hp, fun y hy hle => ?_⟩,
      fun nex => absurd ⟨_, List.getElem_mem _, hp⟩ nex⟩
    obtain ⟨j, hj, rfl⟩ := List.getElem_of_mem hy
    refine sorted_getElem_le hsorted (Nat.le_of_not_lt fun hjlt => ?_) hj
    exact absurd hle (of_decide_eq_false (List.not_of_lt_findIdx hjlt))
  · -- no key ≥ h: wrap
    have hlen : 0 < keys.length := List.length_pos_iff.mpr hne
    rw [if_pos (Nat.le_of_not_lt hfound), List.getElem?_eq_getElem hlen]
    have hall : ∀ x ∈ keys, ¬ h ≤ x := fun x hx => of_decide_eq_false
      (List.findIdx_eq_length.mp (Nat.le_antisymm List.findIdx_le_length (Nat.le_of_not_lt hfound)) x hx)
    refine ⟨_, rfl, List.getElem_mem _, fun ⟨y, hy, hle⟩ => absurd hle (hall y hy), fun _ y hy => ?_⟩
    obtain ⟨j, hj, rfl⟩ := List.getElem_of_mem hy
    exact sorted_getElem_le hsorted (Nat.zero_le j) hj

theorem insertSorted_perm (a : Nat) (l : List Nat) : (insertSorted a l).Perm (a :: l) :=
  perm_insert_of_eqns (ins := insertSorted) (fun _ => rfl) (fun a b bs => by simp only [insertSorted]; split <;> simp) a l

theorem sortKeys_perm (l : List Nat) : (sortKeys l).Perm l := perm_sort_of_eqns insertSorted_perm rfl (fun _ _ => rfl) l

theorem insertSorted_sorted (a : Nat) (l : List Nat) (h : l.Pairwise (· ≤ ·)) :
    (insertSorted a l).Pairwise (· ≤ ·) := by
  induction l with
  | nil => simp [insertSorted]
  | cons b bs ih =>
    simp only [insertSorted]
    have hb := List.pairwise_cons.mp h
    split
    · rename_i hab
      refine List.pairwise_cons.mpr ⟨?_, h⟩
      intro y hy
      rcases List.mem_cons.mp hy with rfl | hy'
      · exact hab
      · exact Nat.le_trans hab (hb.1 y hy')
    · rename_i hab
      refine List.pairwise_cons.mpr ⟨?_, ih hb.2⟩
      intro y hy
      have : y ∈ a :: bs := (insertSorted_perm a bs).mem_iff.mp hy
      rcases List.mem_cons.mp this with rfl | hy'
      · omega
      · exact hb.1 y hy'

theorem sortKeys_sorted (l : List Nat) : (sortKeys l).Pairwise (· ≤ ·) := by
  induction l with
  | nil => simp [sortKeys]
  | cons a as ih => exact insertSorted_sorted a _ ih

theorem sorted_keys (vnodes : List VNode) : (Ring.set vnodes).keys.Pairwise (· ≤ ·) :=
  sortKeys_sorted _

theorem mem_keys (vnodes : List VNode) (y : Nat) : y ∈ (Ring.set vnodes).keys ↔ y ∈ vnodes.map (·.1) :=
  (sortKeys_perm _).mem_iff

/-- the ring returns the owner (map entry) of the successor hash of the key -/
theorem lookup_spec (vnodes : List VNode) (h : Nat) (hne : vnodes ≠ []) :
    ∃ k, IsSucc (vnodes.map (·.1)) h k ∧ (Ring.set vnodes).lookup h = mapGet vnodes k := by
  have hkne : (Ring.set vnodes).keys ≠ [] := fun e =>
    hne (List.map_eq_nil_iff.mp (List.Perm.eq_nil (show (vnodes.map (·.1)).Perm [] from e ▸ (sortKeys_perm _).symm)))
  obtain ⟨k, hk, hs⟩ := search_isSucc _ (sorted_keys vnodes) h hkne
  refine ⟨k, (isSucc_congr (mem_keys vnodes)).mp hs, ?_⟩
  rw [Ring.lookup, if_neg (by rw [List.isEmpty_iff]; exact hkne)]
  simp only [hk]
  rfl

theorem mapGet_none (V : List VNode) (h : Nat) (hn : h ∉ V.map (·.1)) : mapGet V h = none := by
  induction V with
  | nil => rfl
  | cons v vs ih =>
    obtain ⟨k, m⟩ := v
    simp only [List.map_cons, List.mem_cons, not_or] at hn
    simp only [mapGet, ih hn.2]
    rw [if_neg (fun e => hn.1 e.symm)]

theorem mapGet_of_mem (V : List VNode) (hnd : (V.map (·.1)).Nodup) (k m : Nat) (hm : (k, m) ∈ V) :
    mapGet V k = some m := by
  induction V with
  | nil => exact absurd hm (by simp)
  | cons v vs ih =>
    obtain ⟨k0, m0⟩ := v
    simp only [List.map_cons, List.nodup_cons] at hnd
    rcases List.mem_cons.mp hm with e | hin
    · cases e
      simp only [mapGet, mapGet_none vs k hnd.1, if_true]
    · simp only [mapGet, ih hnd.2 hin]

theorem mapGet_mem (V : List VNode) (k m : Nat) (h : mapGet V k = some m) : (k, m) ∈ V := by
  induction V with
  | nil => simp [mapGet] at h
  | cons v vs ih =>
    obtain ⟨k0, m0⟩ := v
    simp only [mapGet] at h
    split at h
    · rename_i m' hm'
      cases h
      exact List.mem_cons_of_mem _ (ih hm')
    · split at h
      · rename_i e; cases h; subst e; exact List.mem_cons_self
      · cases h

end GoaktVerif.C21L
