/-
Induction along a replay `run : σ → List ι → σ` of a step function, for any `run` with the two equations of a left fold.
Every schedule replay of the models has them by `rfl`: written by recursion, as `List.foldl`, or, where the replay
also collects outputs, as its first component (`run := fun c s => (World.run c s).1`, `step := fun c a => (c.step a).1`);
`collect_inv` is for a replay that returns the list of (state, output) pairs.
-/
namespace GoaktVerif.Run

variable {σ ι : Type _} {step : σ → ι → σ} {run : σ → List ι → σ}

theorem eq_foldl (h0 : ∀ c, run c [] = c) (h1 : ∀ c a s, run c (a :: s) = run (step c a) s) (c : σ) (s : List ι) :
    run c s = s.foldl step c := by
  induction s generalizing c with
  | nil => exact h0 c
  | cons a s ih => rw [h1, ih, List.foldl_cons]

/-- what every step keeps holds after the run; `P` may speak of the inputs still to come (a guard on the schedule) -/
theorem inv (h0 : ∀ c, run c [] = c) (h1 : ∀ c a s, run c (a :: s) = run (step c a) s)
    {P : σ → List ι → Prop} (hstep : ∀ c a s, P c (a :: s) → P (step c a) s) :
    ∀ (s : List ι) (c : σ), P c s → P (run c s) []
  | [], c, h => (h0 c).symm ▸ h
  | a :: s, c, h => (h1 c a s).symm ▸ inv h0 h1 hstep s _ (hstep c a s h)

theorem inv' (h0 : ∀ c, run c [] = c) (h1 : ∀ c a s, run c (a :: s) = run (step c a) s)
    {P : σ → Prop} (hstep : ∀ c a, P c → P (step c a)) (s : List ι) (c : σ) (h : P c) : P (run c s) :=
  inv (P := fun c _ => P c) h0 h1 (fun c a _ => hstep c a) s c h

theorem append (h0 : ∀ c, run c [] = c) (h1 : ∀ c a s, run c (a :: s) = run (step c a) s) (c : σ) (a b : List ι) :
    run c (a ++ b) = run (run c a) b := by
  rw [eq_foldl h0 h1, eq_foldl h0 h1, eq_foldl h0 h1, List.foldl_append]

/-- a relation between the state and what has been emitted so far, which every step extends by its own events;
    `tr` is the emission of a whole run, given by its two equations like `run` -/
theorem trace {β : Type _} {stepEv : σ → ι → List β} {tr : σ → List ι → List β}
    (h0 : ∀ c, run c [] = c) (h1 : ∀ c a s, run c (a :: s) = run (step c a) s)
    (t0 : ∀ c, tr c [] = []) (t1 : ∀ c a s, tr c (a :: s) = stepEv c a ++ tr (step c a) s)
    {T : σ → List β → Prop} (hstep : ∀ c a evs, T c evs → T (step c a) (evs ++ stepEv c a)) :
    ∀ (s : List ι) (c : σ) (evs : List β), T c evs → T (run c s) (evs ++ tr c s)
  | [], c, evs, h => by rw [h0, t0, List.append_nil]; exact h
  | a :: s, c, evs, h => by
    rw [h1, t1, ← List.append_assoc]; exact trace h0 h1 t0 t1 hstep s _ _ (hstep c a evs h)

theorem collect_inv {ρ : Type _} {step : σ → ι → σ × ρ} {run : σ → List ι → List (σ × ρ)}
    (h0 : ∀ c, run c [] = []) (h1 : ∀ c a s, run c (a :: s) = step c a :: run (step c a).1 s)
    {P : σ → Prop} (hstep : ∀ c a, P c → P (step c a).1) : ∀ (s : List ι) (c : σ), P c → ∀ r ∈ run c s, P r.1
  | [], c, _, r, hr => by rw [h0] at hr; cases hr
  | a :: s, c, h, r, hr => by
    rw [h1] at hr
    rcases List.mem_cons.mp hr with rfl | hr
    · exact hstep c a h
    · exact collect_inv h0 h1 hstep s _ (hstep c a h) r hr

end GoaktVerif.Run
