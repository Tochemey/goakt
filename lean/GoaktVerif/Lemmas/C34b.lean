/-
C34, histories: `after pre` is the state reached by a history, `evAt pre op n` what node `n` is reported to do
by the call `op` made right after history `pre`.  The invariants of reachable states, the guard of the partial
theorem, and what they give for one call of any history: where a reported departure comes from, the ground-truth
gate under the guard, the local node never reported.
-/
import GoaktVerif.Lemmas.C34
import GoaktVerif.Spec.C34

namespace GoaktVerif.C34
open GoaktVerif.Model.C34 GoaktVerif.Spec.C34

/-- events reported for node `n` by the call `op` issued after history `pre`
    (the op at 0-based position `pre.length` carries timestamp `pre.length + 1`) -/
def evAt (pre : List Op) (op : Op) (n : Node) : Ev := (step (after pre) (pre.length + 1) op).2 n

theorem runFrom_append (k : Nat) (s : St) (a b : List Op) :
    runFrom k s (a ++ b) =
      ((runFrom k s a).1 ++ (runFrom (k + a.length) (runFrom k s a).2 b).1,
       (runFrom (k + a.length) (runFrom k s a).2 b).2) := by
  induction a generalizing k s with
  | nil => simp [runFrom]
  | cons x xs ih =>
    simp only [List.cons_append, runFrom, ih, List.length_cons]
    have : k + 1 + xs.length = k + (xs.length + 1) := by omega
    rw [this]

theorem runFrom_length (k : Nat) (s : St) (h : List Op) : (runFrom k s h).1.length = h.length := by
  induction h generalizing k s with
  | nil => simp [runFrom]
  | cons x xs ih => simp [runFrom, ih]

theorem after_snoc (pre : List Op) (op : Op) :
    after (pre ++ [op]) = (step (after pre) (pre.length + 1) op).1 := by
  simp [after, run, runFrom_append, runFrom]

theorem after_append_cons (pre : List Op) (op : Op) (post : List Op) :
    after (pre ++ op :: post) =
      (runFrom (pre.length + 1) (step (after pre) (pre.length + 1) op).1 post).2 := by
  simp [after, run, runFrom_append, runFrom]

/-- the executable `run` reports exactly `evAt` at every position -/
theorem run_getElem (pre : List Op) (op : Op) (post : List Op) :
    (run (pre ++ op :: post)).1[pre.length]? = some (fun n => evAt pre op n) := by
  simp only [run, runFrom_append, runFrom]
  rw [List.getElem?_append_right (by simp [runFrom_length])]
  simp [runFrom_length, evAt, after, run]

structure Inv (pre : List Op) (s : St) : Prop where
  linv : ∀ n, LInv (s.loc n)
  selfJoin : (s.loc self).joinTs = none
  selfLeft : (s.loc self).leftTs = none
  leftTs : ∀ n t, (s.loc n).leftTs = some t → 1 ≤ t ∧ t ≤ pre.length ∧ ∃ c, pre[t - 1]? = some (.left n c)
  complete : ∀ e, s.g.completeSeen e = true → Op.complete e ∈ pre
  latest : s.g.leftLatest ≠ 0 → ∃ m, Op.start .left m s.g.leftLatest ∈ pre
  leftEp : ∀ n e, (s.loc n).leftEp = some e → ∃ m, Op.start .left m e ∈ pre

theorem Inv_init : Inv [] init where
  linv := fun _ => LInv_init
  selfJoin := rfl
  selfLeft := rfl
  leftTs := fun _ _ h => nomatch h
  complete := fun _ h => nomatch h
  latest := fun h => (h rfl).elim
  leftEp := fun _ _ h => nomatch h

structure Pend (h : List Op) (n : Node) (l : Loc) : Prop where
  pos : ∀ t, l.leftTs = some t → 1 ≤ t ∧ t ≤ h.length ∧ ∃ c, h[t - 1]? = some (.left n c)
  ep : ∀ e, l.leftEp = some e → ∃ m, Op.start .left m e ∈ h

theorem Assign.pend {pre : List Op} {s : St} (hi : Inv pre s) {op : Op} {n : Node} {l1 : Loc}
    (a : Assign s.g (pre.length + 1) op n (s.loc n) l1) : Pend (pre ++ [op]) n l1 where
  pos t h := by
    rw [List.length_append, List.length_singleton]
    cases a with
    | keep hts | assign _ _ _ _ _ hts =>
      obtain ⟨h1, h2, c, h3⟩ := hi.leftTs n t (hts ▸ h)
      exact ⟨h1, by omega, c, by rw [List.getElem?_append_left (by omega)]; exact h3⟩
    | track hop _ _ hts =>
      obtain ⟨c, rfl⟩ := isLeftOf_iff.mp hop
      cases hts.symm.trans h
      exact ⟨by omega, by omega, c, by simp⟩
  ep e h := by
    have old : (s.loc n).leftEp = some e → ∃ m, Op.start .left m e ∈ pre ++ [op] := fun h =>
      (hi.leftEp n e h).imp fun _ => List.mem_append_left _
    cases a with
    | keep _ hep => exact old (hep ▸ h)
    | track _ _ _ _ hep =>
      rcases hep with hep | ⟨h0, hep⟩
      · exact old (hep ▸ h)
      · cases hep.symm.trans h
        exact (hi.latest h0).imp fun _ => List.mem_append_left _
    | assign m e' hop _ _ _ hep => cases hep.symm.trans h; exact ⟨m, by simp [hop]⟩

theorem Inv_step {pre : List Op} {s : St} (hi : Inv pre s) (op : Op) :
    Inv (pre ++ [op]) (step s (pre.length + 1) op).1 := by
  have hm := fun n => stepL_leftMove s.g (pre.length + 1) op (fireOf s op) n (s.loc n)
  constructor
  · intro n; exact stepL_LInv (hi.linv n)
  · exact (stepL_self_join rfl hi.selfJoin).1
  · exact (stepL_left_none hi.selfLeft (Or.inl rfl)).1
  · intro n t h
    obtain ⟨l1, a, f⟩ := hm n
    exact (a.pend hi).pos t (f.sub.1 t h)
  · intro e h
    rcases stepG_complete_prov _ _ e h with h | rfl
    · exact List.mem_append_left _ (hi.complete e h)
    · simp
  · intro h
    rcases stepG_leftLatest_prov s.g op with h' | ⟨m, h'⟩
    · obtain ⟨m, hm⟩ := hi.latest (h' ▸ h)
      exact ⟨m, List.mem_append_left _ (h' ▸ hm)⟩
    · exact ⟨m, by simp [step, ← h']⟩
  · intro n e h
    obtain ⟨l1, a, f⟩ := hm n
    exact (a.pend hi).ep e (f.sub.2 e h)

theorem Inv_runFrom {pre : List Op} {s : St} (hi : Inv pre s) (h : List Op) :
    Inv (pre ++ h) (runFrom pre.length s h).2 := by
  induction h generalizing pre s with
  | nil => simpa [runFrom] using hi
  | cons x xs ih =>
    have := ih (Inv_step hi x)
    simpa [runFrom, List.append_assoc] using this

theorem Inv_after (pre : List Op) : Inv pre (after pre) := by
  have := Inv_runFrom Inv_init pre
  simpa [after, run] using this

/-- The guard of the partial theorem, for the call `op` issued in state `s` after history `pre`:
    * if a left notification is newly tracked then the latest node-left epoch (if any) covers the
      departure (this excludes a departure arriving while a stale epoch is still the latest one —
      finding C34-F1);
    * a node-left rebalance-start (not a duplicate) covers every pending departure (this excludes
      a start notification overtaken by the notification of a later departure — finding C34-F3). -/
def guardStep (pre : List Op) (s : St) : Op → Bool
  | .left n c => !leftTracked (s.loc n) || s.g.leftLatest == 0 || decide (c ≤ s.g.leftLatest)
  | .start .left _ e => s.g.startSeen e ||
      (pre.zipIdx.all fun p => match p.1 with
        | .left n c => (s.loc n).leftTs != some (p.2 + 1) || decide (c ≤ e)
        | _ => true)
  | _ => true

def guardFrom : List Op → St → List Op → Bool
  | _, _, [] => true
  | pre, s, op :: ops => guardStep pre s op && guardFrom (pre ++ [op]) (step s (pre.length + 1) op).1 ops

def guard (h : List Op) : Bool := guardFrom [] init h

theorem guardFrom_append (p : List Op) (s : St) (a b : List Op) :
    guardFrom p s (a ++ b) = (guardFrom p s a && guardFrom (p ++ a) (runFrom p.length s a).2 b) := by
  induction a generalizing p s with
  | nil => simp [guardFrom, runFrom]
  | cons x xs ih => simp [guardFrom, runFrom, ih, Bool.and_assoc]

theorem guard_split (pre : List Op) (op : Op) (post : List Op) (h : guard (pre ++ op :: post) = true) :
    guardStep pre (after pre) op = true := by
  simp only [guard, guardFrom_append, guardFrom, Bool.and_eq_true] at h
  simpa [after, run] using h.2.1

theorem guard_prefix (a b : List Op) (h : guard (a ++ b) = true) : guard a = true := by
  simp only [guard, guardFrom_append, Bool.and_eq_true] at h
  exact h.1

/-- a pending departure with an assigned epoch is covered by that epoch -/
def Cov (h : List Op) (n : Node) (l : Loc) : Prop :=
  ∀ t e c, l.leftTs = some t → l.leftEp = some e → covAt h n t = some c → c ≤ e

def CovInv (pre : List Op) (s : St) : Prop := ∀ n, Cov pre n (s.loc n)

theorem covAt_append {pre post : List Op} {n : Node} {t : Nat} (ht : t ≤ pre.length) :
    covAt (pre ++ post) n t = covAt pre n t := by
  cases t with
  | zero => rfl
  | succ t => simp only [covAt]; rw [List.getElem?_append_left (by omega)]

theorem covAt_eq_some {h : List Op} {n : Node} {t : Nat} {c : Epoch} :
    covAt h n t = some c ↔ 1 ≤ t ∧ h[t - 1]? = some (.left n c) := by
  cases t with
  | zero => simp [covAt]
  | succ t =>
    simp only [covAt, Nat.add_sub_cancel, Nat.le_add_left, true_and]
    split
    · rename_i m c' heq
      rw [heq]; simp only [Option.some.injEq, Op.left.injEq]
      split <;> simp_all
    · rename_i hne
      constructor
      · intro h; cases h
      · intro h; exact absurd h (hne n c)

theorem guard_start {pre : List Op} {s : St} {m : Node} {e : Epoch}
    (hg : guardStep pre s (.start .left m e) = true) (hs : s.g.startSeen e = false)
    (n : Node) (t : Nat) (c : Epoch) (hts : (s.loc n).leftTs = some t) (hc : covAt pre n t = some c) :
    c ≤ e := by
  simp only [guardStep, hs, Bool.false_or, List.all_eq_true] at hg
  obtain ⟨h1, h2⟩ := covAt_eq_some.mp hc
  have := hg (Op.left n c, t - 1) (by rw [List.mem_zipIdx_iff_getElem?]; simpa using h2)
  simp only [Bool.or_eq_true, bne_iff_ne, ne_eq, decide_eq_true_eq] at this
  exact this.resolve_left fun h => h (by rw [hts]; congr 1; omega)

theorem guard_left {pre : List Op} {s : St} {n : Node} {c : Epoch}
    (hg : guardStep pre s (.left n c) = true) (ht : leftTracked (s.loc n) = true)
    (h0 : s.g.leftLatest ≠ 0) : c ≤ s.g.leftLatest := by
  simpa [guardStep, ht, h0] using hg

theorem CovInv_init : CovInv [] init := by
  intro n t e c h; simp [init, Loc.init] at h

/-- the only place where the guard is read -/
theorem Assign.cov {pre : List Op} {s : St} (hi : Inv pre s) {op : Op} {n : Node} {l1 : Loc} (hc : Cov pre n (s.loc n))
    (hg : guardStep pre s op = true) (a : Assign s.g (pre.length + 1) op n (s.loc n) l1) : Cov (pre ++ [op]) n l1 := by
  intro t e c hts hep hcov
  have old : (s.loc n).leftTs = some t → covAt pre n t = some c := fun h => by
    rwa [covAt_append (hi.leftTs n t h).2.1] at hcov
  cases a with
  | keep h1 h2 =>
    have hts := h1.symm.trans hts
    exact hc t e c hts (h2.symm.trans hep) (old hts)
  | track hop _ htr h1 h2 =>
    obtain ⟨c0, rfl⟩ := isLeftOf_iff.mp hop
    cases h1.symm.trans hts
    have : c0 = c := by simpa [covAt] using hcov
    subst this
    rcases h2 with h2 | ⟨h0, h2⟩
    · -- an epoch kept from before belongs to a pending departure (`LInv`); a newly tracked node has none
      have := (hi.linv n).2 (by rw [h2.symm.trans hep]; rfl)
      simp [leftTracked, this] at htr
    · cases h2.symm.trans hep; exact guard_left hg htr h0
  | assign m e' hop hs _ h1 h2 =>
    subst hop; cases h2.symm.trans hep
    have hts := h1.symm.trans hts
    exact guard_start hg hs n t c hts (old hts)

theorem CovInv_step {pre : List Op} {s : St} (hi : Inv pre s) (hc : CovInv pre s) (op : Op)
    (hg : guardStep pre s op = true) : CovInv (pre ++ [op]) (step s (pre.length + 1) op).1 := by
  intro n t e c hts hep
  obtain ⟨l1, a, f⟩ := stepL_leftMove s.g (pre.length + 1) op (fireOf s op) n (s.loc n)
  exact a.cov hi (hc n) hg t e c (f.sub.1 t hts) (f.sub.2 e hep)

theorem CovInv_runFrom {pre : List Op} {s : St} (hi : Inv pre s) (hc : CovInv pre s) (h : List Op)
    (hg : guardFrom pre s h = true) : CovInv (pre ++ h) (runFrom pre.length s h).2 := by
  induction h generalizing pre s with
  | nil => simpa [runFrom] using hc
  | cons x xs ih =>
    simp only [guardFrom, Bool.and_eq_true] at hg
    have := ih (Inv_step hi x) (CovInv_step hi hc x hg.1) hg.2
    simpa [runFrom, List.append_assoc] using this

theorem CovInv_after (pre : List Op) (hg : guard pre = true) : CovInv pre (after pre) := by
  have := CovInv_runFrom Inv_init CovInv_init pre hg
  simpa [after, run] using this

/-- Where a reported NodeLeft(n)@t comes from, in every history; `emitted_left_ts`, `gate_model` and `gate_step` are its
    readings. -/
theorem left_emitted {pre : List Op} {s : St} (hi : Inv pre s) (op : Op) (n : Node) (t : Nat)
    (he : ((step s (pre.length + 1) op).2 n).left = some t) :
    ∃ c, (1 ≤ t ∧ t ≤ pre.length + 1 ∧ (pre ++ [op])[t - 1]? = some (.left n c)) ∧
      (op = .overdue n ∨ ∃ e, (∃ m, Op.start .left m e ∈ pre ++ [op]) ∧ Op.complete e ∈ pre ++ [op] ∧
        (CovInv pre s → guardStep pre s op = true → c ≤ e)) := by
  obtain ⟨l1, a, f⟩ := stepL_leftMove s.g (pre.length + 1) op (fireOf s op) n (s.loc n)
  obtain ⟨hts, -, -, why⟩ := f.emit he
  obtain ⟨h1, h2, c, h3⟩ := (a.pend hi).pos t hts
  refine ⟨c, ⟨h1, by simpa using h2, h3⟩, why.imp_right fun ⟨e, hep, hce⟩ => ⟨e, (a.pend hi).ep e hep, ?_, fun hc hg => ?_⟩⟩
  · exact hce.elim (fun h => List.mem_append_left _ (hi.complete e h)) fun h => by simp [h]
  · exact a.cov hi (hc n) hg t e c hts hep (covAt_eq_some.mpr ⟨h1, h3⟩)

/-- every emitted NodeLeft(n)@t belongs to a left notification for `n`: the one at position t-1 -/
theorem emitted_left_ts (pre : List Op) (op : Op) (n : Node) (t : Nat)
    (h : (evAt pre op n).left = some t) :
    1 ≤ t ∧ t ≤ pre.length + 1 ∧ ∃ c, (pre ++ [op])[t - 1]? = some (.left n c) := by
  obtain ⟨c, h, -⟩ := left_emitted (Inv_after pre) op n t h
  exact ⟨h.1, h.2.1, c, h.2.2⟩

/-- under the guard, a NodeLeft is emitted only by the timeout or after an epoch covering the
    departure has completed -/
theorem gate_step {pre : List Op} {s : St} (hi : Inv pre s) (hc : CovInv pre s) (op : Op)
    (hg : guardStep pre s op = true) (n : Node) (t : Nat)
    (he : ((step s (pre.length + 1) op).2 n).left = some t) :
    gateOK (pre ++ [op]) pre.length n t = true := by
  obtain ⟨c, ⟨h1, -, h3⟩, why⟩ := left_emitted hi op n t he
  rcases why with rfl | ⟨e, -, hmem, hle⟩
  · simp [gateOK]
  · simp only [gateOK, covAt_eq_some.mpr ⟨h1, h3⟩, coveredBy, List.any_eq_true, Bool.or_eq_true]
    exact Or.inr ⟨_, by rw [List.take_of_length_le (by simp)]; exact hmem, by simpa using hle hc hg⟩

theorem self_never_joined (pre : List Op) (op : Op) : (evAt pre op self).join = none :=
  (stepL_self_join rfl (Inv_after pre).selfJoin).2

/-- every NodeLeft needs a left notification naming that node (for the local node see `self_never_left`) -/
theorem self_left_only_if_notified (pre : List Op) (op : Op) (t : Nat)
    (h : (evAt pre op self).left = some t) : ∃ c, Op.left self c ∈ pre ++ [op] := by
  obtain ⟨_, _, c, hc⟩ := emitted_left_ts pre op self t h
  exact ⟨c, List.mem_of_getElem? hc⟩

/-- the local node never reports its own departure (trackNodeLeftEvent ignores it) -/
theorem self_never_left (pre : List Op) (op : Op) : (evAt pre op self).left = none :=
  (stepL_left_none (Inv_after pre).selfLeft (Or.inl rfl)).2

end GoaktVerif.C34
