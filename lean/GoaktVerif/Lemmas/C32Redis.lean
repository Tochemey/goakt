/-
C32 — what C33 composes: the plan of `allocateActors` in the order the worker walks it, and the accounting of
`redistribute` as `C32_redistribute` states it (shares, leader, failures; the worker walks these the other way round).
-/
import GoaktVerif.Lemmas.C32Alloc
import GoaktVerif.Lemmas.C32Grains

namespace GoaktVerif.C32
open GoaktVerif.Model.C32

/-- the actor plan in the order the worker walks it: failure records, the leader's share, the peers' shares -/
theorem allocateActors_walk (leaderRoles : List Role) (peers : List (List Role)) (base : List Nat) (order : List Actor) :
    let plan := allocateActors leaderRoles peers base order
    (plan.2.2 ++ plan.1 ++ (plan.2.1.drop 1).flatten).Perm order ∧ plan.2.1.length = peers.length + 1 := by
  have inv := allocInv_run (leaderRoles :: peers) base order
  have hp := alloc_partition (leaderRoles :: peers) base order
  refine ⟨?_, inv.len_shares⟩
  show ((allocRun (leaderRoles :: peers) base order).unplaceable ++ ((allocRun (leaderRoles :: peers) base order).singles
    ++ (allocRun (leaderRoles :: peers) base order).shares.headD [])
    ++ ((allocRun (leaderRoles :: peers) base order).shares.drop 1).flatten).Perm order
  generalize allocRun (leaderRoles :: peers) base order = st at inv hp
  rw [inv.singles_eq, List.append_assoc, List.append_assoc, headD_append_flatten_tail]
  exact List.perm_append_comm.trans hp.symm

theorem redistribute_fields (requests : List Request) (survivors : List (List Role)) (leaderRoles : List Role) :
    let st := (reassignByRole requests survivors leaderRoles).1
    let r := redistribute requests survivors leaderRoles
    r.actorShares = st.shares ∧ r.leaderActors = st.leader ∧ r.failedActors = st.failed
    ∧ r.grainShares = (if survivors.length = 0 then []
        else rrLoop survivors.length (requestGrains requests) 0 (List.replicate survivors.length []))
    ∧ r.leaderGrains = (if survivors.length = 0 then requestGrains requests else []) := by
  by_cases hs : survivors.length = 0 <;> simp [redistribute, reassignByRole, hs]

/-- every unsent actor and grain ends in exactly one place; the leader takes grains only when nobody survives -/
theorem redistribute_accounting (requests : List Request) (survivors : List (List Role)) (leaderRoles : List Role) :
    let r := redistribute requests survivors leaderRoles
    r.actorShares.length = survivors.length
    ∧ (requestActors requests).Perm (r.actorShares.flatten ++ r.leaderActors ++ r.failedActors)
    ∧ (r.grainShares.flatten ++ r.leaderGrains).Perm (requestGrains requests)
    ∧ (survivors ≠ [] → r.grainShares.length = survivors.length ∧ r.leaderGrains = [])
    ∧ (survivors = [] → r.grainShares = [] ∧ r.leaderGrains = requestGrains requests) := by
  intro r
  obtain ⟨hf1, hf2, hf3, hg1, hg2⟩ := redistribute_fields requests survivors leaderRoles
  have hlen : r.actorShares.length = survivors.length :=
    (congrArg List.length hf1).trans (reassignInv_run survivors leaderRoles (requestActors requests)).len_shares
  have hperm : (requestActors requests).Perm (r.actorShares.flatten ++ r.leaderActors ++ r.failedActors) := by
    rw [hf1, hf2, hf3]
    exact reassign_partition survivors leaderRoles (requestActors requests)
  by_cases hs : survivors.length = 0
  · rw [if_pos hs] at hg1 hg2
    exact ⟨hlen, hperm, by rw [hg1, hg2]; exact .refl _,
      fun hne => absurd (List.eq_nil_of_length_eq_zero hs) hne, fun _ => ⟨hg1, hg2⟩⟩
  · rw [if_neg hs] at hg1 hg2
    refine ⟨hlen, hperm, ?_, fun _ => ⟨by rw [hg1, rrLoop_length, List.length_replicate], hg2⟩,
      fun he => absurd (congrArg List.length he) hs⟩
    rw [hg1, hg2, List.append_nil]
    have := rrLoop_perm survivors.length (Nat.pos_of_ne_zero hs) (requestGrains requests) 0
      (List.replicate survivors.length []) List.length_replicate
    rwa [flatten_replicate_nil, List.nil_append] at this

end GoaktVerif.C32
