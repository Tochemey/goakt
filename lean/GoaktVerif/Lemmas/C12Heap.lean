/-
C12: Go's container/heap as the passivation manager uses it.  `Swap`, `up` and `down` permute the heap
array and move the `index` fields along (`HeapMove`), so the two stay in sync (`Sync`).  What Push, Pop, Remove
and Fix leave on the heap is said in one form (`Heaped`): Pop and Remove take exactly the entry they are asked for off it.
-/
import GoaktVerif.Model.C12

namespace GoaktVerif.C12
open GoaktVerif.Model.C12 GoaktVerif.Model.C12.State

/-- two states agree on everything but the heap array, the index fields and the halt flag -/
structure SameCore (s t : State) : Prop where
  now : t.now = s.now
  nA : t.nA = s.nA
  actors : t.actors = s.actors
  nE : t.nE = s.nE
  objs : t.objs = s.objs
  entries : t.entries = s.entries
  chan : t.chan = s.chan
  sysStopping : t.sysStopping = s.sysStopping
  log : t.log = s.log

theorem SameCore.refl (s : State) : SameCore s s := ⟨rfl, rfl, rfl, rfl, rfl, rfl, rfl, rfl, rfl⟩

theorem SameCore.trans {s t u : State} (h1 : SameCore s t) (h2 : SameCore t u) : SameCore s u :=
  ⟨h2.now.trans h1.now, h2.nA.trans h1.nA, h2.actors.trans h1.actors, h2.nE.trans h1.nE, h2.objs.trans h1.objs,
   h2.entries.trans h1.entries, h2.chan.trans h1.chan, h2.sysStopping.trans h1.sysStopping, h2.log.trans h1.log⟩

theorem sameCore_setIdx (s : State) (g : Nat) (v : Int) : SameCore s (s.setIdx g v) :=
  ⟨rfl, rfl, rfl, rfl, rfl, rfl, rfl, rfl, rfl⟩

theorem sameCore_queue (s : State) (q : List Nat) : SameCore s { s with queue := q } :=
  ⟨rfl, rfl, rfl, rfl, rfl, rfl, rfl, rfl, rfl⟩

/-- position `i` of the heap array holds entry `g` exactly when `g.index = i` -/
def Sync (s : State) : Prop := ∀ (g i : Nat), s.queue[i]? = some g ↔ s.idx g = (i : Int)

theorem sync_setIdx_neg (s : State) (g : Nat) (h : Sync s) (hg : s.idx g < 0) : Sync (s.setIdx g (-1)) := by
  intro g' k
  have e1 := h g' k
  simp only [setIdx, upd]
  split
  · subst g'
    exact ⟨fun hq => by have := e1.mp hq; omega, fun hq => by omega⟩
  · exact e1

/-- what `Swap`, `up` and `down` do: the array is permuted, the index fields follow -/
structure HeapMove (s t : State) : Prop where
  core : SameCore s t
  len : t.queue.length = s.queue.length
  sync : Sync s → Sync t
  nonneg : ∀ g, 0 ≤ s.idx g → 0 ≤ t.idx g
  /-- an index does not become non-negative by itself -/
  back : Sync s → ∀ g, 0 ≤ t.idx g → 0 ≤ s.idx g

theorem HeapMove.refl (s : State) : HeapMove s s := ⟨.refl s, rfl, id, fun _ h => h, fun _ _ h => h⟩

theorem HeapMove.trans {s t u : State} (h1 : HeapMove s t) (h2 : HeapMove t u) : HeapMove s u :=
  ⟨h1.core.trans h2.core, h2.len.trans h1.len, fun h => h2.sync (h1.sync h), fun g h => h2.nonneg g (h1.nonneg g h),
   fun h g hg => h1.back h g (h2.back (h1.sync h) g hg)⟩

theorem heapMove_swap (s : State) (i j : Nat) : HeapMove s (s.swap i j) := by
  -- `fun_cases f args` gives one goal per leaf of `f` in Model/C12.lean, numbered in the order of the leaves there,
  -- with the pattern equations and guard outcomes on the way as hypotheses and a `let` of `f` as a local definition
  fun_cases State.swap s i j
  case case2 => exact .refl s -- a position outside the array: nothing moves
  case case1 gi gj hj hi t => -- both positions hold an entry: `gi` at `i`, `gj` at `j`
    have hli := (List.getElem?_eq_some_iff.mp hi).1
    have hlj := (List.getElem?_eq_some_iff.mp hj).1
    refine ⟨(sameCore_queue s _).trans ((sameCore_setIdx _ gj i).trans (sameCore_setIdx _ gi j)), ?_,
      fun h g k => ?_, fun g h => ?_, fun h g hg => ?_⟩
    · simp only [t, setIdx, List.length_set]
    · -- position `k` is `i`, `j` or neither and entry `g` is `gi`, `gj` or neither: `Sync` before the swap is read
      -- at exactly these pairs
      have e1 := h gi i
      have e2 := h gj j
      have e3 := h g k
      have e4 := h g i
      have e5 := h g j
      have e6 := h gi k
      have e7 := h gj k
      simp only [t, setIdx, upd, List.getElem?_set, List.length_set]
      grind
    · simp only [t, setIdx, upd]
      split
      · omega
      · split
        · omega
        · exact h
    · have e1 := (h gi i).mp hi
      have e2 := (h gj j).mp hj
      by_cases h1 : g = gi
      · rw [h1, e1]; omega
      · by_cases h2 : g = gj
        · rw [h2, e2]; omega
        · simpa [t, setIdx, upd, h1, h2] using hg

theorem heapMove_up {f : Nat} {s : State} {j : Nat} : HeapMove s (up f s j) := by
  fun_induction up f s j with
  | case1 => exact .refl _  -- fuel out
  | case2 => exact .refl _  -- at the root, or not less than the parent
  | case3 f s j i hc ih => exact (heapMove_swap s i j).trans ih  -- swapped with the parent `i`, on from there

theorem heapMove_down {f : Nat} {s : State} {i n : Nat} : HeapMove s (down f s i n).1 := by
  fun_induction down f s i n with
  | case1 => exact .refl _  -- fuel out
  | case2 => exact .refl _  -- no child
  | case3 => exact .refl _  -- the smaller child `j` is not less
  | case4 f s i n j1 h1 j h2 ih => exact (heapMove_swap s i j).trans ih  -- swapped with `j`, on from there

theorem swap_keep (s : State) (i j n : Nat) (hi : i ≠ n) (hj : j ≠ n) : (s.swap i j).queue[n]? = s.queue[n]? := by
  fun_cases State.swap s i j
  case case1 _ _ _ _ t => -- both positions hold an entry: position `n` is neither
    simp only [t, setIdx, List.getElem?_set]
    grind
  case case2 => rfl -- a position outside the array

theorem up_keep (f : Nat) (s : State) (j n : Nat) (hj : j < n) : (up f s j).queue[n]? = s.queue[n]? := by
  fun_induction up f s j with
  | case1 => rfl
  | case2 => rfl
  | case3 f s j i hc ih => rw [ih (by omega), swap_keep s i j n (by omega) (by omega)]

theorem down_keep (f : Nat) (s : State) (i n : Nat) : (down f s i n).1.queue[n]? = s.queue[n]? := by
  fun_induction down f s i n with
  | case1 => rfl
  | case2 => rfl
  | case3 => rfl
  | case4 f s i n j1 h1 j h2 ih =>
    have hj : j < n := by
      show (if j1 + 1 < n && s.less (j1 + 1) j1 then j1 + 1 else j1) < n
      split
      · rename_i hc; simp only [Bool.and_eq_true, decide_eq_true_eq] at hc; omega
      · omega
    rw [ih, swap_keep s i j n (by omega) (by omega)]

theorem swap_last (s : State) (i n g : Nat) (hq : s.queue[i]? = some g) (hn : n < s.queue.length) :
    (s.swap i n).queue[n]? = some g := by
  unfold swap
  rw [hq, List.getElem?_eq_getElem hn]
  simp [setIdx, hn]

theorem Sync.at {s : State} {g : Nat} (h : Sync s) (hg : 0 ≤ s.idx g) :
    ∃ i : Nat, s.idx g = i ∧ s.queue[i]? = some g ∧ i < s.queue.length :=
  have hq := (h g (s.idx g).toNat).mpr (by omega)
  ⟨_, by omega, hq, (List.getElem?_eq_some_iff.mp hq).1⟩

/-- what a heap operation leaves behind: everything but array, index fields and halt flag as it was, array and
    index fields in sync, and on the heap only entries of `P` (a set described in terms of the state before) -/
structure Heaped (P : Nat → Prop) (s t : State) : Prop where
  core : SameCore s t
  sync : Sync t
  on : ∀ x, 0 ≤ t.idx x → P x

/-- the heap of `s` without entry `g` -/
abbrev Without (s : State) (g : Nat) (x : Nat) : Prop := x ≠ g ∧ 0 ≤ s.idx x

theorem Heaped.off {g : Nat} {s t : State} (h : Heaped (Without s g) s t) : t.idx g < 0 :=
  Int.not_le.mp fun h0 => (h.on g h0).1 rfl

theorem sameCore_popLast (s : State) : SameCore s s.popLast := by
  fun_cases State.popLast s
  case case1 => exact .refl s -- empty array
  case case2 => exact (sameCore_queue s _).trans (sameCore_setIdx _ _ _) -- the last slot goes, its entry's index is -1

theorem popLast_len (s : State) : s.popLast.queue.length = s.queue.length - 1 := by
  fun_cases State.popLast s
  case case1 h => simp [List.getLast?_eq_none_iff.mp h] -- empty array
  case case2 => simp [setIdx] -- the last slot goes

theorem HeapMove.dropLast {s t : State} {g : Nat} (hm : HeapMove s t) (hs : Sync s)
    (hg : t.queue[s.queue.length - 1]? = some g) : Heaped (Without s g) s t.popLast := by
  have h := hm.sync hs
  rw [← hm.len] at hg
  have hpos := (List.getElem?_eq_some_iff.mp hg).1
  have hp : t.popLast = ({ t with queue := t.queue.dropLast }).setIdx g (-1) := by
    unfold popLast; rw [List.getLast?_eq_getElem?, hg]
  rw [hp]
  refine ⟨hm.core.trans ((sameCore_queue t _).trans (sameCore_setIdx _ _ _)), fun g' k => ?_, fun x hx => ?_⟩
  · have e1 := h g (t.queue.length - 1)
    have e2 := h g' k
    have e3 := h g k
    simp only [setIdx, upd, List.getElem?_dropLast]
    grind
  · simp only [setIdx, upd] at hx
    split at hx
    · omega
    · exact ⟨‹_›, hm.back hs x hx⟩

/-- `entry.index = -1` after the removal writes what `Pop` has already written -/
theorem Heaped.setIdx {g : Nat} {s t : State} (h : Heaped (Without s g) s t) : Heaped (Without s g) s (t.setIdx g (-1)) :=
  ⟨h.core.trans (sameCore_setIdx _ _ _), sync_setIdx_neg t g h.sync h.off, fun x hx => h.on x (by
    simp only [State.setIdx, upd] at hx
    split at hx
    · omega
    · exact hx)⟩

theorem sameCore_hremove (s : State) (i : Int) : SameCore s (s.hremove i) := by
  unfold hremove
  split
  · exact ⟨rfl, rfl, rfl, rfl, rfl, rfl, rfl, rfl, rfl⟩
  · dsimp only
    refine SameCore.trans ?_ (sameCore_popLast _)
    split
    · split
      · exact ((heapMove_swap s _ _).trans heapMove_down).core
      · exact (((heapMove_swap s _ _).trans heapMove_down).trans heapMove_up).core
    · exact .refl s

theorem heaped_hremove (s : State) (g : Nat) (h : Sync s) (hg : 0 ≤ s.idx g) :
    Heaped (Without s g) s (s.hremove (s.idx g)) := by
  obtain ⟨i, hi, hq, hlt⟩ := h.at hg
  rw [hi]
  unfold hremove
  rw [if_neg (by simp only [Bool.or_eq_true, decide_eq_true_eq]; omega)]
  simp only [Int.toNat_natCast]
  split
  · have hin : i < s.queue.length - 1 := by omega
    have hsw := swap_last s i (s.queue.length - 1) g hq (by omega)
    split
    · exact ((heapMove_swap s _ _).trans heapMove_down).dropLast h (by rw [down_keep]; exact hsw)
    · exact (((heapMove_swap s _ _).trans heapMove_down).trans heapMove_up).dropLast h
        (by rw [up_keep _ _ _ _ hin, down_keep]; exact hsw)
  · rename_i hn
    exact (HeapMove.refl s).dropLast h (by rw [Decidable.of_not_not hn]; exact hq)

theorem sameCore_dropFromHeap (s : State) (g : Nat) : SameCore s (s.dropFromHeap g) := by
  fun_cases State.dropFromHeap s g
  case case1 => exact (sameCore_hremove s _).trans (sameCore_setIdx _ _ _) -- on the heap: Remove, index -1
  case case2 => exact .refl s -- off the heap already

theorem heaped_dropFromHeap (s : State) (g : Nat) (h : Sync s) : Heaped (Without s g) s (s.dropFromHeap g) := by
  fun_cases State.dropFromHeap s g
  case case1 hg => exact (heaped_hremove s g h hg).setIdx -- on the heap: Remove, index -1
  case case2 hg => exact ⟨.refl s, h, fun x hx => ⟨fun e => hg (e ▸ hx), hx⟩⟩ -- off the heap already

theorem sameCore_hpop (s : State) : SameCore s s.hpop := by
  unfold hpop
  dsimp only
  exact (((heapMove_swap s _ _).trans heapMove_down).core).trans (sameCore_popLast _)

theorem heaped_hpop (s : State) (g : Nat) (h : Sync s) (hq : s.queue[0]? = some g) : Heaped (Without s g) s s.hpop := by
  have hlt := (List.getElem?_eq_some_iff.mp hq).1
  unfold hpop
  dsimp only
  exact ((heapMove_swap s _ _).trans heapMove_down).dropLast h
    (by rw [down_keep]; exact swap_last s 0 _ g hq (by omega))

theorem sync_append (s : State) (g : Nat) (h : Sync s) (hg : s.idx g < 0) :
    Sync (({ s with queue := s.queue ++ [g] }).setIdx g s.queue.length) := by
  intro x k
  have e1 := h x k
  have e2 := h g k
  have e3 : s.queue.length ≤ k → s.queue[k]? = none := List.getElem?_eq_none
  simp only [setIdx, upd, List.getElem?_append, List.getElem?_singleton]
  grind

theorem heapMove_hpush (s : State) (g : Nat) :
    HeapMove (({ s with queue := s.queue ++ [g] }).setIdx g s.queue.length) (s.hpush g) := heapMove_up

theorem sameCore_hpush (s : State) (g : Nat) : SameCore s (s.hpush g) :=
  (sameCore_queue s _).trans ((sameCore_setIdx _ _ _).trans (heapMove_hpush s g).core)

theorem heaped_hpush (s : State) (g : Nat) (h : Sync s) (hneg : s.idx g < 0) :
    Heaped (fun x => x = g ∨ 0 ≤ s.idx x) s (s.hpush g) :=
  have hs := sync_append s g h hneg
  ⟨sameCore_hpush s g, (heapMove_hpush s g).sync hs, fun x hx => by
    have := (heapMove_hpush s g).back hs x hx
    by_cases hxg : x = g
    · exact .inl hxg
    · right; simpa [setIdx, upd, hxg] using this⟩

theorem heapMove_hfix (s : State) (i : Int) : HeapMove s (s.hfix i) := by
  unfold hfix
  split
  · exact ⟨⟨rfl, rfl, rfl, rfl, rfl, rfl, rfl, rfl, rfl⟩, rfl, id, fun _ h => h, fun _ _ h => h⟩
  · dsimp only
    split
    · exact heapMove_down
    · exact heapMove_down.trans heapMove_up

theorem heaped_hfix (s : State) (i : Int) (h : Sync s) : Heaped (0 ≤ s.idx ·) s (s.hfix i) :=
  have hm := heapMove_hfix s i
  ⟨hm.core, hm.sync h, hm.back h⟩

theorem hfix_idx_nonneg (s : State) (i : Int) (g : Nat) (h : 0 ≤ s.idx g) : 0 ≤ (s.hfix i).idx g :=
  (heapMove_hfix s i).nonneg g h

theorem sameHalt_swap (s : State) (i j : Nat) : (s.swap i j).halt = s.halt := by
  unfold swap; split <;> rfl

theorem sameHalt_up (f : Nat) (s : State) (j : Nat) : (up f s j).halt = s.halt := by
  fun_induction up f s j with
  | case1 => rfl
  | case2 => rfl
  | case3 f s j i hc ih => rw [ih, sameHalt_swap]

theorem sameHalt_down {f : Nat} {s : State} {i n : Nat} : (down f s i n).1.halt = s.halt := by
  fun_induction down f s i n with
  | case1 => rfl
  | case2 => rfl
  | case3 => rfl
  | case4 f s i n j1 h1 j h2 ih => rw [ih, sameHalt_swap]

/-- an index that is in range does not make `heap.Fix` panic -/
theorem hfix_halt (s : State) (g : Nat) (h : Sync s) (hg : 0 ≤ s.idx g) : (s.hfix (s.idx g)).halt = s.halt := by
  obtain ⟨i, hi, _, hlt⟩ := h.at hg
  rw [hi]
  unfold hfix
  rw [if_neg (by simp only [Bool.or_eq_true, decide_eq_true_eq]; omega)]
  dsimp only
  split
  · exact sameHalt_down
  · rw [sameHalt_up]; exact sameHalt_down

end GoaktVerif.C12
