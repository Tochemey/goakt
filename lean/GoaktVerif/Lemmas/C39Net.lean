/-
The replication invariant of C39, for any value type.  For one key and a value type whose operations
satisfy `Laws` (merge is the join of cores; every allowed mutator is a DELTA-MUTATOR: the new core
is the join of the old core and of the shipped delta's core), every replica's stored core is the
join of the deltas it has seen — in the network of `Model/C39.lean`, built from the replicator
handlers of `Model/C41.lean`.
-/
import GoaktVerif.Lemmas.C39
import GoaktVerif.Lemmas.C41
import GoaktVerif.Lemmas.Pool
import GoaktVerif.Model.C39

namespace GoaktVerif.C39
open GoaktVerif.Model.C41 GoaktVerif.Model.C39 GoaktVerif.C41

variable {V C : Type}

/-- what the generic theorem needs of a CRDT type (`Ok` = the states that occur: right type,
    no pending delta, well-formed core; `Mut f s` = `f` is an allowed Modify closure at state `s`) -/
structure Laws (ops : Ops V) (wire : V → Option V) (init : V) (S : Semi C) (core : V → C)
    (Ok : V → Prop) (Mut : (V → V) → V → Prop) : Prop where
  ok_wf : ∀ v, Ok v → S.WF (core v)
  ok_init : Ok init
  core_init : core init = S.bot
  merge_ok : ∀ a b, Ok a → Ok b → Ok (ops.merge a b) ∧ core (ops.merge a b) = S.join (core a) (core b)
  /-- delta-mutator law: the update ships a delta that encodes, and stored core = old core ⊔ delta core -/
  upd_some : ∀ f s d, Mut f s → Ok s → ops.delta (f s) = some d →
    ∃ d', wire d = some d' ∧ Ok d' ∧ Ok (ops.reset (f s)) ∧ core (ops.reset (f s)) = S.join (core s) (core d')
  upd_none : ∀ f s, Mut f s → Ok s → ops.delta (f s) = none → Ok (ops.reset (f s)) ∧ core (ops.reset (f s)) = core s
  /-- a stored value survives the codec with its core (anti-entropy full states) -/
  wire_ok : ∀ v v', Ok v → wire v = some v' → Ok v' ∧ core v' = core v

section
variable (ops : Ops V) (wire : V → Option V) (init : V) (S : Semi C) (core : V → C)
  (Ok : V → Prop) (Mut : (V → V) → V → Prop) (k dt : Nat)

def coreAt (log : List (DeltaMsg V)) (j : Nat) : C :=
  match log[j]? with
  | some d => core d.data
  | none => S.bot

/-- ghost `arr`: the deltas seen by each replica, in arrival order (own deltas included); `arrUpd`, `arrDlv`, `arrSync` are
    what an update, a delivery and a full-state merge add to it -/
def arrUpd (w : FNet V) (arr : Nat → List Nat) (i : Nat) (w' : FNet V) : Nat → List Nat :=
  fun x => if x = i ∧ w'.log.length > w.log.length then arr x ++ [w.log.length] else arr x

def arrDlv (w : FNet V) (arr : Nat → List Nat) (i j : Nat) : Nat → List Nat :=
  fun x => match w.log[j]? with
    | some d => if x = i ∧ d.origin ≠ i then arr x ++ [j] else arr x
    | none => arr x

/-- ghost: a full state (one that exists and encodes) carries everything its sender has seen -/
def arrSync (w : FNet V) (arr : Nat → List Nat) (i i' : Nat) : Nat → List Nat :=
  fun x => if x = i ∧ ((aget (w.reps i').store k).bind wire).isSome then arr x ++ arr i' else arr x

/-- reachable (network, seen-lists): updates of key `k` by allowed mutators, deliveries of any
    logged delta to any replica in any order, any number of times, full-state merges between any
    two replicas at any time -/
inductive Reach : FNet V → (Nat → List Nat) → Prop where
  | init : Reach FNet.init (fun _ => [])
  | upd (w arr) (i : Nat) (f : V → V) : Reach w arr → Mut f ((aget (w.reps i).store k).getD init) →
      Reach (w.step ops wire (.upd i k dt init f)) (arrUpd w arr i (w.step ops wire (.upd i k dt init f)))
  | dlv (w arr) (i j : Nat) : Reach w arr → Reach (w.step ops wire (.dlv i j)) (arrDlv w arr i j)
  | sync (w arr) (i i' : Nat) : Reach w arr → Reach (w.step ops wire (.sync i i' k dt)) (arrSync wire k w arr i i')

structure Inv (w : FNet V) (arr : Nat → List Nat) : Prop where
  ids : ∀ i, (w.reps i).nodeID = i ∧ (w.reps i).tombs = []
  logok : ∀ j d, w.log[j]? = some d → Ok d.data ∧ d.key = k ∧ j ∈ arr d.origin
  bound : ∀ i, ∀ j ∈ arr i, j < w.log.length
  val : ∀ i, match aget (w.reps i).store k with
    | none => arr i = []
    | some v => Ok v ∧ core v = J S ((arr i).map (coreAt S core w.log))

end

variable {ops : Ops V} {wire : V → Option V} {init : V} {S : Semi C} {core : V → C}
  {Ok : V → Prop} {Mut : (V → V) → V → Prop} {k dt : Nat}

theorem coreAt_append (log extra : List (DeltaMsg V)) (j : Nat) (h : j < log.length) :
    coreAt S core (log ++ extra) j = coreAt S core log j := by
  unfold coreAt
  rw [List.getElem?_append_left h]

theorem map_coreAt_append {log : List (DeltaMsg V)} (extra : List (DeltaMsg V)) {l : List Nat}
    (h : ∀ j ∈ l, j < log.length) :
    l.map (coreAt S core (log ++ extra)) = l.map (coreAt S core log) :=
  List.map_congr_left fun j hj => coreAt_append log extra j (h j hj)

theorem update_store (r : Rep V) (f : V → V) (h : r.tombs = []) :
    (handleUpdate ops r k dt init f).1.nodeID = r.nodeID ∧ (handleUpdate ops r k dt init f).1.tombs = [] ∧
    aget (handleUpdate ops r k dt init f).1.store k = some (ops.reset (f ((aget r.store k).getD init))) ∧
    (handleUpdate ops r k dt init f).2 = (match ops.delta (f ((aget r.store k).getD init)) with
        | some d => [Out.pubDelta ⟨r.nodeID, k, dt, d⟩]
        | none => []) ++ [Out.ack] := by
  have ht : ahas r.tombs k = false := by rw [h]; rfl
  unfold handleUpdate
  rw [if_neg (by rw [ht]; exact Bool.false_ne_true)]
  exact ⟨rfl, h, (aget_aset ..).trans (if_pos rfl), rfl⟩

theorem absorb_store (r : Rep V) (v : V) (h : r.tombs = []) :
    (absorb ops r k dt v).nodeID = r.nodeID ∧ (absorb ops r k dt v).tombs = [] ∧
    aget (absorb ops r k dt v).store k = some (match aget r.store k with
        | none => v
        | some c => ops.merge c v) := by
  have ht : ahas r.tombs k = false := by rw [h]; rfl
  unfold absorb
  rw [if_neg (by rw [ht]; exact Bool.false_ne_true)]
  cases aget r.store k with
  | none => exact ⟨rfl, h, (aget_aset ..).trans (if_pos rfl)⟩
  | some c => exact ⟨rfl, h, (aget_aset ..).trans (if_pos rfl)⟩

theorem inv_init (L : Laws ops wire init S core Ok Mut) :
    Inv S core Ok k (FNet.init : FNet V) (fun _ => []) where
  ids := fun _ => ⟨rfl, rfl⟩
  logok := fun _ _ h => nomatch h
  bound := fun _ _ h => nomatch h
  val := fun _ => rfl

theorem wf_map {w : FNet V} {arr : Nat → List Nat} (L : Laws ops wire init S core Ok Mut)
    (h : Inv S core Ok k w arr) (i : Nat) : ∀ y ∈ (arr i).map (coreAt S core w.log), S.WF y := by
  intro y hy
  obtain ⟨j, hj, rfl⟩ := List.mem_map.mp hy
  have hb := h.bound i j hj
  unfold coreAt
  have : w.log[j]? = some w.log[j] := List.getElem?_eq_getElem hb
  rw [this]
  exact L.ok_wf _ (h.logok j _ this).1

/-- One step at replica `i`: its state becomes `r'`, the log grows by `extra`, it sees `news` in addition.
    Everything about the other replicas, the ids, the log and the bounds is preserved; what remains to be shown
    for each kind of step is that the new value of `i` is the join of what `i` has now seen. -/
theorem inv_step {w w' : FNet V} {arr arr' : Nat → List Nat} (h : Inv S core Ok k w arr) (i : Nat) (r' : Rep V)
    (extra : List (DeltaMsg V)) (news : List Nat)
    (hreps : ∀ x, w'.reps x = if x = i then r' else w.reps x)
    (hlog : w'.log = w.log ++ extra)
    (harr : ∀ x, arr' x = if x = i then arr x ++ news else arr x)
    (hid : r'.nodeID = (w.reps i).nodeID ∧ r'.tombs = [])
    (hextra : ∀ d ∈ extra, Ok d.data ∧ d.key = k ∧ d.origin = i)
    (hidx : ∀ j, j < extra.length → w.log.length + j ∈ news)
    (hnews : ∀ j ∈ news, j < (w.log ++ extra).length)
    (hval : match aget r'.store k with
      | none => arr i ++ news = []
      | some v => Ok v ∧ core v = J S ((arr i ++ news).map (coreAt S core (w.log ++ extra)))) :
    Inv S core Ok k w' arr' where
  ids x := hreps x ▸ Pool.forall_upd (P := fun x (r : Rep V) => r.nodeID = x ∧ r.tombs = []) ⟨hid.1.trans (h.ids i).1, hid.2⟩
    (fun j _ => h.ids j) x
  logok j d hj := by
    rw [hlog] at hj
    by_cases hjl : j < w.log.length
    · rw [List.getElem?_append_left hjl] at hj
      obtain ⟨a, b, c⟩ := h.logok j d hj
      refine ⟨a, b, ?_⟩
      rw [harr]
      split
      · exact List.mem_append_left _ c
      · exact c
    · have hle := Nat.le_of_not_lt hjl
      rw [List.getElem?_append_right hle] at hj
      obtain ⟨a, b, c⟩ := hextra d (List.mem_of_getElem? hj)
      rw [harr, if_pos c]
      have e := hidx _ (List.getElem?_eq_some_iff.mp hj).1
      rw [Nat.add_sub_cancel' hle] at e
      exact ⟨a, b, List.mem_append_right _ e⟩
  bound x j hj := by
    rw [hlog]
    have hle : w.log.length ≤ (w.log ++ extra).length := by rw [List.length_append]; exact Nat.le_add_right ..
    rw [harr] at hj
    split at hj
    · rcases List.mem_append.mp hj with hj | hj
      · exact Nat.lt_of_lt_of_le (h.bound x j hj) hle
      · exact hnews j hj
    · exact Nat.lt_of_lt_of_le (h.bound x j hj) hle
  val x := by
    rw [hreps, harr, hlog]
    by_cases hx : x = i
    · rw [if_pos hx, if_pos hx, hx]; exact hval
    · rw [if_neg hx, if_neg hx]
      have hv := h.val x
      cases hs : aget (w.reps x).store k with
      | none => rw [hs] at hv; exact hv
      | some v => rw [hs] at hv; rw [map_coreAt_append _ (h.bound x)]; exact hv

theorem inv_upd (L : Laws ops wire init S core Ok Mut) {w : FNet V} {arr : Nat → List Nat}
    (h : Inv S core Ok k w arr) (i : Nat) (f : V → V)
    (hm : Mut f ((aget (w.reps i).store k).getD init)) :
    Inv S core Ok k (w.step ops wire (.upd i k dt init f)) (arrUpd w arr i (w.step ops wire (.upd i k dt init f))) := by
  obtain ⟨hid, htomb, hstore, hout⟩ := update_store (ops := ops) (k := k) (dt := dt) (init := init) (w.reps i) f (h.ids i).2
  have hcur : Ok ((aget (w.reps i).store k).getD init) ∧
      core ((aget (w.reps i).store k).getD init) = J S ((arr i).map (coreAt S core w.log)) := by
    have hv := h.val i
    cases hs : aget (w.reps i).store k with
    | none => rw [hs] at hv; rw [show arr i = [] from hv]; exact ⟨L.ok_init, L.core_init⟩
    | some v => rw [hs] at hv; exact hv
  have hlog0 : (w.step ops wire (.upd i k dt init f)).log
      = w.log ++ onWire wire (handleUpdate ops (w.reps i) k dt init f).2 := rfl
  rw [hout] at hlog0
  cases hd : ops.delta (f ((aget (w.reps i).store k).getD init)) with
  | none =>
    obtain ⟨hok, hcore⟩ := L.upd_none f _ hm hcur.1 hd
    have hlog : (w.step ops wire (.upd i k dt init f)).log = w.log ++ [] := by rw [hlog0, hd]; rfl
    refine inv_step h i (handleUpdate ops (w.reps i) k dt init f).1 [] [] (fun _ => rfl) hlog (fun x => ?_) ⟨hid, htomb⟩
      (fun _ hd => nomatch hd) (fun _ hj => nomatch hj) (fun _ hj => nomatch hj) ?_
    · unfold arrUpd
      rw [hlog, List.append_nil, List.append_nil, if_neg (fun hc => Nat.lt_irrefl _ hc.2), ite_self]
    · rw [hstore, List.append_nil, List.append_nil]
      exact ⟨hok, hcore.trans hcur.2⟩
  | some d =>
    obtain ⟨d', hw, hokd, hok, hcore⟩ := L.upd_some f _ d hm hcur.1 hd
    have hlog : (w.step ops wire (.upd i k dt init f)).log = w.log ++ [⟨(w.reps i).nodeID, k, dt, d'⟩] := by
      rw [hlog0, hd]; simp only [onWire, List.filterMap_cons, List.filterMap_nil, List.cons_append, List.nil_append, hw,
        Option.map_some]
    refine inv_step h i (handleUpdate ops (w.reps i) k dt init f).1 _ [w.log.length] (fun _ => rfl) hlog (fun x => ?_) ⟨hid, htomb⟩
      (fun e he => ?_) (fun j hj => ?_) (fun j hj => ?_) ?_
    · unfold arrUpd
      rw [hlog, List.length_append]
      by_cases hx : x = i
      · rw [if_pos ⟨hx, Nat.lt_succ_self _⟩, if_pos hx]
      · rw [if_neg fun hc => hx hc.1, if_neg hx]
    · cases List.mem_singleton.mp he
      exact ⟨hokd, rfl, (h.ids i).1⟩
    · cases Nat.lt_one_iff.mp hj
      exact List.mem_singleton_self _
    · rw [List.mem_singleton.mp hj, List.length_append]; exact Nat.lt_succ_self _
    · rw [hstore]
      refine ⟨hok, ?_⟩
      have hnew : coreAt S core (w.log ++ [⟨(w.reps i).nodeID, k, dt, d'⟩]) w.log.length = core d' := by
        unfold coreAt
        rw [List.getElem?_append_right (Nat.le_refl _), Nat.sub_self]; rfl
      rw [List.map_append, map_coreAt_append _ (h.bound i), List.map_singleton, hnew,
        J_snoc _ _ _ (wf_map L h i) (L.ok_wf _ hokd), hcore, hcur.2]

/-- the conclusion is stated over `w.log ++ []`, the shape in which `inv_step` asks for it (an absorbing step logs nothing) -/
theorem val_absorb (L : Laws ops wire init S core Ok Mut) {w : FNet V} {arr : Nat → List Nat}
    (h : Inv S core Ok k w arr) (i : Nat) (v : V) (news : List Nat) (hv : Ok v)
    (hnews : ∀ y ∈ news.map (coreAt S core w.log), S.WF y)
    (hcv : core v = J S (news.map (coreAt S core w.log))) :
    match aget (absorb ops (w.reps i) k dt v).store k with
    | none => arr i ++ news = []
    | some v => Ok v ∧ core v = J S ((arr i ++ news).map (coreAt S core (w.log ++ []))) := by
  rw [(absorb_store (w.reps i) v (h.ids i).2).2.2, List.append_nil]
  have hi := h.val i
  cases hs : aget (w.reps i).store k with
  | none =>
    rw [hs] at hi
    rw [show arr i = [] from hi]
    exact ⟨hv, hcv⟩
  | some c =>
    rw [hs] at hi
    obtain ⟨hm1, hm2⟩ := L.merge_ok c v hi.1 hv
    exact ⟨hm1, by rw [List.map_append, J_append S _ _ (wf_map L h i) hnews, hm2, hi.2, hcv]⟩

theorem inv_dlv (L : Laws ops wire init S core Ok Mut) {w : FNet V} {arr : Nat → List Nat}
    (h : Inv S core Ok k w arr) (i j : Nat) :
    Inv S core Ok k (w.step ops wire (.dlv i j)) (arrDlv w arr i j) := by
  cases hj : w.log[j]? with
  | none =>
    have h1 : w.step ops wire (.dlv i j) = w := by simp only [FNet.step, hj]
    have h2 : arrDlv w arr i j = arr := by funext x; simp only [arrDlv, hj]
    rw [h1, h2]; exact h
  | some d =>
    obtain ⟨hokd, hkey, _⟩ := h.logok j d hj
    have hjb : j < w.log.length := (List.getElem?_eq_some_iff.mp hj).1
    have hcj : coreAt S core w.log j = core d.data := by simp only [coreAt, hj]
    have hstep : w.step ops wire (.dlv i j) = ⟨setRep w.reps i (handleDelta ops (w.reps i) d), w.log⟩ := by
      simp only [FNet.step, hj, Model.C41.step]
    rw [hstep]
    by_cases ho : d.origin = i
    · -- a replica ignores its own deltas
      have hsame : handleDelta ops (w.reps i) d = w.reps i := by
        unfold handleDelta; rw [if_pos (ho.trans (h.ids i).1.symm)]
      refine inv_step h i _ [] [] (fun _ => rfl) (List.append_nil _).symm (fun x => ?_) ⟨by rw [hsame], by rw [hsame]; exact (h.ids i).2⟩
        (fun _ hd => nomatch hd) (fun _ hj => nomatch hj) (fun _ hj => nomatch hj) ?_
      · simp only [arrDlv, hj, ho, ne_eq, not_true_eq_false, and_false, if_false, List.append_nil, ite_self]
      · rw [hsame, List.append_nil, List.append_nil]; exact h.val i
    · have hab : handleDelta ops (w.reps i) d = absorb ops (w.reps i) k d.dataType d.data := by
        unfold handleDelta; rw [if_neg fun e => ho (e.trans (h.ids i).1), hkey]
      have ha := absorb_store (ops := ops) (k := k) (dt := d.dataType) (w.reps i) d.data (h.ids i).2
      refine inv_step h i _ [] [j] (fun _ => rfl) (List.append_nil _).symm (fun x => ?_) ⟨hab ▸ ha.1, hab ▸ ha.2.1⟩
        (fun _ hd => nomatch hd) (fun _ hj => nomatch hj)
        (fun j' hj' => by rw [List.mem_singleton.mp hj', List.append_nil]; exact hjb) ?_
      · simp only [arrDlv, hj, ho, ne_eq, not_false_eq_true, and_true]
      · rw [hab]
        refine val_absorb L h i d.data [j] hokd (fun y hy => ?_) ?_
        · rw [List.map_singleton, List.mem_singleton, hcj] at hy; exact hy ▸ L.ok_wf _ hokd
        · rw [List.map_singleton, hcj]; exact (S.bot_join _ (L.ok_wf _ hokd)).symm

theorem inv_sync (L : Laws ops wire init S core Ok Mut) {w : FNet V} {arr : Nat → List Nat}
    (h : Inv S core Ok k w arr) (i i' : Nat) :
    Inv S core Ok k (w.step ops wire (.sync i i' k dt)) (arrSync wire k w arr i i') := by
  cases hs' : aget (w.reps i').store k with
  | none =>
    have h1 : w.step ops wire (.sync i i' k dt) = w := by simp only [FNet.step, hs']
    have h2 : arrSync wire k w arr i i' = arr := by
      funext x; simp only [arrSync, hs', Option.bind_none, Option.isSome_none, Bool.false_eq_true, and_false, if_false]
    rw [h1, h2]; exact h
  | some v =>
    have hvi := h.val i'
    rw [hs'] at hvi
    cases hw : wire v with
    | none =>
      have h1 : w.step ops wire (.sync i i' k dt) = w := by simp only [FNet.step, hs', hw]
      have h2 : arrSync wire k w arr i i' = arr := by
        funext x
        simp only [arrSync, hs', Option.bind_some, hw, Option.isSome_none, Bool.false_eq_true, and_false, if_false]
      rw [h1, h2]; exact h
    | some v' =>
      obtain ⟨hokv', hcv'⟩ := L.wire_ok v v' hvi.1 hw
      have ha := absorb_store (ops := ops) (k := k) (dt := dt) (w.reps i) v' (h.ids i).2
      have hstep : w.step ops wire (.sync i i' k dt) = ⟨setRep w.reps i (absorb ops (w.reps i) k dt v'), w.log⟩ := by
        simp only [FNet.step, hs', hw, Model.C41.step, List.foldl_cons, List.foldl_nil]
      rw [hstep]
      refine inv_step h i _ [] (arr i') (fun _ => rfl) (List.append_nil _).symm (fun x => ?_) ⟨ha.1, ha.2.1⟩
        (fun _ hd => nomatch hd) (fun _ hj => nomatch hj)
        (fun j hj => by rw [List.append_nil]; exact h.bound i' j hj) ?_
      · simp only [arrSync, hs', Option.bind_some, hw, Option.isSome_some, and_true]
      · exact val_absorb L h i v' (arr i') hokv' (wf_map L h i') (hcv'.trans hvi.2)

theorem reach_inv (L : Laws ops wire init S core Ok Mut) (w : FNet V) (arr : Nat → List Nat)
    (h : Reach ops wire init Mut k dt w arr) : Inv S core Ok k w arr := by
  induction h with
  | init => exact inv_init L
  | upd w arr i f _ hm ih => exact inv_upd L ih i f hm
  | dlv w arr i j _ ih => exact inv_dlv L ih i j
  | sync w arr i i' _ ih => exact inv_sync L ih i i'

/-- For a type whose `Delta()` is the whole state, the delta-mutator law is inflation:
    every allowed mutator only adds to the core. -/
theorem Laws.of_inflationary
    (ok_wf : ∀ v, Ok v → S.WF (core v)) (ok_init : Ok init) (core_init : core init = S.bot)
    (merge_ok : ∀ a b, Ok a → Ok b → Ok (ops.merge a b) ∧ core (ops.merge a b) = S.join (core a) (core b))
    (wire_ok : ∀ v v', Ok v → wire v = some v' → Ok v' ∧ core v' = core v)
    (hreset : ∀ v, Ok v → Ok (ops.reset v) ∧ core (ops.reset v) = core v)
    (hmut : ∀ f s, Mut f s → Ok s → Ok (f s) ∧ S.join (core s) (core (f s)) = core (f s) ∧
      (ops.delta (f s) = none → core (f s) = core s) ∧
      (∀ d, ops.delta (f s) = some d → d = f s ∧ (wire (f s)).isSome)) :
    Laws ops wire init S core Ok Mut where
  ok_wf := ok_wf
  ok_init := ok_init
  core_init := core_init
  merge_ok := merge_ok
  wire_ok := wire_ok
  upd_none f s hm hs hn :=
    have ⟨hok, _, hc, _⟩ := hmut f s hm hs
    ⟨(hreset _ hok).1, (hreset _ hok).2.trans (hc hn)⟩
  upd_some f s d hm hs hd := by
    obtain ⟨hok, hinfl, _, hw⟩ := hmut f s hm hs
    obtain ⟨rfl, hw⟩ := hw d hd
    obtain ⟨d', hd'⟩ := Option.isSome_iff_exists.mp hw
    obtain ⟨hokd, hcd⟩ := wire_ok _ _ hok hd'
    exact ⟨d', hd', hokd, (hreset _ hok).1, by rw [(hreset _ hok).2, hcd, hinfl]⟩

/-- For a type whose allowed mutators always ship a delta (the counters) the delta-mutator law is asked once per mutator. -/
theorem Laws.of_shipping
    (ok_wf : ∀ v, Ok v → S.WF (core v)) (ok_init : Ok init) (core_init : core init = S.bot)
    (merge_ok : ∀ a b, Ok a → Ok b → Ok (ops.merge a b) ∧ core (ops.merge a b) = S.join (core a) (core b))
    (wire_ok : ∀ v v', Ok v → wire v = some v' → Ok v' ∧ core v' = core v)
    (hmut : ∀ f s, Mut f s → Ok s → ∃ d d', ops.delta (f s) = some d ∧ wire d = some d' ∧ Ok d' ∧
      Ok (ops.reset (f s)) ∧ core (ops.reset (f s)) = S.join (core s) (core d')) :
    Laws ops wire init S core Ok Mut where
  ok_wf := ok_wf
  ok_init := ok_init
  core_init := core_init
  merge_ok := merge_ok
  wire_ok := wire_ok
  upd_none f s hm hs hn := by
    obtain ⟨d, _, hd, _⟩ := hmut f s hm hs
    exact nomatch hd.symm.trans hn
  upd_some f s d hm hs hd := by
    obtain ⟨d0, d', hd0, h⟩ := hmut f s hm hs
    cases Option.some.inj (hd0.symm.trans hd)
    exact ⟨d', h⟩

theorem reach_val (L : Laws ops wire init S core Ok Mut) {w : FNet V} {arr : Nat → List Nat}
    (h : Reach ops wire init Mut k dt w arr) {i : Nat} {v : V} (hv : w.at i k = some v) :
    Ok v ∧ core v = J S ((arr i).map (coreAt S core w.log)) := by
  have a := (reach_inv L w arr h).val i
  unfold FNet.at at hv
  rw [hv] at a
  exact a

end GoaktVerif.C39
