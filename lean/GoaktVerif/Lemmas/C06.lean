/-
C06 helpers that do not need the invariant: thread pools given as lists, and the
ghost monitor state is the monitor of the ghost log.  Also when the monitor accepts a hook, which Model/C06 and
Model/C31 have in common (their other common part, a pool of threads with a ghost owner, is in Lemmas/Pool.lean).
-/
import GoaktVerif.Model.C06
import GoaktVerif.Lemmas.Pool

namespace GoaktVerif.C06
open GoaktVerif.Model.C06 GoaktVerif.Spec.C06

/-- the pool whose first threads start at the program counters `l`; the others are `done` -/
def progOf (l : List TPC) : Nat → TPC := fun i => l.getD i .done

section monitor
variable {m : Mon} {g : Nat} {v : Via}

theorem recvB_c1 (h1 : m.c1 = true) (hd : m.preDone = true) : (monStep m (.recvB g)).c1 = true := by
  simp only [monStep, h1, hd]; rfl

theorem recvB_ok (h3 : m.c3 = true) (h4 : m.c4 = true) (hp : m.posts = 0) (hb : m.postBy = []) :
    (monStep m (.recvB g)).c3 = true ∧ (monStep m (.recvB g)).c4 = true := by
  simp only [monStep, h3, h4, hp, hb]; exact ⟨rfl, rfl⟩

theorem postB_ok (h2 : m.c2 = true) (h4 : m.c4 = true) (hp : m.posts = 0) (hr : sameOrNone m.recvBy g = true) :
    (monStep m (.postB g v)).c2 = true ∧ (monStep m (.postB g v)).c4 = true := by
  simp only [monStep, h2, h4, hp, hr]; exact ⟨rfl, rfl⟩

theorem postE_postBy (hb : m.postBy = [g]) : (monStep m (.postE g)).postBy = [] := by
  simp [monStep, hb]
end monitor

theorem emit_mon (c : Cfg) (e : Ev) (h : c.mon = monOf c.log) : (emit c e).mon = monOf (emit c e).log := by
  simp [emit, monOf, h]

theorem csStep_mon {c : Cfg} {h : Holder} (hm : c.mon = monOf c.log) :
    (csStep c h).mon = monOf (csStep c h).log := by
  cases c
  dsimp only at hm
  subst hm
  obtain ⟨id, v, pc⟩ := h
  cases pc <;> dsimp only [csStep]
  case check => split <;> rfl
  all_goals rfl

theorem step_mon (c : Cfg) (a : Nat) (hm : c.mon = monOf c.log) : (step c a).mon = monOf (step c a).log := by
  -- with `monOf log` put for the monitor both sides compute to the same term in every branch of the step
  -- (`fun_cases`: one goal per leaf of the model's definition)
  cases c
  dsimp only at hm
  subst hm
  cases a with
  -- `csStep_mon`: the two `sdIn` leaves in which the thread holds the lock
  | zero => simp only [step]; fun_cases wStep <;> first | rfl | exact csStep_mon rfl
  | succ k => simp only [step]; fun_cases tStep <;> first | rfl | exact csStep_mon rfl

end GoaktVerif.C06
