/-
C12: what the event log certifies (`evOK`, `Good`), and the moves that leave it alone: most functions of the
manager and of the PID are `Silent`.  The few end states of `MessageProcessed`, `processMessageEntry` and
`trigger`'s loop are listed once (`mproc_cases`, `pmeTail_cases`, `trigger_inv`) for the walk in C12Stable.
-/
import GoaktVerif.Lemmas.C12Heap

namespace GoaktVerif.C12
open GoaktVerif.Model.C12 GoaktVerif.Model.C12.State

/-- what each event certifies by itself: a timer decision happens at or after the entry's deadline, and
    — when it concerns the actor's current, unpaused, time-based entry — that deadline is fresh
    (`latest + T < deadline + touchIv`); a successful `tryPassivation` saw none of the blocking flags; a
    message-count trigger is raised only at or above the threshold; PostStop runs on a running actor -/
def evOK : Ev → Bool
  | .decide _ _ now deadline T latest ep _ cur isT =>
    decide (deadline ≤ now) &&
      (!(cur && !ep && isT) || (match latest with
        | some l => decide (l + T < deadline + touchIv)
        | none => true))
  | .tried _ _ ok ll ss sk st su pf rn _ _ _ => !ok || (!ll && !ss && !sk && !st && !su && !pf && rn)
  | .crossed _ _ p b m => decide (b + m ≤ p)
  | .postStop _ wasRunning => wasRunning
  | _ => true

/-- the actor of a successful `tryPassivation` event -/
def triedOk : Ev → Option Nat
  | .tried a _ true _ _ _ _ _ _ _ _ _ _ => some a
  | _ => none

def stopOnTop (a : Nat) : List Ev → Bool
  | .postStop b _ :: _ => a == b
  | _ => false

/-- a successful `tryPassivation` is logged directly on top of the `postStop` event of the stop it
    performed (the log is newest first) -/
def adjOK : List Ev → Bool
  | [] => true
  | e :: rest => (match triedOk e with
      | some a => stopOnTop a rest
      | none => true) && adjOK rest

/-- what a chunk of freshly logged events certifies -/
def Good (l : List Ev) : Prop := (∀ e ∈ l, evOK e = true) ∧ adjOK l = true

/-- `t`'s log is `s`'s log plus a good chunk of events -/
def LogExt (s t : State) : Prop := ∃ l, t.log = l ++ s.log ∧ Good l

theorem evOK_tried_false (s : State) (a : Nat) (src : Src) : evOK (s.triedEv a src false) = true := rfl

theorem good_nil : Good [] := ⟨fun _ h => (nomatch h), rfl⟩

theorem Good.cons {l : List Ev} (e : Ev) (he : evOK e = true) (hp : triedOk e = none) (h : Good l) : Good (e :: l) :=
  ⟨fun x hx => by
    rcases List.mem_cons.mp hx with rfl | hx
    · exact he
    · exact h.1 x hx,
   by simp [adjOK, hp, h.2]⟩

theorem stopOnTop_mem {a : Nat} {l : List Ev} (h : stopOnTop a l = true) : ∃ w, Ev.postStop a w ∈ l := by
  unfold stopOnTop at h
  split at h
  · next b w _ => exact ⟨w, by rw [beq_iff_eq.mp h]; exact List.mem_cons_self ..⟩
  · cases h

theorem adjOK_mem (l : List Ev) (h : adjOK l = true) (e : Ev) (a : Nat) (he : triedOk e = some a) (hm : e ∈ l) :
    ∃ w, Ev.postStop a w ∈ l := by
  induction l with
  | nil => cases hm
  | cons e' rest ih =>
    simp only [adjOK, Bool.and_eq_true] at h
    rcases List.mem_cons.mp hm with rfl | hin
    · have h1 := h.1
      rw [he] at h1
      exact (stopOnTop_mem h1).imp fun _ => List.mem_cons_of_mem _
    · exact (ih h.2 hin).imp fun _ => List.mem_cons_of_mem _

/-- no event, no stop, and nothing on the trigger channel or pending that was not pending before -/
structure Silent (s t : State) : Prop where
  log : t.log = s.log
  actors : ∀ a, (t.actors a).postStops = (s.actors a).postStops ∧ (t.actors a).running = (s.actors a).running
  chan : ∀ g ∈ t.chan, g ∈ s.chan ∨ (s.objs g).pending = true
  pend : ∀ g, (t.objs g).pending = true → (s.objs g).pending = true

theorem Silent.of_eq {s t : State} (hl : t.log = s.log) (ha : t.actors = s.actors) (hc : t.chan = s.chan)
    (ho : t.objs = s.objs) : Silent s t :=
  ⟨hl, fun a => by rw [ha]; exact ⟨rfl, rfl⟩, fun g h => .inl (hc ▸ h), fun g h => ho ▸ h⟩

theorem Silent.refl (s : State) : Silent s s := .of_eq rfl rfl rfl rfl

theorem Silent.trans {s t u : State} (h1 : Silent s t) (h2 : Silent t u) : Silent s u :=
  ⟨h2.log.trans h1.log, fun a => ⟨(h2.actors a).1.trans (h1.actors a).1, (h2.actors a).2.trans (h1.actors a).2⟩,
   fun g hg => (h2.chan g hg).elim (h1.chan g) fun h => .inr (h1.pend g h),
   fun g hg => h1.pend g (h2.pend g hg)⟩

theorem SameCore.silent {s t : State} (h : SameCore s t) : Silent s t := .of_eq h.log h.actors h.chan h.objs

theorem silent_setA (s : State) (a : Nat) (f : Actor → Actor)
    (h : (f (s.actors a)).postStops = (s.actors a).postStops ∧ (f (s.actors a)).running = (s.actors a).running) :
    Silent s (s.setA a f) := by
  refine ⟨rfl, fun b => ?_, fun _ hx => .inl hx, fun _ hx => hx⟩
  simp only [setA, upd]
  split
  · subst b; exact h
  · exact ⟨rfl, rfl⟩

theorem silent_setE (s : State) (g : Nat) (f : Entry → Entry)
    (h : (f (s.objs g)).pending = true → (s.objs g).pending = true) : Silent s (s.setE g f) := by
  refine ⟨rfl, fun _ => ⟨rfl, rfl⟩, fun _ hx => .inl hx, fun x => ?_⟩
  simp only [setE, upd]
  split
  · subst x; exact h
  · exact id

theorem silent_signal (s : State) (g : Nat) (h : (s.objs g).pending = true) : Silent s (s.signal g) := by
  refine ⟨rfl, fun _ => ⟨rfl, rfl⟩, fun x hx => ?_, fun _ hx => hx⟩
  rcases List.mem_append.mp hx with hx | hx
  · exact .inl hx
  · rw [List.mem_singleton.mp hx]; exact .inr h

theorem silent_refresh {s : State} {g : Nat} : Silent s (s.refresh g) := by
  unfold refresh
  exact silent_setE s g _ id

theorem silent_delEntry (s : State) (a : Nat) : Silent s (s.delEntry a) := .of_eq rfl rfl rfl rfl

theorem silent_regTarget (s : State) (a : Nat) : Silent s (s.regTarget a).1 := by
  -- `fun_cases f args` gives one goal per leaf of `f` in Model/C12.lean, numbered in the order of the leaves there,
  -- with the pattern equations and guard outcomes on the way as hypotheses
  fun_cases State.regTarget s a
  case case1 => -- no entry in the map: `allocEntry`
    refine ⟨rfl, fun _ => ⟨rfl, rfl⟩, fun _ hx => .inl hx, fun x => ?_⟩
    simp only [allocEntry, upd]
    split
    · exact nofun
    · exact id
  case case2 => exact (sameCore_dropFromHeap _ _).silent -- the existing entry, taken off the heap

theorem silent_regFinish (s : State) (a g : Nat) (st : Strat) : Silent s (s.regFinish a g st) := by
  unfold regFinish
  have h := silent_setE s g (fun e => { e with strat := st, paused := false, pending := false, enqueued := false }) nofun
  cases st with
  | time T => exact ((h.trans (silent_setE _ _ _ id)).trans silent_refresh).trans (sameCore_hpush _ _).silent
  | count n => exact h.trans (silent_setE _ _ _ id)
  | longLived => exact h.trans (silent_delEntry _ _)

theorem silent_register (s : State) (a : Nat) (st : Strat) : Silent s (s.register a st) :=
  (silent_regTarget s a).trans (silent_regFinish _ _ _ _)

theorem silent_unregister (s : State) (a : Nat) : Silent s (s.unregister a) := by
  fun_cases State.unregister s a
  case case1 => exact .refl s -- no entry
  case case2 => exact (sameCore_dropFromHeap _ _).silent.trans (silent_delEntry _ _) -- off the heap, out of the map

theorem silent_mpause (s : State) (a : Nat) : Silent s (s.mpause a) := by
  fun_cases State.mpause s a
  case case1 | case2 => exact .refl s -- no entry; paused already
  case case3 => exact (silent_setE _ _ _ id).trans (sameCore_dropFromHeap _ _).silent -- the flag, then off the heap

theorem silent_resumeEntry (s : State) (g : Nat) : Silent s (s.resumeEntry g) := by
  have h := silent_setE s g (fun e => { e with paused := false }) id
  fun_cases State.resumeEntry s g
  case case1 => exact (h.trans silent_refresh).trans (sameCore_hpush _ _).silent -- time-based: refresh, push
  case case2 t _ hp => -- pending and not enqueued: onto the channel
    exact (h.trans (silent_setE _ _ _ id)).trans (silent_signal _ _ (by simpa [setE, upd, t] using (Bool.and_eq_true_iff.mp hp).1))
  case case3 => exact h -- only the flag

theorem silent_mresumeS (s : State) (a : Nat) : Silent s (s.mresumeS a) := by
  fun_cases State.mresumeS s a
  case case1 | case2 => exact .refl s -- no entry; not paused
  case case3 => exact silent_resumeEntry _ _ -- a paused entry

theorem silent_mtouch (s : State) (a : Nat) : Silent s (s.mtouch a) := by
  fun_cases State.mtouch s a
  case case1 | case2 | case3 => exact .refl s -- no entry; paused; not time-based or off the heap
  case case4 => exact silent_refresh.trans (heapMove_hfix _ _).core.silent -- refresh, then Fix

theorem silent_markActivity (s : State) (a : Nat) : Silent s (s.markActivity a) := by
  have h := silent_setA s a (fun x => { x with latest := some s.now }) ⟨rfl, rfl⟩
  fun_cases State.markActivity s a
  case case1 => exact (h.trans (silent_setA _ a _ ⟨rfl, rfl⟩)).trans (silent_mtouch _ a) -- Touch is due
  case case2 => exact h -- not due: only the stamp

theorem silent_nextEntry (f : Nat) (s : State) : Silent s (nextEntry f s).1 := by
  fun_induction nextEntry f s with
  | case1 => exact .refl _  -- fuel out
  | case2 => exact .refl _  -- empty heap
  -- paused head taken off the heap: the removal panicked / look again
  | case3 => exact ((sameCore_hremove _ _).trans (sameCore_setIdx _ _ _)).silent
  | case4 f s g _ hq hp hh ih => exact ((sameCore_hremove _ _).trans (sameCore_setIdx _ _ _)).silent.trans ih
  | case5 => exact .refl _  -- head due
  | case6 => exact .refl _  -- head not due

theorem logExt_nextEntry (f : Nat) (s : State) : LogExt s (nextEntry f s).1 :=
  ⟨[], (silent_nextEntry f s).log, good_nil⟩

theorem mproc_cases {P : State → Prop} (s : State) (a : Nat) (h0 : P s)
    (h1 : ∀ g, (s.objs g).baseline + (s.objs g).maxMessages ≤ (s.actors a).processed →
      P ((s.setE g fun e => { e with pending := true }).emit
        (.crossed a g (s.actors a).processed (s.objs g).baseline (s.objs g).maxMessages)))
    (h2 : ∀ (t : State) g, P t → (t.objs g).pending = true → P ((t.setE g fun e => { e with enqueued := true }).signal g)) :
    P (s.mproc a) := by
  fun_cases State.mproc s a
  case case1 | case2 | case3 => exact h0 -- no entry; not count-based; below the threshold
  case case4 g _ _ hge _ _ => exact h1 g (by omega) -- crossed; paused or already enqueued
  case case5 g _ _ hge t _ => exact h2 _ g (h1 g (by omega)) (by simp [setE, emit, upd, t]) -- crossed and signalled

/-- `processMessageEntry` after the attempt; named so that the case split on the two guards before it
    works on a small term -/
def pmeTail (t : State) (a g : Nat) (b : Bool) : State :=
  if t.entries a ≠ some g then t else
  if b then (t.delEntry a).setE g fun e => { e with pending := false }
  else if (t.objs g).paused then t
  else if (t.objs g).pending && !(t.objs g).enqueued then (t.setE g fun e => { e with enqueued := true }).signal g
  else t

theorem pmeTail_cases {P : State → Prop} (t : State) (a g : Nat) (b : Bool) (h1 : P t)
    (h2 : P ((t.delEntry a).setE g fun e => { e with pending := false }))
    (h3 : (t.objs g).pending = true → P ((t.setE g fun e => { e with enqueued := true }).signal g)) :
    P (pmeTail t a g b) := by
  fun_cases pmeTail t a g b
  case case1 | case3 | case5 => exact h1 -- no longer the current entry; paused; nothing pending or already enqueued
  case case2 => exact h2 -- passivated
  case case4 _ _ _ hp => exact h3 (Bool.and_eq_true_iff.mp hp).1 -- pending and not enqueued: signalled again

theorem processMessageEntry_eq (s : State) (g : Nat) (pre post : List SOp) :
    processMessageEntry s g pre post =
      if s.entries (s.objs g).actor ≠ some g then s else
      if (s.objs g).paused then s.setE g fun e => { e with enqueued := false } else
      pmeTail ((passivateS (s.emit (.countFire (s.objs g).actor g)) g .count pre post).setE g
        fun e => { e with enqueued := false }) (s.objs g).actor g (passivateB (s.emit (.countFire (s.objs g).actor g)) g pre) :=
  rfl

theorem trigger_inv {J : State → Prop} (g : Nat)
    (hang : ∀ u : State, J u → J { u with halt := some .hang })
    (round : ∀ (u : State) pre post, J u → u.queue[0]? = some g → u.dl g ≤ u.now →
      J (passivateS (u.popHead g) g .timer pre post))
    (del : ∀ (u : State) a, J u → J (u.delEntry a))
    (requeue : ∀ (u : State) a, J u → u.entries a = some g → (u.objs g).paused = false → u.idx g < 0 →
      J ((u.refresh g).hpush g))
    (f : Nat) (s : State) (pre post : List SOp) (hs : J s) : J (trigger f s g pre post) := by
  replace round : ∀ (u : State) h rest pre post, J u → u.queue = h :: rest → ¬ h ≠ g → ¬ u.dl g > u.now →
      J (passivateS (u.popHead g) g .timer pre post) := fun u h rest pre post hu hq hh hd =>
    round u pre post hu (by rw [hq, Decidable.of_not_not hh]; rfl) (Int.not_lt.mp hd)
  fun_induction trigger f s g pre post with
  | case1 => exact hs  -- empty heap
  | case2 => exact hs  -- the head is not `g`
  | case3 => exact hs  -- `g` is not due
  | case4 s => exact hang s hs  -- no attempts left
  -- after the round: `g` is no longer its actor's entry
  | case5 s g pre post h rest hq hh hd f a t ht => exact round s h rest pre post hs hq hh hd
  -- the attempt succeeded: the map's entry goes
  | case6 s g pre post h rest hq hh hd f a t ht hb => exact del _ a (round s h rest pre post hs hq hh hd)
  -- `g` was paused inside the window
  | case7 s g pre post h rest hq hh hd f a t ht hb hp => exact round s h rest pre post hs hq hh hd
  -- `g` is off the heap: re-queue it and loop
  | case8 s g pre post h rest hq hh hd f a t ht hb hp hx ih =>
    exact ih requeue (requeue t a (round s h rest pre post hs hq hh hd) (Decidable.of_not_not ht)
      (by simpa using hp) hx) round
  -- `g` was re-queued inside the window: loop
  | case9 s g pre post h rest hq hh hd f a t ht hb hp hx ih =>
    exact ih requeue (round s h rest pre post hs hq hh hd) round

end GoaktVerif.C12
