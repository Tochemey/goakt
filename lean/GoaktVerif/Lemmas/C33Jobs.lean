/-
C33 part A — inductive invariant of the job registry / relocator / worker bookkeeping machine.
-/
import GoaktVerif.Model.C33

namespace GoaktVerif.C33
open GoaktVerif.Model.C33

@[simp] theorem upd_same {β : Type} (f : Nat → β) (k : Nat) (v : β) : upd f k v k = v := by simp [upd]
theorem upd_other {β : Type} (f : Nat → β) (k x : Nat) (v : β) (h : x ≠ k) : upd f k v x = f x := by simp [upd, h]
theorem upd_apply {β : Type} (f : Nat → β) (k x : Nat) (v : β) : upd f k v x = if x = k then v else f x := rfl

structure Inv (s : Sys) : Prop where
  /-- a relocation that ended is not registered any more -/
  k1 : ∀ snap addr, 1 ≤ s.closed snap → s.jobs addr ≠ some snap
  /-- a queued Rebalance order belongs to the registered job of its address -/
  k2 : ∀ snap addr, s.queued snap = some addr → s.jobs addr = some snap
  /-- a snapshot with a tracked worker has no queued order -/
  k3 : ∀ name addr snap, s.workers name = some (addr, snap) → s.queued snap = none
  /-- snapshot identities in use are older than the next fresh one -/
  k4a : ∀ addr snap, s.jobs addr = some snap → snap < s.nextSnap
  k4b : ∀ snap addr, s.queued snap = some addr → snap < s.nextSnap
  k4c : ∀ name addr snap, s.workers name = some (addr, snap) → snap < s.nextSnap
  /-- a worker that has not run yet is tracked and owns the registered job of its address -/
  k6 : ∀ name, s.live name = true → ∃ addr snap, s.workers name = some (addr, snap) ∧ s.jobs addr = some snap
  /-- distinct tracked workers carry distinct snapshots -/
  k7 : ∀ n n' a a' snap, s.workers n = some (a, snap) → s.workers n' = some (a', snap) → n = n'
  /-- worker names come from the sequence -/
  k10 : ∀ name, s.workers name ≠ none → name ≤ s.sequence
  k11 : ∀ snap, 1 ≤ s.closed snap → snap < s.nextSnap
  /-- a snapshot is registered under one address only -/
  k12 : ∀ a a' snap, s.jobs a = some snap → s.jobs a' = some snap → a = a'
  /-- the goal: a relocation ends at most once and publishes at most one RelocationFailed event -/
  g1 : ∀ snap, s.closed snap ≤ 1
  g2 : ∀ snap, s.events snap ≤ s.closed snap

theorem inv_init : Inv Sys.init := by
  constructor <;> intros <;> simp_all [Sys.init]

theorem upd_cases {β : Type} {f : Nat → β} {k x : Nat} {v y : β} (h : upd f k v x = y) :
    (x = k ∧ v = y) ∨ (x ≠ k ∧ f x = y) := by
  rw [upd_apply] at h
  split at h
  · exact .inl ⟨‹_›, h⟩
  · exact .inr ⟨‹_›, h⟩

theorem of_upd_ne {β : Type} {f : Nat → β} {k x : Nat} {v y : β} (h : upd f k v x = y) (hv : v ≠ y) :
    x ≠ k ∧ f x = y :=
  (upd_cases h).resolve_left fun e => hv e.2

theorem upd_of_eq {β : Type} {f : Nat → β} {k x : Nat} {v : β} (h : f x = v) : upd f k v x = v := by
  rw [upd_apply]
  split
  · rfl
  · exact h

-- The moves the events are made of: in each, only the clauses reading a rewritten component need an argument.

theorem Inv.unlive {s : Sys} (h : Inv s) (name : Nat) : Inv { s with live := upd s.live name false } :=
  { h with k6 := fun n hl => h.k6 n (of_upd_ne hl nofun).2 }

theorem Inv.dequeue {s : Sys} (h : Inv s) (snap : Nat) :
    Inv { s with queued := upd s.queued snap none, sequence := s.sequence + 1 } :=
  { h with
    k2 := fun sn a hq => h.k2 sn a (of_upd_ne hq nofun).2
    k3 := fun n a sn hw => upd_of_eq (h.k3 n a sn hw)
    k4b := fun sn a hq => h.k4b sn a (of_upd_ne hq nofun).2
    k10 := fun n hn => Nat.le_succ_of_le (h.k10 n hn) }

theorem Inv.untrack {s : Sys} (h : Inv s) {name : Nat} (hl : s.live name = false) :
    Inv { s with workers := upd s.workers name none } :=
  { h with
    k3 := fun n a sn hw => h.k3 n a sn (of_upd_ne hw nofun).2
    k4c := fun n a sn hw => h.k4c n a sn (of_upd_ne hw nofun).2
    k6 := fun n hln =>
      have ⟨a, sn, hw, hj⟩ := h.k6 n hln
      ⟨a, sn, (upd_other _ _ _ _ fun e => by rw [e, hl] at hln; cases hln).trans hw, hj⟩
    k7 := fun n n' a a' sn hw hw' => h.k7 n n' a a' sn (of_upd_ne hw nofun).2 (of_upd_ne hw' nofun).2
    k10 := fun n hn => h.k10 n fun e => hn (upd_of_eq e) }

theorem Inv.begin {s : Sys} (h : Inv s) {addr : Nat} (hj : s.jobs addr = none) :
    Inv { s with jobs := upd s.jobs addr (some s.nextSnap), queued := upd s.queued s.nextSnap (some addr),
                 nextSnap := s.nextSnap + 1 } := by
  have hne : ∀ {a sn}, s.jobs a = some sn → a ≠ addr := fun h1 e => by rw [e, hj] at h1; cases h1
  -- an identity in use is not the fresh one
  have hold : ∀ {a sn}, s.jobs a = some sn → sn ≠ s.nextSnap := fun h1 => Nat.ne_of_lt (h.k4a _ _ h1)
  exact { h with
    k1 := fun sn a hc hj' => by
      rcases upd_cases hj' with ⟨_, e⟩ | ⟨_, hj'⟩
      · cases e; exact Nat.lt_irrefl _ (h.k11 _ hc)
      · exact h.k1 sn a hc hj'
    k2 := fun sn a hq => by
      rcases upd_cases hq with ⟨rfl, e⟩ | ⟨_, hq⟩
      · cases e; exact upd_same ..
      · exact (upd_other _ _ _ _ (hne (h.k2 sn a hq))).trans (h.k2 sn a hq)
    k3 := fun n a sn hw => (upd_other _ _ _ _ (Nat.ne_of_lt (h.k4c n a sn hw))).trans (h.k3 n a sn hw)
    k4a := fun a sn hj' => by
      rcases upd_cases hj' with ⟨_, e⟩ | ⟨_, hj'⟩
      · cases e; exact Nat.lt_succ_self _
      · exact Nat.lt_succ_of_lt (h.k4a a sn hj')
    k4b := fun sn a hq => by
      rcases upd_cases hq with ⟨rfl, _⟩ | ⟨_, hq⟩
      · exact Nat.lt_succ_self _
      · exact Nat.lt_succ_of_lt (h.k4b sn a hq)
    k4c := fun n a sn hw => Nat.lt_succ_of_lt (h.k4c n a sn hw)
    k6 := fun n hl =>
      have ⟨a, sn, hw, hj'⟩ := h.k6 n hl
      ⟨a, sn, hw, (upd_other _ _ _ _ (hne hj')).trans hj'⟩
    k11 := fun sn hc => Nat.lt_succ_of_lt (h.k11 sn hc)
    k12 := fun a a' sn h1 h2 => by
      rcases upd_cases h1 with ⟨rfl, e⟩ | ⟨_, j1⟩ <;> rcases upd_cases h2 with ⟨rfl, e'⟩ | ⟨_, j2⟩
      · rfl
      · cases e; exact absurd rfl (hold j2)
      · cases e'; exact absurd rfl (hold j1)
      · exact h.k12 a a' sn j1 j2 }

theorem Inv.spawn {s : Sys} (h : Inv s) {addr snap : Nat} (hj : s.jobs addr = some snap) (hq : s.queued snap = none)
    (hfree : ∀ n a, s.workers n ≠ some (a, snap)) :
    Inv { s with workers := upd s.workers s.sequence (some (addr, snap)), live := upd s.live s.sequence true } :=
  { h with
    k3 := fun n a sn hw => by
      rcases upd_cases hw with ⟨_, e⟩ | ⟨_, hw⟩
      · cases e; exact hq
      · exact h.k3 n a sn hw
    k4c := fun n a sn hw => by
      rcases upd_cases hw with ⟨_, e⟩ | ⟨_, hw⟩
      · cases e; exact h.k4a addr snap hj
      · exact h.k4c n a sn hw
    k6 := fun n hl => by
      rcases upd_cases hl with ⟨rfl, _⟩ | ⟨hne, hl⟩
      · exact ⟨addr, snap, upd_same .., hj⟩
      · have ⟨a, sn, hw, hj'⟩ := h.k6 n hl
        exact ⟨a, sn, (upd_other _ _ _ _ hne).trans hw, hj'⟩
    k7 := fun n n' a a' sn hw hw' => by
      rcases upd_cases hw with ⟨rfl, e⟩ | ⟨_, hw⟩ <;> rcases upd_cases hw' with ⟨rfl, e'⟩ | ⟨_, hw'⟩
      · rfl
      · cases e; exact absurd hw' (hfree _ _)
      · cases e'; exact absurd hw (hfree _ _)
      · exact h.k7 n n' a a' sn hw hw'
    k10 := fun n hn => by
      by_cases e : n = s.sequence
      · exact Nat.le_of_eq e
      · exact h.k10 n fun e' => hn ((upd_other _ _ _ _ e).trans e') }

theorem abortRelocation_eq (s : Sys) (addr snap : Nat) : abortRelocation s addr snap = finishRun s addr snap true := rfl

theorem inv_finish (s : Sys) (addr snap : Nat) (anyFailed : Bool) (h : Inv s) (hj : s.jobs addr = some snap)
    (hq : ∀ sn a, s.queued sn = some a → a ≠ addr)
    (hl : ∀ n, s.live n = true → ∀ a sn, s.workers n = some (a, sn) → a ≠ addr) :
    Inv (finishRun s addr snap anyFailed) := by
  -- a registered job has not ended yet
  have hc0 : s.closed snap = 0 := Nat.eq_zero_of_not_pos fun hc => h.k1 snap addr hc hj
  have hcl : ∀ {sn}, sn ≠ snap → 1 ≤ upd s.closed snap (s.closed snap + 1) sn → 1 ≤ s.closed sn :=
    fun hs hc => by rwa [upd_other _ _ _ _ hs] at hc
  unfold finishRun endRelocation
  exact { h with
    k1 := fun sn a hc hj' =>
      have ⟨ha, hj'⟩ := of_upd_ne hj' nofun
      if hs : sn = snap then ha (h.k12 a addr snap (hs ▸ hj') hj)
      else h.k1 sn a (hcl hs hc) hj'
    k2 := fun sn a hqq => (upd_other _ _ _ _ (hq sn a hqq)).trans (h.k2 sn a hqq)
    k4a := fun a sn hj' => h.k4a a sn (of_upd_ne hj' nofun).2
    k6 := fun n hln =>
      have ⟨a, sn, hw, hj'⟩ := h.k6 n hln
      ⟨a, sn, hw, (upd_other _ _ _ _ (hl n hln a sn hw)).trans hj'⟩
    k11 := fun sn hc =>
      if hs : sn = snap then hs ▸ h.k4a addr snap hj else h.k11 sn (hcl hs hc)
    k12 := fun a a' sn h1 h2 => h.k12 a a' sn (of_upd_ne h1 nofun).2 (of_upd_ne h2 nofun).2
    g1 := fun sn => by
      show upd s.closed snap _ sn ≤ 1
      rw [upd_apply]
      split
      · rw [hc0]; exact Nat.le_refl 1
      · exact h.g1 sn
    g2 := fun sn => by
      show (if anyFailed then upd s.events snap (s.events snap + 1) else s.events) sn ≤ upd s.closed snap _ sn
      cases anyFailed with
      | true =>
        rw [if_pos rfl, upd_apply, upd_apply]
        split
        · exact Nat.succ_le_succ (h.g2 snap)
        · exact h.g2 sn
      | false =>
        refine Nat.le_trans (h.g2 sn) ?_
        rw [upd_apply]
        split
        · rename_i e; rw [e]; exact Nat.le_succ _
        · exact Nat.le_refl _ }

theorem owner_unique (s : Sys) (h : Inv s) (name addr snap : Nat) (hw : s.workers name = some (addr, snap))
    (hj : s.jobs addr = some snap) :
    (∀ sn a, s.queued sn = some a → a ≠ addr)
    ∧ (∀ n, n ≠ name → s.live n = true → ∀ a sn, s.workers n = some (a, sn) → a ≠ addr) := by
  refine ⟨fun sn a hq ha => ?_, fun n hn hln a sn hwn ha => ?_⟩
  · subst ha
    have e := (h.k2 sn a hq).symm.trans hj
    cases e
    rw [h.k3 name a snap hw] at hq; cases hq
  · subst ha
    obtain ⟨a1, s1, hw1, hj1⟩ := h.k6 n hln
    rw [hwn] at hw1; cases hw1
    rw [hj] at hj1; cases hj1
    exact hn (h.k7 n name a a snap hwn hw)

theorem owner_unique_of_live (s : Sys) (h : Inv s) (name addr snap : Nat) (hlive : s.live name = true)
    (hw : s.workers name = some (addr, snap)) :
    s.jobs addr = some snap
    ∧ (∀ sn a, s.queued sn = some a → a ≠ addr)
    ∧ (∀ n, n ≠ name → s.live n = true → ∀ a sn, s.workers n = some (a, sn) → a ≠ addr) := by
  obtain ⟨a0, s0, hw0, hj0⟩ := h.k6 name hlive
  rw [hw] at hw0
  cases hw0
  exact ⟨hj0, owner_unique s h name addr snap hw hj0⟩

/-- a duplicate NodeLeft while a job is registered for the address changes nothing -/
theorem step_nodeLeft_of_some (s : Sys) (addr sn : Nat) (h : s.jobs addr = some sn) :
    step s (.nodeLeft addr) = s := by
  simp [step, beginRelocation, h]

theorem step_nodeLeft_of_none (s : Sys) (addr : Nat) (h : s.jobs addr = none) :
    step s (.nodeLeft addr) =
      { s with jobs := upd s.jobs addr (some s.nextSnap), queued := upd s.queued s.nextSnap (some addr),
               nextSnap := s.nextSnap + 1 } := by
  simp [step, beginRelocation, h]

theorem inv_complete (s : Sys) (name : Nat) (anyFailed : Bool) (h : Inv s) : Inv (step s (.complete name anyFailed)) := by
  cases hl : s.live name with
  | false => simp only [step, hl, Bool.false_eq_true, ↓reduceIte]; exact h
  | true =>
    cases hw : s.workers name with
    | none => simp only [step, hl, hw, ↓reduceIte]; exact h
    | some p =>
      obtain ⟨addr, snap⟩ := p
      obtain ⟨hj, hnoq, hnol⟩ := owner_unique_of_live s h name addr snap hl hw
      simp only [step, hl, hw, ↓reduceIte]
      exact inv_finish _ addr snap anyFailed (h.unlive name) hj hnoq fun n hln a sn hwn =>
        have ⟨hne, hln⟩ := of_upd_ne hln nofun
        hnol n hne hln a sn hwn

theorem inv_step (s : Sys) (e : Ev) (h : Inv s) : Inv (step s e) := by
  cases e with
  | nodeLeft addr =>
    cases hj : s.jobs addr with
    | some sn => rw [step_nodeLeft_of_some s addr sn hj]; exact h
    | none => rw [step_nodeLeft_of_none s addr hj]; exact h.begin hj
  | rebalance snap spawnOK =>
    cases hq : s.queued snap with
    | none => simp only [step, hq]; exact h
    | some addr =>
      have hj := h.k2 snap addr hq
      have h1 := h.dequeue snap
      -- no worker holds the order yet
      have hfree : ∀ n a, s.workers n ≠ some (a, snap) := fun n a hw => by
        rw [h.k3 n a snap hw] at hq; cases hq
      cases spawnOK with
      | true =>
        simp only [step, hq, ↓reduceIte]
        exact h1.spawn hj (upd_same ..) hfree
      | false =>
        simp only [step, hq, Bool.false_eq_true, ↓reduceIte, abortRelocation_eq]
        refine inv_finish _ addr snap true h1 hj (fun sn a hqq ha => ?_) (fun n hl a sn hw ha => ?_)
        · obtain ⟨hne, hqq⟩ := of_upd_ne hqq nofun
          have e := (h.k2 sn a hqq).symm.trans (ha ▸ hj)
          cases e; exact hne rfl
        · obtain ⟨a1, s1, hw1, hj1⟩ := h.k6 n hl
          rw [hw] at hw1; cases hw1
          rw [ha, hj] at hj1; cases hj1
          exact hfree n a hw
  | complete name anyFailed => exact inv_complete s name anyFailed h
  | peersFail name =>
    -- the worker's own abort is a completion with a failure: `abortRelocation_eq` holds by `rfl`
    show Inv (step s (.complete name true))
    exact inv_complete s name true h
  | die name =>
    cases hl : s.live name with
    | false => simp only [step, hl, Bool.false_eq_true, ↓reduceIte]; exact h
    | true => simp only [step, hl, ↓reduceIte]; exact h.unlive name
  | terminated name =>
    cases hl : s.live name with
    | true => simp only [step, hl, ↓reduceIte]; exact h
    | false =>
      cases hw : s.workers name with
      | none => simp only [step, hl, handleTerminated, hw, Bool.false_eq_true, ↓reduceIte]; exact h
      | some p =>
        obtain ⟨addr, snap⟩ := p
        -- the dead worker is untracked; its job, if still its own, is aborted
        by_cases hj : s.jobs addr = some snap
        · obtain ⟨hnoq, hnol⟩ := owner_unique s h name addr snap hw hj
          simp only [step, hl, handleTerminated, hw, hj, Bool.false_eq_true, ↓reduceIte, abortRelocation_eq]
          exact inv_finish _ addr snap true (h.untrack hl) hj hnoq fun n hln a sn hwn =>
            have ⟨hne, hwn⟩ := of_upd_ne hwn nofun
            hnol n hne hln a sn hwn
        · simp only [step, hl, handleTerminated, hw, hj, Bool.false_eq_true, ↓reduceIte]
          exact h.untrack hl

theorem inv_run (evs : List Ev) (s : Sys) (h : Inv s) : Inv (run s evs) :=
  List.foldlRecOn (motive := Inv) evs step h fun s hs e _ => inv_step s e hs

end GoaktVerif.C33
