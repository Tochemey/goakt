import GoaktVerif.Lemmas.C15Final

/-
C15 — `Mode.fixed`, the no-loss clause: the invariant `NInv`, every action preserves it together with `FInv`, the initial
configuration satisfies it.

`FInv` ties both ends of a request to the ghost map `own` (the request a channel was last handed out for): the caller
at its select has `own ch = k`, the context the worker answers has `own ch' = k'`.  With distinct request ids `own` is
injective on the allocated channels, so the caller waiting for `k'` waits on the very channel `Response` for `k'`
writes to.  `NInv` therefore speaks of channels and ids only, never of contexts; its clause `noloss` is the one the theorem
is read off.  Like `FInv` it has a part about the heap and a part about each thread (`NThread`), and one rule (`ninv_update`)
for the step of one thread.
-/
namespace GoaktVerif.C15
open GoaktVerif.Model.C15

def askId : Op → Option ReqId
  | .ask k => some k
  | .handle => none

def curIds (t : Thread) : List ReqId := match t.cur with | some (.ask k) => [k] | _ => []
def progIds (t : Thread) : List ReqId := t.prog.filterMap askId
def ids (t : Thread) : List ReqId := curIds t ++ progIds t
def toBuild (t : Thread) : List ReqId := progIds t ++ (match t.pc with | some (.askBuild ..) => curIds t | _ => [])

def allIds (c : Cfg) : List ReqId := c.threads.flatMap ids

/-- on a log (latest first): no Ask timed out after `Response` for it had already returned -/
def noLossLog : List Ev → Bool
  | [] => true
  | .timedOut k :: earlier => !earlier.contains (.respDone k) && noLossLog earlier
  | _ :: earlier => noLossLog earlier

structure NThread (c : Cfg) (own : ChanId → ReqId) (t : Thread) : Prop where
  fresh : ∀ k, k ∈ toBuild t → ∀ x, x < c.chans.length → own x ≠ k
  unb : ∀ k, k ∈ toBuild t → Ev.respDone k ∉ c.log
  sel : ∀ i ch k, t.pc = some (.askSelect i ch k) → Ev.respDone k ∈ c.log → chanOf c ch = some k

structure NInv (c : Cfg) (own : ChanId → ReqId) : Prop where
  ids : (allIds c).Nodup
  noloss : noLossLog c.log = true
  inj : ∀ x y, x < c.chans.length → y < c.chans.length → own x = own y → x = y
  thr : ∀ (j : Nat) tj, c.threads[j]? = some tj → NThread c own tj

/-- The heap moved, and the thread perhaps to a record with less to build; if it waits at a select afterwards it did so before,
and its channel has not changed. -/
theorem NThread.transfer {c c1 : Cfg} {own} {t t' : Thread} (h : NThread c own t) (h_ub : ∀ k, k ∈ toBuild t' → k ∈ toBuild t)
    (h_len : c1.chans.length = c.chans.length) (h_log : ∀ k, Ev.respDone k ∈ c1.log ↔ Ev.respDone k ∈ c.log)
    (h_sl : ∀ i ch k, t'.pc = some (.askSelect i ch k) → t.pc = some (.askSelect i ch k) ∧ chanOf c1 ch = chanOf c ch) :
    NThread c1 own t' :=
  ⟨fun k hk x hx => h.fresh k (h_ub k hk) x (h_len ▸ hx), fun k hk hr => h.unb k (h_ub k hk) ((h_log k).mp hr),
    fun i ch k hpc hr => (h_sl i ch k hpc).2.trans (h.sel i ch k (h_sl i ch k hpc).1 ((h_log k).mp hr))⟩

/-- the rule for one step: the heap went from `c` to `c1` (same thread list), the ghost map from `own` to `own1`, thread `tid` from
`t` to `t'` -/
theorem ninv_update {c c1 : Cfg} {own own1 : ChanId → ReqId} {tid : Nat} {t t' : Thread}
    (n : NInv c own) (ht : c.threads[tid]? = some t) (hth : c1.threads = c.threads)
    (h_ids : (ids t').Sublist (ids t)) (h_noloss : noLossLog c1.log = true)
    (h_inj : ∀ x y, x < c1.chans.length → y < c1.chans.length → own1 x = own1 y → x = y)
    (hnew : NThread c1 own1 t')
    (hothers : ∀ (j : Nat) tj, j ≠ tid → c.threads[j]? = some tj → NThread c1 own1 tj) :
    NInv (upd c1 tid t') own1 := by
  refine ⟨?_, h_noloss, h_inj, fun j tj hj => ?_⟩
  · show ((c1.threads.set tid t').flatMap ids).Nodup
    rw [hth]
    exact nodup_flatMap_set c.threads tid t t' ids ht h_ids n.ids
  · have hj : (c.threads.set tid t')[j]? = some tj := hth ▸ hj
    -- `NThread` does not read the thread list: the transfer only moves it from `c1` to `upd c1 tid t'`
    exact (Pool.forall_set hnew hothers j tj hj).transfer (fun _ h => h) rfl (fun _ => Iff.rfl) fun _ _ _ h => ⟨h, rfl⟩

/-- a step that leaves the channels alone -/
theorem ninv_frame {c c1 : Cfg} {own} {tid : Nat} {t t' : Thread}
    (n : NInv c own) (ht : c.threads[tid]? = some t) (hth : c1.threads = c.threads)
    (h_ids : (ids t').Sublist (ids t))
    (h_ub : ∀ k, k ∈ toBuild t' → k ∈ toBuild t)
    (h_sl : ∀ i ch k, t'.pc = some (.askSelect i ch k) → t.pc = some (.askSelect i ch k))
    (h_log : ∀ k, Ev.respDone k ∈ c1.log ↔ Ev.respDone k ∈ c.log) (h_noloss : noLossLog c1.log = true)
    (h_chans : c1.chans = c.chans) : NInv (upd c1 tid t') own :=
  have h_len := congrArg List.length h_chans
  have h_chan : ∀ ch, chanOf c1 ch = chanOf c ch := fun ch => by rw [chanOf, h_chans]; rfl
  ninv_update n ht hth h_ids h_noloss (fun x y hx hy => n.inj x y (h_len ▸ hx) (h_len ▸ hy))
    ((n.thr tid t ht).transfer h_ub h_len h_log fun i ch k h => ⟨h_sl i ch k h, h_chan ch⟩)
    fun j tj _ hj => (n.thr j tj hj).transfer (fun _ h => h) h_len h_log fun _ ch _ h => ⟨h, h_chan ch⟩

theorem sublist_flatMap_of {α β} {l : List α} {f : α → List β} {j : Nat} {tj : α} (hj : l[j]? = some tj) :
    (f tj).Sublist (l.flatMap f) :=
  List.flatMap_def ▸ List.sublist_flatten_of_mem (List.mem_map_of_mem (List.mem_of_getElem? hj))

theorem toBuild_sub_ids (t : Thread) (k : ReqId) (hk : k ∈ toBuild t) : k ∈ ids t := by
  rcases List.mem_append.mp hk with hk | hk
  · exact List.mem_append_right _ hk
  · split at hk
    · exact List.mem_append_left _ hk
    · cases hk

theorem startNext_lists (c : Cfg) (t : Thread) (hpc : t.pc = none) :
    (ids (startNext c t).2).Sublist (ids t) ∧ (∀ x, x ∈ toBuild (startNext c t).2 → x ∈ toBuild t) ∧
    ∀ i ch k, (startNext c t).2.pc ≠ some (.askSelect i ch k) := by
  obtain ⟨pc, cur, prog, hist, dl⟩ := t
  cases hpc
  cases prog with
  | nil => exact ⟨List.nil_sublist _, fun _ hx => hx, fun _ _ _ => nofun⟩
  | cons op rest =>
    cases op with
    | handle => exact ⟨List.sublist_append_right _ _, fun _ hx => hx, fun _ _ _ => nofun⟩
    | ask k =>
      refine ⟨List.sublist_append_right _ _, fun x hx => ?_, fun _ _ _ => nofun⟩
      -- the id moves from the program to the build site
      rcases List.mem_append.mp hx with h | h
      · exact List.mem_append_left _ (List.mem_cons_of_mem _ h)
      · exact List.mem_append_left _ ((List.mem_singleton (b := k)).mp h ▸ List.mem_cons_self ..)

theorem ninv_start {c : Cfg} {own} {tid : Nat} {t : Thread} (n : NInv c own)
    (ht : c.threads[tid]? = some t) (hpc : t.pc = none) :
    NInv (upd (startNext c t).1 tid (startNext c t).2) own := by
  have f := startNext_frame c t
  obtain ⟨l1, l2, l3⟩ := startNext_lists c t hpc
  exact ninv_frame n ht f.thr l1 l2 (fun i ch k h => absurd h (l3 i ch k)) (fun k => by rw [f.log]) (f.log ▸ n.noloss) f.chans

/-- a record that keeps the program and is not at a build site has nothing more to build (`++ []` is what the `match` of
`toBuild` leaves there, so that callers pass `rfl`) -/
theorem toBuild_quiet {t t' : Thread} (h : toBuild t' = progIds t ++ []) (x : ReqId) (hx : x ∈ toBuild t') : x ∈ toBuild t :=
  List.mem_append_left _ ((List.mem_append.mp (h ▸ hx : x ∈ progIds t ++ [])).elim id (nomatch ·))

theorem ninv_done_frame {c c1 : Cfg} {own} {tid : Nat} {t : Thread} {op : Op} {r : Res}
    (n : NInv c own) (ht : c.threads[tid]? = some t) (hth : c1.threads = c.threads)
    (h_log : ∀ k, Ev.respDone k ∈ c1.log ↔ Ev.respDone k ∈ c.log) (h_noloss : noLossLog c1.log = true)
    (h_chans : c1.chans = c.chans) : NInv (upd c1 tid (done t op r)) own :=
  ninv_frame n ht hth (List.Sublist.refl _) (toBuild_quiet rfl) (fun _ _ _ h => nomatch h) h_log h_noloss h_chans

theorem ninv_build {c c4 : Cfg} {own : ChanId → ReqId} {tid : Nat} {t : Thread} {i : CtxId} {k : ReqId} {ch : ChanId}
    (hf : FInv c own) (n : NInv c own) (ht : c.threads[tid]? = some t) (hpc : t.pc = some (.askBuild i k))
    (b : BuildOut c i k ch c4) : NInv (upd c4 tid { t with pc := some (.askSelect i ch k) }) (ownSet own ch k) := by
  obtain ⟨pc, cur, prog, hist, dl⟩ := t
  cases hpc
  obtain ⟨hcur, _⟩ := (hf.thr tid _ ht).1
  cases hcur
  let t : Thread := ⟨some (.askBuild i k), some (.ask k), prog, hist, dl⟩
  have nt := n.thr tid t ht
  have hk_tb : k ∈ toBuild t := List.mem_append_right _ (List.mem_singleton.mpr rfl)
  have hk_prog : k ∉ progIds t := (List.nodup_cons.mp ((sublist_flatMap_of ht).nodup n.ids)).1
  have rd_eq : ∀ x, Ev.respDone x ∈ c4.log ↔ Ev.respDone x ∈ c.log := fun x => by rw [b.log]
  -- an allocated channel other than `ch` was handed out for a request built earlier
  have old : ∀ y, y < c4.chans.length → y ≠ ch → y < c.chans.length ∧ ownSet own ch k y = own y ∧ own y ≠ k := fun y hy hne =>
    have hlt := (b.cnew y hy).resolve_right hne
    ⟨hlt, ownSet_ne _ _ _ _ hne, nt.fresh k hk_tb y hlt⟩
  -- what any thread has still to build, `k` apart, has no channel afterwards either
  have fr : ∀ {tj : Thread}, NThread c own tj → ∀ k2, k2 ∈ toBuild tj → k2 ≠ k → ∀ x, x < c4.chans.length →
      ownSet own ch k x ≠ k2 := fun hj k2 h2 hne x hx => by
    by_cases hxc : x = ch
    · rw [hxc, ownSet_self]; exact Ne.symm hne
    · rw [(old x hx hxc).2.1]; exact hj.fresh k2 h2 x (old x hx hxc).1
  refine ninv_update n ht b.thr (List.Sublist.refl _) (b.log ▸ n.noloss) (fun x y hx hy e => ?_) ⟨fun k2 h2 => ?_, fun k2 h2 hr => ?_, ?_⟩
    fun j tj hne hj => ⟨fun k2 h2 => fr (n.thr j tj hj) k2 h2 fun e => ?_, fun k2 h2 hr => (n.thr j tj hj).unb k2 h2 ((rd_eq k2).mp hr),
      fun i2 ch2 k2 h2 hr => (b.chan ch2).trans ((n.thr j tj hj).sel i2 ch2 k2 h2 ((rd_eq k2).mp hr))⟩
  · by_cases hxc : x = ch <;> by_cases hyc : y = ch
    · rw [hxc, hyc]
    · rw [hxc, ownSet_self, (old y hy hyc).2.1] at e; exact absurd e.symm (old y hy hyc).2.2
    · rw [hyc, ownSet_self, (old x hx hxc).2.1] at e; exact absurd e (old x hx hxc).2.2
    · rw [(old x hx hxc).2.1, (old y hy hyc).2.1] at e; exact n.inj x y (old x hx hxc).1 (old y hy hyc).1 e
  · have h2 : k2 ∈ progIds t := (List.mem_append.mp h2).elim id (nomatch ·)
    exact fr nt k2 (List.mem_append_left _ h2) fun e => hk_prog (e ▸ h2)
  · have h2 : k2 ∈ progIds t := (List.mem_append.mp h2).elim id (nomatch ·)
    exact nt.unb k2 (List.mem_append_left _ h2) ((rd_eq k2).mp hr)
  · -- the request built now has no `respDone` yet
    intro i2 ch2 k2 h2 hr
    cases h2
    exact absurd ((rd_eq _).mp hr) (nt.unb k hk_tb)
  · -- another thread's ids are not this thread's
    exact nodup_flatMap_disjoint ids c.threads n.ids _ _ _ _ k hne hj ht (e ▸ toBuild_sub_ids tj _ h2) (List.mem_cons_self ..)

theorem ninv_send_done {c : Cfg} {own : ChanId → ReqId} {tid : Nat} {t : Thread} {i' : CtxId} {k' : ReqId} {ch' : ChanId}
    (hf : FInv c own) (n : NInv c own) (ht : c.threads[tid]? = some t)
    (hp : Pending c own i' true ch' k') {r : Res} :
    NInv (upd { setChan c ch' (some k') with log := Ev.respDone k' :: c.log } tid (done t .handle r)) own := by
  have hchlt : ch' < c.chans.length := hf.g.b_resp i' ch' (by rw [hp.1])
  let ca : Cfg := { setChan c ch' (some k') with log := Ev.respDone k' :: c.log }
  have hca : ∀ x, chanOf ca x = if x = ch' then some k' else chanOf c x := fun x => chanOf_setChan c ch' x _ hchlt
  have hlen : ca.chans.length = c.chans.length := length_setChan ..
  have rd : ∀ x, Ev.respDone x ∈ ca.log → x = k' ∨ Ev.respDone x ∈ c.log := fun x h =>
    (List.mem_cons.mp h).imp (fun e => by cases e; rfl) id
  -- what every thread knew survives: the request answered now was built, and the caller waiting for it waits on `ch'`
  have key : ∀ (j : Nat) tj, c.threads[j]? = some tj → NThread ca own tj := fun j tj hj => by
    have nj := n.thr j tj hj
    refine ⟨fun k2 h2 x hx => nj.fresh k2 h2 x (hlen ▸ hx), fun k2 h2 hr => ?_, fun i ch k hpc hr => ?_⟩
    · exact (rd k2 hr).elim (fun e => nj.fresh k2 h2 ch' hchlt (hp.2.1.trans e.symm)) (nj.unb k2 h2)
    · show chanOf ca ch = some k
      rw [hca]
      by_cases hold : Ev.respDone k ∈ c.log
      · have := nj.sel i ch k hpc hold
        rw [if_neg fun e => nomatch (e ▸ this).symm.trans hp.2.2.1]
        exact this
      · cases (rd k hr).resolve_right hold
        have hok := (hf.thr j tj hj).1
        rw [ThreadOk, hpc] at hok
        rw [if_pos (n.inj ch ch' hok.2.2.1 hchlt (hok.2.1.trans hp.2.1.symm))]
  exact ninv_update (c1 := ca) n ht rfl (List.Sublist.refl _) n.noloss (fun x y hx hy => n.inj x y (hlen ▸ hx) (hlen ▸ hy))
    ((key tid t ht).transfer (toBuild_quiet rfl) rfl (fun _ => Iff.rfl) fun _ _ _ h => nomatch h) fun j tj _ hj => key j tj hj

/-- both invariants, with one ghost map for the two (a new one after a build) -/
theorem ninv_step {c : Cfg} {own : ChanId → ReqId} (hf : FInv c own) (n : NInv c own) (tid : Nat) :
    ∃ own1, FInv (step c tid) own1 ∧ NInv (step c tid) own1 := by
  refine step_cases (P := fun c own => FInv c own ∧ NInv c own) hf tid ⟨hf, n⟩ (fun h ht hpc => ⟨finv_start h.1 ht hpc, ninv_start h.2 ht hpc⟩)
    (fun ht hpc b => ⟨finv_build hf ht hpc b, ninv_build hf n ht hpc b⟩)
    (fun {t i ch k v} ht hpc hv => ⟨finv_reply hf ht hpc hv, ?_⟩)
    (fun {t i ch k} ht hpc hv => ⟨finv_timedOut hf ht, ?_⟩)
    (fun ht _ _ => ⟨finv_deqNil hf ht, ninv_done_frame (c1 := c) n ht rfl (fun _ => Iff.rfl) n.noloss rfl⟩)
    (fun ht hpc hmb hp => ⟨finv_deqCons hf ht hpc hmb hp, ninv_frame n ht rfl (List.Sublist.refl _)
      (toBuild_quiet rfl) (fun _ _ _ h => nomatch h) (fun _ => Iff.rfl) n.noloss rfl⟩)
    (fun ht hpc _ => ⟨finv_cas hf ht hpc, ninv_frame n ht rfl (List.Sublist.refl _)
      (toBuild_quiet rfl) (fun _ _ _ h => nomatch h) (fun _ => Iff.rfl) n.noloss rfl⟩)
    (fun ht hpc hp => ⟨finv_send hf ht hpc hp, ninv_send_done hf n ht hp⟩)
  · -- the channel is drained: only other threads wait, and not on `ch`
    have hlen := length_setChan c ch none
    refine ninv_update (c1 := { setChan c ch none with chanPool := c.chanPool ++ [ch] }) n ht rfl (List.Sublist.refl _) n.noloss
      (fun x y hx hy => n.inj x y (hlen ▸ hx) (hlen ▸ hy))
      ((n.thr tid t ht).transfer (toBuild_quiet rfl) hlen (fun _ => Iff.rfl) fun _ _ _ h => nomatch h)
      fun j tj hne hj => (n.thr j tj hj).transfer (fun _ h => h) hlen (fun _ => Iff.rfl) fun i2 ch2 k2 hpcj => ⟨hpcj, ?_⟩
    exact chanOf_setChan_ne c ch ch2 none fun e =>
      hf.sel_dist j tid tj _ ch2 hne hj ht (by rw [selChan, hpcj]) (by rw [selChan, hpc, e])
  · -- `Response` for `k` has not returned: otherwise the reply would be in the channel
    have hnrd : Ev.respDone k ∉ c.log := fun hr => nomatch ((n.thr tid t ht).sel i ch k hpc hr).symm.trans hv
    refine ninv_done_frame (c1 := { c with log := Ev.timedOut k :: c.log }) n ht rfl
      (fun x => by simp) ?_ rfl
    show (!c.log.contains (Ev.respDone k) && noLossLog c.log) = true
    rw [n.noloss, Bool.and_true, Bool.not_eq_true']
    exact Bool.eq_false_iff.mpr fun hcn => hnrd (List.contains_iff_mem.mp hcn)

theorem ninv_timeout {c : Cfg} {own} (n : NInv c own) (tid : Nat) : NInv (timeout c tid) own := by
  unfold timeout
  cases ht : c.threads[tid]? with
  | none => exact n
  | some t =>
    have key : NInv (upd c tid { t with deadline := true }) own :=
      ninv_frame (c1 := c) (t' := { t with deadline := true }) n ht rfl (List.Sublist.refl _) (fun _ h => h) (fun _ _ _ h => h)
        (fun _ => Iff.rfl) n.noloss rfl
    simp only
    split
    · exact key
    · exact key
    · exact n

theorem both_runActs (acts : List Act) (c : Cfg) (own : ChanId → ReqId) (h : FInv c own) (n : NInv c own) :
    ∃ own1, FInv (runActs c acts) own1 ∧ NInv (runActs c acts) own1 :=
  Run.inv' (P := fun c => ∃ own, FInv c own ∧ NInv c own) (fun _ => rfl) (fun _ _ _ => rfl)
    (fun _ a ⟨own, h, n⟩ => match a with
      | .run tid => ninv_step h n tid
      | .timeout tid => ⟨own, finv_timeout h tid, ninv_timeout n tid⟩) acts c ⟨own, h, n⟩

structure SpawnOk (c : Cfg) : Prop where
  log : c.log = []
  chans : c.chans = []
  quiet : ∀ (j : Nat) tj, c.threads[j]? = some tj → ∀ i ch k, tj.pc ≠ some (.askSelect i ch k)
  ids : (allIds c).Nodup

theorem ninv_of_spawnOk {c : Cfg} (h : SpawnOk c) (own) : NInv c own := by
  have hlen : ∀ x, ¬ x < c.chans.length := fun x hx => by rw [h.chans] at hx; exact nomatch hx
  exact ⟨h.ids, by rw [h.log]; rfl, fun x _ hx => absurd hx (hlen x), fun j tj hj =>
    ⟨fun _ _ x hx => absurd hx (hlen x), fun k _ hr => (nomatch (h.log ▸ hr : Ev.respDone k ∈ [])),
      fun i ch k hpc => absurd hpc (h.quiet j tj hj i ch k)⟩⟩

theorem spawnOk_spawn (ps : List (List Op)) : ∀ (c : Cfg), SpawnOk c →
    (allIds c ++ ps.flatMap (·.filterMap askId)).Nodup → SpawnOk (spawn c ps) := by
  induction ps with
  | nil => exact fun c h _ => h
  | cons p ps ih =>
    intro c h hnd
    rw [spawn_cons]
    have f := startNext_frame c (idle p)
    obtain ⟨_, _, l3⟩ := startNext_lists c (idle p) rfl
    have hids : ids (startNext c (idle p)).2 = p.filterMap askId := by
      unfold startNext
      cases p with
      | nil => rfl
      | cons op rest => cases op <;> rfl
    have hall : allIds ({ (startNext c (idle p)).1 with
        threads := (startNext c (idle p)).1.threads ++ [(startNext c (idle p)).2] } : Cfg) = allIds c ++ p.filterMap askId := by
      show ((startNext c (idle p)).1.threads ++ [(startNext c (idle p)).2]).flatMap ids = _
      rw [f.thr, List.flatMap_append, List.flatMap_singleton, hids]
      rfl
    rw [List.flatMap_cons, ← List.append_assoc] at hnd
    exact ih _ ⟨f.log.trans h.log, f.chans.trans h.chans, f.thr ▸ Pool.forall_snoc l3 h.quiet,
      hall ▸ (List.nodup_append.mp hnd).1⟩ (hall ▸ hnd)

theorem ninv_init (progs : List (List Op)) (h : (progs.flatMap (·.filterMap askId)).Nodup) (own) :
    NInv (init .fixed progs) own :=
  ninv_of_spawnOk (spawnOk_spawn progs (empty .fixed) ⟨rfl, rfl, fun _ _ hj => (nomatch hj), List.nodup_nil⟩
    (by simpa [allIds, empty] using h)) own

end GoaktVerif.C15
