/-
C35 helper lemmas: `loop_rule`, the proof rule of the retry loop (`Model.C35.loop`); the theorems of
Props/C35 are its instances.
-/
import GoaktVerif.Model.C35
import GoaktVerif.Spec.C35

namespace GoaktVerif.C35
open GoaktVerif.Model.C35 GoaktVerif.Spec.C35

/-- which resolution an outcome is allowed to follow -/
def outcomeFits (r : Res) : Outcome → Prop
  | .delivered _ _ => r = .live
  | .gaveUpRelocating _ => r = .pinned
  | .gaveUpErr _ => r = .nf true
  | .failed _ => r = .terminal ∨ r = .nf false
  | .outOfFuel => True

def FitsOK (res : Nat → Res) (r : Run) : Prop :=
  1 ≤ r.lookups ∧ outcomeFits (res (r.lookups - 1)) r.out

/-- the call returns at `start` when it never waited, else at the end of the last wait plus the
    cost of the last resolution -/
def ReturnOK (d : Nat → Nat) (start : Nat) (r : Run) : Prop :=
  ∀ t, returnTime r.out = some t →
    (r.sleeps = [] → t = start) ∧
    (∀ s, r.sleeps.getLast? = some s → t = s.start + s.dur + d (r.lookups - 1))

def pSum (l : List Sleep) : Nat := totalSleep (l.filter (·.pinned))
def nSum (l : List Sleep) : Nat := totalSleep (l.filter (! ·.pinned))

theorem totalSleep_cons (s : Sleep) (l : List Sleep) : totalSleep (s :: l) = s.dur + totalSleep l := by
  simp [totalSleep]

theorem totalSleep_reverse (l : List Sleep) : totalSleep l.reverse = totalSleep l := by
  simp [totalSleep, List.sum_reverse]

theorem totalSleep_filter_reverse (sel : Sleep → Bool) (l : List Sleep) :
    totalSleep (l.reverse.filter sel) = totalSleep (l.filter sel) := by
  rw [List.filter_reverse, totalSleep_reverse]

theorem totalSleep_filter_cons (sel : Sleep → Bool) (s : Sleep) (l : List Sleep) :
    totalSleep ((s :: l).filter sel) = (if sel s = true then s.dur else 0) + totalSleep (l.filter sel) := by
  rw [List.filter_cons]; split
  · exact totalSleep_cons s _
  · exact (Nat.zero_add _).symm

theorem pSum_reverse (l : List Sleep) : pSum l.reverse = pSum l := totalSleep_filter_reverse _ l
theorem nSum_reverse (l : List Sleep) : nSum l.reverse = nSum l := totalSleep_filter_reverse _ l

theorem pSum_cons (s : Sleep) (l : List Sleep) :
    pSum (s :: l) = (if s.pinned = true then s.dur else 0) + pSum l := totalSleep_filter_cons _ s l
theorem nSum_cons (s : Sleep) (l : List Sleep) :
    nSum (s :: l) = (if (!s.pinned) = true then s.dur else 0) + nSum l := totalSleep_filter_cons _ s l

theorem totalSleep_split (l : List Sleep) : totalSleep l = pSum l + nSum l := by
  induction l with
  | nil => rfl
  | cons s rest ih => rw [totalSleep_cons, pSum_cons, nSum_cons, ih]; cases s.pinned <;> simp <;> omega

theorem optMin_le_left (a : Nat) (o : Option Nat) : optMin a o ≤ a := by
  cases o <;> simp [optMin]; omega

theorem wait_cut {b now dl : Nat} (h : now < dl) :
    now + min b (dl - now) ≤ dl ∧ (min b (dl - now) = b ∨ now + min b (dl - now) = dl) := by omega

section
variable (cfg : Cfg) (callerDl : Option Nat) (deadline : Nat) (ctxDone : Bool)
  (res : Nat → Res) (d : Nat → Nat)

/-- the outcomes with which an iteration that examines resolution `r` at time `now` can end the loop -/
def Exits (r : Res) (fuel now : Nat) : Outcome → Prop
  | .outOfFuel => fuel = 0
  | .delivered t dl => r = .live ∧ t = now ∧ dl = callerDl
  | .failed t => (r = .terminal ∨ r = .nf false) ∧ t = now
  | .gaveUpRelocating t => r = .pinned ∧ t = now
  | .gaveUpErr t => r = .nf true ∧ t = now

variable {callerDl} in
theorem Exits.fits {r : Res} {fuel now : Nat} {o : Outcome} (h : Exits callerDl r fuel now o) : outcomeFits r o := by
  cases o <;> simp_all [Exits, outcomeFits]

variable {callerDl} in
theorem Exits.returnTime {r : Res} {fuel now t : Nat} {o : Outcome} (h : Exits callerDl r fuel now o)
    (ht : returnTime o = some t) : t = now := by
  cases o <;> simp_all [Exits, Spec.C35.returnTime]

/-- The deadline `dl` a wait of the mask `pinned` runs against when it begins at `now`, and the not-found deadline it
    leaves: kept if set, else anchored now inside the not-found window and the caller's deadline. -/
inductive Mask (now : Nat) (nfDl : Option Nat) : Bool → Nat → Option Nat → Prop
  | pinned : Mask now nfDl true deadline nfDl
  | notFound {dl : Nat} (h : nfDl = some dl ∨
      nfDl = none ∧ dl ≤ now + cfg.nfWindow ∧ ∀ c, callerDl = some c → dl ≤ c) : Mask now nfDl false dl (some dl)

theorem nfDeadlineOf_mask (now : Nat) (nfDl : Option Nat) :
    Mask cfg callerDl deadline now nfDl false (nfDeadlineOf cfg callerDl now nfDl)
      (some (nfDeadlineOf cfg callerDl now nfDl)) := by
  refine .notFound ?_
  cases nfDl with
  | some x => exact Or.inl rfl
  | none =>
    refine Or.inr ⟨rfl, optMin_le_left _ _, ?_⟩
    rintro c rfl; simp [nfDeadlineOf, optMin]; omega

/-- The proof rule of the retry loop.  `P`: an invariant of the loop variables (iterations left, index of
    the resolution examined, clock, backoff, not-found deadline, waits so far, newest first). -/
theorem loop_rule {P : Nat → Nat → Nat → Nat → Option Nat → List Sleep → Prop} {Q : Run → Prop}
    (exit : ∀ {fuel i now backoff nfDl acc} (rec : Bool) (o : Outcome), P fuel i now backoff nfDl acc →
      Exits callerDl (res i) fuel now o → Q ⟨i + 1, acc.reverse, rec, o⟩)
    (wait : ∀ {fuel i now backoff nfDl acc} (pinned : Bool) (dl dur : Nat) (nfDl' : Option Nat),
      P (fuel + 1) i now backoff nfDl acc → Mask cfg callerDl deadline now nfDl pinned dl nfDl' →
      now < dl → now + dur ≤ dl → (dur = backoff ∨ now + dur = dl) →
      P fuel (i + 1) (now + dur + d (i + 1)) (min (backoff * 2) cfg.maxB) nfDl' (⟨now, dur, pinned⟩ :: acc))
    {fuel i now backoff : Nat} {nfDl : Option Nat} {acc : List Sleep} (rec : Bool)
    (h : P fuel i now backoff nfDl acc) :
    Q (loop cfg callerDl deadline ctxDone res d fuel i now backoff nfDl acc rec) := by
  induction fuel generalizing i now backoff nfDl acc rec with
  | zero => exact exit rec .outOfFuel h rfl
  | succ fuel ih =>
    simp only [loop]
    -- the arms of `loop` on `res i`, in source order: live, terminal, nf false, pinned, nf true
    split
    · exact exit rec _ h ⟨‹_›, rfl, rfl⟩
    · exact exit rec _ h ⟨Or.inl ‹_›, rfl⟩
    · exact exit rec _ h ⟨Or.inr ‹_›, rfl⟩
    · split  -- pinned: past the deadline (or context done) it gives up, else it waits
      · exact exit true _ h ⟨‹_›, rfl⟩
      · have hlt : now < deadline := by omega
        exact ih true (wait true deadline _ nfDl h .pinned hlt
          (wait_cut hlt).1 (wait_cut hlt).2)
    · split  -- nf true: the same against the not-found deadline
      · exact exit true _ h ⟨‹_›, rfl⟩
      · have hlt : now < nfDeadlineOf cfg callerDl now nfDl := by omega
        exact ih true (wait false _ _ _ h (nfDeadlineOf_mask cfg callerDl deadline now nfDl) hlt
          (wait_cut hlt).1 (wait_cut hlt).2)

end

end GoaktVerif.C35
