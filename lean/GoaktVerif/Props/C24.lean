/-
C24 — Connection compression is transparent.   (weakly applicable: claimed at level "other")

"For every compression setting (none, gzip, zstd, brotli) and every sequence of writes, the bytes read on the
 other side of a compressed connection equal the bytes written, in order, across arbitrary write sizes and
 flush points."

What is proved: the WRAPPER (Write = codec write + Flush, pooled objects reset by Wrap, reads in arbitrary
chunk sizes interleaved arbitrarily with the writes) is transparent for EVERY streaming codec that satisfies
`StreamLaw` (decoding the concatenation of the flushed blocks yields the concatenation of the writes) and
`ResetLaw` (Reset brings a pooled object back to its initial state).  The laws are hypotheses; they hold for
the identity codec and for a buffering block codec (examples below), and `noflush_starves` shows the wrapper's
Flush is what makes the second one work.  That gzip / zstd / brotli satisfy the laws is NOT proved: it is
sampled by the differential on the real wrappers.
-/
import GoaktVerif.Model.C24

namespace GoaktVerif.C24
open GoaktVerif.Model.C24

/-- the assumed codec law: whatever the segmentation of the writes, a fresh decoder fed the flushed blocks of the
    writes so far yields exactly the concatenation of those writes -/
def StreamLaw (c : Codec) : Prop := ∀ ws : List Bytes, c.decode (wireOf c c.init ws) = ws.flatten

/-- `Reset` on a pooled object forgets the previous connection -/
def ResetLaw (c : Codec) : Prop := ∀ s : c.St, c.reset s = c.init

theorem stateAfter_append (c : Codec) (s : c.St) (ws : List Bytes) (p : Bytes) :
    stateAfter c s (ws ++ [p]) = (connWrite c (stateAfter c s ws) p).1 := by
  induction ws generalizing s with
  | nil => rfl
  | cons w ws ih => simp [stateAfter, ih]

theorem wireOf_append (c : Codec) (s : c.St) (ws : List Bytes) (p : Bytes) :
    wireOf c s (ws ++ [p]) = wireOf c s ws ++ (connWrite c (stateAfter c s ws) p).2 := by
  induction ws generalizing s with
  | nil => simp [wireOf, stateAfter]
  | cons w ws ih => simp [wireOf, stateAfter, ih, List.append_assoc]

structure Inv (c : Codec) (k : Pipe c) : Prop where
  enc : k.enc = stateAfter c c.init k.writes
  wire : k.wire = wireOf c c.init k.writes
  pre : k.got ++ k.writes.flatten.drop k.taken = k.writes.flatten
  taken : k.taken = k.got.length

theorem inv_wrap (c : Codec) (hr : ResetLaw c) (pooled : c.St) : Inv c (wrap c pooled) :=
  ⟨by simp [wrap, hr pooled, stateAfter], by simp [wrap, wireOf], by simp [wrap], by simp [wrap]⟩

theorem drop_length_take (n : Nat) (t : Bytes) : t.drop (t.take n).length = t.drop n := by
  rw [List.length_take]
  by_cases h : n ≤ t.length
  · rw [Nat.min_eq_left h]
  · have h' : t.length ≤ n := by omega
    rw [Nat.min_eq_right h', List.drop_eq_nil_of_le (Nat.le_refl _), List.drop_eq_nil_of_le h']

theorem inv_step (c : Codec) (hl : StreamLaw c) (k : Pipe c) (op : Op) (hi : Inv c k) : Inv c (step c k op) := by
  obtain ⟨he, hw, hp, ht⟩ := hi
  have hle : k.taken ≤ k.writes.flatten.length := by
    have := congrArg List.length hp
    rw [List.length_append, List.length_drop] at this
    omega
  cases op with
  | write p =>
    refine ⟨?_, ?_, ?_, ht⟩
    · simp only [step, stateAfter_append, he]
    · simp only [step, wireOf_append, hw, he]
    · simp only [step, List.flatten_append, List.flatten_cons, List.flatten_nil, List.append_nil]
      rw [List.drop_append_of_le_length hle, ← List.append_assoc, hp]
  | read n =>
    have hdec : c.decode k.wire = k.writes.flatten := by rw [hw]; exact hl k.writes
    refine ⟨he, hw, ?_, ?_⟩
    · simp only [step, hdec]
      rw [← List.drop_drop, drop_length_take, List.append_assoc, List.take_append_drop, hp]
    · simp [step, ht]

theorem inv_run (c : Codec) (hl : StreamLaw c) (ops : List Op) (k : Pipe c) (hi : Inv c k) : Inv c (run c k ops) :=
  List.foldlRecOn ops _ hi fun k hi op _ => inv_step c hl k op hi

/-- Conditional on the codec laws: on a connection wrapped from pooled objects with ANY history,
    after ANY schedule of writes (any sizes; each one flushed by the wrapper) and reads (any buffer sizes, at any
    points between the writes):
    (1) the bytes received so far are exactly the first bytes written, in order — never anything else;
    (2) one more read with a large enough buffer returns all the rest: bytes read = bytes written. -/
theorem C24_transparent (c : Codec) (hl : StreamLaw c) (hr : ResetLaw c) (pooled : c.St) (ops : List Op) :
    let k := run c (wrap c pooled) ops
    k.got = k.writes.flatten.take k.got.length
    ∧ ∀ n, k.writes.flatten.length - k.got.length ≤ n → (step c k (.read n)).got = k.writes.flatten := by
  intro k
  obtain ⟨_, hw, hp, ht⟩ : Inv c k := inv_run c hl ops (wrap c pooled) (inv_wrap c hr pooled)
  constructor
  · have := congrArg (List.take k.got.length) hp
    rwa [List.take_left] at this
  · intro n hn
    show k.got ++ ((c.decode k.wire).drop k.taken).take n = _
    rw [hw, hl, List.take_of_length_le (by rw [List.length_drop, ht]; exact hn), hp]

theorem wireOf_id (ws : List Bytes) : wireOf idCodec () ws = ws.flatten := by
  induction ws with
  | nil => rfl
  | cons w ws ih => simp [wireOf, connWrite, idCodec] at ih ⊢; exact ih

/-- the identity codec ("no compression") satisfies both laws -/
theorem idCodec_laws : StreamLaw idCodec ∧ ResetLaw idCodec :=
  ⟨fun ws => by
    show id (wireOf idCodec () ws) = ws.flatten
    rw [wireOf_id]; rfl, fun _ => rfl⟩

example : (step idCodec (run idCodec (wrap idCodec ()) [.write [1, 2, 3], .read 2, .write [4], .read 1]) (.read 9)).got
    = [1, 2, 3, 4] := by decide

def blocks (ws : List Bytes) : Bytes := (ws.map fun p => p.length :: p).flatten

theorem blocks_cons (w : Bytes) (ws : List Bytes) : blocks (w :: ws) = w.length :: (w ++ blocks ws) := rfl

theorem wireOf_block (ws : List Bytes) : wireOf blockCodec [] ws = blocks ws := by
  induction ws with
  | nil => rfl
  | cons w ws ih =>
    have h1 : (connWrite blockCodec [] w).1 = [] := rfl
    have h2 : (connWrite blockCodec [] w).2 = w.length :: w := by simp [connWrite, blockCodec]
    simp only [wireOf, h1, h2, ih, blocks_cons, List.cons_append]

theorem decodeBlocks_blocks (ws : List Bytes) (f : Nat) (hf : ws.length < f) : decodeBlocksF f (blocks ws) = ws.flatten := by
  induction ws generalizing f with
  | nil => cases f <;> simp [blocks, decodeBlocksF]
  | cons w ws ih =>
    cases f with
    | zero => simp at hf
    | succ f =>
      rw [blocks_cons, decodeBlocksF]
      have hle : w.length ≤ (w ++ blocks ws).length := by simp
      simp only [hle, if_true, List.take_left', List.drop_left', List.flatten_cons]
      rw [ih f (by simp at hf; omega)]

theorem blocks_length (ws : List Bytes) : ws.length ≤ (blocks ws).length := by
  induction ws with
  | nil => exact Nat.le_refl 0
  | cons w ws ih => rw [blocks_cons, List.length_cons, List.length_cons, List.length_append]; omega

/-- a codec that buffers in Write and only emits on Flush satisfies both laws too -/
theorem blockCodec_laws : StreamLaw blockCodec ∧ ResetLaw blockCodec := by
  refine ⟨fun ws => ?_, fun _ => rfl⟩
  show decodeBlocksF ((wireOf blockCodec [] ws).length + 1) (wireOf blockCodec [] ws) = ws.flatten
  rw [wireOf_block]
  exact decodeBlocks_blocks ws _ (by have := blocks_length ws; omega)

def wireNoFlush (c : Codec) : c.St → List Bytes → Bytes
  | _, [] => []
  | s, p :: ps => (connWriteNoFlush c s p).2 ++ wireNoFlush c (connWriteNoFlush c s p).1 ps

/-- for the block codec the wrapper's Flush is essential: without it nothing ever reaches the raw connection -/
theorem noflush_starves (ws : List Bytes) (s : Bytes) : wireNoFlush blockCodec s ws = [] := by
  induction ws generalizing s with
  | nil => rfl
  | cons w ws ih => simp [wireNoFlush, connWriteNoFlush, blockCodec] at ih ⊢; exact ih _

end GoaktVerif.C24
