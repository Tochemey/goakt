/-
C41 — Deleted CRDT keys stay deleted until their tombstone expires.

"After a key is deleted on any replica, no replica that has received the tombstone exposes a
 value for it or accepts later updates, deltas or full-state entries for it until the tombstone
 expires."

Model: `Model/C41.lean`, the replicator's message handlers as a function
`step : Rep V → Msg V → Rep V × List (Out V)` over ABSTRACT CRDT values (any type `V`, any
merge/delta/reset/compact, any user `Modify` closure), clock values and peers' answers as inputs.
"Has received the tombstone" is a fact about one replica's state (`tombs` binds the key), so the
property is an invariant of every replica under every message sequence — the messages of the
other replicas arrive as `delta` / `tombstone` / `fullState` / `digest` / `batch` / peers'
answers, in any order, duplicated or never.

Result.  The full statement holds (`C41_holds`).  It rests on `handleGet` consulting the tombstones
before a coordinated read (goakt eb69dd7; seeded/C41-revert-fix reverts it): otherwise a Get with
`ReadFrom ≠ 0` stores what the peers answer — the run given below as an example.
-/
import GoaktVerif.Lemmas.C41
import GoaktVerif.Spec.C41

namespace GoaktVerif.C41
open GoaktVerif.Model.C41 GoaktVerif.Spec.C41

variable {V : Type}

/-- the invariant: a tombstoned key is absent from the store -/
def Inv (r : Rep V) : Prop := ∀ k, ahas r.tombs k = true → aget r.store k = none

/-- what the oracle sees of a model state -/
def viewOf (r : Rep V) : View :=
  ⟨r.store.map (·.1), r.tombs.map (fun p => (p.1, p.2.deletedAt))⟩

/-- the property-relevant kind of a message, with the response the handler produced -/
def kindOf : Msg V → List (Out V) → Kind
  | .get k _, [.value v] => .read k v.isNone
  | .readReq k, [.value v] => .read k v.isNone
  | .prune now, _ => .prune now
  | _, _ => .other

/-- what handling anything but a prune tick does to a replica: the configuration stays, no tombstone goes,
    and a tombstoned key stays out of the store -/
structure Keeps (r r' : Rep V) : Prop where
  ttl : r'.ttl = r.ttl
  nodeID : r'.nodeID = r.nodeID
  tombs : ∀ k, ahas r.tombs k = true → ahas r'.tombs k = true
  inv : Inv r → Inv r'

theorem Keeps.refl (r : Rep V) : Keeps r r := ⟨rfl, rfl, fun _ h => h, id⟩

theorem Keeps.trans {a b c : Rep V} (h1 : Keeps a b) (h2 : Keeps b c) : Keeps a c :=
  ⟨h2.ttl.trans h1.ttl, h2.nodeID.trans h1.nodeID, fun k h => h2.tombs k (h1.tombs k h), h2.inv ∘ h1.inv⟩

theorem Keeps.foldl {α : Type} {f : Rep V → α → Rep V} (hf : ∀ r x, Keeps r (f r x)) (l : List α) (r : Rep V) :
    Keeps r (l.foldl f r) :=
  List.foldlRecOn l f (Keeps.refl r) fun r' hr x _ => hr.trans (hf r' x)

/-- storing under a key that is not tombstoned (update, delta, full-state entry, coordinated read) -/
theorem Keeps.store_set {r r' : Rep V} {k : Nat} (hk : ¬ ahas r.tombs k = true) (ht : r'.tombs = r.tombs)
    (h1 : r'.ttl = r.ttl) (h2 : r'.nodeID = r.nodeID) (hs : ∃ x, r'.store = aset r.store k x) : Keeps r r' := by
  refine ⟨h1, h2, fun _ h => ht ▸ h, fun h k' hk' => ?_⟩
  obtain ⟨x, hs⟩ := hs
  rw [ht] at hk'
  rw [hs, aget_aset, if_neg fun e : k' = k => hk (e ▸ hk')]
  exact h k' hk'

/-- recording a tombstone deletes the key (local delete, peer tombstone) -/
theorem Keeps.tomb_set {r r' : Rep V} {k : Nat} (ht : ∃ t, r'.tombs = aset r.tombs k t)
    (h1 : r'.ttl = r.ttl) (h2 : r'.nodeID = r.nodeID) (hs : r'.store = adel r.store k) : Keeps r r' := by
  obtain ⟨t, ht⟩ := ht
  refine ⟨h1, h2, fun k' h => ht ▸ ahas_aset_of h .., fun h k' hk' => ?_⟩
  rw [ht, ahas_aset, Bool.or_eq_true, decide_eq_true_eq] at hk'
  rw [hs, aget_adel]
  split
  · rfl
  · exact h k' (hk'.resolve_left ‹_›)

theorem absorb_keeps (ops : Ops V) (r : Rep V) (k dt : Nat) (v : V) : Keeps r (absorb ops r k dt v) := by
  -- `fun_cases f args` yields one goal per leaf of the model's definition of `f`, with every branch condition and match
  -- equation as hypotheses; `case1`, `case2`, … follow the order of the leaves in Model/C41.lean.
  fun_cases absorb ops r k dt v
  -- tombstoned key: not accepted
  case case1 => exact .refl r
  -- first sight of the key: stored; known key: merged
  case case2 hk _ | case3 hk _ _ => exact .store_set hk rfl rfl rfl ⟨_, rfl⟩

theorem handleDelta_keeps (ops : Ops V) (r : Rep V) (d : DeltaMsg V) : Keeps r (handleDelta ops r d) := by
  fun_cases handleDelta ops r d
  -- the replica's own delta comes back: ignored
  case case1 => exact .refl r
  -- a peer's delta
  case case2 => exact absorb_keeps ..

theorem handleTomb_keeps (r : Rep V) (t : TombMsg) : Keeps r (handleTomb r t) := by
  fun_cases handleTomb r t
  -- the replica's own tombstone comes back: ignored
  case case1 => exact .refl r
  -- a peer's tombstone is recorded
  case case2 => exact .tomb_set ⟨_, rfl⟩ rfl rfl rfl

theorem step_frame (ops : Ops V) (r : Rep V) (m : Msg V) : (∃ now, m = .prune now) ∨ Keeps r (step ops r m).1 := by
  cases m with
  | update k dt init f =>
    right
    show Keeps r (handleUpdate ops r k dt init f).1
    fun_cases handleUpdate ops r k dt init f
    -- tombstoned key: not accepted
    case case1 => exact .refl r
    -- the updated value is stored
    case case2 hk _ _ _ => exact .store_set hk rfl rfl rfl ⟨_, rfl⟩
  | get k peers =>
    right
    show Keeps r (handleGet ops r k peers).1
    fun_cases handleGet ops r k peers
    -- tombstoned key; local read; coordinated read that finds no value anywhere
    case case1 | case2 | case4 => exact .refl r
    -- coordinated read: the merged value is stored
    case case3 hk _ _ _ _ => exact .store_set hk rfl rfl rfl ⟨_, rfl⟩
  | delete k now => right; exact .tomb_set ⟨_, rfl⟩ rfl rfl rfl
  | tombstone t => right; exact handleTomb_keeps r t
  | delta d => right; exact handleDelta_keeps ops r d
  | fullState es => right; exact Keeps.foldl (fun r e => absorb_keeps ops r _ _ _) es r
  | digest es => right; exact .refl r
  | readReq k => right; exact .refl r
  | prune now => exact Or.inl ⟨now, rfl⟩
  | batch sameDC ds ts =>
    right
    simp only [step]
    split
    · exact .refl r
    · exact (Keeps.foldl (handleDelta_keeps ops) ds r).trans (Keeps.foldl handleTomb_keeps ts _)

theorem step_inv (ops : Ops V) (r : Rep V) (m : Msg V) (h : Inv r) : Inv (step ops r m).1 := by
  rcases step_frame ops r m with ⟨now, rfl⟩ | hm
  · intro k hk
    show aget (r.store.map _) k = none
    rw [aget_map, h k (ahas_of_filter hk)]
    rfl
  · exact hm.inv h

theorem step_ttl (ops : Ops V) (r : Rep V) (m : Msg V) : (step ops r m).1.ttl = r.ttl := by
  rcases step_frame ops r m with ⟨now, rfl⟩ | hm
  · rfl
  · exact hm.ttl

theorem step_keeps (ops : Ops V) (r : Rep V) (m : Msg V) (k : Nat) (t : Tomb) (hk : (k, t) ∈ r.tombs) :
    ahas (step ops r m).1.tombs k = true ∨ ∃ now, m = .prune now ∧ now - t.deletedAt > r.ttl := by
  rcases step_frame ops r m with ⟨now, rfl⟩ | hm
  · by_cases e : now - t.deletedAt > r.ttl
    · exact Or.inr ⟨now, rfl, e⟩
    · exact Or.inl (ahas_of_mem _ k t (List.mem_filter.mpr ⟨hk, by rw [decide_eq_false e]; rfl⟩))
  · exact Or.inl (hm.tombs k (ahas_of_mem _ _ _ hk))

theorem foldl_tomb_nodeID (ts : List TombMsg) (r : Rep V) : (ts.foldl handleTomb r).nodeID = r.nodeID :=
  (Keeps.foldl handleTomb_keeps ts r).nodeID

theorem handleGet_value (ops : Ops V) (r : Rep V) (k : Nat) (peers : Option (List (Option V))) :
    ∃ x, (handleGet ops r k peers).2 = [.value x] := by
  fun_cases handleGet ops r k peers
  -- tombstoned key, local read, coordinated read with or without a value: each leaf answers one `.value`
  case case1 | case2 | case3 | case4 => exact ⟨_, rfl⟩

/-- a Get (local or coordinated) of a tombstoned key answers "no data" and changes nothing -/
theorem handleGet_tombed (ops : Ops V) (r : Rep V) (k : Nat) (peers : Option (List (Option V)))
    (hk : ahas r.tombs k = true) : handleGet ops r k peers = (r, [.value none]) := by
  unfold handleGet; rw [if_pos hk]

/-- a prune tick removes exactly the expired tombstones (so a key CAN come back after expiry) -/
theorem prune_expires (ops : Ops V) (r : Rep V) (now : Int) (k : Nat) (t : Tomb) :
    (k, t) ∈ (handlePrune ops r now).tombs ↔ (k, t) ∈ r.tombs ∧ ¬ (now - t.deletedAt > r.ttl) := by
  show (k, t) ∈ r.tombs.filter _ ↔ _
  rw [List.mem_filter, Bool.not_eq_true', decide_eq_false_iff_not]

/-- clause (b) of Spec/C41.lean (`readOK`): a Get — local or coordinated, whatever the peers answer — and a peer's read request for a
    tombstoned key answer "no data" -/
theorem read_none (ops : Ops V) (r : Rep V) (k : Nat) (h : Inv r) (hk : ahas r.tombs k = true) :
    (∀ peers, (step ops r (.get k peers)) = (r, [.value none])) ∧ (step ops r (.readReq k)).2 = [.value none] :=
  ⟨fun peers => handleGet_tombed ops r k peers hk, congrArg (fun x => [Out.value x]) (h k hk)⟩

/-- a local update / delta / full-state entry for a tombstoned key is not accepted: the state is
    unchanged and nothing is published -/
theorem rejects (ops : Ops V) (r : Rep V) (k : Nat) (hk : ahas r.tombs k = true) :
    (∀ dt init f, step ops r (.update k dt init f) = (r, [.ack]))
    ∧ (∀ o dt v, (step ops r (.delta ⟨o, k, dt, v⟩)).1 = r)
    ∧ (∀ dt v, (step ops r (.fullState [(k, dt, v)])).1 = r) := by
  have ha : ∀ dt v, absorb ops r k dt v = r := fun dt v => if_pos hk
  refine ⟨fun dt init f => if_pos hk, fun o dt v => ?_, fun dt v => ha dt v⟩
  show (if o = r.nodeID then r else absorb ops r k dt v) = r
  rw [ha, ite_self]

theorem tombed_viewOf (r : Rep V) (k : Nat) : tombed (viewOf r) k = ahas r.tombs k := by
  unfold tombed viewOf
  rw [ahas_iff_any, List.any_map]
  rfl

theorem absentOK_of_inv (r : Rep V) (h : Inv r) : absentOK (viewOf r) = true := by
  unfold absentOK
  rw [List.all_eq_true]
  intro t ht
  have hk : ahas r.tombs t.1 = true := by
    rw [← tombed_viewOf]; exact List.any_eq_true.mpr ⟨t, ht, beq_self_eq_true _⟩
  rw [Bool.not_eq_true']
  exact aget_none_iff.mp (h t.1 hk)

theorem readOK_step (ops : Ops V) (r : Rep V) (m : Msg V) (h : Inv r) :
    readOK (viewOf r) (kindOf m (step ops r m).2) = true := by
  cases m with
  | get k peers =>
    obtain ⟨x, hx⟩ := handleGet_value ops r k peers
    show readOK _ (kindOf (.get k peers) (handleGet ops r k peers).2) = true
    rw [hx]
    show (!tombed (viewOf r) k || x.isNone) = true
    rw [tombed_viewOf]
    cases hk : ahas r.tombs k with
    | false => rfl
    | true => rw [handleGet_tombed ops r k peers hk] at hx; cases hx; rfl
  | readReq k =>
    show (!tombed (viewOf r) k || (aget r.store k).isNone) = true
    rw [tombed_viewOf]
    cases hk : ahas r.tombs k with
    | false => rfl
    | true => rw [h k hk]; rfl
  | _ => rfl

/-- the model satisfies the oracle on every step -/
theorem step_ok (ops : Ops V) (r : Rep V) (m : Msg V) (h : Inv r) :
    stepOK r.ttl (viewOf r) (viewOf (step ops r m).1) (kindOf m (step ops r m).2) = true := by
  unfold stepOK
  rw [Bool.and_eq_true, Bool.and_eq_true]
  refine ⟨⟨absentOK_of_inv _ (step_inv ops r m h), readOK_step ops r m h⟩, ?_⟩
  unfold keepOK
  rw [List.all_eq_true]
  intro kt hkt
  obtain ⟨⟨k, t⟩, hp, rfl⟩ := List.mem_map.mp hkt
  rw [Bool.or_eq_true, tombed_viewOf]
  rcases step_keeps ops r m k t hp with hkeep | ⟨now, rfl, hexp⟩
  · exact Or.inl hkeep
  · exact Or.inr (decide_eq_true hexp)

/-- the keys whose tombstone message `m` delivers to replica `r` (peer tombstones issued by `r`
    itself are ignored by handleProtoTombstone: the local delete already recorded them) -/
def deliveredOf (r : Rep V) : Msg V → List Nat
  | .delete k _ => [k]
  | .tombstone t => if t.deletedBy = r.nodeID then [] else [t.key]
  | .batch sameDC _ ts => if sameDC then [] else (ts.filter fun t => t.deletedBy != r.nodeID).map (·.key)
  | _ => []

theorem handleTomb_records (r : Rep V) (t : TombMsg) (h : t.deletedBy ≠ r.nodeID) :
    ahas (handleTomb r t).tombs t.key = true := by
  unfold handleTomb
  rw [if_neg h]
  exact ahas_aset_self ..

theorem foldl_tomb_records (ts : List TombMsg) (r : Rep V) (t : TombMsg) (ht : t ∈ ts)
    (h : t.deletedBy ≠ r.nodeID) : ahas (ts.foldl handleTomb r).tombs t.key = true := by
  induction ts generalizing r with
  | nil => cases ht
  | cons a ts ih =>
    rcases List.mem_cons.mp ht with rfl | hmem
    · exact (Keeps.foldl handleTomb_keeps ts _).tombs _ (handleTomb_records r t h)
    · exact ih _ hmem ((handleTomb_keeps r a).nodeID ▸ h)

/-- clause (d) of Spec/C41.lean (`recordOK`): every tombstone a message delivers is recorded, for a key the replica knows or not -/
theorem step_records (ops : Ops V) (r : Rep V) (m : Msg V) :
    recordOK (viewOf (step ops r m).1) (deliveredOf r m) = true := by
  unfold recordOK
  rw [List.all_eq_true]
  intro k hk
  rw [tombed_viewOf]
  cases m with
  | delete k' now =>
    cases List.mem_singleton.mp hk
    exact ahas_aset_self ..
  | tombstone t =>
    simp only [deliveredOf] at hk
    split at hk
    · cases hk
    · cases List.mem_singleton.mp hk
      exact handleTomb_records r t ‹_›
  | batch sameDC ds ts =>
    simp only [deliveredOf] at hk
    split at hk
    · cases hk
    · rename_i hdc
      obtain ⟨t, htm, rfl⟩ := List.mem_map.mp hk
      have hf := List.mem_filter.mp htm
      simp only [step, hdc, Bool.false_eq_true, ↓reduceIte]
      refine foldl_tomb_records ts _ t hf.1 ?_
      rw [(Keeps.foldl (handleDelta_keeps ops) ds r).nodeID]
      exact bne_iff_ne.mp hf.2
  | _ => cases hk

/-- states reachable from a fresh replicator by messages satisfying `P` -/
inductive Reach (ops : Ops V) (P : Msg V → Bool) : Rep V → Prop where
  | init (nodeID : Nat) (ttl : Int) : Reach ops P (Rep.init nodeID ttl)
  | step (r : Rep V) (m : Msg V) : Reach ops P r → P m = true → Reach ops P (step ops r m).1

/-- the property at one reachable state `r`, for the next message `m`:
    every tombstoned key is absent from the store, a read of it answers nothing,
    it stays tombstoned unless `m` is a prune tick past its expiry, and every tombstone `m` delivers
    is recorded ("has received the tombstone" ⇒ the key is tombstoned) -/
def holdsAt (ops : Ops V) (r : Rep V) (m : Msg V) : Prop :=
  stepOK r.ttl (viewOf r) (viewOf (step ops r m).1) (kindOf m (step ops r m).2) = true
  ∧ recordOK (viewOf (step ops r m).1) (deliveredOf r m) = true

/-- The full statement: for every CRDT value type and operations, every sequence of messages of
    every kind (any interleaving of updates, deletes, deltas, tombstones, digests, full states,
    batches, prune ticks, local and coordinated reads, with any clock values), the property holds
    at every step. -/
def C41_full : Prop :=
  ∀ (V : Type) (ops : Ops V) (r : Rep V) (m : Msg V),
    Reach ops (fun _ => true) r → holdsAt ops r m

theorem reach_inv (ops : Ops V) (P : Msg V → Bool) (r : Rep V) (h : Reach ops P r) : Inv r := by
  induction h with
  | init n ttl => exact fun _ hk => nomatch hk
  | step r m _ _ ih => exact step_inv ops r m ih

theorem holdsAt_of_inv (ops : Ops V) (r : Rep V) (m : Msg V) (h : Inv r) : holdsAt ops r m :=
  ⟨step_ok ops r m h, step_records ops r m⟩

theorem C41_holds : C41_full :=
  fun _ ops r m hr => holdsAt_of_inv ops r m (reach_inv ops _ r hr)

/-- values are naturals merged by `max` -/
def natOps : Ops Nat := ⟨Nat.max, fun v => some v, id, id⟩

/-- the run that needs the tombstone check of `handleGet` (without it the replies are `[none], [some 5], [some 5]`):
    a replica deletes key 0, then handles `Get` with `ReadFrom ≠ 0` while one peer still answers 5 -/
example : (run natOps (Rep.init 0 24) [.delete 0 100, .get 0 (some [some 5]), .get 0 none]).2.map
    (fun os => os.map fun | Out.value v => v | _ => none) = [[none], [none], [none]] := by decide

/-- non-vacuity: a reachable state with a tombstone and other live data, at which a full state carrying the
    tombstoned key and a live one stores only the live one -/
example : ∃ r : Rep Nat, Reach natOps (fun _ => true) r ∧ ahas r.tombs 1 = true ∧ ahas r.store 2 = true
    ∧ (step natOps r (.fullState [(1, 0, 7), (2, 0, 9)])).1.store = [(2, 9)] :=
  ⟨(step natOps (step natOps (step natOps (Rep.init 0 24) (.update 1 0 0 (· + 1))).1 (.update 2 0 0 (· + 3))).1 (.delete 1 100)).1,
   Reach.step _ _ (Reach.step _ _ (Reach.step _ _ (Reach.init 0 24) rfl) rfl) rfl, by decide, by decide, by decide⟩

end GoaktVerif.C41
