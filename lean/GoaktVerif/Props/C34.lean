/-
C34 — Membership events are emitted once and only after rebalancing settles.

"For any history of node-join, node-left and rebalance start/complete notifications, including
 duplicates and reorderings, each departure produces at most one NodeLeft and each arrival at most
 one NodeJoined until the opposite event, the local node never reports itself, and a NodeLeft is
 emitted only after the rebalance epoch covering it completes or its timeout elapses."

Model: Model/C34 (internal/cluster/cluster.go, handleClusterEvent and everything below it), tied to
the real `cluster` struct by the differential run (events of every step + the whole bookkeeping
state).  All theorems quantify over ALL histories (`pre : List Op`, any length, any node ids, any
epoch numbers, duplicates, reorderings); `evAt pre op n` is what node `n` is reported to do by the
call `op` issued after history `pre`, and `run_getElem` (Lemmas/C34b) shows that this is exactly the
entry at position `pre.length` of the executable `run` the driver prints.

The property is FALSE of the current code (`C34_refuted`): the gate fails for a departure that is
handed a stale epoch (findings C34-F1, C34-F3).  `C34_partial` is the full statement under the
decidable guard `guard` (Lemmas/C34b) that excludes exactly these situations; the once-only clauses
and the self clause hold unconditionally (`self_never_joined`, `self_never_left`: trackNodeLeftEvent
ignores a left notification naming the local node, finding C34-F2, fixed in goakt).
-/
import GoaktVerif.Lemmas.C34c

namespace GoaktVerif.C34
open GoaktVerif.Model.C34 GoaktVerif.Spec.C34

def isJoinOf (op : Op) (n : Node) : Bool :=
  match op with
  | .join m => m == n
  | _ => false

/-- running `h` from state `s` (first op at position `k`), nothing opposite to NodeJoined(n)
    happens: no left notification for `n`, no NodeLeft(n) emitted -/
def NoOppJ (n : Node) : Nat → St → List Op → Prop
  | _, _, [] => True
  | k, s, x :: xs =>
    isLeftOf x n = false ∧ ((step s (k + 1) x).2 n).left = none ∧ NoOppJ n (k + 1) (step s (k + 1) x).1 xs

/-- "until the opposite event" for NodeLeft(n): no join notification for `n`, no NodeJoined(n).  `left_once` holds
    without it, so `C34_partial` does not read it. -/
def NoOppL (n : Node) : Nat → St → List Op → Prop
  | _, _, [] => True
  | k, s, x :: xs =>
    isJoinOf x n = false ∧ ((step s (k + 1) x).2 n).join = none ∧ NoOppL n (k + 1) (step s (k + 1) x).1 xs

theorem leftF_runFrom (n : Node) (k : Nat) (s : St) (h : List Op) (hf : (s.loc n).leftF = true) :
    ((runFrom k s h).2.loc n).leftF = true := by
  induction h generalizing k s with
  | nil => simpa [runFrom] using hf
  | cons x xs ih => exact ih _ _ (stepL_leftF_mono hf)

/-- A node is reported as left AT MOST ONCE IN THE WHOLE HISTORY (the left filter is never
    cleared), whatever happens in between. -/
theorem left_once (pre : List Op) (op : Op) (post : List Op) (op' : Op) (n : Node)
    (h : (evAt pre op n).left.isSome = true) : (evAt (pre ++ op :: post) op' n).left = none := by
  have h1 := (stepL_left_emit h).2
  have h2 : ((after (pre ++ op :: post)).loc n).leftF = true := by
    rw [after_append_cons]; exact leftF_runFrom n _ _ post h1
  refine Option.not_isSome_iff_eq_none.mp fun h3 => ?_
  have := (stepL_left_emit h3).1
  rw [h2] at this; cases this

theorem ts_shift (k n : Nat) : k + (n + 1) + 1 = k + 1 + n + 1 := by omega

theorem joinF_keep_runFrom (n : Node) (k : Nat) (s : St) (h : List Op) (x : Op)
    (hi : ∀ m, LInv (s.loc m)) (hj : (s.loc n).joinF = true) (hno : NoOppJ n k s (h ++ [x])) :
    ((step (runFrom k s h).2 (k + h.length + 1) x).2 n).join = none := by
  induction h generalizing k s with
  | nil =>
    simp only [List.nil_append, NoOppJ] at hno
    exact (stepL_joinF_keep (hi n) hj hno.1 hno.2.1).2
  | cons y ys ih =>
    simp only [List.cons_append, NoOppJ] at hno
    have hk := stepL_joinF_keep (hi n) hj hno.1 hno.2.1
    have := ih (k + 1) (step s (k + 1) y).1 (fun m => stepL_LInv (hi m)) hk.1 hno.2.2
    simp only [runFrom, List.length_cons]
    rw [ts_shift]; exact this

/-- Between two NodeJoined(n) there is an opposite event (a left notification for `n` or an
    emitted NodeLeft(n)). -/
theorem join_once (pre : List Op) (op : Op) (post : List Op) (op' : Op) (n : Node)
    (h : (evAt pre op n).join.isSome = true)
    (hno : NoOppJ n (pre.length + 1) (after (pre ++ [op])) (post ++ [op'])) :
    (evAt (pre ++ op :: post) op' n).join = none := by
  have hj : ((after (pre ++ [op])).loc n).joinF = true := by
    rw [after_snoc]; exact stepL_join_emit h
  have := joinF_keep_runFrom n (pre.length + 1) (after (pre ++ [op])) post op'
    (Inv_after (pre ++ [op])).linv hj hno
  simp only [evAt, after_append_cons, List.length_append, List.length_cons]
  rw [after_snoc] at this
  rw [ts_shift]; exact this

/-- For EVERY history: a NodeLeft(n) is emitted only by n's timeout, or when some node-left
    rebalance epoch has been announced as started and as complete (in this call or earlier).
    What the code does not ensure is that this epoch COVERS the departure (see `C34_refuted`). -/
theorem gate_model (pre : List Op) (op : Op) (n : Node) (t : Nat)
    (h : (evAt pre op n).left = some t) :
    op = .overdue n ∨ ∃ e, (∃ m, Op.start .left m e ∈ pre ++ [op]) ∧ Op.complete e ∈ pre ++ [op] := by
  obtain ⟨c, -, h⟩ := left_emitted (Inv_after pre) op n t h
  exact h.imp_right fun ⟨e, hs, hc, _⟩ => ⟨e, hs, hc⟩

/-- The full property, for every step of every history. -/
def C34_full : Prop :=
  ∀ (pre : List Op) (op : Op),
    -- the local node never reports itself
    (evAt pre op self).join = none ∧ (evAt pre op self).left = none ∧
    ∀ n : Node,
      -- each departure produces at most one NodeLeft until the opposite event
      (∀ post op', (evAt pre op n).left.isSome = true →
        NoOppL n (pre.length + 1) (after (pre ++ [op])) (post ++ [op']) →
        (evAt (pre ++ op :: post) op' n).left = none) ∧
      -- each arrival produces at most one NodeJoined until the opposite event
      (∀ post op', (evAt pre op n).join.isSome = true →
        NoOppJ n (pre.length + 1) (after (pre ++ [op])) (post ++ [op']) →
        (evAt (pre ++ op :: post) op' n).join = none) ∧
      -- a NodeLeft is emitted only after the epoch covering it completes, or by its timeout
      (∀ t, (evAt pre op n).left = some t → gateOK (pre ++ [op]) pre.length n t = true)

/-- the witness (DESIGN.md finding F15): `left(A), start(1,left), complete(1), left(B)` where B's
    departure is covered by epoch 2 only — NodeLeft(B) is emitted at once -/
def witnessPre : List Op := [.left 1 1, .start .left 1 1, .complete 1]
def witnessOp : Op := .left 2 2

theorem witness_emits : (evAt witnessPre witnessOp 2).left = some 4 := by decide
theorem witness_gate : gateOK (witnessPre ++ [witnessOp]) witnessPre.length 2 4 = false := by decide

theorem C34_refuted : ¬ C34_full := by
  intro h
  have := (h witnessPre witnessOp).2.2 2 |>.2.2 4 witness_emits
  rw [witness_gate] at this
  cases this

/-- The full statement under the guard: for every history that satisfies `guard` (no newly tracked departure is handed a latest epoch that
    does not cover it; no node-left rebalance-start arrives that does not cover a pending departure). -/
def C34_partial_stmt : Prop :=
  ∀ (pre : List Op) (op : Op), guard (pre ++ [op]) = true →
    (evAt pre op self).join = none ∧ (evAt pre op self).left = none ∧
    ∀ n : Node,
      (∀ post op', (evAt pre op n).left.isSome = true →
        NoOppL n (pre.length + 1) (after (pre ++ [op])) (post ++ [op']) →
        (evAt (pre ++ op :: post) op' n).left = none) ∧
      (∀ post op', (evAt pre op n).join.isSome = true →
        NoOppJ n (pre.length + 1) (after (pre ++ [op])) (post ++ [op']) →
        (evAt (pre ++ op :: post) op' n).join = none) ∧
      (∀ t, (evAt pre op n).left = some t → gateOK (pre ++ [op]) pre.length n t = true)

theorem C34_partial : C34_partial_stmt := by
  intro pre op hg
  refine ⟨self_never_joined pre op, ?_, fun n => ⟨?_, ?_, ?_⟩⟩
  · exact self_never_left pre op
  · intro post op' h _; exact left_once pre op post op' n h
  · intro post op' h hno; exact join_once pre op post op' n h hno
  · intro t ht
    exact gate_step (Inv_after pre) (CovInv_after pre (guard_prefix _ _ hg)) op
      (guard_split pre op [] hg) n t ht

/-- `Spec.C34.verdict` is the predicate the check evaluates on the IMPLEMENTATION's output
    (judge mode).  On the model's own run (observed on any duplicate-free node list `U`) it never
    reports a violation when the history satisfies the guard: so an implementation that the judge
    flags on a guarded history differs from the model on that history. -/
theorem verdict_sound (U : List Node) (hU : U.Nodup) (h : List Op) (hg : guard h = true) :
    verdict h (renderRun U h) = none := by
  have hlen : (renderRun U h).length = h.length := by simp [renderRun, run, runFrom_length]
  simp only [verdict, hlen, ne_eq, not_true_eq_false, if_false]
  have := verdictFrom_ok U hU h hg h [] ⟨[], []⟩ rfl ⟨by simp, by simp⟩
  simpa [renderRun, run, after, runFrom] using this

-- the judge flags the model's run on the refutation witness (observed on nodes 0,1,2)
example : (verdict (witnessPre ++ [witnessOp]) (renderRun [0, 1, 2] (witnessPre ++ [witnessOp]))).isSome = true := by
  decide

-- a two-departure history with a rejoin satisfies the guard, and emits
example : guard [.left 1 1, .left 2 1, .start .left 1 1, .complete 1, .join 1, .start .join 1 2, .complete 2] = true := by decide
example : (evAt [.left 1 1, .left 2 1, .start .left 1 1] (.complete 1) 2).left = some 2 := by decide
-- the guard rejects the witness (at its last op)
example : guard (witnessPre ++ [witnessOp]) = false := by decide
-- hypotheses of `join_once` are satisfiable: join a, start, complete (emits), then a duplicate join
example : (evAt [.join 1, .start .join 1 1] (.complete 1) 1).join.isSome = true := by decide
example : NoOppJ 1 3 (after [.join 1, .start .join 1 1, .complete 1]) ([] ++ [.join 1]) := by
  simp [NoOppJ, isLeftOf]; decide
-- hypothesis of `left_once`
example : (evAt [.left 1 1, .start .left 1 1] (.complete 1) 1).left.isSome = true := by decide

end GoaktVerif.C34
