/-
C19 — Scheduled messages are delivered as scheduled, and cancelled ones stop.

"A ScheduleOnce message is delivered exactly once and not before its delay; a Schedule message is
 delivered repeatedly at its interval until cancelled or paused, with at most one delivery already
 in flight completing after CancelSchedule returns; a cancelled or unknown reference reports an
 error. In cluster mode a cron schedule delivers each tick at most once across all nodes."
 Quantifier: all orders of schedule/pause/resume/cancel operations and, for cluster cron, all
 interleavings of nodes racing to claim a tick.

go-quartz (the job store and the clock-driven firing) and wall-clock timing are PARAMETERS: the
job-store rules in Model/C19 are sampled against the real library by the differential; "not before
its delay" / "at most one in flight" are checked one-sidedly on the real scheduler.
-/
import GoaktVerif.Gen.C19
import GoaktVerif.Model.C19
import GoaktVerif.Spec.C19
import GoaktVerif.Lemmas.Assoc

namespace GoaktVerif.C19
open GoaktVerif.Model.C19 GoaktVerif.Spec.C19

theorem ttl_bounds_tie : Gen.C19.minScheduleFireClaimTTL = minTTL ∧ Gen.C19.maxScheduleFireClaimTTL = maxTTL
    ∧ Gen.C19.maxScheduleFireClaimTTL = Gen.C19.scheduleOutdatedThreshold := by decide

theorem claimTTL_bounds (p : Option Int) : minTTL ≤ claimTTL p ∧ claimTTL p ≤ maxTTL := by
  -- `fun_cases f args` gives one goal per leaf of `f` in Model/C19.lean, numbered in the order of the leaves there,
  -- with the pattern equations and guard outcomes on the way as hypotheses
  fun_cases claimTTL p
  case case1 | case2 | case3 => simp [minTTL, maxTTL] -- no period; below the minimum; above the maximum: a bound itself
  case case4 => omega -- the period, in range

theorem claimTTL_spec (p : Option Int) : ttlOK minTTL maxTTL p (claimTTL p) = true := by
  have hb := claimTTL_bounds p
  cases p with
  | none => simp [ttlOK, hb.1, hb.2]
  | some p =>
    simp only [ttlOK, hb.1, hb.2, decide_true, Bool.and_self, Bool.true_and]
    split
    · rename_i h
      have h1 : ¬ p < minTTL := by omega
      have h2 : ¬ p > maxTTL := by omega
      simp [claimTTL, h1, h2]
    · rfl

/-- is `r` known to the scheduler after the history (starting from `b`): some schedule op
    since the last cancel -/
def liveAux : List Op → String → Bool → Bool
  | [], _, b => b
  | .schedule _ r' :: os, r, b => liveAux os r (if r' = r then true else b)
  | .cancel r' :: os, r, b => liveAux os r (if r' = r then false else b)
  | _ :: os, r, b => liveAux os r b

def liveHist (os : List Op) (r : String) : Bool := liveAux os r false

theorem mem_addKey (s : State) (r x : String) : x ∈ (s.addKey r).keys ↔ x = r ∨ x ∈ s.keys := by
  fun_cases State.addKey s r
  case case2 => simp -- a new key
  case case1 h => -- the key is there already
    simp only [List.contains_iff_mem] at h
    constructor
    · intro hx; exact Or.inr hx
    · rintro (rfl | hx)
      · exact h
      · exact hx

theorem mem_delKey (s : State) (r x : String) : x ∈ (s.delKey r).keys ↔ x ≠ r ∧ x ∈ s.keys := by
  simp [State.delKey, and_comm]

theorem job_delJob (s : State) (r x : String) : (s.delJob r).job x = if x = r then none else s.job x :=
  Assoc.lookup_del r (fun _ => bne_iff_ne) s.jobs x

theorem job_putJob (s : State) (r x : String) (j : Job) :
    (s.putJob r j).job x = if x = r then some j else s.job x :=
  Assoc.lookup_put r (fun _ => bne_iff_ne) j s.jobs x

theorem job_addKey (s : State) (r x : String) : (s.addKey r).job x = s.job x := by
  unfold State.addKey; split <;> rfl

/-- what the scheduler knows of one reference: is it in `scheduledKeys`, and its job in the queue -/
def view (s : State) (x : String) : Bool × Option Job := (s.keys.contains x, s.job x)

def opRef : Op → String
  | .schedule _ r | .cancel r | .pause r | .resume r | .fire r => r

/-- an operation seen from the reference it names (started scheduler) -/
def loc (v : Bool × Option Job) : Op → Bool × Option Job
  | .schedule k _ => (true, v.2.or (some { kind := k }))
  | .cancel _ => (false, if v.1 then none else v.2)
  | .pause _ => (v.1, if v.1 then v.2.map ({ · with suspended := true }) else v.2)
  | .resume _ => (v.1, if v.1 then v.2.map ({ · with suspended := false }) else v.2)
  | .fire _ => (v.1, v.2.filter fun j => j.suspended || j.kind != .once)

/-- `t` is `s` with `f` applied to what is known of `r`; every other reference is as it was -/
def Acts (r : String) (f : Bool × Option Job → Bool × Option Job) (s t : State) : Prop :=
  t.started = s.started ∧ ∀ x, view t x = if x = r then f (view s x) else view s x

theorem Acts.refl (r : String) (s : State) : Acts r (fun v => v) s s := ⟨rfl, fun x => by split <;> rfl⟩

theorem Acts.trans {r : String} {f g} {s t u : State} (h1 : Acts r f s t) (h2 : Acts r g t u) :
    Acts r (fun v => g (f v)) s u :=
  ⟨h2.1.trans h1.1, fun x => by rw [h2.2, h1.2]; split <;> rfl⟩

/-- only the value at `r` itself matters: what the branch knows of `r` decides which function acted -/
theorem Acts.congr {r : String} {f g} {s t : State} {c : Bool} {j : Option Job} (h : Acts r f s t)
    (hc : s.keys.contains r = c) (hj : s.job r = j) (e : f (c, j) = g (c, j)) : Acts r g s t :=
  ⟨h.1, fun x => by
    rw [h.2]
    split
    · next hx => rw [hx]; unfold view; rw [hc, hj]; exact e
    · rfl⟩

theorem contains_addKey (s : State) (r x : String) :
    (s.addKey r).keys.contains x = if x = r then true else s.keys.contains x := by
  rw [Bool.eq_iff_iff, List.contains_iff_mem, mem_addKey]
  split <;> simp [*]

theorem contains_delKey (s : State) (r x : String) :
    (s.delKey r).keys.contains x = if x = r then false else s.keys.contains x := by
  rw [Bool.eq_iff_iff, List.contains_iff_mem, mem_delKey]
  split <;> simp [*]

theorem acts_addKey (s : State) (r : String) : Acts r (fun v => (true, v.2)) s (s.addKey r) :=
  ⟨by unfold State.addKey; split <;> rfl, fun x => by
    simp only [view, job_addKey, contains_addKey]; split <;> rfl⟩

theorem acts_delKey (s : State) (r : String) : Acts r (fun v => (false, v.2)) s (s.delKey r) :=
  ⟨rfl, fun x => by
    show ((s.delKey r).keys.contains x, s.job x) = _
    rw [contains_delKey]; split <;> rfl⟩

theorem acts_putJob (s : State) (r : String) (j : Job) : Acts r (fun v => (v.1, some j)) s (s.putJob r j) :=
  ⟨rfl, fun x => by
    show (s.keys.contains x, (s.putJob r j).job x) = _
    rw [job_putJob]; split <;> rfl⟩

theorem acts_delJob (s : State) (r : String) : Acts r (fun v => (v.1, none)) s (s.delJob r) :=
  ⟨rfl, fun x => by
    show (s.keys.contains x, (s.delJob r).job x) = _
    rw [job_delJob]; split <;> rfl⟩

/-- each operation is a few primitive updates at its own reference, chosen by what is known of that reference -/
theorem view_step (s : State) (o : Op) (hs : s.started = true) : Acts (opRef o) (fun v => loc v o) s (step s o).1 := by
  cases o with
  | schedule k r =>
    simp only [step, schedule, hs, Bool.not_true, Bool.false_eq_true, ↓reduceIte, job_addKey, opRef]
    cases hj : s.job r
    · exact ((acts_addKey s r).trans (acts_putJob _ r _)).congr rfl hj rfl
    · exact (acts_addKey s r).congr rfl hj rfl
  | cancel r =>
    simp only [step, cancel, hs, Bool.not_true, Bool.false_eq_true, ↓reduceIte, opRef]
    cases hc : s.keys.contains r
    · exact (acts_delKey s r).congr hc rfl rfl
    · cases hj : s.job r
      · exact (acts_delKey s r).congr hc hj rfl
      · exact ((acts_delJob s r).trans (acts_delKey _ r)).congr hc rfl rfl
  | pause r =>
    simp only [step, pause, hs, Bool.not_true, Bool.false_eq_true, ↓reduceIte, opRef]
    cases hc : s.keys.contains r
    · exact (Acts.refl r s).congr hc rfl rfl
    · rcases hj : s.job r with _ | ⟨kd, _ | _⟩
      · exact (Acts.refl r s).congr hc hj rfl
      · exact (acts_putJob s r _).congr hc hj rfl
      · exact (Acts.refl r s).congr hc hj rfl
  | resume r =>
    simp only [step, resume, hs, Bool.not_true, Bool.false_eq_true, ↓reduceIte, opRef]
    cases hc : s.keys.contains r
    · exact (Acts.refl r s).congr hc rfl rfl
    · rcases hj : s.job r with _ | ⟨kd, _ | _⟩
      · exact (Acts.refl r s).congr hc hj rfl
      · exact (Acts.refl r s).congr hc hj rfl
      · exact (acts_putJob s r _).congr hc hj rfl
  | fire r =>
    simp only [step, fire, opRef]
    have hd : Acts r (fun v => v) s { s with delivered := r :: s.delivered } := ⟨rfl, fun x => by split <;> rfl⟩
    rcases hj : s.job r with _ | ⟨kd, _ | _⟩
    · exact (Acts.refl r s).congr rfl hj rfl
    · cases kd
      · exact (hd.trans (acts_delJob _ r)).congr rfl hj rfl
      · exact hd.congr rfl hj rfl
      · exact hd.congr rfl hj rfl
    · exact (Acts.refl r s).congr rfl hj rfl

theorem keys_step (s : State) (o : Op) (hs : s.started = true) (r : String) :
    (view (step s o).1 r).1 = liveAux [o] r (view s r).1 := by
  rw [(view_step s o hs).2 r]
  cases o with
  | schedule k r' => by_cases hr : r = r' <;> simp [opRef, loc, liveAux, hr, Ne.symm]
  | cancel r' => by_cases hr : r = r' <;> simp [opRef, loc, liveAux, hr, Ne.symm]
  | pause r' => by_cases hr : r = r' <;> simp only [opRef, loc, liveAux, hr, ↓reduceIte]
  | resume r' => by_cases hr : r = r' <;> simp only [opRef, loc, liveAux, hr, ↓reduceIte]
  | fire r' => by_cases hr : r = r' <;> simp only [opRef, loc, liveAux, hr, ↓reduceIte]

theorem liveAux_cons (o : Op) (os : List Op) (r : String) (b : Bool) :
    liveAux (o :: os) r b = liveAux os r (liveAux [o] r b) := by
  cases o <;> rfl

theorem keys_run (s : State) (os : List Op) (hs : s.started = true) (r : String) (b : Bool)
    (h : r ∈ s.keys ↔ b = true) :
    (run s os).started = true ∧ (r ∈ (run s os).keys ↔ liveAux os r b = true) := by
  induction os generalizing s b with
  | nil => exact ⟨hs, h⟩
  | cons o os ih =>
    rw [liveAux_cons]
    refine ih _ ((view_step s o hs).1.trans hs) _ ?_
    have hb : (view s r).1 = b := by rw [Bool.eq_iff_iff]; exact List.contains_iff_mem.trans h
    rw [← hb, ← keys_step s o hs r]
    exact List.contains_iff_mem.symm

/-- after ANY sequence of operations on a started scheduler, a reference that is unknown or whose
    last schedule/cancel operation was a cancel makes Cancel, Pause and Resume report an error -/
theorem C19_refs (os : List Op) (r : String) (h : liveAux os r false = false) :
    (cancel (run {} os) r).2 = .noref ∧ (pause (run {} os) r).2 = .noref ∧ (resume (run {} os) r).2 = .noref := by
  have hk := keys_run {} os rfl r false (by simp)
  have hn : r ∉ (run {} os).keys := fun hm => by simpa [h] using hk.2.mp hm
  simp [cancel, pause, resume, hk.1, hn]

/-- and conversely the error kinds are exactly the code's rules (started scheduler) -/
theorem cancel_ok_iff (s : State) (r : String) (hs : s.started = true) :
    (cancel s r).2 = .ok ↔ r ∈ s.keys ∧ (s.job r).isSome = true := by
  simp only [cancel, hs, Bool.not_true, Bool.false_eq_true, ↓reduceIte]
  by_cases hk : r ∈ s.keys
  · cases hj : s.job r <;> simp [hk]
  · simp [hk]

theorem pause_ok_iff (s : State) (r : String) (hs : s.started = true) :
    (pause s r).2 = .ok ↔ r ∈ s.keys ∧ ∃ j, s.job r = some j ∧ j.suspended = false := by
  fun_cases pause s r
  case case1 h => simp [hs] at h -- not started: excluded
  case case2 _ hk => simp [(by simpa using hk : r ∉ s.keys)] -- no such reference
  case case3 _ _ hj => simp [hj] -- a reference without a job
  case case4 _ _ j hj hsu => simp [hj, hsu] -- suspended already
  case case5 _ hk j hj hsu => simpa [hj, hsu] using hk -- suspended now

theorem resume_ok_iff (s : State) (r : String) (hs : s.started = true) :
    (resume s r).2 = .ok ↔ r ∈ s.keys ∧ ∃ j, s.job r = some j ∧ j.suspended = true := by
  fun_cases resume s r
  case case1 h => simp [hs] at h -- not started: excluded
  case case2 _ hk => simp [(by simpa using hk : r ∉ s.keys)] -- no such reference
  case case3 _ _ hj => simp [hj] -- a reference without a job
  case case4 _ _ j hj hsu => simp [hj, (by simpa using hsu : j.suspended = false)] -- active already
  case case5 _ hk j hj hsu => simpa [hj, (by simpa using hsu : j.suspended = true)] using hk -- active again

/-- a reference that has a job is in `scheduledKeys` -/
def Keyed (v : Bool × Option Job) : Prop := v.2.isSome = true → v.1 = true

theorem Keyed.loc {v : Bool × Option Job} (h : Keyed v) (o : Op) : Keyed (loc v o) := by
  obtain ⟨b, j⟩ := v
  cases o with
  | schedule k r => exact fun _ => rfl
  | cancel r =>
    cases b
    · exact h
    · exact fun (hj : (none : Option Job).isSome = true) => nomatch hj
  | pause r => cases b; exact h; exact fun _ => rfl
  | resume r => cases b; exact h; exact fun _ => rfl
  | fire r => exact fun hj => h (by cases j; exact hj; rfl)

/-- every job in the queue has its reference in `scheduledKeys` (started scheduler) -/
def JobsKeyed (s : State) : Prop := ∀ x, Keyed (view s x)

theorem jobsKeyed_step (s : State) (o : Op) (hs : s.started = true) (h : JobsKeyed s) : JobsKeyed (step s o).1 := by
  intro x
  rw [(view_step s o hs).2 x]
  split
  · exact (h x).loc o
  · exact h x

theorem jobsKeyed_run (s : State) (os : List Op) (hs : s.started = true) (h : JobsKeyed s) :
    JobsKeyed (run s os) ∧ (run s os).started = true := by
  induction os generalizing s with
  | nil => exact ⟨h, hs⟩
  | cons o os ih => exact ih (step s o).1 ((view_step s o hs).1.trans hs) (jobsKeyed_step s o hs h)

theorem cancel_job_none (s : State) (r : String) (hs : s.started = true) (hk : Keyed (view s r)) :
    (cancel s r).1.job r = none := by
  refine (congrArg Prod.snd ((view_step s (.cancel r) hs).2 r)).trans ?_
  show (if r = r then loc (view s r) (.cancel r) else view s r).2 = none
  rw [if_pos rfl]
  show (if (view s r).1 = true then none else (view s r).2) = none
  split
  · rfl
  · next hc => cases hj : (view s r).2 with
    | none => rfl
    | some j => exact absurd (hk (by rw [hj]; rfl)) hc

/-- after `CancelSchedule` returned (whatever it returned) on a reachable, started scheduler the
    reference has no job: no later tick of quartz delivers for it (deliveries already in flight —
    goroutines quartz started before the cancel — are outside the model, see the timing check) -/
theorem cancel_stops (os : List Op) (r : String) :
    (fire (cancel (run {} os) r).1 r).delivered = (cancel (run {} os) r).1.delivered := by
  obtain ⟨hjk, hst⟩ := jobsKeyed_run {} os rfl nofun
  simp [fire, cancel_job_none _ r hst (hjk r)]

/-- a paused schedule does not deliver -/
theorem paused_silent (s : State) (r : String) (j : Job) (hj : s.job r = some j) (hp : j.suspended = true) :
    fire s r = s := by
  simp [fire, hj, hp]

theorem fire_absent (s : State) (r : String) (h : s.job r = none) : fire s r = s := by
  unfold fire; rw [h]

/-- a one-shot job is gone once it has fired: a second tick delivers nothing -/
theorem once_fires_once (s : State) (r : String) (j : Job) (hj : s.job r = some j) (hk : j.kind = .once) :
    fire (fire s r) r = fire s r := by
  cases hp : j.suspended
  · have : (fire s r).job r = none := by
      simp only [fire, hj, hp, hk, Bool.false_eq_true, ↓reduceIte]
      exact (job_delJob _ r r).trans (if_pos rfl)
    exact fire_absent _ r this
  · rw [paused_silent s r j hj hp, paused_silent s r j hj hp]

/-- "a paused schedule can be resumed", for every reachable state and every kind of schedule -/
def C19_refs_full : Prop :=
  ∀ (os : List Op) (r : String) (j : Job), (run {} os).job r = some j → j.suspended = true →
    (resume (run {} os) r).2 = .ok ∧ (resume (run {} os) r).1.job r = some { j with suspended := false }

/-- one-shot included: goakt's `onceTrigger` (c88f7fc, finding C19-F1) survives a pause; with
    quartz.RunOnceTrigger `refs | once A ; pause A ; resume A` gave `expired` -/
theorem C19_refs_holds : C19_refs_full := by
  intro os r j hj hp
  obtain ⟨hjk, hst⟩ := jobsKeyed_run {} os rfl nofun
  have hc : (run {} os).keys.contains r = true := hjk r (by show ((run {} os).job r).isSome = true; rw [hj]; rfl)
  have : resume (run {} os) r = ((run {} os).putJob r { j with suspended := false }, .ok) := by
    simp only [resume, hst, hc, hj, hp, Bool.not_true, Bool.false_eq_true, ↓reduceIte]
  rw [this]
  exact ⟨rfl, by simp [job_putJob]⟩

example : (run {} [.schedule .once "a", .pause "a"]).job "a" = some { kind := .once, suspended := true } := by decide

/-- once the tick's entry outlives every remaining attempt, nobody wins any more -/
theorem no_more_wins (runTime : Nat → Int) (ttl : Int) (tick : Nat) (exp : Int) (st : Store) (as : List Attempt)
    (hst : st.lookup tick = some exp) (hall : ∀ a ∈ as, a.tick = tick ∧ a.t < exp) :
    wins (claims runTime ttl st as) = 0 := by
  induction as with
  | nil => rfl
  | cons a as ih =>
    obtain ⟨hat, hlt⟩ := hall a (List.mem_cons_self ..)
    have hput : putNX st a.tick a.t ttl = (st, false) := by simp [putNX, hat, hst, hlt]
    have hstep : (claim runTime ttl st a).1 = st ∧ (claim runTime ttl st a).2 ≠ .win := by
      fun_cases claim runTime ttl st a
      case case1 => exact ⟨rfl, nofun⟩ -- too late: skip
      case case2 _ _ _ h => cases hput.symm.trans h -- a win: but the key is there and has not expired
      case case3 _ _ _ h => cases hput.symm.trans h; exact ⟨rfl, nofun⟩ -- lose, the store as it was
    rw [claims, hstep.1, wins, List.count_cons_of_ne hstep.2]
    exact ih fun b hb => hall b (List.mem_cons_of_mem _ hb)

/-- the cluster clause, for attempts in any order -/
theorem claim_at_most_one (runTime : Nat → Int) (ttl S L : Int) (tick : Nat) (st : Store) (as : List Attempt)
    (hfresh : st.lookup tick = none)
    (htick : ∀ a ∈ as, a.tick = tick)
    (hskew : ∀ a ∈ as, -S ≤ a.k ∧ a.k ≤ S)
    (hnotEarly : ∀ a ∈ as, runTime tick ≤ a.t + a.k)
    (hlag : ∀ a ∈ as, a.t + a.k - runTime tick ≤ L)
    (hbound : 2 * S + L < ttl) :
    atMostOne (wins (claims runTime ttl st as)) = true := by
  cases as with
  | nil => rfl
  | cons a as =>
    have ha := List.mem_cons_self (a := a) (l := as)
    obtain rfl := htick a ha
    have h1 := hnotEarly a ha
    have h2 := hskew a ha
    -- the first attempt wins; its entry lives until `a.t + ttl`,
    have hclaim : claim runTime ttl st a = ((a.tick, a.t + ttl) :: st, .win) := by
      have : ¬ (a.t + a.k - runTime a.tick > ttl) := by have := hlag a ha; omega
      simp [claim, this, putNX, hfresh]
    -- later than any other attempt: `b.t ≤ runTime + L - b.k ≤ a.t + a.k + L + S`
    have h0 := no_more_wins runTime ttl a.tick (a.t + ttl) ((a.tick, a.t + ttl) :: st) as (by simp [List.lookup])
      fun b hb => by
        have hb' := List.mem_cons_of_mem a hb
        have h3 := hlag b hb'
        have h4 := hskew b hb'
        exact ⟨htick b hb', by omega⟩
    rw [claims, hclaim, wins, List.count_cons_self, ← wins, h0]
    rfl

/-- The cluster clause.  Nodes handle one tick at true times `a.t` (any order of arrival at the
    store that respects time), with local clocks off by `a.k`.  PROVIDED every node's clock is
    within `S` of true time, no node handles the tick before its scheduled time on its own clock,
    every node's lag on its own clock is at most `L`, and `2·S + L < ttl`, at most one claim wins. -/
theorem C19_claim (runTime : Nat → Int) (ttl S L : Int) (tick : Nat) (st : Store) (as : List Attempt)
    (hfresh : st.lookup tick = none)
    (hsorted : as.Pairwise (fun a b => a.t ≤ b.t))
    (htick : ∀ a ∈ as, a.tick = tick)
    (hskew : ∀ a ∈ as, -S ≤ a.k ∧ a.k ≤ S)
    (hnotEarly : ∀ a ∈ as, runTime tick ≤ a.t + a.k)
    (hlag : ∀ a ∈ as, a.t + a.k - runTime tick ≤ L)
    (hbound : 2 * S + L < ttl) :
    atMostOne (wins (claims runTime ttl st as)) = true := by
  have _ := hsorted  -- not needed
  exact claim_at_most_one runTime ttl S L tick st as hfresh htick hskew hnotEarly hlag hbound

/-- without the proviso two nodes win the same tick: a node whose clock runs 5 s ahead claims the
    tick 5 s early; its claim (ttl 60 s) has expired when an on-time node replays the tick 58 s late
    — still inside the `lag > ttl` skip -/
theorem C19_claim_two_winners :
    wins (claims (fun _ => 0) 60 [] [⟨1, -5, 5⟩, ⟨1, 58, 0⟩]) = 2 := by decide

example : atMostOne (wins (claims (fun _ => 0) 60 [] [⟨1, 0, 0⟩, ⟨1, 3, -1⟩, ⟨1, 40, 2⟩])) = true := by decide

/-- a tick older than the claim TTL on the node's clock is skipped without touching the store -/
theorem claim_skip (runTime : Nat → Int) (ttl : Int) (st : Store) (a : Attempt)
    (h : a.t + a.k - runTime a.tick > ttl) : claim runTime ttl st a = (st, .skip) := by
  simp [claim, h]

end GoaktVerif.C19
