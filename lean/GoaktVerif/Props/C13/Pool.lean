/-
C13, physical layer: no ReceiveContext object is ever in two places.

Theorem `pool_no_alias`: for every run (any tells, deliveries, stash/unstash/unstashAll calls, other
actors taking contexts from the global pool), the contexts that are the main mailbox's sentinel (the
handler's current context), queued in the main mailbox, the stash mailbox's sentinel, queued in the
stash, or free in the pool are pairwise distinct: a stashed context never aliases a pooled one that
getContext hands out again, nor a node of the main mailbox.  `pool_fast_aliases`: the seeded variant
C13-m2 (unstash re-enqueues the dequeued context itself) breaks exactly this.
-/
import GoaktVerif.Model.C13.Pool
import GoaktVerif.Lemmas.Run

namespace GoaktVerif.C13.Pool
open GoaktVerif.Model.C13.Pool

/-- all locations hold pairwise distinct contexts, all of them already allocated -/
def Good (s : S) : Prop := (ids s).Nodup ∧ ∀ i ∈ ids s, i < s.fresh

theorem good_of_perm {s s' : S} (h : Good s) (hp : (ids s').Perm (ids s)) (hf : s'.fresh = s.fresh) : Good s' :=
  ⟨hp.nodup_iff.mpr h.1, fun i hi => by rw [hf]; exact h.2 i (hp.mem_iff.mp hi)⟩

theorem good_of_perm_fresh {s s' : S} (h : Good s) (hp : (ids s').Perm (s.fresh :: ids s)) (hf : s'.fresh = s.fresh + 1) : Good s' := by
  constructor
  · rw [hp.nodup_iff, List.nodup_cons]
    exact ⟨fun hm => Nat.lt_irrefl _ (h.2 _ hm), h.1⟩
  · intro i hi
    rw [hf]
    rcases List.mem_cons.mp (hp.mem_iff.mp hi) with rfl | hm
    · exact Nat.lt_succ_self _
    · exact Nat.lt_succ_of_lt (h.2 i hm)

/-- getContext from the pool + Enqueue -/
theorem perm_move {α : Type} (a : α) (l₁ l₂ l₃ : List α) : ((l₁ ++ [a]) ++ (l₂ ++ l₃)).Perm (l₁ ++ (l₂ ++ a :: l₃)) := by
  rw [List.append_assoc]
  exact (List.perm_middle (a := a) (l₁ := l₂) (l₂ := l₃)).symm.append_left l₁

/-- getContext on an empty pool + Enqueue -/
theorem perm_new {α : Type} (a : α) (l₁ l₂ : List α) : ((l₁ ++ [a]) ++ l₂).Perm (a :: (l₁ ++ l₂)) := by
  rw [List.append_assoc]
  exact List.perm_middle (a := a)

/-- Dequeue: the old sentinel is pooled -/
theorem perm_retire {α : Type} (a : α) (l₁ l₂ l₃ : List α) : (l₁ ++ (l₂ ++ (l₃ ++ [a]))).Perm (a :: (l₁ ++ (l₂ ++ l₃))) := by
  rw [← List.append_assoc l₂, ← List.append_assoc l₁]
  exact List.perm_append_singleton a _

theorem good_putMain (s : S) (h : Good s) : Good (putMain s) := by
  obtain ⟨⟨sent, q⟩, st, pool, fresh⟩ := s
  cases pool with
  | nil => exact good_of_perm_fresh h (((perm_new fresh q _).cons sent).trans (.swap ..)) rfl
  | cons x r => exact good_of_perm h ((perm_move x q _ r).cons sent) rfl

theorem good_putStash (s : S) (h : Good s) : Good (putStash s) := by
  obtain ⟨⟨sent, q⟩, st, pool, fresh⟩ := s
  cases st with
  | none => exact h
  | some b =>
    cases pool with
    | nil =>
      exact good_of_perm_fresh h
        (((((perm_new fresh (b.sent :: b.q) []).append_left q).trans List.perm_middle).cons sent).trans (.swap ..)) rfl
    | cons x r => exact good_of_perm h (((perm_move x (b.sent :: b.q) [] r).append_left q).cons sent) rfl

theorem good_popMain (s : S) (h : Good s) : Good (popMain s) := by
  obtain ⟨⟨sent, q⟩, st, pool, fresh⟩ := s
  cases q with
  | nil => exact h
  | cons x r => exact good_of_perm h (perm_retire sent (x :: r) _ pool) rfl

theorem good_popStash (s : S) (h : Good s) : Good (popStash s) := by
  obtain ⟨⟨sent, q⟩, st, pool, fresh⟩ := s
  cases st with
  | none => exact h
  | some b =>
    obtain ⟨bs, bq⟩ := b
    cases bq with
    | nil => exact h
    | cons x r => exact good_of_perm h (((perm_retire bs [] (x :: r) pool).append_left q).cons sent) rfl

theorem good_unstash (s : S) (h : Good s) : Good (unstash false s) := by
  unfold unstash
  split
  · exact h
  · split
    · exact h
    · exact good_putMain _ (good_popStash _ h)

theorem good_unstashAll (s : S) (n : Nat) (h : Good s) : Good (unstashAll s n) := by
  induction n generalizing s with
  | zero => exact h
  | succ n ih => exact ih _ (good_unstash s h)

theorem good_envTake (s : S) (h : Good s) : Good { s with pool := s.pool.tail } := by
  have hsub : (ids { s with pool := s.pool.tail }).Sublist (ids s) := by
    simp only [ids, stashIds]
    exact List.cons_sublist_cons.mpr
      ((List.Sublist.refl _).append ((List.Sublist.refl _).append (List.tail_sublist _)))
  exact ⟨h.1.sublist hsub, fun i hi => h.2 i (hsub.subset hi)⟩

theorem good_step (s : S) (st : Step) (h : Good s) : Good (step false s st) := by
  cases st with
  | tell => exact good_putMain s h
  | deliver => exact good_popMain s h
  | stash => exact good_putStash s h
  | unstash => exact good_unstash s h
  | unstashAll => exact good_unstashAll s _ h
  | envTake => exact good_envTake s h

theorem good_init (buf : Bool) : Good (init buf) := by
  cases buf <;> exact ⟨by decide, by decide⟩

theorem good_run (steps : List Step) (s : S) (h : Good s) : Good (run false s steps) :=
  Run.inv' (fun _ => rfl) (fun _ _ _ => rfl) good_step steps s h

/-- every run of the code as it is: the handler's context / main sentinel, the queued
    main contexts, the stash sentinel, the stashed contexts and the free pooled contexts are pairwise
    distinct objects at every moment. -/
theorem pool_no_alias (buf : Bool) (steps : List Step) : Good (run false (init buf) steps) :=
  good_run steps _ (good_init buf)

/-- a stashed context is never in the pool, never in the main mailbox, is not the handler's current context and is not the stash sentinel -/
theorem stashed_not_pooled (buf : Bool) (steps : List Step) (b : MBox) (i : Nat)
    (hb : (run false (init buf) steps).stash = some b) (hi : i ∈ b.q) :
    i ∉ (run false (init buf) steps).pool ∧ i ∉ (run false (init buf) steps).main.q
    ∧ i ≠ (run false (init buf) steps).main.sent ∧ i ≠ b.sent := by
  have h := (pool_no_alias buf steps).1
  generalize run false (init buf) steps = s at *
  rw [ids, stashIds, hb] at h
  have hin : i ∈ (b.sent :: b.q) ++ s.pool := List.mem_append_left _ (List.mem_cons_of_mem _ hi)
  obtain ⟨hsent, hrest⟩ := List.nodup_cons.1 h
  obtain ⟨-, hst, hdis⟩ := List.nodup_append.1 hrest
  obtain ⟨hbs, hbq⟩ := List.nodup_cons.1 hst
  exact ⟨fun hp => (List.nodup_append.1 hbq).2.2 i hi i hp rfl, fun hq => hdis i hq i hin rfl,
    fun e => hsent (e ▸ List.mem_append_right _ hin), fun e => hbs (e ▸ List.mem_append_left _ hi)⟩

/-- the seeded defect C13-m2 in the model: stash one message, Unstash it (fast path) — the same
    context is now the stash mailbox's sentinel AND a node of the main mailbox -/
theorem pool_fast_aliases :
    let s := run true (init true) [.tell, .deliver, .stash, .unstash]
    ¬ (ids s).Nodup ∧ (∃ b, s.stash = some b ∧ b.sent ∈ s.main.q) := by
  decide

-- the schedule of `pool_fast_aliases` on the code as it is: the unstashed message is back in the main mailbox
example : (run false (init true) [.tell, .deliver, .stash, .unstash]).main.q ≠ [] := by decide

end GoaktVerif.C13.Pool
