/-
C44 — Work-pulling delivers every job to some worker.

"With a work-pulling producer and a changing set of workers, every produced job is handed to at least one
 worker and confirmed exactly once from the producer's point of view; a job held by a worker that stops is
 redelivered to another worker."

Model: Model/C44.lean — `workPullingProducerController` field by field on the volatile path: pending pool,
per-worker bindings (own sequence space, demand, unconfirmed list), round-robin cursor, producer handshake.
The theorems quantify over ALL input sequences to the controller (`List WIn`): any registrations (new
worker, replaced companion, refreshed nonce), any Request / Ack contents (legal, stale, illegal), any worker
terminations, any producer-endpoint messages and ticks, in any order and number — this covers every worker
join/leave pattern and every loss / duplication / reordering of worker traffic.
Tie: every handler of the real controller is replayed step by step under scripted worker churn
(harness/inpkg/actor/zz_verif_c44.go, Driver/C44.lean), all fields compared after every step.

Out of the model (partial): the durable work queue, controller restart, remote workers (registry
authentication), MaxInt64 exhaustion.  "Handed to at least one worker" is proved as: the controller never
keeps a job in the pool while a registered worker has free demand (`C44_dispatch_holds`), not as a temporal
statement about workers that never grant demand.
-/
import GoaktVerif.Lemmas.C44.Dispatch
import GoaktVerif.Lemmas.C44.Notices

namespace GoaktVerif.C44
open GoaktVerif.Model.C44

/-- after any input sequence from the initial controller: every job ever accepted is, as a multiset, exactly
    the jobs still held (pending pool + every worker's unconfirmed list) plus the jobs confirmed so far -/
def C44_conservation : Prop :=
  ∀ ms : List WIn, (held (runG {} ms).1 ++ (runG {} ms).2.2).Perm (runG {} ms).2.1

/-- the controller right after PreStart, with or without WithReliableDeliveryConfirmation -/
def start (dc : Bool) : WP := { deliveryConfirmation := dc }

/-- conservation from the controller right after PreStart, which holds nothing -/
theorem start_conserve (dc : Bool) (ms : List WIn) :
    (held (runG (start dc) ms).1 ++ (runG (start dc) ms).2.2).Perm (runG (start dc) ms).2.1 :=
  (run_conserve (start dc) ms List.nodup_nil).1

theorem C44_conservation_holds : C44_conservation :=
  start_conserve false  -- `{}` is `start false`; `start_conserve true` is the same fact with the notices switched on

/-- "exactly one of {pending, some worker's unconfirmed, confirmed}" and "confirmed once": when the producer
    endpoint never reuses a MessageID, every accepted job occurs exactly once across the pending pool, all
    unconfirmed lists and the confirmed log — so it is never lost, never held twice, never confirmed twice -/
def C44_exactly_once : Prop :=
  ∀ ms : List WIn, ((runG {} ms).2.1.map (·.id)).Nodup →
    ∀ j ∈ (runG {} ms).2.1,
      ((runG {} ms).1.pending ++ heldB (runG {} ms).1.bindings ++ (runG {} ms).2.2).count j = 1

theorem C44_exactly_once_holds : C44_exactly_once := by
  intro ms hnd j hj
  have hp := C44_conservation_holds ms
  have : ((runG {} ms).2.1).Nodup := List.Pairwise.of_map (fun x : Job => x.id) (fun a b h e => h (by rw [e])) hnd
  have hc := hp.count_eq j
  rw [this.count, if_pos hj] at hc
  simpa [held] using hc

/-- a worker's termination (or replacement) loses nothing: its binding is gone and every job is still held -/
def C44_requeue : Prop :=
  ∀ (x : WP) (n c : Nat), NodupNames x.bindings → (∃ b ∈ x.bindings, b.name = n ∧ b.comp = c) →
    (held (x.handleTerminated n c).1).Perm (held x) ∧ n ∉ (x.handleTerminated n c).1.bindings.map (·.name)

theorem C44_requeue_holds : C44_requeue := by
  intro x n c hn ⟨b, hb, hbn, hbc⟩
  unfold WP.handleTerminated
  split
  · rename_i hnone
    have := List.find?_eq_none.mp hnone b hb
    simp [hbn, hbc] at this
  · rename_i b' hf
    have hb' : b'.name = n := by
      have := List.find?_some hf; simp at this; exact this.1
    obtain ⟨hp, _, hnot⟩ := endBinding_conserve x b'.name hn
    have hpr := progress_conserve (x.endBinding b'.name)
    refine ⟨hpr.1.trans hp, ?_⟩
    rw [hpr.2, ← hb']; exact hnot

/-- `endBinding` puts the worker's unconfirmed jobs back at the head of the pending pool -/
theorem C44_endBinding_pending (x : WP) (n : Nat) (b : Binding) (h : x.find n = some b) :
    (x.endBinding n).pending = b.unconfirmed.map Disp.job ++ x.pending := by
  simp [WP.endBinding, h]

/-- "confirmed exactly once from the producer's point of view": along every input sequence the
    DeliveryConfirmed notices sent to the producer endpoint are exactly the confirmed jobs, in order (none when
    the endpoint did not ask for them); with non-reused MessageIDs no MessageID is notified twice -/
def C44_confirmed_once : Prop :=
  ∀ (dc : Bool) (ms : List WIn),
    runNotices (start dc) ms = noticePairs dc (runG (start dc) ms).2.2 ∧
    (((runG (start dc) ms).2.1.map (·.id)).Nodup → ((runNotices (start dc) ms).map (·.1)).Nodup)

theorem C44_confirmed_once_holds : C44_confirmed_once := by
  intro dc ms
  have hn := run_notices (start dc) ms (by intro m hm; cases hm)
  refine ⟨hn, fun hnd => ?_⟩
  have hp' := start_conserve dc ms
  have hall : ((held (runG (start dc) ms).1 ++ (runG (start dc) ms).2.2).map (·.id)).Nodup :=
    (hp'.map (·.id)).nodup_iff.mpr hnd
  have hconf : ((runG (start dc) ms).2.2.map (·.id)).Nodup := by
    rw [List.map_append] at hall
    exact (List.nodup_append.mp hall).2.1
  rw [hn]
  show ((noticePairs dc (runG (start dc) ms).2.2).map (·.1)).Nodup
  unfold noticePairs
  split
  · simpa [List.map_map, Function.comp_def] using hconf
  · simp

/-- "handed to at least one worker", as far as it is not temporal: after every input sequence a job is
    still in the pending pool only if no registered worker has free demand -/
def C44_dispatch : Prop :=
  ∀ (dc : Bool) (ms : List WIn), (runG (start dc) ms).1.pending ≠ [] → ∀ b ∈ (runG (start dc) ms).1.bindings, b.freeDemand = 0

theorem C44_dispatch_holds : C44_dispatch := by
  intro dc ms
  exact run_saturated (start dc) ms (by intro h; simp [start] at h)

/-- the property, as far as the model carries it -/
def C44_full : Prop := C44_conservation ∧ C44_exactly_once ∧ C44_requeue ∧ C44_confirmed_once ∧ C44_dispatch

theorem C44_holds : C44_full :=
  ⟨C44_conservation_holds, C44_exactly_once_holds, C44_requeue_holds, C44_confirmed_once_holds, C44_dispatch_holds⟩

/-- two workers; three jobs; worker 1 stops holding two unconfirmed jobs; worker 2 confirms one -/
def churn : List WIn :=
  [.register 1 0 1, .request 1 0 1 1 0 2 true,
   .produced 1 1 1 10, .storedAck 1 1 1, .produced 1 2 2 20, .storedAck 1 2 2,
   .register 2 0 2, .request 2 0 1 2 0 3 false,
   .produced 1 3 3 30, .storedAck 1 3 3,
   .terminated 1 0, .ack 2 0 1 2 1]

example : ((runG {} churn).2.1.map (·.id)) = [1, 2, 3] ∧ ((runG {} churn).2.2.map (·.id)) = [3] ∧
    ((runG {} churn).1.bindings.map (·.name)) = [2] ∧
    ((held (runG {} churn).1).map (·.id)) = [1, 2] := by decide

/-- hypothesis of `C44_exactly_once` and of `C44_requeue` are satisfiable on that run -/
example : ((runG {} churn).2.1.map (·.id)).Nodup := by decide
example : ∃ b ∈ (runG {} (churn.take 10)).1.bindings, b.name = 1 ∧ b.comp = 0 := by decide

end GoaktVerif.C44
