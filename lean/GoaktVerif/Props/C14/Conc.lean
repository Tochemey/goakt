/-
C14, concurrent layer: actor/behavior_stack.go at atomic-operation granularity (engine E3).

Model/C14/Conc.lean has one transition per sync/atomic site of Push/Pop/Peek/Len/Reset (labels =
tools/yieldinject's), any number of threads with arbitrary programs, every schedule.  What holds:

* the linked chain IS a linearizable stack (`conc_refines`): every step changes the abstract stack
  (the values a sequential walk from `top` sees) by exactly the sequential operation `effect` says —
  a push at its successful CAS, a pop at its successful CAS, Reset at its first store, nothing
  otherwise — and the values operations return are the sequential ones at those points
  (`conc_peek_result`, `conc_pop_empty_result`, `conc_pop_result`);
* `Len()` is NOT linearizable with the chain: it can transiently read -1
  (`conc_len_transient_negative`), and with a concurrent Reset the counter and the chain can
  disagree FOREVER (`conc_len_reset_diverges`: Reset is two stores, top then length);
* what holds of the counter: without concurrent Reset, length = depth − (pushes linked but not yet
  counted) + (pops unlinked but not yet discounted) in every reachable configuration
  (`conc_len_inv`), hence `Len()` = depth whenever no operation is between its CAS and its Add
  (`conc_len_quiescent`, eventual consistency);
* through the PID API: setBehavior / resetBehavior / setBehaviorStacked / unsetBehaviorStacked all hold
  fieldsLocker and are only called by the goroutine handling the current message, so they form ONE
  logical thread; for one thread, with Reset allowed, `Len()` = depth at every operation boundary
  (`conc_solo`), which is what the `Len() > 1` guard of unsetBehaviorStacked relies on.  The only
  unlocked caller is `pid.reset()` (doStop, on the goroutine that called Shutdown): it can interleave
  its two stores with a handler's Push/Pop, which is the `conc_len_reset_diverges` schedule; the
  actor is stopped at that point and the stack is rebuilt by resetBehavior (Reset;Push under the
  lock) on restart, so the divergence is not observable through Become/UnBecome*. -/
import GoaktVerif.Model.C14.Conc
import GoaktVerif.Lemmas.C14Conc

namespace GoaktVerif.C14.Conc
open GoaktVerif.Model.C14.Conc

/-- forward simulation, one step: the abstract stack changes by the step's sequential effect -/
theorem conc_refines (c : Cfg) (tid : Nat) (t : Thread) (pc : Pc) (hi : Inv c)
    (hth : c.threads[tid]? = some t) (hpc : t.pc = some pc) :
    Inv (step c tid) ∧ abs (step c tid) = effect c pc (abs c) := by
  refine ⟨inv_step c tid hi, ?_⟩
  rw [← abs_exec c t pc hi (hi.thrOK_at hth hpc), step, hth]
  simp only [hpc]
  rfl

/-- a thread that is done (or does not exist) changes nothing -/
theorem conc_idle (c : Cfg) (tid : Nat) (h : done c tid = true) : step c tid = c := by
  rcases step_cases c tid with e | ⟨t, pc, hth, hpc, -⟩
  · exact e
  · have h' : t.pc.isNone = true := by rw [done, hth] at h; exact h
    rw [hpc] at h'; cases h'

/-- every reachable configuration satisfies the invariant, so `conc_refines` applies along every schedule -/
theorem conc_reachable (progs : List (List Op)) (sched : List Nat) : Inv (run (init progs) sched) :=
  inv_run _ sched (inv_init progs)

/-- Peek returns the top of the abstract stack at its (single) step -/
theorem conc_peek_result (c : Cfg) (t : Thread) (hi : Inv c) :
    (exec c t .peekLoad).2.2.2 = finish t (.val (abs c).head?) := by
  simp only [exec]
  cases h : c.top with
  | none => simp [abs, h, chain_none]
  | some a => rw [abs_pop c hi a h]; rfl

/-- Pop that finds `top == nil` returns nil, and the abstract stack is empty at that step -/
theorem conc_pop_empty_result (c : Cfg) (t : Thread) (h : c.top = none) :
    (exec c t .popLoad).2.2.2 = finish t (.val none) ∧ abs c = [] := by
  simp [exec, h, abs, chain_none]

/-- Pop whose CAS succeeds returns (at its last step) the value that was on top of the abstract stack at the CAS -/
theorem conc_pop_result (c : Cfg) (t : Thread) (a : Nat) (n : Option Nat) (hi : Inv c) (h : c.top = some a) :
    (exec c t (.popCAS a n)).2.2.2.pc = some (.popAdd (valAt c.heap a)) ∧ (abs c).head? = some (valAt c.heap a)
    ∧ ∀ (c' : Cfg) (t' : Thread) (v : Nat), (exec c' t' (.popAdd v)).2.2.2 = finish t' (.val (some v)) := by
  refine ⟨by simp [exec, h], by rw [abs_pop c hi a h]; rfl, fun _ _ _ => rfl⟩

def NoReset (c : Cfg) : Prop := ∀ t ∈ c.threads, NoResetT t
def LenInv (c : Cfg) : Prop := c.length + pendSum c.threads = ((abs c).length : Int)

theorem len_step (c : Cfg) (tid : Nat) (hi : Inv c) (hn : NoReset c) (hl : LenInv c) :
    NoReset (step c tid) ∧ LenInv (step c tid) := by
  rcases step_cases c tid with e | ⟨t, pc, hth, hpc, e⟩ <;> rw [e]
  · exact ⟨hn, hl⟩
  · obtain ⟨n1, n2, n3⟩ := hn t (List.mem_of_getElem? hth)
    have h1 : pc ≠ .resetTop := fun e => n2 (hpc.trans (congrArg some e))
    have h2 : pc ≠ .resetLen := fun e => n3 (hpc.trans (congrArg some e))
    refine ⟨fun u hu => (List.mem_or_eq_of_mem_set hu).elim (hn u) fun e => e ▸ exec_noReset c t pc n1 h1, ?_⟩
    have hle := len_exec c t pc hi (hi.thrOK_at hth hpc) hpc h1 h2
    unfold LenInv at hl ⊢
    rw [pendSum_set _ _ t _ hth, abs_eq_absOf]
    dsimp only
    omega

theorem pendSum_init (progs : List (List Op)) : pendSum (init progs).threads = 0 :=
  pendSum_zero fun t ht => by
    obtain ⟨p, -, rfl⟩ := List.mem_map.1 ht
    exact pend_startNext _

theorem lenInv_run (sched : List Nat) (c : Cfg) (hi : Inv c) (hn : NoReset c) (hl : LenInv c) : LenInv (run c sched) :=
  (Run.inv' (P := fun c => Inv c ∧ NoReset c ∧ LenInv c) (fun _ => rfl) (fun _ _ _ => rfl)
    (fun c t ⟨hi, hn, hl⟩ => ⟨inv_step c t hi, len_step c t hi hn hl⟩) sched c ⟨hi, hn, hl⟩).2.2

/-- without Reset: in EVERY reachable configuration, for every schedule and any number of threads,
    length = depth − #(pushes linked, not yet counted) + #(pops unlinked, not yet discounted) -/
theorem conc_len_inv (progs : List (List Op)) (hp : ∀ p ∈ progs, Op.reset ∉ p) (sched : List Nat) :
    LenInv (run (init progs) sched) := by
  apply lenInv_run _ _ (inv_init progs)
  · intro t ht
    obtain ⟨p, hpm, rfl⟩ := List.mem_map.1 ht
    exact noReset_startNext _ (hp p hpm)
  · unfold LenInv
    rw [pendSum_init, abs_eq_absOf, show (init progs).top = none from rfl, absOf_none]; rfl

theorem lenInv_quiescent {c : Cfg} (h : LenInv c) (hq : ∀ t ∈ c.threads, pend t = 0) :
    c.length = ((abs c).length : Int) := by
  unfold LenInv at h
  rw [pendSum_zero hq, Int.add_zero] at h
  exact h

/-- eventual consistency: whenever no operation sits between its CAS and its Add, Len() = depth -/
theorem conc_len_quiescent (progs : List (List Op)) (hp : ∀ p ∈ progs, Op.reset ∉ p) (sched : List Nat)
    (hq : ∀ t ∈ (run (init progs) sched).threads, pend t = 0) :
    (run (init progs) sched).length = ((abs (run (init progs) sched)).length : Int) :=
  lenInv_quiescent (conc_len_inv progs hp sched) hq

-- a two-thread program that meets the hypothesis of `conc_len_inv`
example : (∀ p ∈ [[Op.push 1, .pop], [.push 2, .len, .peek]], Op.reset ∉ p) := by decide

/-- REFUTED with a concurrent Reset: thread 0 pushes, thread 1 resets between the push's CAS and
    its Add. Everything has finished, the chain is empty, `Len()` says 1 — forever. -/
theorem conc_len_reset_diverges :
    let c := run (init [[.push 1], [.reset]]) [0, 0, 1, 1, 0]
    done c 0 = true ∧ done c 1 = true ∧ abs c = [] ∧ c.length = 1 := by decide

/-- and even without Reset `Len()` can transiently read -1: the pop discounts a node whose push has not counted it yet -/
theorem conc_len_transient_negative :
    let c := run (init [[.push 1], [.pop, .len]]) [0, 0, 1, 1, 1, 1, 1]
    (c.threads.map (·.hist))[1]? = some [.num (-1), .val (some 1)] := by decide

/-- the PID-level view: one logical thread (all callers hold fieldsLocker), Reset allowed.  Between
    the two stores of Reset the chain is empty; everywhere else length + pending = depth; so at every
    operation boundary `Len()` = depth. -/
def Solo (c : Cfg) : Prop :=
  ∃ t, c.threads = [t] ∧ (t.pc = some .resetLen → abs c = [])
    ∧ (t.pc ≠ some .resetLen → c.length + pend t = ((abs c).length : Int))

theorem startNext_pc_ne (t : Thread) : (startNext t).pc ≠ some .resetLen := by
  rcases startNext_pc t with h | ⟨op, h⟩ <;> rw [h]
  · nofun
  · cases op <;> nofun

theorem conc_solo_step (c : Cfg) (tid : Nat) (hi : Inv c) (hs : Solo c) : Solo (step c tid) := by
  obtain ⟨t, hts, hm1, hm2⟩ := hs
  rcases step_cases c tid with e | ⟨t', pc, hth, hpc, e⟩ <;> rw [e]
  · exact ⟨t, hts, hm1, hm2⟩
  · obtain rfl : tid = 0 := by
      cases tid with
      | zero => rfl
      | succ n => rw [hts] at hth; cases hth
    obtain rfl : t = t' := Option.some.inj (by rw [hts] at hth; exact hth)
    have ht := hi.thrOK_at hth hpc
    have habs := abs_exec c t pc hi ht
    refine ⟨_, by rw [hts]; rfl, fun hnew => ?_, fun hnew => ?_⟩
    · rcases exec_thread c t pc with ⟨r, e⟩ | ⟨pc', e, -, n2⟩ <;> rw [e] at hnew
      · exact absurd hnew (startNext_pc_ne _)
      · cases n2 (Option.some.inj hnew); exact habs
    · by_cases h1 : pc = .resetTop
      · subst h1; exact absurd rfl hnew
      · by_cases h2 : pc = .resetLen
        · -- Reset's second store: chain empty, counter 0
          subst h2
          show (0 : Int) + pend (finish t .ok) = ((abs c).length : Int)
          rw [pend_finish, hm1 hpc]; rfl
        · have hle := len_exec c t pc hi ht hpc h1 h2
          have hm := hm2 (fun e => h2 (Option.some.inj (hpc.symm.trans e)))
          rw [abs_eq_absOf]
          dsimp only
          omega

theorem solo_run (sched : List Nat) (c : Cfg) (hi : Inv c) (hs : Solo c) : Solo (run c sched) :=
  (Run.inv' (P := fun c => Inv c ∧ Solo c) (fun _ => rfl) (fun _ _ _ => rfl)
    (fun c t ⟨hi, hs⟩ => ⟨inv_step c t hi, conc_solo_step c t hi hs⟩) sched c ⟨hi, hs⟩).2

/-- so along every run of ONE thread (the handler goroutine under fieldsLocker) the counter is right at every operation boundary -/
theorem conc_solo (prog : List Op) (n : Nat) :
    Solo (run (init [prog]) (List.replicate n 0)) := by
  apply solo_run _ _ (inv_init _)
  refine ⟨startNext ⟨none, prog, []⟩, rfl, fun h => absurd h (startNext_pc_ne _), fun _ => ?_⟩
  simp [init, abs, chain, pend_startNext]

end GoaktVerif.C14.Conc
