/-
C26 — Actor addresses survive their text form.

"For every valid actor address (any valid system and actor names, host names or IPv4/IPv6 hosts,
 ports, and an optional parent), parsing its string form yields an address equal to it with the
 same parent name, and the host:port extracted from the string equals the address's host and
 port. Parsing any string never panics."
 (quantifier: all addresses accepted by address validation, and all strings for the no-panic part)

Model: Model/C26.lean (internal/address/address.go with fix 59b56d7 — the port is what
follows the LAST colon —, fix 2166441 — Validate rejects hosts containing '/' or '@').
Tie: differential run of the real New/NewWithParent/String/Parse/HostPortOf/FormatHostPort/HostPort/
Validate against these definitions (tools/props/c26.py).

Result.
* `C26_full`: every ACTOR address accepted by Validate (i.e. not the all-empty NoSender sentinel, which
  stands for "no actor") round-trips.  `C26_holds` proves it: any name up to 255 bytes, any port
  0..65535, IPv6 hosts with any number of colons, zones, any parent chain.
* `C26_hostLike`: the corollary on the domain the English sentence names.
* `C26_total`: Parse reaches no slice-bounds panic on any string.
* `C26_sentinel_corner`: the sentinel is excluded for a reason — Validate returns nil for it before
  looking at a parent, so `NewWithParent("", "", "", 0, New("x/y", …))` validates and does not round-trip.
* history: before 2166441 Validate never inspected the host's characters and host "::1/64" validated but
  parsed to a different address (finding C26-F2, fixed by that commit).
-/
import GoaktVerif.Model.C26
import GoaktVerif.Spec.C26
import GoaktVerif.Lemmas.C26

namespace GoaktVerif.C26
open GoaktVerif.Model.C26 GoaktVerif.Spec.C26

/-- the success path of `Parse`, for any string: every cut finds its delimiter, no delimiter occurs a second time,
    the port parses -/
theorem parse_of_cuts {addr rest sys rest2 hp path host P : Str} {port : Int}
    (h1 : cut? sepScheme addr = some (scheme, rest)) (h2 : contains rest sepScheme = false)
    (h3 : cut? ['@'] rest = some (sys, rest2)) (h4 : contains rest2 ['@'] = false)
    (h5 : cut? ['/'] rest2 = some (hp, path)) (h6 : hasPrefix path ['/'] = false)
    (h7 : splitHostPort hp = .ok host P) (h8 : parseInt32 P = .ok port) :
    parse addr = finish sys host port path := by
  have h0 : addr.isEmpty = false := by
    cases addr with
    | nil => cases h1
    | cons => rfl
  simp only [parse, h0, h1, h2, h3, h4, h5, h6, h7, h8, ne_eq, not_true_eq_false, Bool.false_eq_true, if_false]

theorem parse_shape {sys host P path : Str} (port : Int) (hsys : NoDelim sys)
    (hhost : NoDelim host) (hP : NoDelim P) (hPc : ':' ∉ P) (hPp : parseInt32 P = .ok port)
    (hpath0 : hasPrefix path ['/'] = false) (hpaths : cut? sepScheme path = none) (hpathA : '@' ∉ path) :
    parse (scheme ++ sepScheme ++ (sys ++ '@' :: (host ++ ':' :: P ++ '/' :: path))) = finish sys host port path := by
  have hHPslash : '/' ∉ host ++ ':' :: P := not_mem_join (by decide) hhost.slash hP.slash
  have hHPat : '@' ∉ host ++ ':' :: P := not_mem_join (by decide) hhost.atSign hP.atSign
  refine parse_of_cuts (rest := sys ++ '@' :: (host ++ ':' :: P ++ '/' :: path)) ?_ ?_
    (cut_single '@' sys _ hsys.atSign)
    (contains_not_mem List.mem_cons_self (not_mem_join (d := '/') (by decide) hHPat hpathA))
    (cut_single '/' _ path hHPslash) hpath0 ?_ hPp
  · simp [cut?, hasPrefix, sepScheme, scheme]
  · -- no second "://": the rest is a slash-free block, one slash, and the path
    have := cut_scheme_join (sys ++ '@' :: (host ++ ':' :: P)) path (not_mem_join (by decide) hsys.slash hHPslash)
      hpath0 hpaths
    rw [List.append_assoc, List.cons_append] at this
    rw [contains, this]; rfl
  · simp only [splitHostPort, lastIndex_join ':' host P hPc, sliceTo_join host (':' :: P), sliceFrom_join ':' host P]

/-- the decidable guard: accepted by Validate and not the all-empty NoSender sentinel -/
def guard (a : Addr) : Bool := validate a && !a.self.isZero

theorem selfOK_facts (n : Node) (h : selfOK n = true) :
    0 ≤ n.port ∧ n.port ≤ 65535 ∧ matchesPattern n.system = true ∧ matchesPattern (trimSpace n.name) = true ∧
    NoDelim n.host := by
  simp only [selfOK, tcpOK, Bool.and_eq_true, decide_eq_true_eq, Bool.not_eq_true', List.contains_eq_mem,
    decide_eq_false_iff_not] at h
  obtain ⟨⟨⟨⟨⟨⟨⟨⟨hp0, hp1⟩, _⟩, hc⟩, _⟩, _⟩, _⟩, hs⟩, hn⟩ := h
  exact ⟨hp0, hp1, hs, hn, hc.1, hc.2⟩

theorem validateChain_selfOK (n : Node) (rest : List Node) (hv : validateChain n rest = true)
    (hz : n.isZero = false) : selfOK n = true ∧ ∀ p r, rest = p :: r → p.isZero = false → validateChain p r = true := by
  cases rest with
  | nil => exact ⟨by simpa [validateChain, hz] using hv, nofun⟩
  | cons p r =>
    rw [validateChain, hz] at hv
    cases hpz : p.isZero <;> simp only [hpz, Bool.false_eq_true, if_false, if_true, Bool.and_eq_true] at hv
    · exact ⟨hv.1.1.1.1.1, fun _ _ e _ => by cases e; exact hv.1.1.1.1.2⟩
    · exact ⟨hv, fun _ _ e h => by cases e; rw [hpz] at h; cases h⟩

/-- for a guarded address: the node checks hold, and the parent name String() prints (the name of a validated parent, or
    nothing) has no delimiter -/
theorem guard_facts (a : Addr) (h : guard a = true) : selfOK a.self = true ∧ NoDelim a.parentName := by
  obtain ⟨self, anc⟩ := a
  obtain ⟨hv, hz⟩ := Bool.and_eq_true_iff.mp h
  obtain ⟨hs, hp⟩ := validateChain_selfOK self anc hv (by simpa using hz)
  refine ⟨hs, ?_⟩
  cases anc with
  | nil => exact .nil
  | cons p r =>
    cases hpz : p.isZero <;> simp only [Addr.parentName, hpz, Bool.false_eq_true, if_false, if_true]
    · -- the parent validated and is not the sentinel: its own node checks hold
      exact name_clean _ (selfOK_facts p (validateChain_selfOK p r (hp p r rfl hpz) hpz).1).2.2.2.1
    · exact .nil

/-- the address Parse returns for the text form of `a`: same four fields, and a parent (built by
    `New(parentName, system, host, port)`) exactly when String() printed one -/
def reparsed (a : Addr) : Addr :=
  ⟨a.self, if a.parentName.isEmpty then [] else [⟨a.parentName, a.self.system, a.self.host, a.self.port⟩]⟩

/-- what String() prints after the port's slash: `[parent/]name` -/
def path (a : Addr) : Str := if a.parentName.isEmpty then a.self.name else a.parentName ++ '/' :: a.self.name

theorem build_eq (a : Addr) : build a =
    scheme ++ sepScheme ++ (a.self.system ++ '@' :: (a.self.host ++ ':' :: intDigits a.self.port ++ '/' :: path a)) := by
  cases hpn : a.parentName <;> simp [build, path, hpn, List.append_assoc]

theorem path_facts (a : Addr) (hn : NoDelim a.self.name) (hp : NoDelim a.parentName) :
    hasPrefix (path a) ['/'] = false ∧ cut? sepScheme (path a) = none ∧ '@' ∉ path a ∧
    finish a.self.system a.self.host a.self.port (path a) = .ok (reparsed a) := by
  have hn0 : hasPrefix a.self.name ['/'] = false := hasPrefix_not_mem List.mem_cons_self hn.slash
  have hns : cut? sepScheme a.self.name = none := cut_not_mem (List.mem_cons_of_mem _ List.mem_cons_self) _ hn.slash
  cases hpn : a.parentName with
  | nil =>
    simp only [path, reparsed, hpn, List.isEmpty_nil, if_true]
    exact ⟨hn0, hns, hn.atSign, by rw [finish, cut_not_mem List.mem_cons_self _ hn.slash]⟩
  | cons x xs =>
    rw [hpn] at hp
    simp only [path, reparsed, hpn, List.isEmpty_cons, Bool.false_eq_true, if_false]
    refine ⟨?_, cut_scheme_join _ _ hp.slash hn0 hns, not_mem_join (by decide) hp.atSign hn.atSign, ?_⟩
    · exact hasPrefix_head_ne _ _ fun (e : x = '/') => hp.slash (e ▸ List.mem_cons_self)
    · simp only [finish, cut_single '/' _ _ hp.slash, contains_not_mem List.mem_cons_self hn.slash, List.isEmpty_cons,
        Bool.false_eq_true, if_false]

/-- What the round trip needs of an address: no piece contains a delimiter that Parse cuts at before it reaches the
    piece, and the port is one `ParseInt32` reads back.  Validate (`guard`) is one way to meet it; the all-empty
    sentinel without a parent is another. -/
structure Printable (a : Addr) : Prop where
  sys : NoDelim a.self.system
  host : NoDelim a.self.host
  port : 0 ≤ a.self.port ∧ a.self.port < 2^31
  name : NoDelim a.self.name
  parent : NoDelim a.parentName

theorem Printable.of_guard {a : Addr} (h : guard a = true) : Printable a := by
  obtain ⟨hself, hpar⟩ := guard_facts a h
  obtain ⟨hp0, hp1, hsys, hname, hhost⟩ := selfOK_facts a.self hself
  exact ⟨system_clean _ hsys, hhost, ⟨hp0, by omega⟩, name_clean _ hname, hpar⟩

theorem Printable.parses {a : Addr} (h : Printable a) : parse (build a) = .ok (reparsed a) := by
  obtain ⟨h0, hs, hA, hfin⟩ := path_facts a h.name h.parent
  rw [build_eq, parse_shape a.self.port h.sys h.host (intDigits_clean _ h.port.1)
    (not_mem_of_all isDigit (by decide) (intDigits_all _ h.port.1))
    (parseInt32_intDigits _ h.port.1 h.port.2) h0 hs hA, hfin]

theorem Printable.endpoint {a : Addr} (h : Printable a) : hostPortOf (build a) = (hostPort a.self, true) := by
  have h1 : '@' ∉ scheme ++ sepScheme ++ a.self.system :=
    fun hm => (List.mem_append.mp hm).elim (by decide) h.sys.atSign
  have h2 : '/' ∉ a.self.host ++ ':' :: intDigits a.self.port :=
    not_mem_join (by decide) h.host.slash (intDigits_clean _ h.port.1).slash
  rw [build_eq, ← List.append_assoc]
  simp only [hostPortOf, cut_single '@' _ _ h1, cut_single '/' _ _ h2]
  simp [hostPort]

/-- for every guarded address `Parse(String())` succeeds and returns
    the same name, system, host and port, with a parent carrying the same name -/
theorem parse_build (a : Addr) (h : guard a = true) : parse (build a) = .ok (reparsed a) :=
  (Printable.of_guard h).parses

/-- `HostPortOf(String())` finds exactly `host:port`, which is also
    `FormatHostPort(host, port)` and `HostPort()` -/
theorem hostPortOf_build (a : Addr) (h : guard a = true) :
    hostPortOf (build a) = (hostPort a.self, true) ∧ hostPort a.self = formatHostPort a.self.host a.self.port :=
  ⟨(Printable.of_guard h).endpoint, rfl⟩

/-- what the property demands of one address, evaluated on the model's own functions through the
    spec predicate `Spec.C26.roundtripOK` (Address.Equals + same parent name + endpoint) -/
def roundtrip (a : Addr) : Prop :=
  ∃ b, parse (build a) = .ok b ∧ b.self = a.self ∧ b.parentName = a.parentName ∧
    hostPortOf (build a) = (formatHostPort a.self.host a.self.port, true)

/-- the English property: every actor address accepted by address validation (the all-empty
    NoSender sentinel is "no actor" and is excluded, see `C26_sentinel_corner`) -/
def C26_full : Prop := ∀ a : Addr, validate a = true → a.self.isZero = false → roundtrip a

theorem reparsed_parentName (a : Addr) : (reparsed a).parentName = a.parentName := by
  unfold reparsed
  cases hpn : a.parentName with
  | nil => simp [Addr.parentName]
  | cons x xs => simp [Addr.parentName, Node.isZero]

theorem Printable.roundtrip {a : Addr} (h : Printable a) : roundtrip a :=
  ⟨reparsed a, h.parses, rfl, reparsed_parentName a, h.endpoint⟩

theorem C26_holds : C26_full := fun a hv hz =>
  (Printable.of_guard (by simp [guard, hv, hz])).roundtrip

/-- the English sentence on the domain it names: valid names, a host name / IPv4 / IPv6 host, a
    valid port, an optional parent — all of it as decided by the real Validate -/
theorem C26_hostLike (a : Addr) (hv : validate a = true) (hh : hostLike a.self.host = true) : roundtrip a := by
  apply C26_holds a hv
  cases hz : a.self.isZero with
  | false => rfl
  | true =>
    simp only [Node.isZero, Bool.and_eq_true] at hz
    simp only [hostLike, Bool.and_eq_true, Bool.not_eq_true'] at hh
    rw [hz.1.2] at hh; exact absurd hh.1 (by decide)

/-- why the sentinel is excluded: Validate returns nil for the all-empty address before looking at
    its parent, so this one validates; its text form "goakt://@:0/x/y/" does not parse -/
def sentinelWitness : Addr := ⟨⟨[], [], [], 0⟩, [⟨['x', '/', 'y'], ['s'], ['h'], 1⟩]⟩

theorem natDigits_zero : natDigits 0 = ['0'] := by rw [natDigits]; rfl

theorem C26_sentinel_corner : validate sentinelWitness = true ∧ parse (build sentinelWitness) = .err .format := by
  refine ⟨by decide, ?_⟩
  show parse (scheme ++ sepScheme ++ [] ++ ['@'] ++ [] ++ [':'] ++ natDigits 0 ++ ['/'] ++ _ ++ []) = _
  -- `natDigits` is defined by well-founded recursion and does not evaluate: its one call is rewritten first
  rw [natDigits_zero]
  decide +kernel

/-- with fix 2166441 an IPv6 host with a prefix length (the witness of C26-F2) does not validate -/
example : validate ⟨⟨['a'], ['s'], [':', ':', '1', '/', '6', '4'], 80⟩, []⟩ = false := by decide

theorem splitHostPort_ne_panic (hp : Str) : splitHostPort hp ≠ .panic := by
  unfold splitHostPort
  cases hl : lastIndex ':' hp with
  | none => nofun
  | some sep =>
    have hlt := lastIndex_lt ':' hp sep hl
    simp only [sliceTo, sliceFrom, if_pos (Nat.le_of_lt hlt), if_pos (Nat.succ_le_of_lt hlt)]
    nofun

theorem finish_ne_panic (sys host : Str) (port : Int) (path : Str) : finish sys host port path ≠ .panic := by
  -- `fun_cases f args` yields one goal per leaf of the model's definition of `f`, with every branch condition and match
  -- equation as hypotheses; `case1`, `case2`, … follow the order of the leaves in Model/C26.lean.
  fun_cases finish sys host port path
  -- a second '/' in the path: `.err .format`; an address with no parent, with a parent, with no '/' in the path: `.ok`
  case case1 | case2 | case3 | case4 => nofun

/-- **Parse never panics**: on every string the model of Parse returns an address or one of the
    five error classes; the two slice expressions are always in range -/
theorem C26_total (s : Str) : parse s ≠ .panic := by
  fun_cases parse s
  -- the eight tests before `splitHostPort`, its `.noColon`, and the two errors of `parseInt32`: an error class
  case case1 | case2 | case3 | case4 | case5 | case6 | case7 | case8 | case9 | case11 | case12 => nofun
  -- `splitHostPort` would slice out of range: it never does
  case case10 h => exact fun _ => splitHostPort_ne_panic _ h
  -- the last block
  case case13 => exact finish_ne_panic _ _ _ _

/-- `Parse(s).String() == s` for the text form of every guarded address (the remote server looks
    actors up by the raw wire string and retries with `addr.String()`) -/
theorem C26_canonical (a : Addr) (h : guard a = true) : build (reparsed a) = build a := by
  have hp := reparsed_parentName a
  simp only [build, hp]
  rfl

/-- the all-empty sentinel (NoSender) without a parent also survives: "goakt://@:0/" -/
theorem C26_nosender : parse (build ⟨⟨[], [], [], 0⟩, []⟩) = .ok ⟨⟨[], [], [], 0⟩, []⟩ :=
  Printable.parses (a := ⟨⟨[], [], [], 0⟩, []⟩) ⟨.nil, .nil, by decide, .nil, .nil⟩

/-- the pre-fix Parse cut host and port at the FIRST colon (`strings.Cut(hostPort, ":")` and then
    rejected a port containing ':').  On the text form of an IPv6 address that test rejects: -/
theorem firstColon_rejects_ipv6 :
    (match cut? [':'] [':', ':', '1', ':', '8', '0'] with
     | some (_, portStr) => contains portStr [':']
     | none => true) = true := by decide

example : guard ⟨⟨['a'], ['s'], [':', ':', '1'], 3000⟩, []⟩ = true := by decide +kernel
example : guard ⟨⟨['c'], ['s'], ['f', 'e', '8', '0', ':', ':', '1', '%', 'e', '0'], 65535⟩, [⟨['p'], ['S'], ['f', 'e', '8', '0', ':', ':', '1', '%', 'e', '0'], 65535⟩]⟩ = true := by decide +kernel
example : hostLike [':', ':', '1'] = true := by decide

end GoaktVerif.C26
