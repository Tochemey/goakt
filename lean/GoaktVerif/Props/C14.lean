/-
C14 — Behavior switching follows stack semantics.

"For any sequence of Become, BecomeStacked, UnBecomeStacked and UnBecome calls made while
 handling messages, the handler used for each later message is the one a stack model predicts:
 Become replaces all behaviors with one, BecomeStacked pushes, UnBecomeStacked pops, and
 UnBecome restores only the default behavior, clearing stacked ones. The message being handled
 always finishes under the behavior that started it."

Model (Model/C14): behaviorStack (nodes + length counter), the four PID functions, handleReceived
reading Peek once per message.  Spec (Spec/C14): the documented stack, where UnBecomeStacked has
"No effect if there is no stack".  The model is tied to /repo by the differential run of a real
actor in a real actor system (harness/verifdrv/c14) on every check.

Result (the model follows the code after c9f88bb — UnBecome clears — and 56f60bf — unsetBehaviorStacked
keeps the base behaviour, finding C14-F1): the code IS the documented stack for all message streams
and all switch scripts, no guard (`C14_holds`).
-/
import GoaktVerif.Model.C14
import GoaktVerif.Spec.C14

namespace GoaktVerif.C14
open GoaktVerif.Model.C14 GoaktVerif.Spec.C14

/-- representation invariant of the PID's behaviour stack: the `length` counter equals the number
    of linked nodes (so the `Len() > 1` guard of unsetBehaviorStacked is truthful) and at least one
    behaviour is present -/
structure Good (p : PID) : Prop where
  len : p.stack.length = p.stack.nodes.length
  nonempty : p.stack.nodes ≠ []

/-- the PID whose stack holds exactly the behaviours `s`, with a truthful counter.  A `Good` PID is one of
    these (`eq_canon`), and on them the code is the documented stack by computation (`applyOp_canon`). -/
def canon (d : Beh) (s : List Beh) : PID := ⟨d, ⟨s, s.length⟩⟩

theorem eq_canon {p : PID} (h : p.stack.length = p.stack.nodes.length) : p = canon p.dflt p.stack.nodes := by
  obtain ⟨d, nodes, len⟩ := p
  have e : len = nodes.length := h
  subst e
  rfl

theorem good_canon (d : Beh) {s : List Beh} (hs : s ≠ []) : Good (canon d s) := ⟨rfl, hs⟩

theorem good_init (d : Beh) : Good (PID.init d) := good_canon d (List.cons_ne_nil d [])

theorem doc_nonempty (d : Beh) (s : List Beh) (hs : s ≠ []) (op : Op) : docOp d s op ≠ [] := by
  cases op with
  | unbecomeStacked =>
    match s, hs with
    | [_], _ | _ :: _ :: _, _ => nofun
  | _ => nofun

theorem doc_fold_nonempty (d : Beh) (s : List Beh) (hs : s ≠ []) (m : List Op) : m.foldl (docOp d) s ≠ [] := by
  induction m generalizing s with
  | nil => exact hs
  | cons op ops ih => exact ih _ (doc_nonempty d s hs op)

theorem docFinal_nonempty (d : Beh) (s : List Beh) (hs : s ≠ []) (msgs : List (List Op)) : docFinalFrom d s msgs ≠ [] := by
  induction msgs generalizing s with
  | nil => exact hs
  | cons m ms ih => exact ih _ (doc_fold_nonempty d s hs m)

/-- each call is the documented operation (the `Len() > 1` guard reads a truthful counter) -/
theorem applyOp_canon (d : Beh) (s : List Beh) (op : Op) : applyOp (canon d s) op = canon d (docOp d s op) := by
  cases op with
  | unbecomeStacked =>
    match s with
    | [] | [_] | _ :: _ :: _ => rfl
  | _ => rfl

theorem applyOp_nodes (p : PID) (op : Op) (h : p.stack.length = p.stack.nodes.length) :
    (applyOp p op).stack.nodes = docOp p.dflt p.stack.nodes op := by
  rw [eq_canon h, applyOp_canon]; rfl

theorem applyOp_len_inv (p : PID) (op : Op) (h : p.stack.length = p.stack.nodes.length) :
    (applyOp p op).stack.length = (applyOp p op).stack.nodes.length := by
  rw [eq_canon h, applyOp_canon]; rfl

theorem good_applyOp (p : PID) (op : Op) (h : Good p) : Good (applyOp p op) := by
  rw [eq_canon h.len, applyOp_canon]; exact good_canon _ (doc_nonempty _ _ h.nonempty op)

/-- regression statement for fix c9f88bb: whatever was stacked, after UnBecome exactly the default remains -/
theorem unbecome_clears (p : PID) : (applyOp p .unbecome).stack.nodes = [p.dflt] := rfl

/-- regression statement for finding C14-F1: UnBecomeStacked never removes the last behaviour -/
theorem unbecomeStacked_keeps_base (p : PID) (h : Good p) : (applyOp p .unbecomeStacked).stack.nodes ≠ [] :=
  (good_applyOp p _ h).nonempty

/-- every call made while a message is handled is made by the behaviour that was entered -/
theorem exec_events (b : Beh) (p : PID) (ops : List Op) :
    (exec b p ops).1 = ops.map fun op => (b, op) := by
  induction ops generalizing p with
  | nil => rfl
  | cons op ops ih => simp only [exec, List.map_cons]; rw [ih]

theorem exec_canon (b d : Beh) (s : List Beh) (ops : List Op) :
    exec b (canon d s) ops = (ops.map fun op => (b, op), canon d (ops.foldl (docOp d) s)) := by
  induction ops generalizing s with
  | nil => rfl
  | cons op ops ih => rw [exec, applyOp_canon, ih]; rfl

theorem handle_canon (d x : Beh) (xs : List Beh) (m : List Op) :
    handleReceived (canon d (x :: xs)) m
      = (some x, m.map (fun op => (x, op)), canon d (m.foldl (docOp d) (x :: xs))) := by
  show (let r := exec x (canon d (x :: xs)) m; (some x, r.1, r.2)) = _
  rw [exec_canon]

/-- "The message being handled always finishes under the behavior that started it": the behaviour
    is read once (Peek at the start); every later call of the same message is executed by that
    same behaviour, although the top of the stack may already be a different one. -/
theorem C14_inprogress (p : PID) (m : List Op) :
    ∀ e ∈ (handleReceived p m).2.1, some e.1 = p.stack.peek ∧ some e.1 = (handleReceived p m).1 := by
  unfold handleReceived
  cases h : p.stack.peek with
  | none => simp
  | some b =>
    simp only [exec_events]
    intro e he
    simp only [List.mem_map] at he
    obtain ⟨op, _, rfl⟩ := he
    exact ⟨rfl, rfl⟩

/-- non-vacuous: handler 0 executes both calls although after the first call the top is 7 -/
example : (handleReceived (PID.init 0) [.becomeStacked 7, .becomeStacked 8]).2.1 = [(0, .becomeStacked 7), (0, .becomeStacked 8)]
    ∧ (applyOp (PID.init 0) (.becomeStacked 7)).stack.peek = some 7 := by decide

theorem run_canon (d : Beh) (s : List Beh) (hs : s ≠ []) (msgs : List (List Op)) :
    run (canon d s) msgs = (handlers (docOp d) s msgs, canon d (docFinalFrom d s msgs)) := by
  induction msgs generalizing s with
  | nil => rfl
  | cons m ms ih =>
    obtain ⟨x, xs, rfl⟩ := List.exists_cons_of_ne_nil hs
    rw [run, handle_canon, ih _ (doc_fold_nonempty d _ hs m)]; rfl

theorem runEvents_canon (d : Beh) (s : List Beh) (hs : s ≠ []) (msgs : List (List Op)) :
    runEvents (canon d s) msgs = docEvents d s msgs := by
  induction msgs generalizing s with
  | nil => rfl
  | cons m ms ih =>
    obtain ⟨x, xs, rfl⟩ := List.exists_cons_of_ne_nil hs
    rw [runEvents, handle_canon, ih _ (doc_fold_nonempty d _ hs m)]; rfl

theorem run_eq_doc (p : PID) (msgs : List (List Op)) (h : Good p) :
    (run p msgs).1 = handlers (docOp p.dflt) p.stack.nodes msgs := by
  rw [eq_canon h.len, run_canon _ _ h.nonempty]; rfl

theorem run_final (p : PID) (msgs : List (List Op)) (h : Good p) :
    (run p msgs).2.stack.nodes = docFinalFrom p.dflt p.stack.nodes msgs ∧ Good (run p msgs).2 := by
  rw [eq_canon h.len, run_canon _ _ h.nonempty]
  exact ⟨rfl, good_canon _ (docFinal_nonempty _ _ h.nonempty msgs)⟩

theorem run_events (p : PID) (msgs : List (List Op)) (h : Good p) :
    runEvents p msgs = docEvents p.dflt p.stack.nodes msgs := by
  rw [eq_canon h.len, runEvents_canon _ _ h.nonempty]; rfl

theorem doc_handlers_some (d : Beh) (s : List Beh) (hs : s ≠ []) (msgs : List (List Op)) :
    ∀ h ∈ handlers (docOp d) s msgs, h.isSome = true := by
  induction msgs generalizing s with
  | nil => simp [handlers]
  | cons m ms ih =>
    simp only [handlers, List.mem_cons]
    intro h hh
    rcases hh with rfl | hh
    · match s, hs with
      | _ :: _, _ => rfl
    · exact ih _ (doc_fold_nonempty d s hs m) h hh

/-- The full statement, against the DOCUMENTED stack: for every default behaviour and every
    stream of messages with arbitrary switch scripts, (1) the handler used for each message is
    the documented stack's top at the start of that message, and (2) every call made while a
    message is handled is made by the behaviour that started it. -/
def C14_full : Prop :=
  ∀ (d : Beh) (msgs : List (List Op)),
    (run (PID.init d) msgs).1 = docHandlers d msgs
    ∧ runEvents (PID.init d) msgs = docEvents d [d] msgs

theorem C14_holds : C14_full := fun d msgs =>
  ⟨congrArg Prod.fst (run_canon d [d] (List.cons_ne_nil d []) msgs), runEvents_canon d [d] (List.cons_ne_nil d []) msgs⟩

/-- the witnesses of the two fixed defects agree with the documentation:
    F6  BecomeStacked 1; UnBecome | UnBecomeStacked | probe     (code before c9f88bb: the probe goes to 1)
    F1  UnBecomeStacked | probe                                  (code before 56f60bf: the probe is dropped) -/
example : (run (PID.init 0) [[.becomeStacked 1, .unbecome], [.unbecomeStacked], []]).1 = [some 0, some 0, some 0]
    ∧ (run (PID.init 0) [[.unbecomeStacked], []]).1 = [some 0, some 0] := by decide

/-- the stack left behind (what any continuation of the stream will see, and what `Len` reports) is the documented one -/
theorem C14_stack (d : Beh) (msgs : List (List Op)) :
    (run (PID.init d) msgs).2.stack.nodes = docFinal d msgs
    ∧ (run (PID.init d) msgs).2.stack.len = (docFinal d msgs).length := by
  have h := run_canon d [d] (List.cons_ne_nil d []) msgs
  exact ⟨congrArg (·.2.stack.nodes) h, congrArg (·.2.stack.len) h⟩

/-- every message gets a handler: the actor can never lose its last behaviour -/
theorem C14_never_deaf (d : Beh) (msgs : List (List Op)) :
    ∀ h ∈ (run (PID.init d) msgs).1, h.isSome = true := by
  rw [(C14_holds d msgs).1]
  exact doc_handlers_some d [d] (List.cons_ne_nil d []) msgs

end GoaktVerif.C14
