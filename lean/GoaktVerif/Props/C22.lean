/-
C22 — Client load balancers always pick a configured node.

"For any number of prior calls, including after an internal counter wraps around, the cluster
 client's round-robin, random and least-load balancers return one of the configured nodes, and
 round-robin visits the nodes in cyclic order."

Tie: `Gen.C22.rrNext` is regenerated from client/round_robin.go on every run (go2lean);
`rrNext_refines` relates it to the Nat model for every cursor value and every pool size that fits
a Go slice (< 2^32); random/least-load are tied by the differential (E1).
-/
import GoaktVerif.Gen.C22
import GoaktVerif.Model.C22
import GoaktVerif.Spec.C22
import GoaktVerif.Lemmas.FixedWidth
import GoaktVerif.Lemmas.Cursor
import GoaktVerif.Lemmas.ListFacts

namespace GoaktVerif.C22
open GoaktVerif.Model.C22 GoaktVerif.Spec.C22 GoaktVerif.FixedWidth

theorem rrNext_refines (len : Int64) (next : UInt32) (h0 : 0 < len.toInt) (h1 : len.toInt < 2^32) :
    (Gen.C22.rrNext len next).1.toInt = ((RR.step ⟨len.toInt.toNat, next.toNat⟩).1 : Int)
    ∧ (Gen.C22.rrNext len next).2.toNat = (RR.step ⟨len.toInt.toNat, next.toNat⟩).2.next := by
  unfold Gen.C22.rrNext RR.step
  have hs := int64_toInt32_toUInt32_toNat len (Int.le_of_lt h0) h1
  -- the index: `int(next % uint32(len))` is `next % len`
  refine ⟨by rw [uint32_toUInt64_toInt64_toInt, UInt32.toNat_mod, hs], ?_⟩
  simp only [UInt32.toNat_mod, UInt32.toNat_add, hs]
  have hm : 0 < len.toInt.toNat ∧ len.toInt.toNat < 2 ^ 32 := by omega
  generalize len.toInt.toNat = m at *
  -- `idx + 1 ≤ m < 2^32`: no wrap
  rw [show UInt32.toNat 1 = 1 from rfl,
    Nat.mod_eq_of_lt (Nat.lt_of_le_of_lt (Nat.succ_le_of_lt (Nat.mod_lt _ hm.1)) hm.2)]

theorem rr_step_in_range (s : RR) (h : 0 < s.n) : s.step.1 < s.n := Nat.mod_lt _ h

theorem rr_step_n (s : RR) : s.step.2.n = s.n := rfl

/-- the k-th later call returns `(next + k) mod n`: cyclic forever, whatever the cursor holds -/
theorem rr_run_eq (k : Nat) (s : RR) (h : 0 < s.n) :
    (RR.run k s).1 = (List.range k).map (fun j => (s.next + j) % s.n) := by
  induction k generalizing s with
  | zero => rfl
  | succ k ih =>
    rw [Cursor.unroll (fun i => i)]
    simp only [RR.run, ih s.step.2 h]
    rfl

theorem cyclic_mod_range' (n s k : Nat) :
    cyclic n ((List.range' s k).map (fun j => j % n)) = true := by
  induction k generalizing s with
  | zero => simp [cyclic]
  | succ k ih =>
    cases k with
    | zero => simp [cyclic]
    | succ k =>
      have := ih (s + 1)
      simp only [List.range'_succ, List.map_cons] at this ⊢
      simp only [cyclic, Bool.and_eq_true, beq_iff_eq]
      exact ⟨by rw [Nat.mod_add_mod], this⟩

/-- The full statement for round-robin: from ANY cursor value (so after any number of prior
    calls, any wrap, any `Set`), any number `k` of further calls on a non-empty pool return only
    configured indices, in cyclic order. -/
def rr_full : Prop :=
  ∀ (n next k : Nat), 0 < n → rrOK n (RR.run k ⟨n, next⟩).1 = true

theorem rr_holds : rr_full := by
  intro n next k hn
  rw [rr_run_eq k ⟨n, next⟩ hn]
  simp only [rrOK, Bool.and_eq_true]
  constructor
  · simp only [allInRange, List.all_map, List.all_eq_true]
    intro j _
    simpa using Nat.mod_lt _ hn
  · have := cyclic_mod_range' n next k
    rw [List.range'_eq_map_range] at this
    rw [List.map_map] at this
    exact this

example : rrOK 3 (RR.run 7 ⟨3, 4294967295⟩).1 = true := by decide  -- non-vacuous: cursor at the uint32 wrap point

/-- `nodes[r]` with `r = rand.IntN(len)`: the library contract `0 ≤ r < len` is the hypothesis -/
theorem random_in_range (n r : Nat) (h : r < n) : randomPick n r < n := h

theorem insertFront_perm (x : Node) (l : List Node) : (sortStable.insertFront x l).Perm (x :: l) :=
  perm_insert_of_eqns (ins := sortStable.insertFront) (fun _ => rfl)
    (fun a b bs => by simp only [sortStable.insertFront]; split <;> simp) x l

theorem sortStable_perm (l : List Node) : (sortStable l).Perm l := perm_sort_of_eqns insertFront_perm rfl (fun _ _ => rfl) l

/-- the pool after `Next` is a permutation of the pool before: no node is lost or invented -/
theorem leastLoad_pool_perm (pool : List Node) : (leastLoadStep pool).2.Perm pool :=
  sortStable_perm pool

def headMin : List Node → Prop
  | [] => True
  | a :: as => ∀ b ∈ as, a.2 ≤ b.2

theorem insertFront_headMin (x : Node) (l : List Node) (h : headMin l) :
    headMin (sortStable.insertFront x l) := by
  cases l with
  | nil => simp [sortStable.insertFront, headMin]
  | cons y ys =>
    simp only [sortStable.insertFront]
    split
    · rename_i hlt
      intro b hb
      have : b ∈ x :: ys := (insertFront_perm x ys).subset hb
      rcases List.mem_cons.mp this with rfl | hb'
      · omega
      · exact h b hb'
    · rename_i hge
      intro b hb
      rcases List.mem_cons.mp hb with rfl | hb'
      · omega
      · have := h b hb'; omega

theorem sortStable_headMin (l : List Node) : headMin (sortStable l) := by
  induction l with
  | nil => simp [sortStable, headMin]
  | cons x xs ih => exact insertFront_headMin x _ ih

/-- the node returned has minimal weight among the configured nodes -/
theorem leastLoad_min (pool : List Node) (a : Node) (as : List Node) (hs : sortStable pool = a :: as) :
    ∀ b ∈ pool, a.2 ≤ b.2 := by
  intro b hb
  have hm := sortStable_headMin pool
  rw [hs] at hm
  have : b ∈ a :: as := by rw [← hs]; exact (sortStable_perm pool).symm.subset hb
  rcases List.mem_cons.mp this with rfl | h
  · exact Int.le_refl _
  · exact hm b h

/-- `Next` on a non-empty pool returns a configured node of minimal weight -/
theorem leastLoad_pick (pool : List Node) (h : pool ≠ []) :
    ∃ nd ∈ pool, (leastLoadStep pool).1 = some nd.1 ∧ ∀ b ∈ pool, nd.2 ≤ b.2 := by
  cases hs : sortStable pool with
  | nil => exact absurd ((sortStable_perm pool).symm.trans (.of_eq hs)).eq_nil h
  | cons a as =>
    exact ⟨a, (sortStable_perm pool).subset (hs ▸ List.mem_cons_self), by rw [leastLoadStep, hs]; rfl,
      leastLoad_min pool a as hs⟩

theorem leastLoad_mem (pool : List Node) (h : pool ≠ []) :
    ∃ nd ∈ pool, (leastLoadStep pool).1 = some nd.1 :=
  let ⟨nd, h1, h2, _⟩ := leastLoad_pick pool h
  ⟨nd, h1, h2⟩

def C22_full : Prop :=
  rr_full
  ∧ (∀ n r, r < n → randomPick n r < n)
  ∧ (∀ pool : List Node, pool ≠ [] → (∃ nd ∈ pool, (leastLoadStep pool).1 = some nd.1) ∧ (leastLoadStep pool).2.Perm pool)

theorem C22_holds : C22_full :=
  ⟨rr_holds, random_in_range, fun pool h => ⟨leastLoad_mem pool h, leastLoad_pool_perm pool⟩⟩

example : (leastLoadStep [(0, 3), (1, 1), (2, 1)]).1 = some 1 := by decide

end GoaktVerif.C22
