/-
C04 — Every mailbox implementation behaves like its sequential specification.

"Under any interleaving of concurrent Enqueue calls with one consumer, each Mailbox implementation
 is linearizable to its documented queue. Every accepted message is dequeued exactly once and from
 the same mailbox; order is FIFO, priority order, or priority-then-arrival order as documented.
 Bounded variants never hold more than their capacity and reject only when full, and the mailbox
 never reports empty while a completed enqueue has not been dequeued."

Models: Model/C04/*.lean, one small-step model per mailbox algorithm (one transition per atomic
operation of the Go code), tied to /repo's current source by controlled-schedule replay on every
check (engine E3).  Specification: Spec/C04.lean (reservation queue, priority queue, history oracle).
-/
import GoaktVerif.Model.C04.All
import GoaktVerif.Lemmas.C04.RQ
import GoaktVerif.Lemmas.C04.UBWf
import GoaktVerif.Lemmas.C04.HeapMbox
import GoaktVerif.Lemmas.C04.LockedInv
import GoaktVerif.Lemmas.C04.RingTrace
import GoaktVerif.Lemmas.C04.SegTrace
import GoaktVerif.Lemmas.C04.IntakeValues
import GoaktVerif.Lemmas.C04.FairSub

namespace GoaktVerif.C04
open GoaktVerif.Model.C04 GoaktVerif.Spec.C04

/-- The English property over the models: for every mailbox of the family (with constructor
arguments it is meant for: capacity ≥ 1, a strict weak order as priority function), every set of
thread programs in which each message is enqueued once and only the last thread consumes, and every
schedule that runs all threads to completion, the history of the run (operations with their real-time
intervals, then the sequential drain) passes the oracle: exactly-once, real-time FIFO / priority /
priority-then-arrival order, empty-soundness, capacity. -/
def C04_full : Prop :=
  ∀ (m : MB) (progs : List (List Op)) (sched : List Nat), m.ok → WellFormed progs = true →
    allDone (runSched (initCfg m.algo m.init progs) sched) = true →
    historyOK m.setup (historyOf (runSched (initCfg m.algo m.init progs) sched)) = true

/-! ### concrete schedules: F2, on which the current code violates a clause, and F3–F10, which the oracle accepts since
the repairs (each one is replayed against the real Go code on every check: corpus/C04/F*.case) -/

private def rep (n t : Nat) : List Nat := List.replicate n t

def runOf (m : MB) (progs : List (List Op)) (sched : List Nat) : Cfg m.algo :=
  runSched (initCfg m.algo m.init progs) sched

/-- what the oracle says about a run: `none` = fine, else the first violated clause -/
def verdictOf (m : MB) (progs : List (List Op)) (sched : List Nat) : Option String :=
  verdict m.setup (historyOf (runOf m progs sched))

def ltNat : Nat → Nat → Bool := fun a b => a < b

/-- F2 (inherent to Vyukov's MPSC list): producer 0 has swapped the tail but not linked its node;
producer 1's enqueue of message 2 is complete; the consumer's Dequeue answers nil and IsEmpty true. -/
def F2_progs : List (List Op) := [[.enq 1 0], [.enq 2 0], [.deq, .emp]]
def F2_sched : List Nat := [0, 0, 1, 1, 1, 2, 2, 2, 2, 0]

theorem F2_unbounded_reports_empty_behind_inflight :
    WellFormed F2_progs = true ∧ allDone (runOf .unbounded F2_progs F2_sched) = true ∧
    ((runOf .unbounded F2_progs F2_sched).threads.map fun t => t.results) = [[.ok], [.ok], [.bool true, .none]] ∧
    verdictOf .unbounded F2_progs F2_sched = some "empty-unsound" := by decide +kernel

/-! The defects F3–F8 found by this check (fair mailbox stranding a sender; bounded priority
mailboxes rejecting while not full; uprio counting outside its critical section; three ways of losing
messages at segment boundaries) have been REPAIRED in /repo (`fix:` commits, see findings/C04.json).
The models mirror the repaired code; the schedules that broke the old code are kept as regression
TESTS (bounded checks by evaluation, not theorems about all schedules): on the repaired models the
oracle accepts them.  The same schedules are replayed on the real code by corpus/C04/F*.case. -/

def F3_progs : List (List Op) := [[.enq 1 1], [.enq 2 1], [.enq 3 1], [.deq, .deq, .deq, .deq]]
def F3_sched : List Nat :=
  rep 10 0 ++ rep 4 1 ++ rep 4 2 ++ rep 16 3 ++ rep 16 3 ++ [1, 2] ++ rep 16 3 ++ rep 15 3

/-- F3 repaired (the scenario on the code after 762e7d2/6fbb6ce: message 1 delivered, messages 2 and 3 counted
but hidden behind producer 1's unlinked node): the sender whose sub-queue looked empty is re-activated by the
nil-branch re-check; all messages are delivered (results latest first) -/
theorem F3_fixed_fair_serves_sender :
    WellFormed F3_progs = true ∧ allDone (runOf .fair F3_progs F3_sched) = true ∧
    ((runOf .fair F3_progs F3_sched).threads.map fun t => t.results) =
      [[.ok], [.ok], [.ok], [.val 3, .val 2, .none, .val 1]] ∧
    verdictOf .fair F3_progs F3_sched = none := by decide +kernel

def F4_progs : List (List Op) := [[.enq 1 0], [.enq 2 0], [.len, .enq 3 0], [.deq]]
def F4_sched : List Nat := [0, 0, 0, 0, 0, 1] ++ rep 7 3 ++ [2, 2, 2, 2, 2, 2]

/-- F4 repaired: capacity 1; e2 is rejected while e1 is inside, e3 is accepted after the dequeue -/
theorem F4_fixed_bounded_priority_accepts_when_not_full :
    WellFormed F4_progs = true ∧ allDone (runOf (.bprio 1 ltNat) F4_progs F4_sched) = true ∧
    ((runOf (.bprio 1 ltNat) F4_progs F4_sched).threads.map fun t => t.results) = [[.ok], [.full], [.ok, .num 0], [.val 1]] ∧
    verdictOf (.bprio 1 ltNat) F4_progs F4_sched = none ∧
    verdictOf (.bsprio 1 ltNat) F4_progs F4_sched = none := by decide +kernel

def F6_progs : List (List Op) := [[.enq 1 0], [.enq 2 0], [.deq, .deq, .emp]]
def F6_sched : List Nat := [0, 1, 1, 2, 2, 2, 2, 2, 0, 1, 1]

/-- F6 repaired: producer 0 parks inside the critical section, so producer 1 is blocked (not
completed) while the consumer sees length 0; no completed enqueue is hidden -/
theorem F6_fixed_uprio_counts_inside_lock :
    WellFormed F6_progs = true ∧ allDone (runOf (.uprio ltNat) F6_progs F6_sched) = true ∧
    verdictOf (.uprio ltNat) F6_progs F6_sched = none := by decide +kernel

def F7_progs : List (List Op) := [[.enq 1 0, .enq 2 0, .enq 3 0], [.deq, .deq, .deq]]
def F7_sched : List Nat := rep 4 0 ++ rep 10 1 ++ rep 18 0 ++ rep 13 1

/-- F7 repaired (segment size 2 in the model): the consumer no longer leaves a segment whose slots
are not all consumed; message 2 is delivered -/
theorem F7_fixed_segmented_no_skip :
    WellFormed F7_progs = true ∧ allDone (runOf (.segmented 2) F7_progs F7_sched) = true ∧
    ((runOf (.segmented 2) F7_progs F7_sched).threads.map fun t => t.results) = [[.ok, .ok, .ok], [.val 2, .none, .val 1]] ∧
    (historyOf (runOf (.segmented 2) F7_progs F7_sched)).drained = [3] ∧
    verdictOf (.segmented 2) F7_progs F7_sched = none := by decide +kernel

def F5_progs : List (List Op) :=
  [[.enq 91 0], [.enq 1 0, .enq 2 0, .enq 3 0, .enq 4 0, .enq 5 0, .enq 6 0], [.deq, .deq, .deq]]
def F5_sched : List Nat := [0] ++ rep 26 1 ++ rep 26 2 ++ rep 4 1 ++ rep 3 0 ++ [0, 0, 0, 0] ++ rep 9 1

/-- F5 repaired: segments are not recycled; the producer with the stale tail pointer retries on the
current tail; all seven messages are delivered -/
theorem F5_fixed_segmented_no_recycling :
    WellFormed F5_progs = true ∧ allDone (runOf (.segmented 2) F5_progs F5_sched) = true ∧
    (historyOf (runOf (.segmented 2) F5_progs F5_sched)).drained = [4, 5, 91, 6] ∧
    verdictOf (.segmented 2) F5_progs F5_sched = none := by decide +kernel

def F8_progs : List (List Op) := [[.enq 1 0, .enq 2 0, .enq 3 0], [.enq 11 0], [.deq, .deq, .deq]]
def F8_sched : List Nat := rep 12 0 ++ rep 9 1 ++ rep 23 2 ++ rep 6 0 ++ [2, 2]

/-- F8 repaired: the retired segment keeps its next link, the late producer's CAS fails -/
theorem F8_fixed_segmented_no_relink :
    WellFormed F8_progs = true ∧ allDone (runOf (.segmented 2) F8_progs F8_sched) = true ∧
    verdictOf (.segmented 2) F8_progs F8_sched = none := by decide +kernel

/-! ### F9, F10 (repaired by 762e7d2 and 6fbb6ce): the fair mailbox counted a message AFTER publishing it

Before 762e7d2 `Enqueue` published into the sender's sub-queue, then added to `length`, then to `pending`.  A
late activation (a producer saw `pending == 1`, its `CAS:active` ran after the sender was served and deactivated
again) listed the sender with `pending == 0`; the consumer then took a message that was published but not
counted: `pending` −1, stored back to 0, +1 by the producer with the sub-queue empty = one too high for ever; the
sender's next message was never delivered (F9); `length` dipped to −1 meanwhile and the `length > 0` guard gave up
another sender (F9b).  Before 6fbb6ce the late activation alone made one Dequeue answer nil while other senders'
completed messages waited (F10).  The three schedules (completed so that every thread finishes) are regression
TESTS: the oracle accepts them, nothing is left in the mailbox.  Replayed on the real code by corpus/C04/F9*, F10*. -/

def F9_progs : List (List Op) := [[.enq 1 1, .enq 4 1], [.enq 2 1], [.enq 3 1], [.deq, .deq, .deq, .deq, .deq]]
def F9_sched : List Nat :=
  rep 10 0 ++ rep 13 3 ++ rep 5 1 ++ rep 21 3 ++ rep 3 2 ++ rep 5 1 ++ rep 16 3 ++ rep 7 2 ++ rep 12 3 ++ rep 5 0 ++
  rep 2 3 ++ [0, 3, 0, 3, 0, 3, 0, 0]

/-- F9 repaired: every message the consumer can see is counted; message 4 is delivered by the final drain,
`Len()` after the drain is 0 -/
theorem F9_fixed_fair_counts_before_publishing :
    WellFormed F9_progs = true ∧ allDone (runOf .fair F9_progs F9_sched) = true ∧
    (historyOf (runOf .fair F9_progs F9_sched)).drained = [4] ∧
    (historyOf (runOf .fair F9_progs F9_sched)).finalLen = 0 ∧
    verdictOf .fair F9_progs F9_sched = none := by decide +kernel

def F9b_progs : List (List Op) :=
  [[.enq 1 2], [.enq 2 2], [.enq 3 2], [.enq 5 1], [.enq 6 1], [.deq, .deq, .deq, .deq, .deq]]
def F9b_sched : List Nat :=
  rep 10 0 ++ rep 13 5 ++ rep 5 1 ++ rep 21 5 ++ rep 3 2 ++ rep 5 1 ++ rep 16 5 ++ rep 2 3 ++ rep 10 4 ++ rep 12 5 ++
  rep 3 3 ++ rep 7 2 ++ rep 16 5 ++ [3, 5, 3, 5, 3, 5, 3, 3]

/-- F9b repaired: `length` never dips, sender 1 keeps its activation; 5 and 6 are delivered -/
theorem F9b_fixed_fair_length_does_not_dip :
    WellFormed F9b_progs = true ∧ allDone (runOf .fair F9b_progs F9b_sched) = true ∧
    (historyOf (runOf .fair F9b_progs F9b_sched)).drained = [6, 5] ∧
    (historyOf (runOf .fair F9b_progs F9b_sched)).finalLen = 0 ∧
    verdictOf .fair F9b_progs F9b_sched = none := by decide +kernel

def F10_progs : List (List Op) := [[.enq 1 1], [.enq 2 1], [.enq 3 2], [.deq, .deq, .len, .deq, .deq]]
def F10_sched : List Nat :=
  rep 10 0 ++ rep 13 3 ++ rep 5 1 ++ rep 21 3 ++ rep 5 1 ++ rep 10 2 ++ rep 29 3

/-- F10 repaired: the sender listed by the late activation has nothing counted and is skipped; the Dequeue after
`Len() = 1` delivers 3, the last one answers nil on an empty mailbox (results latest first) -/
theorem F10_fixed_fair_skips_idle_sender :
    WellFormed F10_progs = true ∧ allDone (runOf .fair F10_progs F10_sched) = true ∧
    ((runOf .fair F10_progs F10_sched).threads.map fun t => t.results) =
      [[.ok], [.ok], [.ok], [.none, .val 3, .num 1, .val 2, .val 1]] ∧
    verdictOf .fair F10_progs F10_sched = none := by decide +kernel

/-- The full property is FALSE of the current code: F2 is inherent to the algorithm of the default
mailbox (the clause "never reports empty while a completed enqueue has not been dequeued" cannot
hold for Vyukov's list). -/
theorem C04_refuted : ¬ C04_full := fun h => by
  obtain ⟨wf, hd, _, hv⟩ := F2_unbounded_reports_empty_behind_inflight
  have : (verdictOf .unbounded F2_progs F2_sched).isNone = true := h .unbounded F2_progs F2_sched trivial wf hd
  rw [hv] at this
  cases this

/-- FIFO in reservation order and exactly-once on the specification every Vyukov-style mailbox is
simulated by: what has been dequeued is a prefix of the reservation sequence. -/
theorem C04_spec_fifo (evs : List Ev) (q : RQ) (h : RQ.run [] evs = some q) :
    reservedOf evs = dequeuedOf evs ++ q.map Cell.val := rq_fifo evs q h

example : RQ.run [] [.reserve 1, .reserve 2, .publish 2, .deq none, .publish 1, .deq (some 1)] = some [.ready 2] := by decide +kernel

/-! ### UnboundedMailbox (Vyukov MPSC list): forward simulation for ALL schedules

Any number of producers, one consumer, arbitrary programs, schedules of any length.  Abstraction:
the chain from `head` following `next`, extended through the links parked producers are about to
store; linearization points `Swap:tail` = reserve, publishing `Store:next` = publish, `Store:head` =
dequeue, a nil `Load:next` of Dequeue = dequeue answering nothing (`UB.evOf`).  Invariant `UB.Inv`:
the extended chain from `head` reaches `tail` through distinct nodes, every parked producer's
`(v, prev)` is a pending link of the chain, ids still to be enqueued are outside the chain, the
retired sentinel is referenced by nobody. -/

open UB in
/-- one step of ANY thread is matched by the reservation queue (or is a stutter) -/
theorem unbounded_forward_simulation (ct tid : Nat) (c : Cf) (cells : List Cell) (h : Inv ct c cells) :
    ∃ cells', specStep cells (stepEv c tid) = some cells' ∧ Inv ct (stepCfg c tid) cells' :=
  step_sim ct tid c cells h

open UB in
/-- LINEARIZABILITY to the reservation queue, exactly-once and FIFO, for every schedule:
the events of the run are a run of the specification; the values `Dequeue` took out, in order (the last
one possibly not yet returned, `UB.deqdT`), are the successful dequeues of that run; they are a PREFIX of the reservation sequence (FIFO in
reservation order), which has no repetition (each message at most once), the rest being exactly the
cells still inside; and a message whose `Enqueue` returned is already dequeued or a READY cell
(never lost). -/
theorem unbounded_linearizable (ct : Nat) (progs : List (List Op)) (sched : List Nat) (wf : UBWellFormed ct progs) :
    ∃ cells : List Cell,
      let c0 : Cf := initCfg Unbounded.algo Unbounded.init progs
      let evs := evTrace c0 sched
      RQ.run [] evs = some cells ∧ Inv ct (runSched c0 sched) cells ∧
      deqd (runSched c0 sched) ct = dequeuedOf evs ∧
      reservedOf evs = dequeuedOf evs ++ cells.map Cell.val ∧
      (reservedOf evs).Nodup ∧
      (∀ (i : Nat) (t : Th) (d : Done) (v k : Nat), (runSched c0 sched).threads[i]? = some t → d ∈ t.hist →
          d.op = .enq v k → d.res = .ok → v ∈ dequeuedOf evs ∨ Cell.ready v ∈ cells) := by
  obtain ⟨cells, hT⟩ := tinv_run ct sched _ [] [] (tinv_init wf)
  simp only [List.nil_append] at hT
  refine ⟨cells, hT.run, hT.inv, ?_, rq_fifo _ _ hT.run, hT.resNodup, hT.accepted⟩
  rw [deqd_run ct sched _ [] (inv_init wf), deqd_initCfg]; rfl

open UB in
/-- each message is dequeued at most once -/
theorem unbounded_dequeued_nodup (ct : Nat) (progs : List (List Op)) (sched : List Nat) (wf : UBWellFormed ct progs) :
    (deqd (runSched (initCfg Unbounded.algo Unbounded.init progs : Cf) sched) ct).Nodup := by
  obtain ⟨cells, _, _, h3, h4, h5, _⟩ := unbounded_linearizable ct progs sched wf
  rw [h3]
  rw [h4] at h5
  exact (List.nodup_append.mp h5).1

open UB in
/-- the clause that survives of "never reports empty while a completed enqueue has not been
dequeued": if `head.next` is nil — what IsEmpty and a nil Dequeue read — and NO enqueue is between
its reservation and its publication, then every reserved message has been dequeued. (Without the
guard the clause is false: `F2_unbounded_reports_empty_behind_inflight`.) -/
theorem C04_empty_sound_partial (ct : Nat) (progs : List (List Op)) (sched : List Nat) (wf : UBWellFormed ct progs) :
    let c0 : Cf := initCfg Unbounded.algo Unbounded.init progs
    let c := runSched c0 sched
    c.sh.next c.sh.head = none →
    (∀ (i : Nat) (t : Th) (v p : Nat), c.threads[i]? = some t → t.pc ≠ some (Unbounded.PC.enq3 v p)) →
    reservedOf (evTrace c0 sched) = deqd c ct := by
  intro c0 c hnil hquiet
  obtain ⟨cells, _, hI, h3, h4, _, _⟩ := unbounded_linearizable ct progs sched wf
  have : cells = [] := empty_sound_partial hI hnil hquiet
  subst this
  rw [h3]; simpa using h4

open UB in
/-- pooled-node reuse cannot alias a live cell: when Dequeue resets and pools the old sentinel it
is not a node of the queue, not `tail`, not owned by a pending enqueue, and nobody is about to write
its `next` field -/
theorem unbounded_recycled_not_aliased (ct : Nat) (progs : List (List Op)) (sched : List Nat) (wf : UBWellFormed ct progs)
    (i : Nat) (t : Th) (h n : Nat) :
    let c := runSched (initCfg Unbounded.algo Unbounded.init progs : Cf) sched
    c.threads[i]? = some t → t.pc = some (Unbounded.PC.deq4 h n) →
    h ≠ c.sh.head ∧ h ≠ c.sh.tail ∧
    (∀ (j : Nat) (tj : Th), c.threads[j]? = some tj → h ∉ owned tj) ∧
    (∀ (j : Nat) (tj : Th) (v : Nat), c.threads[j]? = some tj → tj.pc ≠ some (Unbounded.PC.enq3 v h)) := by
  intro c hi hpc
  obtain ⟨cells, _, hI, _⟩ := unbounded_linearizable ct progs sched wf
  obtain ⟨h1, h2, h3, h4⟩ := recycled_not_aliased hI hi hpc
  exact ⟨fun e => h1 (by rw [e]; exact List.mem_cons_self), h2, h3, h4⟩

/-- the hypothesis is the executable well-formedness of `C04_full` (consumer = last thread) … -/
theorem wellFormed_hyp (progs : List (List Op)) (h : WellFormed progs = true) :
    UB.UBWellFormed (progs.length - 1) progs := UB.ubWellFormed_of_wellFormed progs h

/-- … and is satisfiable non-trivially: the programs of the F2 witness (2 producers, 1 consumer) -/
example : UB.UBWellFormed 2 F2_progs := wellFormed_hyp F2_progs (by decide)

/-! ### priority mailboxes: heap refinement, all op sequences and all schedules

`container/heap` and goakt's `stableHeap` (one generic model, Model/C04/Heap.lean) refine a priority
queue for every sequence of pushes and pops (Lemmas/C04/HeapCorrect.lean: `push_inv`, `pop_inv`,
`pop_min`, `pop_perm`); the priority function is an ARBITRARY strict weak order (hypothesis).  In the
mailbox models the slice is only touched through `push`/`pop`, so heap order holds in every
reachable configuration of every schedule, and each removal takes a minimum of what the heap holds. -/

open HeapMbox Heap in
/-- `UnboundedPriorityMailBox`: in every reachable configuration the slice is a heap; whatever
`hp.Pop` removes is outranked by nothing that stays, and nothing is lost or invented (permutation) -/
theorem uprio_priority_order (lt : Nat → Nat → Bool) (h : StrictWeak lt) (progs : List (List Op))
    (c : Cfg (Locked.algo lt)) (hr : Reach (Locked.algo lt) (initCfg (Locked.algo lt) Locked.init progs) c) :
    HeapInv lt c.sh.heap ∧
    ∀ x rest, Model.C04.Heap.pop lt c.sh.heap = some (x, rest) →
      (x :: rest).Perm c.sh.heap ∧ (∀ y ∈ rest, lt y x = false) ∧ HeapInv lt rest := by
  have hs := swo_of_strictWeak h
  have hi := locked_heapInv hs progs c hr
  exact ⟨hi, fun _ _ hp => pop_spec hs hi hp⟩

open HeapMbox Heap in
/-- the three intake-based priority mailboxes (bounded, bounded stable, unbounded stable): same
statement for the consumer-private heap, with the entry order `ltItem` -/
theorem intake_priority_order (k : Intake.Conf) (h : StrictWeak k.lt) (progs : List (List Op))
    (c : Cfg (Intake.algo k)) (hr : Reach (Intake.algo k) (initCfg (Intake.algo k) Intake.init progs) c) :
    HeapInv k.ltItem c.sh.heap ∧
    ∀ x rest, Model.C04.Heap.pop k.ltItem c.sh.heap = some (x, rest) →
      (x :: rest).Perm c.sh.heap ∧ (∀ y ∈ rest, k.ltItem y x = false) ∧ HeapInv k.ltItem rest := by
  have hi := intake_heapInv (swo_of_strictWeak h) progs c hr
  exact ⟨hi, fun _ _ hp => pop_spec (swo_ltItem (swo_of_strictWeak h)) hi hp⟩

open HeapMbox in
/-- priority-THEN-ARRIVAL for the stable variants: the removed entry `x` is outranked by nothing, and
an entry of the same priority that stays has a later arrival number -/
theorem stable_priority_then_arrival (k : Intake.Conf) (hst : k.stable = true) (h : StrictWeak k.lt)
    (progs : List (List Op)) (c : Cfg (Intake.algo k))
    (hr : Reach (Intake.algo k) (initCfg (Intake.algo k) Intake.init progs) c)
    (x : Nat × Nat) (rest : List (Nat × Nat)) (hp : Model.C04.Heap.pop k.ltItem c.sh.heap = some (x, rest)) :
    ∀ y ∈ rest, k.lt y.1 x.1 = false ∧ (k.lt x.1 y.1 = true ∨ x.2 ≤ y.2) := by
  intro y hy
  have := (intake_priority_order k h progs c hr).2 x rest hp
  have hyx := this.2.1 y hy
  unfold Intake.Conf.ltItem at hyx
  simp only [hst, ↓reduceIte] at hyx
  rw [stableLt_false] at hyx
  exact ⟨hyx.1, hyx.2.imp id (by omega)⟩

open HeapMbox in
/-- bounded priority mailboxes (repaired code): the length counter never exceeds the capacity, in
every reachable configuration.  (`HeapMbox.bounded_length_le_cap` also has: a producer only increments after
reading a value below the capacity, so `ErrMailboxFull` is answered only when `length ≥ capacity` was read) -/
theorem bounded_priority_capacity (k : Intake.Conf) (cap : Nat) (hk : k.cap = some cap) (progs : List (List Op))
    (c : Cfg (Intake.algo k)) (hr : Reach (Intake.algo k) (initCfg (Intake.algo k) Intake.init progs) c) :
    c.sh.length ≤ (cap : Int) :=
  (bounded_length_le_cap hk progs c hr).1

/-- the strict-weak-order hypothesis is satisfiable non-trivially, with ties: the harness's `d2`
(compare `id / 2`) -/
example : StrictWeak (fun a b => decide (a / 2 < b / 2)) := by
  refine ⟨by simp, ?_, ?_⟩
  · intro a b c h1 h2; simp only [decide_eq_true_eq] at *; omega
  · intro a b c h1 h2 h3 h4; simp only [decide_eq_false_iff_not, decide_eq_true_eq] at *; omega

/-- the slice after a sequence of `Push x` (`some x`) and `Pop` (`none`) -/
def runHeap {α : Type} (lt : α → α → Bool) : List α → List (Option α) → List α
  | xs, [] => xs
  | xs, some x :: ops => runHeap lt (Model.C04.Heap.push lt xs x) ops
  | xs, none :: ops =>
    match Model.C04.Heap.pop lt xs with
    | some (_, rest) => runHeap lt rest ops
    | none => runHeap lt xs ops

/-- sequential refinement for ALL operation sequences: any sequence of pushes and pops keeps heap order — hence
every `Pop` returns a minimum (`Heap.pop_min`) and removes exactly that element (`Heap.pop_perm`) -/
theorem heap_all_sequences {α : Type} {lt : α → α → Bool} (h : Heap.SWO lt) (ops : List (Option α)) :
    ∀ xs, Heap.HeapInv lt xs → Heap.HeapInv lt (runHeap lt xs ops) := by
  induction ops with
  | nil => intro xs hx; exact hx
  | cons op ops ih =>
    intro xs hx
    cases op with
    | some x => exact ih _ (Heap.push_inv h xs x hx)
    | none =>
      simp only [runHeap]
      split
      · next x rest hp => exact ih _ (Heap.pop_inv h xs x rest hx hp)
      · exact ih _ hx

/-! ### `UnboundedPriorityMailBox` after the repair (7b434ae): the counter is exact -/

/-- in every reachable configuration (all programs, all schedules): the critical section is held by
at most one thread; with the lock free `length` equals the heap size; and whenever `length` reads 0
— what `IsEmpty` and the guard of `Dequeue` read — the heap is empty, except possibly for the single
message of an Enqueue that is still inside its critical section and has NOT returned.  Hence no
completed Enqueue is ever hidden from IsEmpty/Dequeue (the clause F6 violated before the repair). -/
theorem uprio_empty_sound (lt : Nat → Nat → Bool) (progs : List (List Op))
    (c : Cfg (Locked.algo lt)) (hr : Reach (Locked.algo lt) (initCfg (Locked.algo lt) Locked.init progs) c) :
    (c.sh.locked = false → c.sh.length = c.sh.heap.length) ∧
    (∀ (i j : Nat) (ti tj : Thread Locked.PC), c.threads[i]? = some ti → c.threads[j]? = some tj →
        LockedInv.atCrit ti.pc = true → LockedInv.atCrit tj.pc = true → i = j) ∧
    (c.sh.length = 0 → c.sh.heap = [] ∨
        (c.sh.heap.length = 1 ∧ ∃ (i : Nat) (t : Thread Locked.PC), c.threads[i]? = some t ∧ t.pc = some .enq2)) := by
  have hI := LockedInv.inv_reach progs c hr
  exact ⟨hI.free, hI.uniq, LockedInv.zero_means_empty hI⟩

/-! ### `NonBlockingBoundedMailbox` (Vyukov bounded ring): structural invariants for all schedules

Owicki–Gries proof through `reach_pcI` (CoreLemmas): `RingInv.P` on the shared state, `RingInv.Jpc` on every program
counter with its locals (a thread's promise `RingInv.J` is `JC` over it), distinct claimed positions (`RingInv.claim`)
between two producers, for any number of producers, one consumer, arbitrary programs and all schedules.  Not stated for the ring: the run as a run of the
reservation queue (the positional statement `ring_fifo_exactly_once` below is stronger). -/

open RingInv in
/-- BOUNDED: in every reachable configuration `rel ≤ dequeuePos ≤ enqueuePos ≤ rel + size`: at most
`size = nextPowerOfTwo(capacity)` positions are reserved and not yet released, whatever the schedule;
free slots carry their next position, reserved ones `p` or `p+1` -/
theorem ring_capacity (ct cap : Nat) (progs : List (List Op)) (wf : RingWF ct progs)
    (c : Cfg Ring.algo) (hr : Reach Ring.algo (initCfg Ring.algo (Ring.init cap) progs) c) :
    2 ≤ c.sh.size ∧ rel c.sh ≤ c.sh.deqPos ∧ c.sh.deqPos ≤ c.sh.enqPos ∧ c.sh.enqPos ≤ rel c.sh + c.sh.size ∧
    (∀ p, c.sh.enqPos ≤ p → p < rel c.sh + c.sh.size → c.sh.seq (p % c.sh.size) = p) ∧
    (∀ p, c.sh.deqPos ≤ p → p < c.sh.enqPos → c.sh.seq (p % c.sh.size) = p ∨ c.sh.seq (p % c.sh.size) = p + 1) := by
  have hP := (ring_inv ct cap progs wf c hr).1
  exact ⟨hP.size2, rel_le _, hP.le1, hP.le2, hP.free, hP.win⟩

open RingInv in
/-- REJECT ONLY WHEN FULL: `Enqueue` answers ErrMailboxFull only from the `Load:seq` step with `dif < 0`;
whenever a thread is at that step and the difference is negative, its position is the current
`enqueuePos` and exactly `size` positions are reserved and unreleased -/
theorem ring_reject_only_when_full (ct cap : Nat) (progs : List (List Op)) (wf : RingWF ct progs)
    (c : Cfg Ring.algo) (hr : Reach Ring.algo (initCfg Ring.algo (Ring.init cap) progs) c)
    (i : Nat) (t : Thread Ring.PC) (v pos : Nat) (hi : c.threads[i]? = some t) (hpc : t.pc = some (.enq2 v pos))
    (hdif : (c.sh.seq (pos % c.sh.size) : Int) - (pos : Int) < 0) :
    pos = c.sh.enqPos ∧ c.sh.enqPos = rel c.sh + c.sh.size := by
  obtain ⟨hP, hJ, _⟩ := ring_inv ct cap progs wf c hr
  exact full_only_when_full hP (hJ i t hi) hpc hdif

open RingInv in
/-- `Dequeue` answers nil only when nothing is reserved or the head position is reserved but unpublished
(the reservation-queue reading of "nothing"; cf. F2) -/
theorem ring_nil_only_when_head_unpublished (ct cap : Nat) (progs : List (List Op)) (wf : RingWF ct progs)
    (c : Cfg Ring.algo) (hr : Reach Ring.algo (initCfg Ring.algo (Ring.init cap) progs) c)
    (i : Nat) (t : Thread Ring.PC) (pos : Nat) (hi : c.threads[i]? = some t) (hpc : t.pc = some (.deq2 pos))
    (hdif : (c.sh.seq (pos % c.sh.size) : Int) - ((pos : Int) + 1) < 0) :
    pos = c.sh.deqPos ∧ (c.sh.deqPos = c.sh.enqPos ∨
      (c.sh.deqPos < c.sh.enqPos ∧ c.sh.seq (c.sh.deqPos % c.sh.size) = c.sh.deqPos)) := by
  obtain ⟨hP, hJ, _⟩ := ring_inv ct cap progs wf c hr
  exact nil_only_when_head_unpublished hP (hJ i t hi) hpc hdif

open RingInv in
/-- NO OVERWRITE / no two owners: a producer's CAS succeeds only for a position whose slot the consumer
has released, and two producers never hold the same reserved position -/
theorem ring_no_overwrite (ct cap : Nat) (progs : List (List Op)) (wf : RingWF ct progs)
    (c : Cfg Ring.algo) (hr : Reach Ring.algo (initCfg Ring.algo (Ring.init cap) progs) c) :
    (∀ (i : Nat) (t : Thread Ring.PC) (v pos : Nat), c.threads[i]? = some t → t.pc = some (.enq3 v pos) →
        c.sh.enqPos = pos → pos < rel c.sh + c.sh.size) ∧
    (∀ (i j : Nat) (ti tj : Thread Ring.PC) (v p v' p' : Nat), i ≠ j → c.threads[i]? = some ti → c.threads[j]? = some tj →
        ti.pc = some (.enq4 v p) → tj.pc = some (.enq4 v' p') → p ≠ p') := by
  obtain ⟨hP, hJ, hK⟩ := ring_inv ct cap progs wf c hr
  exact ⟨fun i t v pos hi hpc hcas => reserve_only_released hP (hJ i t hi) hpc hcas,
         fun i j ti tj v p v' p' hij hi hj h1 h2 e => hK i j ti tj hij hi hj _ _ p h1 h2 rfl (by rw [e]; rfl)⟩

/-- the hypothesis is satisfiable non-trivially: the last thread is the only one that dequeues -/
example : RingInv.RingWF 2 [[.enq 1 0, .len], [.enq 2 0], [.deq, .emp, .deq]] :=
  fun i p hp hi => ((wellFormed_hyp _ (by decide)).each i p hp).2.2 hi

open RingInv in
/-- EXACTLY-ONCE and FIFO for the ring, every schedule: with `resv` the messages in the order of the
successful CAS on `enqueuePos` (the reservation order), `enqueuePos` counts them, every reserved and
unclaimed position still holds its message in its slot, and the values returned by `Dequeue` (in
order, including one claimed but not yet returned) are exactly the FIRST `dequeuePos` messages of
`resv` — nothing lost, nothing duplicated, nothing reordered; no assumption that messages differ. -/
theorem ring_fifo_exactly_once (ct cap : Nat) (progs : List (List Op)) (wf : RingWF ct progs) (sched : List Nat) :
    let c0 : Cf := initCfg Ring.algo (Ring.init cap) progs
    let c := runSched c0 sched
    let resv := resvTrace c0 sched
    resv.length = c.sh.enqPos ∧
    (∀ p, c.sh.deqPos ≤ p → p < c.sh.enqPos → c.sh.ctx (p % c.sh.size) = resv[p]?) ∧
    (∀ (t : Thread Ring.PC), c.threads[ct]? = some t → deqdT t = resv.take c.sh.deqPos) := by
  intro c0 c resv
  have h := tr_run ct cap progs wf sched c0 [] Reach.init (tr_init ct cap progs)
  simp only [List.nil_append] at h
  exact ⟨h.len, h.ctx, h.deqd⟩

/-! ### `UnboundedSegmentedMailbox` (repaired code): slot discipline for all schedules

Owicki–Gries proof through `reach_pc` (CoreLemmas, on top of `reach_og2`): `SegInv.P`/`P2` on the shared state, `Jpc`/`J2pc`
on every program counter, distinct slot claims (`claim`) between two threads; any number of producers, one consumer,
arbitrary programs, all schedules. -/

open SegInv in
/-- THE HEAD-ADVANCE RULE (what F7 violated): whenever the consumer is about to move `head` to the next
segment (`Store:head`), or has found the segment exhausted (`Load:next`), ALL `segSize` slots of the
segment it leaves have been consumed; and in every segment `deqIdx ≤ min(writeIdx, segSize)` -/
theorem segmented_head_advance_rule (ct n : Nat) (progs : List (List Op)) (wf : SegWF ct progs)
    (c : Cfg Segmented.algo) (hr : Reach Segmented.algo (initCfg Segmented.algo (Segmented.init n) progs) c) :
    (∀ g, (c.sh.segs g).deqIdx ≤ c.sh.segSize ∧ (c.sh.segs g).deqIdx ≤ (c.sh.segs g).writeIdx) ∧
    (∀ (i : Nat) (t : Thread Segmented.PC) (seg nx : Nat), c.threads[i]? = some t → t.pc = some (.d9 seg nx) →
        seg = c.sh.head ∧ (c.sh.segs seg).deqIdx = c.sh.segSize) ∧
    (∀ (i : Nat) (t : Thread Segmented.PC) (seg : Nat), c.threads[i]? = some t → t.pc = some (.d8 seg) →
        seg = c.sh.head ∧ (c.sh.segs seg).deqIdx = c.sh.segSize) := by
  obtain ⟨⟨hP, _⟩, hJ, _⟩ := seg_inv ct n progs wf c hr
  exact ⟨hP.deqLe, fun i t seg nx hi hpc => ((hJ i t hi).pc _ hpc).1, fun i t seg hi hpc => ((hJ i t hi).pc _ hpc).1⟩

open SegInv in
/-- NO MESSAGE CAN BE SKIPPED: a producer about to store its message targets a slot that is reserved,
still empty and NOT YET CONSUMED (`deqIdx ≤ idx < segSize`, so by the head-advance rule the consumer
has not left that segment and will reach the slot); two producers never hold the same slot; and the
consumer only clears / counts a slot in which it has seen a message -/
theorem segmented_no_skipped_slot (ct n : Nat) (progs : List (List Op)) (wf : SegWF ct progs)
    (c : Cfg Segmented.algo) (hr : Reach Segmented.algo (initCfg Segmented.algo (Segmented.init n) progs) c) :
    (∀ (i : Nat) (t : Thread Segmented.PC) (v g idx : Nat), c.threads[i]? = some t → t.pc = some (.e3 v g idx) →
        idx < c.sh.segSize ∧ idx < (c.sh.segs g).writeIdx ∧ (c.sh.segs g).deqIdx ≤ idx ∧ (c.sh.segs g).data idx = none) ∧
    (∀ (i j : Nat) (ti tj : Thread Segmented.PC) (v g idx v' g' idx' : Nat), i ≠ j → c.threads[i]? = some ti →
        c.threads[j]? = some tj → ti.pc = some (.e3 v g idx) → tj.pc = some (.e3 v' g' idx') → ¬ (g = g' ∧ idx = idx')) ∧
    (∀ (i : Nat) (t : Thread Segmented.PC) (seg deq v : Nat), c.threads[i]? = some t → t.pc = some (.d5 seg deq v) →
        seg = c.sh.head ∧ deq = (c.sh.segs seg).deqIdx ∧ deq < c.sh.segSize ∧ (c.sh.segs seg).data deq = some v) := by
  obtain ⟨_, hJ, hK⟩ := seg_inv ct n progs wf c hr
  refine ⟨fun i t v g idx hi hpc => ((hJ i t hi).pc _ hpc).1,
    fun i j ti tj v g idx v' g' idx' hij hi hj h1 h2 e =>
      hK i j ti tj hij hi hj _ _ _ h1 h2 rfl (by rw [e.1, e.2]; rfl), ?_⟩
  intro i t seg deq v hi hpc
  obtain ⟨a, b, c', _, e⟩ := ((hJ i t hi).pc _ hpc).1
  exact ⟨a, b, c', e⟩

open SegInv in
/-- the list of segments, every reachable configuration: every linked segment except the last is full
and points to the segment one position later; unlinked (freshly allocated or discarded) segments are
untouched; the consumer has fully consumed the segments before `head` and not touched those after -/
theorem segmented_segment_list (ct n : Nat) (progs : List (List Op)) (wf : SegWF ct progs)
    (c : Cfg Segmented.algo) (hr : Reach Segmented.algo (initCfg Segmented.algo (Segmented.init n) progs) c) :
    P2 c.sh := (seg_inv ct n progs wf c hr).1.2

open SegInv in
/-- EXACTLY-ONCE and FIFO for the segmented mailbox, every schedule: with `resv` the messages in the
order in which `Add:writeIdx` handed out slots (the reservation order), the number of reservations
is `ord(last) * segSize + min(writeIdx(last), segSize)`, and the values returned by `Dequeue` (in
order, including one taken out of its slot but not yet returned) are exactly the first
`consumed (+1)` messages of `resv`, where `consumed = ord(head) * segSize + deqIdx(head)` — nothing
lost, nothing duplicated, nothing reordered, across any number of segment boundaries. -/
theorem segmented_fifo_exactly_once (ct n : Nat) (progs : List (List Op)) (wf : SegWF ct progs) (sched : List Nat) :
    let c0 : Cf := initCfg Segmented.algo (Segmented.init n) progs
    let c := runSched c0 sched
    let resv := resvTrace c0 sched
    resv.length = (c.sh.segs c.sh.last).ord * c.sh.segSize + min (c.sh.segs c.sh.last).writeIdx c.sh.segSize ∧
    (∀ (t : Thread Segmented.PC), c.threads[ct]? = some t →
        consumed c.sh + inflight t.pc ≤ resv.length ∧ deqdT t = resv.take (consumed c.sh + inflight t.pc)) ∧
    (∀ g idx, (c.sh.segs g).linked = true → idx < c.sh.segSize → consumed c.sh ≤ pos c.sh g idx → pos c.sh g idx < resv.length →
        (c.sh.segs g).data idx = none ∨ (c.sh.segs g).data idx = resv[pos c.sh g idx]?) := by
  intro c0 c resv
  have h := tr_runS ct n progs wf sched c0 [] Reach.init (tr_initS ct n progs)
  simp only [List.nil_append] at h
  exact ⟨h.len, fun t ht => ⟨h.bound t ht, h.deqd t ht⟩, h.data⟩

/-! ### the Treiber intake of the bounded / stable priority mailboxes: conservation for all schedules -/

open IntakeInv in
/-- in every reachable configuration the chain from `intake.head` through `next` is the (ghost) stack, a
drained batch is disjoint from it, and every thread's locals describe the in-place reversal and the
walk exactly (`IntakeInv.P/J/K`, Owicki–Gries) -/
theorem intake_invariants (k : Intake.Conf) (ct : Nat) (progs : List (List Op)) (wf : IntakeWF ct progs)
    (c : Cfg (Intake.algo k)) (hr : Reach (Intake.algo k) (initCfg (Intake.algo k) Intake.init progs) c) :
    ChainO c.sh.next c.sh.head c.sh.stack ∧ c.sh.stack.Nodup ∧ c.sh.batch.Nodup ∧ (∀ x ∈ c.sh.stack, x ∉ c.sh.batch) :=
  let h := (intake_inv (k := k) ct progs wf c hr).1
  ⟨h.st, h.nd, h.bnd, h.dj⟩

open IntakeInv in
/-- CONSERVATION between Enqueue and the heap, every schedule: with `pushed` the messages in the order of
the successful `CAS:head` (acceptance order) and `inserted` those the consumer has moved into the heap,
`inserted ++ (rest of the current batch) ++ reverse(stack) = pushed`: the heap receives exactly the
accepted messages, each once, in acceptance order; for the stable variants the arrival number given to
the next message is the number of messages inserted so far (so arrival number = position in `pushed`) -/
theorem intake_conservation (k : Intake.Conf) (ct : Nat) (progs : List (List Op)) (wf : IntakeWF ct progs) (sched : List Nat) :
    let c0 : Cfg (Intake.algo k) := initCfg (Intake.algo k) Intake.init progs
    let c := runSched c0 sched
    let evs := traceI c0 sched
    insertedOf evs ++ c.sh.batch.drop c.sh.done ++ c.sh.stack.reverse = pushedOf evs ∧
    (k.stable = true → c.sh.seq = (insertedOf evs).length) := by
  intro c0 c evs
  have h := tri_run (k := k) ct progs wf sched c0 [] Reach.init ⟨rfl, fun _ => rfl, List.Perm.refl _⟩
  simp only [List.nil_append] at h
  exact ⟨h.cons, h.seq⟩

open IntakeInv in
/-- EXACTLY-ONCE for the intake-based priority mailboxes, every schedule (conservation + heap permutation
lemmas + "returned = popped"): the values returned by Dequeue (including one popped but not yet
returned), the heap, the rest of the current batch and the stack together are a PERMUTATION of the
accepted messages (`pushedOf`, the successful `CAS:head` in order).  With `intake_priority_order` /
`stable_priority_then_arrival` (each pop is a minimum; arrival number = acceptance index) this is the
full sequential-queue refinement of these mailboxes. -/
theorem intake_exactly_once (k : Intake.Conf) (ct : Nat) (progs : List (List Op)) (wf : IntakeWF ct progs) (sched : List Nat)
    (t : Thread Intake.PC) (ht : (runSched (initCfg (Intake.algo k) Intake.init progs) sched).threads[ct]? = some t) :
    (deqdT t ++ (runSched (initCfg (Intake.algo k) Intake.init progs) sched).sh.heap.map Prod.fst ++
      (runSched (initCfg (Intake.algo k) Intake.init progs) sched).sh.batch.drop
        (runSched (initCfg (Intake.algo k) Intake.init progs) sched).sh.done ++
      (runSched (initCfg (Intake.algo k) Intake.init progs) sched).sh.stack.reverse).Perm
      (pushedOf (traceI (initCfg (Intake.algo k) Intake.init progs) sched)) :=
  exactly_once (k := k) ct progs wf sched t ht

/-! ### UnboundedFairMailbox (repaired): the activation protocol and the counting identity, for ALL schedules

`FairInv.ActInv c`: every sender with counted messages (`pending > 0`) is active, or some thread is parked at a
site from which it will still (re)check that sender (the producer from its `Add:pending` = 1 through the
publication to its `CAS:active`; the consumer between `Store:active(false)` and its re-check).  Every atomic step
of every thread preserves it except ONE: the nil-branch re-check (`i3`) evaluated while `pending > 0`,
`active = false` and `length ≤ 0` (`FairInv.guardMiss`).  `FairInv.ReachNM` = reachable without such a step.
The counting identity (`fair_counting_identity_partial`) excludes that step on every run on which no message is
consumed before it is counted (`FairInv.ReachNU`); `fair_never_consumes_uncounted` (below) shows that EVERY run of the
repaired code is such a run, so `fair_counting_identity` and `fair_no_stranded_sender` hold for all schedules.  The
theorems named `_partial` keep their hypothesis on the run (they are the lemmas the unconditional ones are made of).
NOT proved: that an active sender is in the active list exactly once (the
list structure), hence not yet "every accepted message is eventually returned by Dequeue" for the composite. -/

theorem fair_activation_protocol_partial (progs : List (List Op)) (c : Cfg Fair.algo)
    (h : FairInv.ReachNM (initCfg Fair.algo Fair.init progs) c) :
    ∀ k, (c.sh.boxes k).pending > 0 → (c.sh.boxes k).active = true ∨ FairInv.someoneChecks c k :=
  FairInv.actInv_reach progs c h

/-- no stranded sender: when all threads have finished (nobody is parked anywhere) and no `guardMiss` step
was taken, every sender with counted messages is active -/
theorem fair_no_stranded_sender_when_quiescent_partial (progs : List (List Op)) (c : Cfg Fair.algo)
    (h : FairInv.ReachNM (initCfg Fair.algo Fair.init progs) c) (hd : allDone c = true) :
    ∀ k, (c.sh.boxes k).pending > 0 → (c.sh.boxes k).active = true := by
  intro k hp
  rcases FairInv.actInv_reach progs c h k hp with ha | hc
  · exact ha
  · exact absurd hc (FairInv.quiescent_no_check c hd k)

/-- THE COUNTING IDENTITY, for every schedule on which no message is consumed before it is counted
(`FairInv.ReachNU`: the consumer's `Add:pending(−1)` finds `pending ≥ 1`, finalizeSender's `remaining < 0`
branch is not taken), any number of producers, one consumer `ct`:
`length = Σ_{k<K} pending_k + #{threads between Add:length(+1) and Add:pending(+1)} − #{threads between
Add:length(−1) and Add:pending(−1)}` for a bound `K` beyond which every `pending` is 0, and every `pending`
is non-negative.  Before 762e7d2 the code violated the hypothesis (F9). -/
theorem fair_counting_identity_partial (ct : Nat) (progs : List (List Op)) (wf : FairInv.FairWF ct progs) (c : Cfg Fair.algo)
    (h : FairInv.ReachNU (initCfg Fair.algo Fair.init progs) c) :
    (∃ K, FairInv.Supp c.sh K ∧ c.sh.length = FairInv.sumP K c.sh + FairInv.cnt c.threads) ∧
    (∀ k, 0 ≤ (c.sh.boxes k).pending) :=
  ⟨(FairInv.countInv_reach ct progs wf.noDeq c h).ident, (FairInv.countInv_reach ct progs wf.noDeq c h).nonneg⟩

/-- NO STRANDED SENDER on those runs: the identity makes the one bad step of `fair_activation_protocol_partial`
impossible (`pending_k > 0` implies `length > 0` at the re-check), so in every such configuration a sender with
counted messages is active or about to be (re)checked, and active once all threads have finished -/
theorem fair_no_stranded_sender_partial (ct : Nat) (progs : List (List Op)) (wf : FairInv.FairWF ct progs) (c : Cfg Fair.algo)
    (h : FairInv.ReachNU (initCfg Fair.algo Fair.init progs) c) :
    (∀ k, (c.sh.boxes k).pending > 0 → (c.sh.boxes k).active = true ∨ FairInv.someoneChecks c k) ∧
    (allDone c = true → ∀ k, (c.sh.boxes k).pending > 0 → (c.sh.boxes k).active = true) := by
  have hnm := FairInv.reachNU_reachNM ct progs wf.noDeq c h
  exact ⟨fair_activation_protocol_partial progs c hnm, fun hd => fair_no_stranded_sender_when_quiescent_partial progs c hnm hd⟩

/-! ### the repaired fair mailbox never consumes a message before it is counted — ALL schedules

`FairInv.fair_og` (Owicki–Gries over ghost fields of the model: per sender the reservation order `resvL`, the counting
order `cntL`, the numbers of sub-dequeues `deqd`, of decrements `decd`, and `held` = taken and not yet subtracted): the
sub-queue's head is the `deqd`-th node of `0 :: resvL`, links point to successors, no repetition, everything reserved
has been counted (`Enqueue` counts before it publishes), `pending = |cntL| − decd`, `deqd = decd + held`.  So
`deqd ≤ |resvL| ≤ |cntL|`, and with `held ≥ 1` at the consumer's decrement `pending ≥ 1` there.  Hypotheses: the usage
the property quantifies over — distinct non-zero message ids (`UB.UBWellFormed`), only thread `ct` consumes
(`FairInv.FairWF`); both follow from `WellFormed progs = true` (`fair_wellFormed_hyp`).  The first already says that only
`ct` dequeues, and the lemmas under these theorems (`FairInv.fair_og`, `reach_noNeg`, `countInv_reach`) assume no more. -/

/-- every reachable configuration is reached without consuming an uncounted message: at the consumer's
`Add:pending(−1)` of sender `k` `pending_k ≥ 1`, and no thread ever stands in finalizeSender's `remaining < 0` branch -/
theorem fair_never_consumes_uncounted (ct : Nat) (progs : List (List Op)) (wf : UB.UBWellFormed ct progs)
    (wf2 : FairInv.FairWF ct progs) (c : Cfg Fair.algo) (h : Reach Fair.algo (initCfg Fair.algo Fair.init progs) c) :
    FairInv.ReachNU (initCfg Fair.algo Fair.init progs) c ∧
    (∀ (i : Nat) (t : Thread Fair.PC) (k n : Nat), c.threads[i]? = some t →
      (t.pc = some (.j2 k n) → 1 ≤ (c.sh.boxes k).pending) ∧ t.pc ≠ some (.j3 k n)) := by
  exact ⟨FairInv.reach_reachNU ct progs wf c h, fun i t k n ht =>
    ⟨fun hpc => of_decide_eq_true (FairInv.reach_noNeg ct progs wf c h ht hpc),
      fun hpc => nomatch FairInv.reach_noNeg ct progs wf c h ht hpc⟩⟩

/-- THE COUNTING IDENTITY for every schedule (no hypothesis on the run) -/
theorem fair_counting_identity (ct : Nat) (progs : List (List Op)) (wf : UB.UBWellFormed ct progs)
    (wf2 : FairInv.FairWF ct progs) (c : Cfg Fair.algo) (h : Reach Fair.algo (initCfg Fair.algo Fair.init progs) c) :
    (∃ K, FairInv.Supp c.sh K ∧ c.sh.length = FairInv.sumP K c.sh + FairInv.cnt c.threads) ∧
    (∀ k, 0 ≤ (c.sh.boxes k).pending) :=
  fair_counting_identity_partial ct progs wf2 c (FairInv.reach_reachNU ct progs wf c h)

/-- NO STRANDED SENDER for every schedule: in every reachable configuration a sender with counted messages is
active or some thread is parked where it will still (re)check it; when all threads have finished it is active -/
theorem fair_no_stranded_sender (ct : Nat) (progs : List (List Op)) (wf : UB.UBWellFormed ct progs)
    (wf2 : FairInv.FairWF ct progs) (c : Cfg Fair.algo) (h : Reach Fair.algo (initCfg Fair.algo Fair.init progs) c) :
    (∀ k, (c.sh.boxes k).pending > 0 → (c.sh.boxes k).active = true ∨ FairInv.someoneChecks c k) ∧
    (allDone c = true → ∀ k, (c.sh.boxes k).pending > 0 → (c.sh.boxes k).active = true) :=
  fair_no_stranded_sender_partial ct progs wf2 c (FairInv.reach_reachNU ct progs wf c h)

/-- per sender, for every schedule: the sub-queue has dequeued no more than it reserved, reserved no more than was
counted, and the counter is exactly counted minus subtracted -/
theorem fair_subqueue_accounting (ct : Nat) (progs : List (List Op)) (wf : UB.UBWellFormed ct progs)
    (wf2 : FairInv.FairWF ct progs) (c : Cfg Fair.algo) (h : Reach Fair.algo (initCfg Fair.algo Fair.init progs) c) (k : Nat) :
    (c.sh.boxes k).deqd ≤ (c.sh.boxes k).resvL.length ∧ (c.sh.boxes k).resvL.length ≤ (c.sh.boxes k).cntL.length ∧
    (c.sh.boxes k).pending = ((c.sh.boxes k).cntL.length : Int) - ((c.sh.boxes k).decd : Int) ∧
    (c.sh.boxes k).deqd = (c.sh.boxes k).decd + (c.sh.boxes k).held ∧ (0 :: (c.sh.boxes k).resvL).Nodup := by
  have hI := (FairInv.fair_og ct progs wf c h).1 k
  exact ⟨hI.deqd_le, hI.resv_le, hI.pend, hI.cons, hI.nodup⟩

/-- the executable `WellFormed` of `C04_full` implies both usage hypotheses (consumer = last thread) -/
theorem fair_wellFormed_hyp (progs : List (List Op)) (h : WellFormed progs = true) :
    UB.UBWellFormed (progs.length - 1) progs ∧ FairInv.FairWF (progs.length - 1) progs := by
  refine ⟨UB.ubWellFormed_of_wellFormed progs h, fun i p hp hi op hop => ?_⟩
  have := UB.wellFormed_producers h hp hi op hop
  cases op <;> first | rfl | cases this

/-- the hypothesis is not vacuous: the F3 schedule (three producers of one sender, the consumer running into the
nil-branch re-check) and the F9 schedule (late activation; uncounted consumption before 762e7d2) consume nothing
uncounted on the repaired model, so their final configurations are covered by `fair_counting_identity_partial` and
`fair_no_stranded_sender_partial` -/
theorem fair_hypothesis_instances :
    FairInv.ReachNU (initCfg Fair.algo Fair.init F3_progs) (runOf .fair F3_progs F3_sched) ∧
    FairInv.FairWF 3 F3_progs ∧
    FairInv.runNU (initCfg Fair.algo Fair.init F9_progs) F9_sched = true := by
  have wf := fair_wellFormed_hyp F3_progs (by decide)
  have wf9 := fair_wellFormed_hyp F9_progs (by decide)
  exact ⟨(fair_never_consumes_uncounted 3 F3_progs wf.1 wf.2 _ (reach_runSched _ _ .init _)).1, wf.2,
    FairInv.runNU_of_reach (FairInv.reach_noNeg _ F9_progs wf9.1) _ _ .init⟩

/-- the sub-queue of sender `k` is an UnboundedMailbox driven by nothing but UnboundedMailbox steps taken
on behalf of `k`: every step of the fair mailbox leaves it alone or is exactly one step of that mailbox -/
theorem fair_subqueue_frame (s : Fair.Sh) (pc : Fair.PC) (k : Nat) :
    ((Fair.exec s pc).1.boxes k).mb = (s.boxes k).mb ∨
    ∃ first upc, pc = .ub k first upc ∧ ((Fair.exec s pc).1.boxes k).mb = (Unbounded.exec (s.boxes k).mb upc).1 :=
  FairInv.subqueue_frame s pc k

/-! ### one citation point: every mailbox kind refines its documented sequential queue

`Refines m` collects, per mailbox kind, the all-schedule theorems above in the form other properties
(C01/C02/C03) can cite: what a run of the mailbox's small-step model guarantees about the values
`Dequeue` returns relative to the reservation (acceptance) order, plus capacity / emptiness facts.
Hypotheses are the usage assumptions of each theorem (one consumer thread `ct`; for UnboundedMailbox
additionally each message context enqueued once; a strict weak order as priority function). -/

/-- Treiber-intake conservation, as cited by `Refines` for the three intake-based mailboxes -/
def IntakeConserves (k : Intake.Conf) : Prop :=
  ∀ (ct : Nat) (progs : List (List Op)) (sched : List Nat), IntakeInv.IntakeWF ct progs →
    IntakeInv.insertedOf (IntakeInv.traceI (initCfg (Intake.algo k) Intake.init progs) sched) ++
        (runSched (initCfg (Intake.algo k) Intake.init progs) sched).sh.batch.drop
          (runSched (initCfg (Intake.algo k) Intake.init progs) sched).sh.done ++
        (runSched (initCfg (Intake.algo k) Intake.init progs) sched).sh.stack.reverse =
      IntakeInv.pushedOf (IntakeInv.traceI (initCfg (Intake.algo k) Intake.init progs) sched)

def Refines : MB → Prop
  | .unbounded =>
    -- FIFO reservation queue: Dequeue's values = the specification's dequeues = a prefix of the reservation
    -- sequence, never repeated; accepted messages are dequeued or READY
    ∀ (ct : Nat) (progs : List (List Op)) (sched : List Nat), UB.UBWellFormed ct progs →
      ∃ cells : List Cell,
        RQ.run [] (UB.evTrace (initCfg Unbounded.algo Unbounded.init progs) sched) = some cells ∧
        UB.deqd (runSched (initCfg Unbounded.algo Unbounded.init progs) sched) ct =
          dequeuedOf (UB.evTrace (initCfg Unbounded.algo Unbounded.init progs) sched) ∧
        reservedOf (UB.evTrace (initCfg Unbounded.algo Unbounded.init progs) sched) =
          dequeuedOf (UB.evTrace (initCfg Unbounded.algo Unbounded.init progs) sched) ++ cells.map Cell.val ∧
        (reservedOf (UB.evTrace (initCfg Unbounded.algo Unbounded.init progs) sched)).Nodup
  | .ring cap =>
    -- bounded FIFO: Dequeue's values = the first dequeuePos reservations; at most `size` reserved and unreleased
    ∀ (ct : Nat) (progs : List (List Op)) (sched : List Nat), RingInv.RingWF ct progs →
      let c := runSched (initCfg Ring.algo (Ring.init cap) progs) sched
      let resv := RingInv.resvTrace (initCfg Ring.algo (Ring.init cap) progs) sched
      resv.length = c.sh.enqPos ∧ c.sh.enqPos ≤ RingInv.rel c.sh + c.sh.size ∧
      (∀ (t : Thread Ring.PC), c.threads[ct]? = some t → RingInv.deqdT t = resv.take c.sh.deqPos)
  | .segmented n =>
    -- unbounded FIFO across segments: Dequeue's values = the first `consumed` reservations
    ∀ (ct : Nat) (progs : List (List Op)) (sched : List Nat), SegInv.SegWF ct progs →
      let c := runSched (initCfg Segmented.algo (Segmented.init n) progs) sched
      let resv := SegInv.resvTrace (initCfg Segmented.algo (Segmented.init n) progs) sched
      ∀ (t : Thread Segmented.PC), c.threads[ct]? = some t →
        SegInv.deqdT t = resv.take (SegInv.consumed c.sh + SegInv.inflight t.pc)
  | .uprio lt =>
    -- priority queue under a lock: heap order always, removal = a minimum and exactly that element; exact counter
    StrictWeak lt → ∀ (progs : List (List Op)) (c : Cfg (Locked.algo lt)),
      Reach (Locked.algo lt) (initCfg (Locked.algo lt) Locked.init progs) c →
        Heap.HeapInv lt c.sh.heap ∧
        (∀ x rest, Model.C04.Heap.pop lt c.sh.heap = some (x, rest) → (x :: rest).Perm c.sh.heap ∧ ∀ y ∈ rest, lt y x = false) ∧
        (c.sh.locked = false → c.sh.length = c.sh.heap.length)
  | .usprio lt =>
    IntakeConserves { cap := none, stable := true, lt } ∧
    (StrictWeak lt → ∀ (progs : List (List Op)) (c : Cfg (Intake.algo { cap := none, stable := true, lt })),
      Reach _ (initCfg _ Intake.init progs) c →
        ∀ x rest, Model.C04.Heap.pop (Intake.Conf.ltItem { cap := none, stable := true, lt }) c.sh.heap = some (x, rest) →
          (x :: rest).Perm c.sh.heap ∧ ∀ y ∈ rest, lt y.1 x.1 = false ∧ (lt x.1 y.1 = true ∨ x.2 ≤ y.2))
  | .bprio cap lt =>
    IntakeConserves { cap := some cap, stable := false, lt } ∧
    (StrictWeak lt → ∀ (progs : List (List Op)) (c : Cfg (Intake.algo { cap := some cap, stable := false, lt })),
      Reach _ (initCfg _ Intake.init progs) c →
        c.sh.length ≤ (cap : Int) ∧
        ∀ x rest, Model.C04.Heap.pop (Intake.Conf.ltItem { cap := some cap, stable := false, lt }) c.sh.heap = some (x, rest) →
          (x :: rest).Perm c.sh.heap ∧ ∀ y ∈ rest, lt y.1 x.1 = false)
  | .bsprio cap lt =>
    IntakeConserves { cap := some cap, stable := true, lt } ∧
    (StrictWeak lt → ∀ (progs : List (List Op)) (c : Cfg (Intake.algo { cap := some cap, stable := true, lt })),
      Reach _ (initCfg _ Intake.init progs) c →
        c.sh.length ≤ (cap : Int) ∧
        ∀ x rest, Model.C04.Heap.pop (Intake.Conf.ltItem { cap := some cap, stable := true, lt }) c.sh.heap = some (x, rest) →
          (x :: rest).Perm c.sh.heap ∧ ∀ y ∈ rest, lt y.1 x.1 = false ∧ (lt x.1 y.1 = true ∨ x.2 ≤ y.2))
  | .fair =>
    -- per-sender queues + active list.  (1) each per-sender sub-queue is an UnboundedMailbox: it refines the
    -- FIFO reservation queue in isolation, and (2) inside the fair mailbox it is driven by UnboundedMailbox
    -- steps only; (3) activation protocol: in every configuration reachable without a `guardMiss` step, a
    -- sender with counted messages is active or about to be (re)checked.  The composite exactly-once statement is
    -- checked by the oracle on every run, not proved; see design/C04.md for what is missing
    (∀ (ct tid : Nat) (c : UB.Cf) (cells : List Cell), UB.Inv ct c cells →
      ∃ cells', UB.specStep cells (UB.stepEv c tid) = some cells' ∧ UB.Inv ct (stepCfg c tid) cells') ∧
    (∀ (s : Fair.Sh) (pc : Fair.PC) (k : Nat),
      ((Fair.exec s pc).1.boxes k).mb = (s.boxes k).mb ∨
      ∃ first upc, pc = .ub k first upc ∧ ((Fair.exec s pc).1.boxes k).mb = (Unbounded.exec (s.boxes k).mb upc).1) ∧
    (∀ (progs : List (List Op)) (c : Cfg Fair.algo), FairInv.ReachNM (initCfg Fair.algo Fair.init progs) c →
      ∀ k, (c.sh.boxes k).pending > 0 → (c.sh.boxes k).active = true ∨ FairInv.someoneChecks c k) ∧
    -- (4) on runs without uncounted consumption: the counting identity, and no stranded sender outright
    (∀ (ct : Nat) (progs : List (List Op)), FairInv.FairWF ct progs → ∀ (c : Cfg Fair.algo),
      FairInv.ReachNU (initCfg Fair.algo Fair.init progs) c →
        (∃ K, FairInv.Supp c.sh K ∧ c.sh.length = FairInv.sumP K c.sh + FairInv.cnt c.threads) ∧
        (∀ k, 0 ≤ (c.sh.boxes k).pending) ∧
        (∀ k, (c.sh.boxes k).pending > 0 → (c.sh.boxes k).active = true ∨ FairInv.someoneChecks c k) ∧
        (allDone c = true → ∀ k, (c.sh.boxes k).pending > 0 → (c.sh.boxes k).active = true)) ∧
    -- (5) UNCONDITIONAL, every schedule (distinct non-zero ids, one consumer): no message is consumed before it is
    -- counted, hence the counting identity and no stranded sender in every reachable configuration
    (∀ (ct : Nat) (progs : List (List Op)), UB.UBWellFormed ct progs → FairInv.FairWF ct progs → ∀ (c : Cfg Fair.algo),
      Reach Fair.algo (initCfg Fair.algo Fair.init progs) c →
        FairInv.ReachNU (initCfg Fair.algo Fair.init progs) c ∧
        (∃ K, FairInv.Supp c.sh K ∧ c.sh.length = FairInv.sumP K c.sh + FairInv.cnt c.threads) ∧
        (∀ k, 0 ≤ (c.sh.boxes k).pending) ∧
        (∀ k, (c.sh.boxes k).pending > 0 → (c.sh.boxes k).active = true ∨ FairInv.someoneChecks c k) ∧
        (allDone c = true → ∀ k, (c.sh.boxes k).pending > 0 → (c.sh.boxes k).active = true))

/-- EVERY mailbox kind refines its documented sequential queue, in the sense of `Refines`
(the fair mailbox: its per-sender sub-queues, its activation protocol and its counting identity; its composite
exactly-once statement is tied and judged on every run, not proved) -/
theorem C04_all_refine : ∀ m : MB, Refines m := by
  intro m
  cases m with
  | unbounded =>
    intro ct progs sched wf
    obtain ⟨cells, h1, _, h3, h4, h5, _⟩ := unbounded_linearizable ct progs sched wf
    exact ⟨cells, h1, h3, h4, h5⟩
  | ring cap =>
    intro ct progs sched wf
    obtain ⟨h1, _, h3⟩ := ring_fifo_exactly_once ct cap progs wf sched
    have hr := reach_runSched (initCfg Ring.algo (Ring.init cap) progs) _ Reach.init sched
    exact ⟨h1, (ring_capacity ct cap progs wf _ hr).2.2.2.1, h3⟩
  | segmented n =>
    intro ct progs sched wf c resv t ht
    exact ((segmented_fifo_exactly_once ct n progs wf sched).2.1 t ht).2
  | uprio lt =>
    intro hsw progs c hr
    obtain ⟨h1, h2⟩ := uprio_priority_order lt hsw progs c hr
    exact ⟨h1, fun x rest hp => ⟨(h2 x rest hp).1, (h2 x rest hp).2.1⟩, (uprio_empty_sound lt progs c hr).1⟩
  | usprio lt =>
    refine ⟨fun ct progs sched wf => (intake_conservation _ ct progs wf sched).1, ?_⟩
    intro hsw progs c hr x rest hp
    have h := (intake_priority_order { cap := none, stable := true, lt } hsw progs c hr).2 x rest hp
    exact ⟨h.1, stable_priority_then_arrival { cap := none, stable := true, lt } rfl hsw progs c hr x rest hp⟩
  | bprio cap lt =>
    refine ⟨fun ct progs sched wf => (intake_conservation _ ct progs wf sched).1, ?_⟩
    intro hsw progs c hr
    refine ⟨bounded_priority_capacity { cap := some cap, stable := false, lt } cap rfl progs c hr, ?_⟩
    intro x rest hp
    have h := (intake_priority_order { cap := some cap, stable := false, lt } hsw progs c hr).2 x rest hp
    exact ⟨h.1, h.2.1⟩
  | bsprio cap lt =>
    refine ⟨fun ct progs sched wf => (intake_conservation _ ct progs wf sched).1, ?_⟩
    intro hsw progs c hr
    refine ⟨bounded_priority_capacity { cap := some cap, stable := true, lt } cap rfl progs c hr, ?_⟩
    intro x rest hp
    have h := (intake_priority_order { cap := some cap, stable := true, lt } hsw progs c hr).2 x rest hp
    exact ⟨h.1, stable_priority_then_arrival { cap := some cap, stable := true, lt } rfl hsw progs c hr x rest hp⟩
  | fair =>
    refine ⟨fun ct tid c cells h => unbounded_forward_simulation ct tid c cells h,
      fair_subqueue_frame, fair_activation_protocol_partial, ?_, ?_⟩
    · intro ct progs wf c h
      have h1 := fair_counting_identity_partial ct progs wf c h
      have h2 := fair_no_stranded_sender_partial ct progs wf c h
      exact ⟨h1.1, h1.2, h2.1, h2.2⟩
    · intro ct progs wf wf2 c h
      have h0 := fair_never_consumes_uncounted ct progs wf wf2 c h
      have h1 := fair_counting_identity ct progs wf wf2 c h
      have h2 := fair_no_stranded_sender ct progs wf wf2 c h
      exact ⟨h0.1, h1.1, h1.2, h2.1, h2.2⟩

end GoaktVerif.C04
