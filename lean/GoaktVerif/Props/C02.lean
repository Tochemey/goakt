/-
C02 — Accepted messages to a live actor are processed exactly once.

"Every message whose Tell/Ask to a local actor was accepted (no error returned) is handed to that
 actor's handler exactly once, provided the actor stays running until the message is dequeued; no
 message is processed twice. An actor with a pending message is always eventually scheduled, so its
 mailbox never stalls while a worker is free (no lost wake-up)."

Same model as C01 (`Model/C01.lean`), same tie (E3 replay on the real code).  Proved for every
schedule, any number of senders / workers / restart threads:
  * accounting: accepted ≈ handled ++ dropped ++ held-by-a-worker ++ still-in-the-mailbox (as multisets),
    hence nothing is handled twice or invented, and nothing is lost;
  * `dropped` stays empty when no restart thread exists (the property's proviso);
  * no lost wake-up, as absence of stuck states: whenever the mailbox holds a message, the dispatch state
    is not Idle, or a sender is still between its reservation and the outcome of its TrySchedule, or a
    worker is still inside its reclaim check; and when the state is not Idle a ready-queue entry, a token
    holder or a turn owner exists (C01's invariant).  Eventual scheduling under a fair scheduler is NOT
    stated temporally (named gap).
-/
import GoaktVerif.Props.C01

namespace GoaktVerif.C02
open GoaktVerif.Model.C01 GoaktVerif.Lemmas.C01 GoaktVerif.Lemmas.Dispatch GoaktVerif.C01

def held (t : Thread) : List Nat := heldPc t.pc

def ids (cells : List Cell) : List Nat := cells.map (·.id)

theorem ids_publish (m : Nat) (cells : List Cell) : ids (publish m cells) = ids cells := by
  -- `fun_induction publish m cells` yields one goal per leaf of `publish` (in the order of Model/C01.lean): the guards passed on
  -- the way as hypotheses, the leaf's result in the goal and, at the recursive call, the induction hypothesis.
  fun_induction publish m cells
  -- no cell
  case case1 => rfl
  -- the reserved cell of `m` is found: only its flag changes
  case case2 => rfl
  -- another cell: the search goes on
  case case3 c cs _ ih => exact congrArg (c.id :: ·) ih

/-- Accounting invariant: every accepted message is in exactly one place. -/
def Acct (c : Cfg) : Prop :=
  (c.sh.handled ++ c.sh.dropped ++ c.threads.flatMap held ++ ids c.sh.cells).Perm c.sh.accepted

theorem ids_of_headReady {cells : List Cell} {m : Nat} (h : headReady cells = some m) :
    ids cells = m :: ids cells.tail := by
  cases cells with
  | nil => simp [headReady] at h
  | cons c cs =>
    simp only [headReady] at h
    split at h <;> simp at h
    simp [ids, h]

/-- A step moves one message from one place to the next: count the occurrences of each message. -/
theorem acct_step {v v' : MView} (h : MStep v v') {H : List Nat}
    (ha : (v.handled ++ v.dropped ++ (v.held ++ H) ++ ids v.cells).Perm v.accepted) :
    (v'.handled ++ v'.dropped ++ (v'.held ++ H) ++ ids v'.cells).Perm v'.accepted := by
  refine List.perm_iff_count.mpr fun a => ?_
  have ha := ha.count_eq a
  simp only [List.count_append] at ha ⊢
  cases h with
  | skip | stop | start | settle => exact ha
  | reserve m => simp only [ids, List.map_append, List.map_cons, List.map_nil, List.count_append] at ha ⊢; omega
  | publish m => simp only [ids_publish]; exact ha
  | deq m hm hd =>
    rw [ids_of_headReady hm] at ha
    simp only [hd, List.count_cons, List.count_nil] at ha ⊢; omega
  | drop m _ hh => simp only [hh, List.count_cons, List.count_nil] at ha ⊢; omega
  | handle m hh => simp only [hh, List.count_cons, List.count_nil] at ha ⊢; omega

theorem Acct.perm : Blind Acct := fun _ _ _ p h =>
  (((p.flatMap_right held).symm.append_left _).append_right _).trans h

theorem exec_acct : Kept Acct := fun s t _ pc hpc h =>
  acct_step (exec_kind s t _ pc hpc).2 h

/-- Exactly-once, part 1: in every reachable configuration the accepted messages are, as a multiset,
    exactly those handled, dropped-while-stopped, held by a worker, or still in the mailbox. -/
theorem C02_accounting (budget : Nat) (progs : List (List Op)) (sched : List Nat) :
    Acct (run (init budget progs) sched) := by
  refine run_ind Acct.perm exec_acct _ sched ?_
  rw [init_eq]
  unfold Acct
  have : (spawn (initShared budget) progs).2.flatMap held = [] :=
    List.flatMap_eq_nil_iff.mpr (spawn_zero heldPc [] rfl (fun _ => rfl) rfl fun _ => rfl)
  rw [this]
  exact .refl _

/-- no message is handled more often than it was accepted (so: never twice when ids are distinct) -/
theorem C02_no_duplicate (budget : Nat) (progs : List (List Op)) (sched : List Nat) (m : Nat) :
    (run (init budget progs) sched).sh.handled.count m ≤ (run (init budget progs) sched).sh.accepted.count m := by
  have h := (C02_accounting budget progs sched).count_eq m
  simp only [List.count_append] at h
  omega

def Live (c : Cfg) : Prop :=
  sumBy (fun t => restartPc t.pc) c.threads = 0 ∧ c.sh.running = true ∧ c.sh.dropped = []

theorem live_step {v v' : MView} (h : MStep v v') (h0 : v.rst = 0)
    (hr : v.running = true) (hd : v.dropped = []) : v'.rst = 0 ∧ v'.running = true ∧ v'.dropped = [] := by
  cases h with
  | drop m hr' => rw [hr] at hr'; cases hr'
  | stop h1 | start h1 => rw [h0] at h1; cases h1
  | settle => exact ⟨rfl, hr, hd⟩
  | _ => exact ⟨h0, hr, hd⟩

theorem Live.perm : Blind Live := fun s l l' p h => by
  unfold Live at h ⊢; rwa [← sumBy_isSum.perm _ p]

theorem exec_live : Kept Live := fun s t R pc hpc h =>
  have h0 := Nat.add_eq_zero_iff.mp (show restartPc t.pc + sumBy (fun t => restartPc t.pc) R = 0 from h.1)
  have g := live_step (exec_kind s t (sumBy inRecv R) pc hpc).2 h0.1 h.2.1 h.2.2
  ⟨Nat.add_eq_zero_iff.mpr ⟨g.1, h0.2⟩, g.2⟩

/-- Exactly-once, part 2 (the property's proviso made explicit): if no thread restarts the actor, it
    stays running and nothing is ever dropped (`Acct` of `C02_accounting` then reads
    accepted ≈ handled ++ held ++ in-mailbox). -/
theorem C02_live (budget : Nat) (progs : List (List Op)) (sched : List Nat)
    (h : ∀ p ∈ progs, p.head? ≠ some .restart) : Live (run (init budget progs) sched) := by
  refine run_ind Live.perm exec_live (init budget progs) sched ?_
  rw [init_eq]
  exact ⟨sumBy_isSum.zero (spawn_zero restartPc 0 rfl (fun _ => rfl) rfl fun ⟨p, hp, e⟩ => absurd e (h p hp)), rfl, rfl⟩

def unready (cells : List Cell) : List Nat := (cells.filter (fun c => !c.ready)).map (·.id)

theorem unready_append (cells : List Cell) (m : Nat) : unready (cells ++ [⟨m, false⟩]) = unready cells ++ [m] := by
  simp [unready, List.filter_append]

theorem unready_publish (m : Nat) (cells : List Cell) : unready (publish m cells) = (unready cells).erase m := by
  fun_induction publish m cells
  -- no cell
  case case1 => rfl
  -- the reserved cell of `m` is found: it leaves the unready ones, at their head
  case case2 c cs h => simp [unready, h.1, h.2]
  -- another cell: it stays where it is
  case case3 c cs h ih =>
    cases hr : c.ready
    · have hne : c.id ≠ m := fun e => h ⟨e, hr⟩
      simp only [unready, List.filter_cons, hr, Bool.not_false, if_true, List.map_cons] at ih ⊢
      rw [List.erase_cons_tail (by simpa using hne), ih]
    · simp only [unready, List.filter_cons, hr, Bool.not_true] at ih ⊢
      simpa using ih

theorem unready_tail_of_headReady {cells : List Cell} {m : Nat} (h : headReady cells = some m) :
    unready cells.tail = unready cells := by
  cases cells with
  | nil => rfl
  | cons c cs =>
    simp only [headReady] at h
    split at h <;> simp at h
    rename_i hr
    simp [unready, hr]

theorem unready_pos_of_head (cells : List Cell) (hne : cells ≠ []) (h : (headReady cells).isNone = true) :
    0 < (unready cells).length := by
  cases cells with
  | nil => exact absurd rfl hne
  | cons c cs =>
    simp only [headReady] at h
    split at h
    · simp at h
    · rename_i hr
      simp [unready, hr]

theorem publish_ne_nil (m : Nat) (cells : List Cell) : publish m cells ≠ [] ↔ cells ≠ [] := by
  cases cells with
  | nil => simp [publish]
  | cons c cs => simp only [publish]; split <;> simp

theorem unready_step {v v' : MView} (h : MStep v v') {E : List Nat}
    (hk : (v.e2 ++ E).Perm (unready v.cells)) : (v'.e2 ++ E).Perm (unready v'.cells) := by
  cases h with
  | reserve m he =>
    rw [he] at hk
    show ([m] ++ E).Perm (unready (v.cells ++ [⟨m, false⟩]))
    rw [unready_append]; exact List.perm_append_comm.trans (hk.append_right [m])
  | publish m he =>
    rw [he] at hk
    show ([] ++ E).Perm (unready (publish m v.cells))
    rw [unready_publish]; simpa using hk.erase m
  | deq m hm => show (v.e2 ++ E).Perm (unready v.cells.tail); rw [unready_tail_of_headReady hm]; exact hk
  | _ => exact hk

/-- the `K` half of `exec_wake` (`K` is defined below), about the thread in front -/
theorem exec_K (s : Shared) (t : Thread) {others : Nat} (pc : PC) {E : List Nat} (hpc : t.pc = some pc)
    (h : (e2Pc t.pc ++ E).Perm (unready s.cells)) :
    (e2Pc (exec s t others pc).2.pc ++ E).Perm (unready (exec s t others pc).1.cells) :=
  unready_step (exec_kind s t others pc hpc).2 h

theorem cells_ne_step {v v' : MView} (h : MStep v v') (hc : v'.cells ≠ []) :
    v.cells ≠ [] ∨ v'.e2 ≠ [] := by
  cases h with
  | reserve m => exact .inr (List.cons_ne_nil _ _)
  | publish m => exact .inl ((publish_ne_nil m _).mp hc)
  | deq m => exact .inl fun e => hc (by show v.cells.tail = []; rw [e]; rfl)
  | _ => exact .inl hc

def e2 (t : Thread) : List Nat := e2Pc t.pc
def inflight (t : Thread) : Nat := inflightPc t.pc
def reclaim (t : Thread) : Nat := reclaimPc t.pc

/-- the unpublished cells are the reservations of the senders parked at their publishing store -/
def K (c : Cfg) : Prop := (c.threads.flatMap e2).Perm (unready c.sh.cells)

def J (c : Cfg) : Prop := WakeInv sumBy Sched.idle inflight reclaim (c.sh.cells ≠ []) c.sh.sched c.threads

def Wake (c : Cfg) : Prop := K c ∧ J c

/-- `hK` (from K) lets a worker give up on an unpublished head: its sender is still in flight -/
theorem exec_J (s : Shared) (t : Thread) {others : Nat} {R : List Thread} (pc : PC) (hpc : t.pc = some pc)
    (hK : (unready s.cells).length ≤ sumBy inflight (t :: R)) (hJ : J ⟨s, t :: R⟩) :
    J ⟨(exec s t others pc).1, (exec s t others pc).2 :: R⟩ := by
  obtain ⟨hd, hm⟩ := exec_kind s t others pc hpc
  refine WakeInv.step (ρ := fun t _ => reclaim t) sumBy_isSum three () hd (fun hc => ?_) (fun he hc => ?_) hJ
  · rcases cells_ne_step hm hc with h | h
    · exact .inl h
    · exact .inr (.inl (Nat.lt_of_lt_of_le (List.length_pos_iff.mpr h) (e2_le_inflight _)))
  · exact Nat.lt_of_lt_of_le (unready_pos_of_head s.cells hc he) hK

theorem e2_length_le_inflight (l : List Thread) : (l.flatMap e2).length ≤ sumBy inflight l := by
  rw [sumBy_isSum.length_flatMap]; exact sumBy_isSum.le l fun t => e2_le_inflight t.pc

theorem Wake.perm : Blind Wake := fun _ _ _ p h =>
  ⟨(p.flatMap_right e2).symm.trans h.1, WakeInv.perm sumBy_isSum p h.2⟩

theorem exec_wake : Kept Wake := fun s t R pc hpc h => by
  have hK : (e2Pc t.pc ++ R.flatMap e2).Perm (unready s.cells) := h.1
  refine ⟨exec_K s t pc hpc hK, exec_J s t pc hpc ?_ h.2⟩
  rw [← hK.length_eq]; exact e2_length_le_inflight (t :: R)

theorem step_wake (c : Cfg) (tid : Nat) (h : Wake c) : Wake (step c tid).2 :=
  step_ind Wake.perm exec_wake c tid h

theorem run_wake (budget : Nat) (progs : List (List Op)) (sched : List Nat) : Wake (run (init budget progs) sched) := by
  refine run_ind Wake.perm exec_wake _ sched ?_
  rw [init_eq]
  unfold Wake K
  have : (spawn (initShared budget) progs).2.flatMap e2 = [] :=
    List.flatMap_eq_nil_iff.mpr (spawn_zero e2Pc [] rfl (fun _ => rfl) rfl fun _ => rfl)
  rw [this]
  exact ⟨.refl _, .init fun h => h rfl⟩

/-- No lost wake-up (absence of stuck states).  In EVERY reachable configuration, for every schedule:
    if the mailbox holds a message then the ready queue holds an entry for the actor (any free worker's
    next take gets it), or some thread is still responsible for it: a token holder about to push or
    take, the owner of the current turn, a sender that has not finished its TrySchedule, or a worker
    still inside its reclaim check. -/
def C02_no_lost_wakeup_stmt : Prop :=
  ∀ (budget : Nat) (progs : List (List Op)) (sched : List Nat),
    let c := run (init budget progs) sched
    c.sh.cells ≠ [] →
      0 < c.sh.rq ∨ ∃ t ∈ c.threads, 0 < tok t.pc ∨ 0 < own t.pc ∨ 0 < inflightPc t.pc ∨ 0 < reclaimPc t.pc

theorem C02_no_lost_wakeup : C02_no_lost_wakeup_stmt := by
  intro budget progs sched c hc
  exact TokInv.responsible sumBy_isSum three (reach_inv budget progs sched)
    (run_wake budget progs sched).2 hc

/-- Corollary: when every thread has run to completion, a non-empty mailbox always comes with a
    ready-queue entry — a free worker will take the actor; the mailbox cannot be stranded. -/
theorem C02_quiescent (budget : Nat) (progs : List (List Op)) (sched : List Nat)
    (hq : ∀ t ∈ (run (init budget progs) sched).threads, t.pc = none) :
    (run (init budget progs) sched).sh.cells = [] ∨ 0 < (run (init budget progs) sched).sh.rq := by
  by_cases hc : (run (init budget progs) sched).sh.cells = []
  · exact .inl hc
  · rcases C02_no_lost_wakeup budget progs sched hc with h | ⟨t, ht, h⟩
    · exact .inr h
    · rw [hq t ht] at h
      exact absurd h (by decide)

def C02_full : Prop :=
  (∀ budget progs sched, Acct (run (init budget progs) sched))
  ∧ (∀ budget progs sched m, (run (init budget progs) sched).sh.handled.count m ≤ (run (init budget progs) sched).sh.accepted.count m)
  ∧ (∀ budget progs sched, (∀ p ∈ progs, p.head? ≠ some Op.restart) → (run (init budget progs) sched).sh.dropped = [])
  ∧ C02_no_lost_wakeup_stmt

theorem C02_holds : C02_full :=
  ⟨C02_accounting, C02_no_duplicate, fun b p s h => (C02_live b p s h).2.2, C02_no_lost_wakeup⟩

-- non-vacuity: a run that accepts, handles and finishes (mailbox empty, state Idle)
set_option maxRecDepth 4000 in
example : let c := run (init 2 [[.tell 1], [.work]]) [0,0,0,0,0,0,1,1,1,1,1,1,1,1,1,1,1,1,1,1,1,1,1,1,1,1,1]
    c.sh.handled = [1] ∧ c.sh.cells = [] ∧ c.sh.accepted = [1] ∧ c.sh.sched = .idle := by decide

end GoaktVerif.C02
