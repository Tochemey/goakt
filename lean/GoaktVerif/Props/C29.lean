/-
C29 — Per-message context metadata is restored on the receiver.

"For remote tells and asks, the headers a ContextPropagator injects at send time are the headers
 restored for that same message on the receiving node, even when messages from different callers
 share a batch."   (quantifier: all header maps and all batchings of concurrent callers)

Model: Model/C29.lean.  "Header maps" = single-valued maps (one value per key) whose keys stay
distinct under MIME canonicalisation; restored = injected up to `textproto.CanonicalMIMEHeaderKey`
on the keys (`http.Header.Set` on the receiving side).  A batch is an arbitrary list of messages
(any number of callers, any interleaving decides the list; the theorem holds for every list and
every position).  Observations outside the statement: a multi-valued header keeps only its first
value; two keys that differ only in case collapse into one.
-/
import GoaktVerif.Model.C29
import GoaktVerif.Spec.C29
import GoaktVerif.Lemmas.Assoc

namespace GoaktVerif.C29
open GoaktVerif.Model.C29 GoaktVerif.Spec.C29

def SingleValued (h : Header) : Prop := ∀ e ∈ h, e.2.length = 1
def DistinctCanon (h : Header) : Prop := (h.map fun e => canonKey e.1).Nodup

theorem setKV_fresh (m : Flat) (k v : Str) (h : ∀ e ∈ m, e.1 ≠ k) : setKV m k v = m ++ [(k, v)] := by
  unfold setKV
  have : m.any (·.1 == k) = false := by
    simp only [List.any_eq_false, beq_iff_eq]
    intro e he; exact h e he
  simp [this]

/-- folding `Set` over entries with pairwise distinct (canonical) keys just appends them -/
theorem foldl_set_distinct (f : Str → Str) (md acc : Flat)
    (hnd : (md.map fun e => f e.1).Nodup) (hdis : ∀ e ∈ acc, ∀ e' ∈ md, e.1 ≠ f e'.1) :
    md.foldl (fun a (e : Str × Str) => setKV a (f e.1) e.2) acc = acc ++ md.map (fun e => (f e.1, e.2)) :=
  Assoc.foldl_set_fresh setKV setKV_fresh f md acc hnd hdis

theorem restore_distinct (md : Flat) (h : (md.map fun e => canonKey e.1).Nodup) :
    restore md = md.map fun e => (canonKey e.1, e.2) := by
  have := foldl_set_distinct canonKey md [] h (by intro e he; cases he)
  simpa [restore] using this

theorem overlay_empty_distinct (m : Flat) (h : (m.map (·.1)).Nodup) : overlay [] m = m := by
  have := foldl_set_distinct id m [] (by simpa using h) (by intro e he; cases he)
  simpa [overlay] using this

theorem expected_eq_map (h : Header) : expected h = (inject h).map fun e => (canonKey e.1, e.2) := by
  simp only [expected, inject, List.map_filterMap]
  congr 1
  funext ⟨k, vs⟩
  cases vs <;> rfl

theorem inject_keys (h : Header) :
    ((inject h).map fun e => canonKey e.1).Sublist (h.map fun e => canonKey e.1) := by
  induction h with
  | nil => exact .slnil
  | cons e rest ih =>
    obtain ⟨k, vs⟩ := e
    cases vs with
    | nil => exact ih.cons _
    | cons v _ => exact ih.cons_cons _

theorem expected_keys_nodup (h : Header) (hd : DistinctCanon h) : ((expected h).map (·.1)).Nodup := by
  rw [expected_eq_map, List.map_map]
  exact (inject_keys h).nodup hd

/-- the round trip needs no single-valuedness: `expected` keeps the first value of every header, as `inject` does -/
theorem roundtrip_of_distinct (h : Header) (hd : DistinctCanon h) : restore (inject h) = expected h := by
  rw [expected_eq_map, restore_distinct _ ((inject_keys h).nodup hd)]

theorem tellPath_of_distinct (hs : List Header) (hg : ∀ h ∈ hs, DistinctCanon h) : tellPath hs = hs.map expected := by
  unfold tellPath deliverBatch
  rw [List.map_map]
  apply List.map_congr_left
  intro h hh
  show (if (inject h).isEmpty then [] else overlay [] (restore (inject h))) = expected h
  rw [roundtrip_of_distinct h (hg h hh)]
  split
  · -- no headers injected: nothing to restore
    rename_i he
    rw [expected_eq_map, List.isEmpty_iff.mp he]; rfl
  · exact overlay_empty_distinct _ (expected_keys_nodup h (hg h hh))

/-- one message: what the receiver's propagator is handed = what the sender's propagator wrote,
    keys canonicalised -/
theorem C29_roundtrip (h : Header) (hs : SingleValued h) (hd : DistinctCanon h) :
    restore (inject h) = expected h :=
  roundtrip_of_distinct h hd

/-- THE FULL PROPERTY on the model: for every batch (any list of messages, from any callers, in any
    order), every message of the batch is delivered with exactly its own headers; and a request-level
    exchange (ask) restores its own headers. -/
def C29_full : Prop :=
  (∀ hs : List Header, (∀ h ∈ hs, SingleValued h ∧ DistinctCanon h) → tellPath hs = hs.map expected) ∧
  (∀ h : Header, SingleValued h → DistinctCanon h → askPath h = expected h)

theorem C29_holds : C29_full :=
  ⟨fun hs hg => tellPath_of_distinct hs fun h hh => (hg h hh).2, fun h _ hd => roundtrip_of_distinct h hd⟩

theorem sameMap_refl {α : Type} [BEq α] [LawfulBEq α] (a : List α) : sameMap a a = true := by
  simp [sameMap]

/-- the judge's oracle accepts exactly this: restored and injected headers are the same map -/
theorem C29_oracle (h : Header) (hs : SingleValued h) (hd : DistinctCanon h) :
    sameMap (restore (inject h)) (expected h) = true := by
  rw [roundtrip_of_distinct h hd]; exact sameMap_refl _

/-- the `i`-th message of any batch gets the headers of the `i`-th caller -/
theorem C29_per_index (hs : List Header) (hg : ∀ h ∈ hs, SingleValued h ∧ DistinctCanon h) (i : Nat) :
    (tellPath hs)[i]? = hs[i]?.map expected := by
  rw [tellPath_of_distinct hs fun h hh => (hg h hh).2, List.getElem?_map]

/-- calls of mixed kinds made one after the other on the same client (any sequence): every message is
    restored with exactly its own headers — no key of an earlier call leaks into a later one,
    whatever the key sets are (in particular when they shrink) -/
theorem C29_sequence (steps : List (Bool × Header)) (hg : ∀ st ∈ steps, SingleValued st.2 ∧ DistinctCanon st.2) :
    seqPath steps = steps.map fun st => expected st.2 := by
  refine List.map_congr_left ?_
  rintro ⟨isAsk, h⟩ hst
  have hd : DistinctCanon h := (hg _ hst).2
  cases isAsk
  · show (tellPath [h]).headD [] = expected h
    rw [tellPath_of_distinct [h] fun x hx => List.mem_singleton.mp hx ▸ hd]; rfl
  · exact roundtrip_of_distinct h hd

/-- ask with two keys, then a tell with one of them, then a tell with none -/
example :
    seqPath [(true, [("x-trace".toList, ["a".toList]), ("x-tenant".toList, ["acme".toList])]),
             (false, [("x-trace".toList, ["t".toList])]), (false, [])]
      = [[("X-Trace".toList, "a".toList), ("X-Tenant".toList, "acme".toList)], [("X-Trace".toList, "t".toList)], []] := by
  decide +kernel

/-- non-trivial instance of the guards: two callers sharing a batch, non-canonical keys -/
example :
    tellPath [[("x-trace-id".toList, ["a1".toList]), ("Tenant".toList, ["t".toList])], [], [("x-trace-id".toList, ["b2".toList])]]
      = [[("X-Trace-Id".toList, "a1".toList), ("Tenant".toList, "t".toList)], [], [("X-Trace-Id".toList, "b2".toList)]] := by
  decide +kernel

example : SingleValued [("x-trace-id".toList, ["a1".toList]), ("Tenant".toList, ["t".toList])] ∧ DistinctCanon [("x-trace-id".toList, ["a1".toList]), ("Tenant".toList, ["t".toList])] := by
  unfold SingleValued DistinctCanon
  decide +kernel

/-- OBSERVATIONS outside the statement (tests on instances): only the first value of a
    multi-valued header survives; keys equal up to case collapse (last writer wins);
    a key with a non-token character is passed through unchanged. -/
example : askPath [("K".toList, ["v1".toList, "v2".toList])] = [("K".toList, "v1".toList)] := by decide +kernel
example : askPath [("x-a".toList, ["1".toList]), ("X-A".toList, ["2".toList])] = [("X-A".toList, "2".toList)] := by decide +kernel
example : canonKey "x-trace-id".toList = "X-Trace-Id".toList ∧ canonKey "my key".toList = "my key".toList ∧ canonKey "ALL-CAPS_x".toList = "All-Caps_x".toList := by decide +kernel

end GoaktVerif.C29
