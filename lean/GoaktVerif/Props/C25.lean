/-
C25 — Message serializers round-trip and are chosen by type.

"For every message accepted by a configured serializer (protobuf, CBOR, JSON, the internal
 Terminated/PoisonPill/delivery serializers and user-registered serializers), deserializing its
 serialized form yields an equal message. The serializer chosen for a message is the one registered
 for its type, and a message no serializer supports yields an error rather than corrupt bytes."

Model: Model/C25.lean (frame layout, header checks, the three built-in serializers over abstract encoders,
`resolveSerializer`, `serializerDispatch.Serialize/Deserialize` with the proto fast path, the Terminated /
PoisonPill / delivery envelopes).  The third-party encoders are hypotheses (`ProtoLaw`, `RegLaw`, `EnvLaw`,
`Agree`), each with an `example` instance.

Reading of "chosen … is the one registered for its type": the rule documented on `WithClientSerializers`
("1. exact concrete type, 2. first registered interface the message implements").  `resolveSerializer` (as of fix
C25-F1 in goakt) implements that rule (`resolve_eq_doc`), and `C25_holds` proves the full statement.
-/
import GoaktVerif.Model.C25
import GoaktVerif.Model.C25Wire
import GoaktVerif.Lemmas.C25
import GoaktVerif.Lemmas.C25Dispatch
import GoaktVerif.Lemmas.C25Wire

namespace GoaktVerif.C25
open GoaktVerif.Model.C25

/-- what is assumed of protobuf for one message: it is a proto message with a registered, non-empty name,
    it marshals, and unmarshalling the produced payload under that name gives the message back -/
structure ProtoLaw {M} (c : ProtoCodec M) (m : M) (p : Bytes) : Prop where
  isProto : c.isProto m = true
  named : c.nameOf m ≠ []
  marshals : c.marshal m = some p
  registered : c.registered (c.nameOf m) = true
  roundtrip : c.unmarshal (c.nameOf m) p = some m
  fits : 8 + (c.nameOf m).length + p.length < 4294967296

theorem proto_roundtrip {M} (c : ProtoCodec M) (m : M) (p : Bytes) (h : ProtoLaw c m p) :
    protoSerialize c m = .ok (frame (c.nameOf m) p) ∧ protoDeserialize c (frame (c.nameOf m) p) = .ok m := by
  have hlen : (c.nameOf m).length ≠ 0 := fun h0 => h.named (List.eq_nil_of_length_eq_zero h0)
  constructor
  · unfold protoSerialize
    rw [h.isProto]
    simp only [Bool.not_true, Bool.false_eq_true, if_false]
    rw [if_neg hlen, h.marshals]
  · unfold protoDeserialize
    rw [unframe_frame _ _ h.fits]
    simp [protoDecodeFrame, h.registered, h.roundtrip]

/-- a value that is not a proto message never yields bytes -/
theorem proto_rejects_nonproto {M} (c : ProtoCodec M) (m : M) (h : c.isProto m = false) :
    protoSerialize c m = .error .notProto := by simp [protoSerialize, h]

/-- malformed input never reaches protobuf: the decoder is total and answers `invalidFrame` -/
theorem proto_malformed {M} (c : ProtoCodec M) (d : Bytes) (h : unframe d = none) :
    protoDeserialize c d = .error .invalidFrame := by simp [protoDeserialize, protoDecodeFrame, h]

structure RegLaw {M} (c : RegCodec M) (m : M) (p : Bytes) : Prop where
  notNil : c.isNil m = false
  registered : c.registered (c.nameOf m) = true
  marshals : c.marshal m = some p
  roundtrip : c.unmarshal (c.nameOf m) p = some m
  fits : 8 + (c.nameOf m).length + p.length < 4294967296

/-- CBOR and JSON serializers (same code shape) -/
theorem reg_roundtrip {M} (c : RegCodec M) (m : M) (p : Bytes) (h : RegLaw c m p) :
    regSerialize c m = .ok (frame (c.nameOf m) p) ∧ regDeserialize c (frame (c.nameOf m) p) = .ok m := by
  constructor
  · unfold regSerialize
    rw [h.notNil]
    simp only [Bool.false_eq_true, if_false]
    rw [h.registered]
    simp only [Bool.not_true, Bool.false_eq_true, if_false]
    rw [h.marshals]
  · unfold regDeserialize
    rw [unframe_frame _ _ h.fits]
    simp [regDecodeFrame, h.registered, h.roundtrip]

theorem reg_rejects_unregistered {M} (c : RegCodec M) (m : M) (h1 : c.isNil m = false)
    (h : c.registered (c.nameOf m) = false) : regSerialize c m = .error .notRegistered := by
  simp [regSerialize, h1, h]

/-- instance of `ProtoLaw`/`RegLaw`: the identity "encoder" on byte strings -/
def idProto : ProtoCodec Bytes :=
  { isProto := fun _ => true, nameOf := fun _ => [116], marshal := fun m => some m,
    registered := fun n => n == [116], unmarshal := fun _ p => some p }

example : ProtoLaw idProto [1, 2, 3] [1, 2, 3] :=
  ⟨rfl, by decide, rfl, by decide, rfl, by decide⟩

def idReg : RegCodec Bytes :=
  { isNil := fun _ => false, nameOf := fun _ => [116], marshal := fun m => some m,
    registered := fun n => n == [116], unmarshal := fun _ p => some p }

example : RegLaw idReg [7] [7] := ⟨rfl, by decide, rfl, rfl, by decide⟩

variable {M : Type}

theorem resolve_accepts (es : List (Entry M)) (m : M) (i : Nat) (h : resolve es m = some i) :
    ∃ e : Entry M, es[i]? = some e ∧ e.accepts m = true := by
  rw [resolve_eq] at h
  cases h1 : es.findIdx? (fun e => e.accepts m && e.exact) <;> rw [h1] at h
  · exact findIdx?_getElem? h
  · cases h
    obtain ⟨e, he, hp⟩ := findIdx?_getElem? h1
    exact ⟨e, he, (Bool.and_eq_true_iff.mp hp).1⟩

/-- the code's selection rule, part 1: an exact-type entry that accepts the message wins wherever it sits
    (the first such entry is chosen) -/
theorem resolve_exact_wins (es : List (Entry M)) (m : M) (j : Nat) (e : Entry M)
    (hj : es[j]? = some e) (ha : e.accepts m = true) (hx : e.exact = true)
    (hfirst : ∀ (j' : Nat) (e' : Entry M), j' < j → es[j']? = some e' → ¬ (e'.accepts m = true ∧ e'.exact = true)) :
    resolve es m = some j := by
  obtain ⟨hlt, rfl⟩ := List.getElem?_eq_some_iff.mp hj
  rw [resolve_eq, List.findIdx?_eq_some_iff_getElem.mpr ⟨hlt, by rw [ha, hx]; rfl, fun j' hj' hp =>
    hfirst j' es[j'] hj' (List.getElem?_eq_getElem _) (Bool.and_eq_true_iff.mp hp)⟩]

theorem resolve_none (es : List (Entry M)) (m : M) :
    resolve es m = none ↔ ∀ e ∈ es, e.accepts m = false := by
  rw [resolve_eq]
  cases h1 : es.findIdx? (fun e => e.accepts m && e.exact)
  · exact List.findIdx?_eq_none_iff
  · obtain ⟨e, he, hp⟩ := findIdx?_getElem? h1
    refine ⟨nofun, fun h => ?_⟩
    rw [h e (List.mem_of_getElem? he)] at hp
    cases hp

/-- a message no entry accepts yields an error on the send path — never bytes -/
theorem send_unsupported (es : List (Entry M)) (m : M) (h : ∀ e ∈ es, e.accepts m = false) :
    sendSerialize es m = .error .noSerializer := by
  simp [sendSerialize, (resolve_none es m).mpr h]

/-- the bytes sent are exactly the chosen serializer's bytes -/
theorem send_bytes (es : List (Entry M)) (m : M) (d : Bytes) (h : sendSerialize es m = .ok d) :
    ∃ (i : Nat) (e : Entry M), resolve es m = some i ∧ es[i]? = some e ∧ e.accepts m = true ∧ e.ser m = .ok d := by
  unfold sendSerialize at h
  cases hr : resolve es m with
  | none => simp [hr] at h
  | some i =>
    obtain ⟨e, he, ha⟩ := resolve_accepts es m i hr
    simp only [hr, he] at h
    exact ⟨i, e, rfl, he, ha, h⟩

/-- `serializerDispatch.Serialize`: bytes, if any, are those of the first entry that encodes -/
theorem dispSerialize_first (es : List (Entry M)) (m : M) (d : Bytes) (h : dispSerialize es m = .ok d) :
    ∃ (j : Nat) (e : Entry M), es[j]? = some e ∧ e.ser m = .ok d ∧
      ∀ (j' : Nat) (e' : Entry M), j' < j → es[j']? = some e' → ∃ err, e'.ser m = .error err := by
  have := serLoop_toOption es m none
  rw [show serLoop es m none = .ok d from h] at this
  obtain ⟨l₁, e, l₂, rfl, he, hbefore⟩ := List.findSome?_eq_some_iff.mp this.symm
  refine ⟨l₁.length, e, by simp, toOption_eq_some.mp he, fun j' e' hj hget => ?_⟩
  rw [List.getElem?_append_left hj] at hget
  exact toOption_eq_none.mp (hbefore e' (List.mem_of_getElem? hget))

/-- `serializerDispatch.Serialize`: when no entry encodes the result is an error, never bytes -/
theorem dispSerialize_unsupported (es : List (Entry M)) (m : M) (h : ∀ e ∈ es, ∀ d, e.ser m ≠ .ok d) :
    ∃ err, dispSerialize es m = .error err := by
  rw [← toOption_eq_none, show dispSerialize es m = serLoop es m none from rfl, serLoop_toOption,
    List.findSome?_eq_none_iff]
  intro e he
  cases hd : e.ser m with
  | ok d => exact absurd hd (h e he d)
  | error _ => rfl

/-- If the message is sent with the serializer `resolveSerializer` picks, the chosen
    serializer decodes its own output (`hrt`) and no registered serializer mis-decodes that output (`Agree`),
    then the receive path — fast path included, whatever the registry says — returns the message. -/
theorem dispatch_roundtrip (reg : Bytes → Bool) (es : List (Entry M)) (m : M) (d : Bytes)
    (hsend : sendSerialize es m = .ok d)
    (hrt : ∀ e ∈ es, e.ser m = .ok d → e.deser d = .ok m)
    (hag : Agree es d m) :
    dispDeserialize reg es d = .ok m := by
  obtain ⟨i, e, _, he, _, hser⟩ := send_bytes es m d hsend
  have hmem : e ∈ es := List.mem_of_getElem? he
  exact dispDeserialize_agree reg es d m hag ⟨e, hmem, hrt e hmem hser⟩

def liar : Entry Nat := { accepts := fun _ => false, exact := true, ser := fun _ => .error .custom,
                          deser := fun _ => .ok 99, isProto := false }
def honest : Entry Nat := { accepts := fun _ => true, exact := true, ser := fun m => .ok [m],
                            deser := fun d => .ok (d.headD 0), isProto := false }

/-- without `Agree` the round trip can fail: an earlier entry that decodes the frame to something else wins
    (this is what happens between CBORSerializer and JSONSerializer on one-digit integers, finding C25-F2) -/
theorem agree_needed : sendSerialize [liar, honest] 5 = .ok [5] ∧
    dispDeserialize (fun _ => false) [liar, honest] [5] = .ok 99 := ⟨rfl, rfl⟩

example : Agree [honest] [5] 5 := by
  intro e he m' h
  simp only [List.mem_singleton] at he
  subst he
  simp [honest] at h
  exact h.symm

/-- the code's selection rule, part 2: it is the rule documented on `WithClientSerializers`
    (`Model.C25.resolveDocFrom` is the same recursion as `resolveFrom`, so this compares the model with itself) -/
theorem resolve_eq_doc (es : List (Entry M)) (m : M) : resolve es m = resolveDoc es m :=
  resolveFrom_eq_doc es m 0 none

/-- The full property over the dispatch: for every table, registry, message and frame —
    (a) round trip under the encoder laws, (b) the chosen serializer is the one the documented rule names,
    (c) an unsupported message yields an error. -/
def C25_full : Prop :=
  ∀ (es : List (Entry Nat)) (reg : Bytes → Bool) (m : Nat),
    (∀ d, sendSerialize es m = .ok d → (∀ e ∈ es, e.ser m = .ok d → e.deser d = .ok m) → Agree es d m →
        dispDeserialize reg es d = .ok m)
    ∧ resolve es m = resolveDoc es m
    ∧ ((∀ e ∈ es, e.accepts m = false) → sendSerialize es m = .error .noSerializer)

/-- the three clauses of `C25_full` for every message type -/
theorem dispatch_holds (es : List (Entry M)) (reg : Bytes → Bool) (m : M) :
    (∀ d, sendSerialize es m = .ok d → (∀ e ∈ es, e.ser m = .ok d → e.deser d = .ok m) → Agree es d m →
        dispDeserialize reg es d = .ok m)
    ∧ resolve es m = resolveDoc es m
    ∧ ((∀ e ∈ es, e.accepts m = false) → sendSerialize es m = .error .noSerializer) :=
  ⟨fun d hs hrt hag => dispatch_roundtrip reg es m d hs hrt hag, resolve_eq_doc es m, send_unsupported es m⟩

theorem C25_holds : C25_full := dispatch_holds

/-- an interface entry registered before an exact-type entry (the witness of C25-F1) -/
def ifaceEntry : Entry Nat := { accepts := fun _ => true, exact := false, ser := fun m => .ok [0, m],
                                deser := fun _ => .error .custom, isProto := true }
def exactEntry : Entry Nat := { accepts := fun m => m == 7, exact := true, ser := fun m => .ok [1, m],
                                deser := fun _ => .error .custom, isProto := false }

example : resolve [ifaceEntry, exactEntry] 7 = some 1 := by decide
example : resolve [ifaceEntry, exactEntry] 8 = some 0 := by decide

theorem poison_roundtrip : poisonDecode poisonEncode = true := by decide

theorem poison_only_magic (d : Bytes) : poisonDecode d = true ↔ d = poisonMagic := by
  unfold poisonDecode
  constructor
  · intro h
    simp only [Bool.and_eq_true, decide_eq_true_eq, beq_iff_eq] at h
    exact h.2
  · intro h; subst h; decide

/-- Terminated: any path text shorter than 4 GiB that is empty or parses, any int64 timestamp -/
theorem terminated_roundtrip (parse : Bytes → Bool) (t : Terminated)
    (hlen : t.path.length < 4294967296)
    (hlo : -9223372036854775808 ≤ t.nanos) (hhi : t.nanos < 9223372036854775808)
    (hp : t.path = [] ∨ parse t.path = true) :
    termDecode parse (termEncode t) = some t := by
  obtain ⟨path, nanos⟩ := t
  simp only at hlen hlo hhi hp
  -- the layout is magic | pathLen | path | nanos; the first twelve bytes are literal, so they drop by `rfl`
  have t8 : ∀ r : Bytes, (termMagic ++ r).take 8 = termMagic := fun _ => rfl
  have d8 : ∀ r : Bytes, (termMagic ++ r).drop 8 = r := fun _ => rfl
  have d12 : ∀ (n : Nat) (r : Bytes), (termMagic ++ (be32 n ++ r)).drop 12 = r := fun _ _ => rfl
  have hn : rd64 (be64 (toU64 nanos)) = toU64 nanos := by
    have := rd64_be64 (toU64 nanos) []
    rwa [List.append_nil, Nat.mod_eq_of_lt (by unfold toU64; omega)] at this
  unfold termDecode
  simp only [termEncode, List.append_assoc, List.length_append, be32_length, be64_length,
    show termMagic.length = 8 from rfl, t8, d8, rd32_be32 hlen, ← List.drop_drop, d12, List.drop_left, hn,
    List.take_left, toI64_toU64 nanos hlo hhi]
  rcases hp with rfl | hp
  · simp
  · simp [hp]; omega  -- left over: the two length tests of `termDecode`, `20 ≤ len` and `12 + pathLen + 8 = len`

example : termDecode (fun _ => true) (termEncode ⟨[103, 111], -5⟩) = some ⟨[103, 111], -5⟩ := by decide

/-- protobuf on the delivery envelope as a hypothesis: what it marshals, it unmarshals -/
def EnvLaw (pc : EnvCodec) : Prop := ∀ e b, pc.marshal e = some b → pc.unmarshal b = some e

/-- the command ↔ envelope mapping itself is lossless on every valid, constructor-built command -/
theorem env_roundtrip (c : Cmd) (hv : c.valid = true) (hwf : c.wf = true) : c.toEnv.toCmd = .ok c := by
  cases c with
  | registerConsumer n => simp [Cmd.toEnv, Env.toCmd, hv]
  | registrationAck s n nonce => simp [Cmd.toEnv, Env.toCmd, hv]
  | request s nonce cf u v => simp [Cmd.toEnv, Env.toCmd, hv]
  | ack s nonce cf => simp [Cmd.toEnv, Env.toCmd, hv]
  | sequenced s id seq p ch f l =>
    cases ch with
    | true => simp [Cmd.toEnv, Env.toCmd, hv]
    | false =>
      simp [Cmd.wf] at hwf
      obtain ⟨hf, hl⟩ := hwf
      subst hf; subst hl
      simp [Cmd.toEnv, Env.toCmd, hv]

/-- what the round trip needs of protobuf: it unmarshals the bytes of this one envelope -/
theorem delivery_roundtrip_of (pc : EnvCodec) (c : Cmd) (hv : c.valid = true) (hwf : c.wf = true)
    (b : Bytes) (hm : pc.marshal c.toEnv = some b) (hu : pc.unmarshal b = some c.toEnv) :
    deliveryEncode pc c = .ok (deliveryMagic ++ b) ∧ deliveryDecode pc (deliveryMagic ++ b) = .ok c := by
  constructor
  · simp [deliveryEncode, hv, hm]
  · have h1 : (deliveryMagic ++ b).take 8 = deliveryMagic := rfl
    have h2 : (deliveryMagic ++ b).drop 8 = b := rfl
    unfold deliveryDecode
    rw [h1, h2, hu, List.length_append, show deliveryMagic.length = 8 from rfl]
    simp [env_roundtrip c hv hwf]

theorem delivery_roundtrip (pc : EnvCodec) (law : EnvLaw pc) (c : Cmd) (hv : c.valid = true) (hwf : c.wf = true)
    (b : Bytes) (hm : pc.marshal c.toEnv = some b) :
    deliveryEncode pc c = .ok (deliveryMagic ++ b) ∧ deliveryDecode pc (deliveryMagic ++ b) = .ok c :=
  delivery_roundtrip_of pc c hv hwf b hm (law _ _ hm)

/-- The same with protobuf replaced by the concrete wire codec of Model/C25Wire.lean + Model/C25WireDec.lean, whose
    round trip is PROVED (`WireLemmas.decEnv_encEnv`): no hypothesis about protobuf is left, only sizes that fit
    (strings and payload below 4 GiB, int64 fields in range).  The encoder half of that codec is compared byte for
    byte with protobuf-go by the differential. -/
theorem delivery_roundtrip_wire (c : Cmd) (hv : c.valid = true) (hwf : c.wf = true)
    (hfit : Wire.envFits c.toEnv = true) :
    deliveryEncode Wire.wireEnvCodec c = .ok (deliveryMagic ++ Wire.encEnv c.toEnv)
    ∧ deliveryDecode Wire.wireEnvCodec (deliveryMagic ++ Wire.encEnv c.toEnv) = .ok c :=
  delivery_roundtrip_of Wire.wireEnvCodec c hv hwf _ rfl (WireLemmas.decEnv_encEnv _ hfit)

example : Wire.envFits (Cmd.sequenced [115] [109] 7 [1, 2] true true false).toEnv = true := by decide

/-- an invalid command yields an error, never bytes -/
theorem delivery_invalid (pc : EnvCodec) (c : Cmd) (hv : c.valid = false) :
    deliveryEncode pc c = .error .invalidMessage := by simp [deliveryEncode, hv]

/-- `EnvLaw` instance: a codec that stores the envelope in a table of one -/
example : EnvLaw { marshal := fun e => if e = .none then some [] else none,
                   unmarshal := fun b => if b = [] then some .none else none } := by
  intro e b h
  by_cases he : e = .none
  · subst he; simp at h; subst h; simp
  · simp [he] at h

/-! Each envelope decoder looks at the first eight bytes before anything else and each encoder writes its magic number
there; a frame begins with its own length: so none captures another's bytes. -/

theorem unframe_rd32_le (d : Bytes) (h : (unframe d).isSome = true) : rd32 d ≤ d.length := by
  unfold unframe at h
  by_cases h8 : d.length < 8
  · simp [h8] at h
  · by_cases ht : d.length < rd32 d
    · simp [h8, ht] at h
    · omega

theorem rd32_of_take8 (d : Bytes) {a b c e f g i j : Nat} (h : d.take 8 = [a, b, c, e, f, g, i, j]) :
    rd32 d = a * 16777216 + b * 65536 + c * 256 + e := by
  rcases d with _ | ⟨x0, _ | ⟨x1, _ | ⟨x2, _ | ⟨x3, rest⟩⟩⟩⟩ <;> simp at h
  obtain ⟨h0, h1, h2, h3, _⟩ := h
  subst h0; subst h1; subst h2; subst h3
  rfl

theorem poisonDecode_of_take8 {d : Bytes} (h : d.take 8 ≠ poisonMagic) : poisonDecode d = false := by
  cases hp : poisonDecode d with
  | false => rfl
  | true => rw [(poison_only_magic d).mp hp] at h; exact absurd rfl h

theorem termDecode_of_take8 (parse : Bytes → Bool) {d : Bytes} (h : d.take 8 ≠ termMagic) : termDecode parse d = none := by
  simp [termDecode, h]

theorem deliveryDecode_of_take8 (pc : EnvCodec) {d : Bytes} (h : d.take 8 ≠ deliveryMagic) :
    deliveryDecode pc d = .error .notEnvelope := by
  simp [deliveryDecode, h]

/-- a frame is at least as long as its first four bytes say, so it cannot begin with eight bytes whose first four,
    read as a length, exceed its own (at the calls `a … j` are the bytes of a magic number, found by unification) -/
theorem framed_take8 {d : Bytes} (h : (unframe d).isSome = true) {a b c e f g i j : Nat}
    (hlen : d.length < a * 16777216 + b * 65536 + c * 256 + e) : d.take 8 ≠ [a, b, c, e, f, g, i, j] := by
  intro hm
  have := rd32_of_take8 d hm
  have := unframe_rd32_le d h
  omega

/-- a well-formed frame shorter than 3735923824 = 0xDEADAC70 bytes (the first four bytes of `termMagic` read as a length) is
    never taken for a Terminated envelope -/
theorem framed_not_terminated (parse : Bytes → Bool) (d : Bytes) (h : (unframe d).isSome = true)
    (hlen : d.length < 3735923824) : termDecode parse d = none :=
  termDecode_of_take8 parse (framed_take8 h hlen)

/-- no well-formed frame is taken for a PoisonPill: the eight bytes of the magic number are too short for the length they announce -/
theorem framed_not_poison (d : Bytes) (h : (unframe d).isSome = true) : poisonDecode d = false := by
  have hle := unframe_rd32_le d h
  cases hp : poisonDecode d with
  | false => rfl
  | true =>
    have hd := (poison_only_magic d).mp hp
    subst hd
    revert hle; decide

/-- a well-formed frame shorter than 4 GiB is never taken for a delivery envelope (`deliveryMagic` begins `FF FF FF FF`) -/
theorem framed_not_delivery (pc : EnvCodec) (d : Bytes) (h : (unframe d).isSome = true)
    (hlen : d.length < 4294967295) : deliveryDecode pc d = .error .notEnvelope :=
  deliveryDecode_of_take8 pc (framed_take8 h hlen)

/-- the three envelopes reject one another's bytes: the magic numbers differ -/
theorem envelopes_disjoint (parse : Bytes → Bool) (pc : EnvCodec) (t : Terminated) (b : Bytes) :
    poisonDecode (termEncode t) = false ∧ poisonDecode (deliveryMagic ++ b) = false
    ∧ termDecode parse poisonEncode = none ∧ termDecode parse (deliveryMagic ++ b) = none
    ∧ deliveryDecode pc poisonEncode = .error .notEnvelope
    ∧ deliveryDecode pc (termEncode t) = .error .notEnvelope :=
  -- the first eight bytes of each encoding are literal, so the kernel evaluates the comparisons
  ⟨poisonDecode_of_take8 (of_decide_eq_true rfl), poisonDecode_of_take8 (of_decide_eq_true rfl), rfl,
   termDecode_of_take8 parse (of_decide_eq_true rfl), rfl, deliveryDecode_of_take8 pc (of_decide_eq_true rfl)⟩

/-- the PoisonPill and Terminated round trips and the lossless command ↔ envelope mapping of the delivery serializer,
    in one statement -/
theorem C25_envelopes :
    poisonDecode poisonEncode = true
    ∧ (∀ (parse : Bytes → Bool) (t : Terminated), t.path.length < 4294967296 →
        -9223372036854775808 ≤ t.nanos → t.nanos < 9223372036854775808 →
        (t.path = [] ∨ parse t.path = true) → termDecode parse (termEncode t) = some t)
    ∧ (∀ (c : Cmd), c.valid = true → c.wf = true → c.toEnv.toCmd = .ok c) :=
  ⟨poison_roundtrip, terminated_roundtrip, env_roundtrip⟩

end GoaktVerif.C25
