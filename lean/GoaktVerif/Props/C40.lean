/-
C40 — CRDT values survive encoding.

"For every CRDT value, decoding its wire encoding yields a value with the same observable value
 and the same causal metadata, so that merging the decoded value behaves exactly like merging the
 original; CRDT keys round-trip with their type."

Model: `Model/C40.lean` (EncodeCRDT / DecodeCRDT per type over the state models of
`Model/Crdt/*.lean`, the element serializer and the nested-value codec of ORMap as parameters).
`core` is the state without the delta/dirty bookkeeping, which the wire intentionally does not
carry (a decoded Flag is even marked dirty): the statement is about value and causal metadata.

Guards (decidable, `wfB`): the maps of an ORSet / ORMap are maps (sorted, no duplicate keys — a
property of the Lean REPRESENTATION of a Go map) and no ORSet entry has an empty dot list (true of
every state the API can build; `RawState()` drops such entries, so they would not survive).
Encode is partial: it fails when the serializer rejects a value (e.g. the nil value of a
never-set LWW register); the statement is about encodings that exist.
-/
import GoaktVerif.Lemmas.C40

namespace GoaktVerif.C40
open GoaktVerif.Model.Crdt GoaktVerif.Model.C40

variable {B V W : Type}

def osCore (s : ORSet) : ORSet := ⟨s.entries, s.clock, ORSet.newDelta⟩

/-- ORMap core, for any value type with its own core function -/
def omCore (cv : V → V) (m : ORMap V) : ORMap V := ⟨osCore m.keys, mapVals cv m.values, false⟩

def core : CV → CV
  | .gc c => .gc c.resetDelta
  | .pn c => .pn c.resetDelta
  | .fl x => .fl ⟨x.enabled, false⟩
  | .lw r => .lw ⟨r.value, r.timestamp, r.nodeID, false⟩
  | .mv r => .mv ⟨r.entries, r.clock, false⟩
  | .os s => .os (osCore s)
  | .om m => .om (omCore GCounter.resetDelta m)

/-- the public observations (Value / Enabled / Values / Elements / Keys+Entries) -/
inductive Obs where
  | nat (n : Nat) | int (i : Int) | bool (b : Bool) | opt (o : Option Nat) | list (l : List Nat)
  | map (ks : List Nat) (vs : List (Nat × Nat))
  deriving DecidableEq, Repr

def observe : CV → Obs
  | .gc c => .nat c.value
  | .pn c => .int c.value
  | .fl x => .bool x.value
  | .lw r => .opt r.value
  | .mv r => .list r.values
  | .os s => .list s.elements
  | .om m => .map m.keyList (m.entriesOf.map fun p => (p.1, p.2.value))

def noEmptyB (s : ORSet) : Bool := s.entries.all fun p => !p.2.isEmpty

def wfB : CV → Bool
  | .os s => AMap.sortedB s.entries && noEmptyB s
  | .om m => AMap.sortedB m.keys.entries && noEmptyB m.keys && AMap.sortedB m.values
  | _ => true

theorem gc_roundtrip (c : GCounter) : decGC (encGC c) = c.resetDelta := rfl

theorem pn_roundtrip (c : PNCounter) : decPN (encPN c) = c.resetDelta := rfl

/-- a decoded flag has the same `enabled`; it is marked dirty when enabled -/
theorem flag_roundtrip (x : Flag) : decFlag (encFlag x) = ⟨x.enabled, x.enabled⟩ := by
  cases x with
  | mk e d => cases e <;> rfl

theorem lww_roundtrip (S : Ser B) (hS : SerLaw S) (r : LWWRegister) (w : B × Int × Nat)
    (h : encLWW S r = some w) : decLWW S w = some ⟨r.value, r.timestamp, r.nodeID, false⟩ := by
  unfold encLWW at h
  cases hv : r.value with
  | none => rw [hv] at h; cases h
  | some v =>
    rw [hv] at h
    obtain ⟨b, hb, rfl⟩ := Option.map_eq_some_iff.mp h
    exact congrArg (Option.map _) (hS v b hb)

theorem mv_roundtrip (S : Ser B) (hS : SerLaw S) (r : MVRegister) (w : WMV B)
    (h : encMV S r = some w) : decMV S w = some ⟨r.entries, r.clock, false⟩ := by
  obtain ⟨es, hm, rfl⟩ := Option.map_eq_some_iff.mp h
  refine congrArg (Option.map _) (mapM_inverse (fun e q hq => ?_) _ es hm)
  obtain ⟨b, hb, rfl⟩ := Option.map_eq_some_iff.mp hq
  exact congrArg (Option.map _) (hS e.value b hb)

theorem rawEntries_eq (s : ORSet) (h : noEmptyB s = true) : rawEntries s = s.entries :=
  List.filter_eq_self.mpr (List.all_eq_true.mp h)

theorem orset_roundtrip (S : Ser B) (hS : SerLaw S) (s : ORSet)
    (hs : AMap.sortedB s.entries = true) (hn : noEmptyB s = true) (w : WORSet B)
    (h : encORSet S s = some w) : decORSet S w = some (osCore s) := by
  unfold encORSet encEntries at h
  rw [rawEntries_eq s hn] at h
  obtain ⟨es, hm, rfl⟩ := Option.map_eq_some_iff.mp h
  show (decEntries S es).map _ = _
  unfold decEntries
  rw [mapM_ser_des S hS _ _ hm]
  show some (ORSet.fromRawState (AMap.ofList s.entries) s.clock) = _
  rw [AMap.ofList_of_sorted _ ((AMap.sortedB_iff _).mp hs)]
  rfl

/-- the law of the recursive value codec: decoding an encoding gives the value's core -/
def VLaw (C : VCodec V W) (cv : V → V) : Prop := ∀ v w, C.enc v = some w → C.dec w = some (cv v)

theorem vals_mapM (S : Ser B) (hS : SerLaw S) (C : VCodec V W) (cv : V → V) (hC : VLaw C cv)
    (l : List (Nat × V)) (l' : List (B × W))
    (h : l.mapM (encPair S C) = some l') :
    l'.mapM (decPair S C) = some (mapVals cv l) := by
  refine mapM_roundtrip (fun p q hq => ?_) l l' h
  unfold encPair at hq
  cases hv : C.enc p.2 with
  | none => rw [hv] at hq; cases hq
  | some w =>
    cases hk : S.ser p.1 with
    | none => rw [hv, hk] at hq; cases hq
    | some b =>
      rw [hv, hk] at hq
      cases hq
      unfold decPair
      rw [hS p.1 b hk, hC p.2 w hv]

/-- ORMap round trip, for ANY value type: keys (entries, dots, clock) are preserved, every stored
    value is replaced by what its own codec returns.  Instantiating `C` with the codec of a flat
    type, or with this very codec one level down, covers ORMaps nested to any depth. -/
theorem ormap_roundtrip (S : Ser B) (hS : SerLaw S) (C : VCodec V W) (cv : V → V) (hC : VLaw C cv)
    (m : ORMap V) (hk : AMap.sortedB m.keys.entries = true) (hn : noEmptyB m.keys = true)
    (hv : AMap.sortedB m.values = true) (w : WORMap B W)
    (h : encORMap S C m = some w) : decORMap S C w = some (omCore cv m) := by
  unfold encORMap at h
  cases hks : encORSet S m.keys with
  | none => rw [hks] at h; cases h
  | some ks =>
    cases hvs : m.values.mapM (encPair S C) with
    | none => rw [hks, hvs] at h; cases h
    | some es =>
      rw [hks, hvs] at h
      cases h
      obtain ⟨kes, hde, hko⟩ := Option.map_eq_some_iff.mp (orset_roundtrip S hS m.keys hk hn ks hks)
      show (match (decEntries S ks.entries).map fun es => (es, ks.clock), es.mapM (decPair S C) with
        | some (kes, kclk), some vals => some (ORMap.fromRawState (AMap.ofList kes) kclk (AMap.ofList vals))
        | _, _ => none) = _
      rw [hde, vals_mapM S hS C cv hC _ _ hvs]
      show some (⟨ORSet.fromRawState (AMap.ofList kes) ks.clock, AMap.ofList (mapVals cv m.values), false⟩ : ORMap V) = _
      rw [hko, AMap.ofList_of_sorted _ (sorted_mapVals cv m.values ((AMap.sortedB_iff _).mp hv))]
      rfl

theorem gcCodec_law : VLaw gcCodec GCounter.resetDelta := by
  intro v w h
  cases h
  rfl

theorem mapVals_idem (m : AMap GCounter) :
    mapVals GCounter.resetDelta (mapVals GCounter.resetDelta m) = mapVals GCounter.resetDelta m :=
  List.map_map.trans rfl

theorem core_core (v : CV) : core (core v) = core v := by
  cases v with
  | om m => exact congrArg (fun vs => CV.om ⟨osCore m.keys, vs, false⟩) (mapVals_idem m.values)
  | _ => rfl

/-- decoding an encoding yields the core (for a Flag: the core up to the dirty mark) -/
theorem wire_core (S : Ser B) (hS : SerLaw S) (v : CV) (hw : wfB v = true) (w : WCV B)
    (h : encode S v = some w) : ∃ v', decode S w = some v' ∧ core v' = core v := by
  cases v with
  | gc c => cases h; exact ⟨_, rfl, rfl⟩
  | pn c => cases h; exact ⟨_, rfl, rfl⟩
  | fl x => cases h; exact ⟨_, rfl, by show core (.fl (decFlag (encFlag x))) = _; rw [flag_roundtrip]; rfl⟩
  | lw r =>
    obtain ⟨a, ha, rfl⟩ := Option.map_eq_some_iff.mp h
    exact ⟨_, congrArg (Option.map CV.lw) (lww_roundtrip S hS r a ha), rfl⟩
  | mv r =>
    obtain ⟨a, ha, rfl⟩ := Option.map_eq_some_iff.mp h
    exact ⟨_, congrArg (Option.map CV.mv) (mv_roundtrip S hS r a ha), rfl⟩
  | os s =>
    obtain ⟨a, ha, rfl⟩ := Option.map_eq_some_iff.mp h
    have hw' := (Bool.and_eq_true _ _).mp hw
    exact ⟨_, congrArg (Option.map CV.os) (orset_roundtrip S hS s hw'.1 hw'.2 a ha), rfl⟩
  | om m =>
    obtain ⟨a, ha, rfl⟩ := Option.map_eq_some_iff.mp h
    have hw' := (Bool.and_eq_true _ _).mp hw
    have hw'' := (Bool.and_eq_true _ _).mp hw'.1
    exact ⟨_, congrArg (Option.map CV.om) (ormap_roundtrip S hS gcCodec _ gcCodec_law m hw''.1 hw''.2 hw'.2 a ha),
      core_core (.om m)⟩

/-- the public observations depend on the core only -/
theorem observe_core (v : CV) : observe (core v) = observe v := by
  cases v with
  | om m =>
    refine congrArg (Obs.map m.keys.elements) ?_
    show (m.keys.elements.filterMap fun k => ((mapVals GCounter.resetDelta m.values).get? k).map fun v => (k, v)).map _
      = (m.keys.elements.filterMap fun k => (m.values.get? k).map fun v => (k, v)).map _
    simp only [List.map_filterMap, get?_mapVals]
    refine congrArg (fun f => List.filterMap f m.keys.elements) (funext fun k => ?_)
    cases AMap.get? m.values k <;> rfl
  | _ => rfl

theorem foldl_setOpt_mapVals (f : V → W) (ks : List Nat) (g : Nat → Option V) (acc : AMap V) :
    mapVals f (ks.foldl (fun vals k => AMap.setOpt vals k (g k)) acc)
      = ks.foldl (fun vals k => AMap.setOpt vals k ((g k).map f)) (mapVals f acc) := by
  induction ks generalizing acc with
  | nil => rfl
  | cons k t ih => rw [List.foldl_cons, List.foldl_cons, ih, mapVals_setOpt]

theorem optMerge_reset (a b : Option GCounter) :
    (ORMap.optMerge a b).map GCounter.resetDelta
      = (ORMap.optMerge (a.map GCounter.resetDelta) (b.map GCounter.resetDelta)).map GCounter.resetDelta := by
  cases a <;> cases b <;> rfl

theorem merge_core (a b : CV) : core (a.merge b) = core ((core a).merge (core b)) := by
  cases a with
  | lw r =>
    cases b with
    | lw o =>
      -- `otherWins` reads the stamps only, which the cores keep
      have e : LWWRegister.otherWins ⟨r.value, r.timestamp, r.nodeID, false⟩ ⟨o.value, o.timestamp, o.nodeID, false⟩
          = LWWRegister.otherWins r o := rfl
      simp only [CV.merge, core, LWWRegister.merge, e]
      cases LWWRegister.otherWins r o <;> rfl
    | _ => rfl
  | om m =>
    cases b with
    | om o =>
      simp only [CV.merge, core, omCore, ORMap.merge, osCore, ORSet.merge, ORSet.dotsOf, ORSet.kept]
      congr 2
      rw [foldl_setOpt_mapVals, foldl_setOpt_mapVals]
      congr 1
      funext vals k
      rw [get?_mapVals, get?_mapVals, ← optMerge_reset]
    | _ => exact (core_core _).symm
  | _ => cases b <;> rfl

theorem key_roundtrip (id dt : Nat) (h : dt ≤ 6) : decKey (encKey id dt) = some (id, dt) := by
  unfold decKey encKey
  rw [if_neg (Nat.succ_ne_zero dt), if_neg (by omega)]
  rfl

/-- an out-of-range data type is rejected by the decoder instead of being mistaken for another -/
theorem key_reject (id dt : Nat) (h : dt > 6) : decKey (encKey id dt) = none := by
  unfold decKey encKey
  rw [if_neg (Nat.succ_ne_zero dt), if_pos (by omega)]

theorem key_decode_sound (id w id' dt : Nat) (h : decKey (id, w) = some (id', dt)) :
    id' = id ∧ dt ≤ 6 ∧ encKey id' dt = (id, w) := by
  unfold decKey at h
  split at h
  · cases h
  · split at h
    · cases h
    · cases h
      exact ⟨rfl, by omega, Prod.ext rfl (show w - 1 + 1 = w by omega)⟩

/-- For every lawful element serializer, every CRDT value (of the seven types; ORMap values
    G-counters — `ormap_roundtrip` gives the same for any value type) satisfying the
    representation guard, and every encoding that exists: decoding succeeds, the decoded value has
    the same core (entries, dots, clocks, counters, timestamps, node ids), hence the same public
    observation, and merging it into / with any other value gives the same core as merging the
    original, on either side.  Keys round-trip with their type. -/
def C40_full : Prop :=
  (∀ (B : Type) (S : Ser B), SerLaw S → ∀ (v : CV), wfB v = true → ∀ w, encode S v = some w →
      ∃ v', decode S w = some v' ∧ core v' = core v ∧ observe v' = observe v
        ∧ (∀ y : CV, core (v'.merge y) = core (v.merge y)) ∧ (∀ y : CV, core (y.merge v') = core (y.merge v)))
  ∧ (∀ id dt, dt ≤ 6 → decKey (encKey id dt) = some (id, dt))

theorem C40_holds : C40_full := by
  refine ⟨?_, key_roundtrip⟩
  intro B S hS v hw w h
  obtain ⟨v', hd, hc⟩ := wire_core S hS v hw w h
  refine ⟨v', hd, hc, ?_, ?_, ?_⟩
  · rw [← observe_core v', hc, observe_core]
  · intro y; rw [merge_core v' y, hc, ← merge_core]
  · intro y; rw [merge_core y v', hc, ← merge_core]

theorem idSer_law : SerLaw idSer := by
  intro x b h
  cases h
  rfl

/-- an ORSet with a removed element (clock ahead of the dots), pending delta included: it
    satisfies the guard, encodes, and decodes to its core -/
example :
    wfB (.os ((((ORSet.new.add 1 5).add 1 6).remove 5).add 2 7)) = true
    ∧ (encORSet idSer ((((ORSet.new.add 1 5).add 1 6).remove 5).add 2 7)).bind (decORSet idSer)
        = some (osCore ((((ORSet.new.add 1 5).add 1 6).remove 5).add 2 7))
    ∧ ((((ORSet.new.add 1 5).add 1 6).remove 5).add 2 7).delta ≠ ORSet.newDelta := by
  decide

/-- an ORMap with two G-counter values whose deltas are pending: guard holds, the wire image exists -/
example :
    wfB (.om (((ORMap.new (V := GCounter)).set 1 3 (GCounter.new.increment 1 4)).set 2 4 (GCounter.new.increment 2 1))) = true
    ∧ (wire idSer (.om (((ORMap.new (V := GCounter)).set 1 3 (GCounter.new.increment 1 4)).set 2 4 (GCounter.new.increment 2 1)))).isSome = true := by
  decide

/-- encode is partial: a never-set LWW register cannot be encoded -/
example : encode idSer (.lw LWWRegister.new) = none := rfl

end GoaktVerif.C40
