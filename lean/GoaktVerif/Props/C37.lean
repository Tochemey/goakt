/-
C37 — Spawn configuration survives the wire.

"For every spawn configuration (supervisor strategy, directives, retry budget and backoff;
 passivation strategy; reentrancy; stashing; role; dependencies; init timeout), the configuration
 an actor gets when it is spawned remotely or relocated is the same as the one it was spawned with
 locally."

Model: Model/C37.lean.  Tie: differential of the real codec functions and of the real relocation
path (Spawn → toSerialize → protobuf → wireSpawnOptions → Spawn) against the model
(tools/props/c37.py, harness/verifdrv/c37, harness/inpkg/actor/zz_verif_c37.go).

Result (the model follows goakt with fix 1ad4e99: SupervisorSpec carries the backoff fields).
* `relocate_exact` / `remoteSpawn_exact` say EXACTLY what the re-created actor holds, for every
  configuration: everything is preserved — including the backoff triple (`C37_backoff_survives`) —
  except (1) the directive table is re-normalised by the decoder (`normGet`): an AnyError entry wipes the
  others, otherwise the two constructor defaults come back; (2) the reentrancy limit is clamped to 2^32-1
  (`uint32 max_in_flight`).
* `C37_refuted`: the property read over ALL configurations is false — witness: a supervisor emptied
  with the public `Reset()` comes back with the two default directives (finding C37-F2).
* `C37_partial`: the property on both routes for every configuration under the decidable guard
  "constructor-shaped directive table, limit ≤ 2^32-1"; `C37_constructor_covered`: every supervisor built by
  `NewSupervisor` from ANY options (backoff included) satisfies the supervisor part of the guard and of `Inv`.
-/
import GoaktVerif.Model.C37
import GoaktVerif.Lemmas.C37

namespace GoaktVerif.C37
open GoaktVerif.Model.C37

/-- what the decoder makes of a directive table: the lookup function of the decoded table -/
def normGet (m : Rules) (k : Key) : Option Directive :=
  match rget m anyKey with
  | some d => if k = anyKey then some d else none
  | none =>
    if k = "" then none else
    match rget m k with
    | some d => some d
    | none => rget base.rules k

theorem base_rules_any : rget base.rules anyKey = none := by decide

theorem fold_opts_rules (s : Sup) (opts : List SupOpt) (h : ∀ o ∈ opts, ∃ st n t, o = .strategy st ∨ o = .retry n t) :
    (opts.foldl applyOpt s).rules = s.rules ∧ (opts.foldl applyOpt s).initialDelay = s.initialDelay ∧
    (opts.foldl applyOpt s).maxDelay = s.maxDelay ∧ (opts.foldl applyOpt s).resetAfter = s.resetAfter := by
  exact List.foldlRecOn (motive := fun b => b.rules = s.rules ∧ b.initialDelay = s.initialDelay ∧ b.maxDelay = s.maxDelay ∧
    b.resetAfter = s.resetAfter) opts applyOpt ⟨rfl, rfl, rfl, rfl⟩ fun b hb o ho => by
      obtain ⟨st, n, t, ho | ho⟩ := h o ho <;> (subst ho; exact hb)

/-- the options DecodeSupervisor passes: strategy, retry (Encode always sets the timeout) and
    the backoff when one travelled -/
def headOpts (s : Sup) : List SupOpt :=
  [.strategy s.strategy, .retry s.maxRetries (durAs (durNew s.timeout))] ++
    if 0 < s.initialDelay then
      [.backoff (durAs (durNew s.initialDelay)) (durAs (durNew s.maxDelay)) (durAs (durNew s.resetAfter))]
    else []

/-- the supervisor DecodeSupervisor builds from them, before the directives are put back -/
def decoded (s : Sup) : Sup := (headOpts s).foldl applyOpt base

theorem decoded_rules (s : Sup) : (decoded s).rules = base.rules := by
  by_cases hb : 0 < s.initialDelay
  · simp only [decoded, headOpts, hb, if_true, List.cons_append, List.nil_append, List.foldl_cons, List.foldl_nil,
      applyOpt]
    split <;> rfl
  · simp [decoded, headOpts, hb, applyOpt]

theorem decodeSup_encodeSup (s : Sup) :
    decodeSup (encodeSup s) =
      match rget s.rules anyKey with
      | some d => { decoded s with rules := [(anyKey, d)] }
      | none => setAll (decoded s) (sortByKey (s.rules.filter (fun e => decide (e.1 ≠ "")))) := by
  have h1 : decodeSup (encodeSup s) =
      match rget s.rules anyKey with
      | some d => newSupervisor (headOpts s ++ [.anyError d])
      | none => setAll (newSupervisor (headOpts s)) (sortByKey (s.rules.filter (fun e => decide (e.1 ≠ "")))) := by
    unfold encodeSup
    cases h : rget s.rules anyKey <;> by_cases hb : 0 < s.initialDelay <;>
      simp [decodeSup, headOpts, setAll, hb]
  have e : (headOpts s).foldl applyOpt base = decoded s := rfl
  rw [h1]
  cases rget s.rules anyKey with
  | some d =>
    simp only [newSupervisor, List.foldl_append, e, List.foldl_cons, List.foldl_nil, applyOpt, collapse,
      rget_rput, if_true]
  | none => simp only [newSupervisor, e, collapse, decoded_rules, base_rules_any]

theorem decode_encode_but_rules (s : Sup) :
    decodeSup (encodeSup s) = { decoded s with rules := (decodeSup (encodeSup s)).rules } := by
  rw [decodeSup_encodeSup]
  cases rget s.rules anyKey with
  | some d => rfl
  | none => exact setAll_eq _ _

theorem rget_decode_encode (s : Sup) (hn : nodupKeys s.rules) (k : Key) :
    rget (decodeSup (encodeSup s)).rules k = normGet s.rules k := by
  rw [decodeSup_encodeSup]
  unfold normGet
  cases h : rget s.rules anyKey with
  | some d => simp [rget]
  | none =>
    have hp := sortByKey_perm (s.rules.filter (fun e => decide (e.1 ≠ "")))
    have hfn : nodupKeys (s.rules.filter (fun e => decide (e.1 ≠ ""))) := Assoc.nodup_keys_filter _ hn
    have hse : "" ∉ rkeys (sortByKey (s.rules.filter (fun e => decide (e.1 ≠ "")))) := fun hm =>
      ((mem_rkeys_filter s.rules "" "").mp (((hp.map _).mem_iff).mp hm)).2 rfl
    simp only
    rw [setAll_rget _ _ ((nodupKeys_perm hp).mpr hfn) hse k, rget_perm hp ((nodupKeys_perm hp).mpr hfn) k, decoded_rules]
    rw [rget_filter]
    by_cases hk : k = ""
    · rw [if_pos hk, if_pos hk, hk]; exact (by decide : rget base.rules "" = none)
    · rw [if_neg hk, if_neg hk]; rfl

/-- what every supervisor built through the public API satisfies: no backoff (0/0/0) or the
    triple WithExponentialBackoff normalised (0 < initial ≤ max, 0 < reset); int64 values -/
def tripleOK (s : Sup) : Prop :=
  ((s.initialDelay = 0 ∧ s.maxDelay = 0 ∧ s.resetAfter = 0) ∨
   (0 < s.initialDelay ∧ s.initialDelay ≤ s.maxDelay ∧ 0 < s.resetAfter)) ∧
  inI64 s.initialDelay = true ∧ inI64 s.maxDelay = true ∧ inI64 s.resetAfter = true

theorem decoded_of_ok (s : Sup) (ht : inI64 s.timeout = true) (h : tripleOK s) : decoded s = { s with rules := base.rules } := by
  obtain ⟨hshape, h1, h2, h3⟩ := h
  obtain ⟨st, mr, to, i, m, r, ru⟩ := s
  rcases hshape with ⟨a, b, c⟩ | ⟨a, b, c⟩
  · simp only at a b c ht; subst a b c
    simp [decoded, headOpts, applyOpt, base, dur_roundtrip _ ht]
  · simp only at a b c ht h1 h2 h3
    simp only [decoded, headOpts, a, if_true, List.cons_append, List.nil_append, List.foldl_cons, List.foldl_nil,
      applyOpt, dur_roundtrip _ ht, dur_roundtrip _ h1, dur_roundtrip _ h2, dur_roundtrip _ h3]
    rw [if_neg (by omega), if_neg (by omega), if_neg (by omega)]

/-- **the supervisor after the wire, exactly**: everything is kept, the directive table is
    re-normalised -/
theorem sup_roundtrip_exact (s : Sup) (hn : nodupKeys s.rules) (ht : inI64 s.timeout = true) (hb : tripleOK s) :
    let s' := decodeSup (encodeSup s)
    s'.strategy = s.strategy ∧ s'.maxRetries = s.maxRetries ∧ s'.timeout = s.timeout ∧
    s'.initialDelay = s.initialDelay ∧ s'.maxDelay = s.maxDelay ∧ s'.resetAfter = s.resetAfter ∧
    ∀ k, rget s'.rules k = normGet s.rules k := by
  have e := decode_encode_but_rules s
  rw [decoded_of_ok s ht hb] at e
  exact ⟨by rw [e], by rw [e], by rw [e], by rw [e], by rw [e], by rw [e], rget_decode_encode s hn⟩

/-- the shape `NewSupervisor` always leaves: either the AnyError entry alone, or a table that has
    both default keys and no empty key -/
def ctorShaped (m : Rules) : Bool :=
  match rget m anyKey with
  | some _ => (rkeys m).all (fun k => k == anyKey)
  | none => (rget m panicKey).isSome && (rget m panicNilKey).isSome && (rget m "").isNone

theorem normGet_of_ctorShaped (m : Rules) (h : ctorShaped m = true) (k : Key) : normGet m k = rget m k := by
  unfold ctorShaped at h
  unfold normGet
  cases ha : rget m anyKey with
  | some d =>
    simp only [ha, List.all_eq_true, beq_iff_eq] at h
    by_cases hk : k = anyKey
    · simp [hk, ha]
    · simp only [hk, if_false]
      symm
      apply (rget_eq_none_iff _ _).mpr
      intro hm
      exact hk (h k hm)
  | none =>
    simp only [ha, Bool.and_eq_true, Option.isNone_iff_eq_none] at h
    obtain ⟨⟨h1, h2⟩, h3⟩ := h
    by_cases hk : k = ""
    · simp [hk, h3]
    · simp only [hk, if_false]
      cases hg : rget m k with
      | some d => rfl
      | none =>
        simp only
        -- k is neither default key (both are present in m), so base has nothing for it
        have hk1 : k ≠ panicKey := fun e => by rw [e] at hg; simp [hg] at h1
        have hk2 : k ≠ panicNilKey := fun e => by rw [e] at hg; simp [hg] at h2
        simp only [base, rget_rput, hk1, hk2, if_false]
        rfl

def optOK : SupOpt → Prop
  | .directive k _ => k ≠ ""
  | _ => True

def ctorInv (m : Rules) : Prop :=
  nodupKeys m ∧ panicKey ∈ rkeys m ∧ panicNilKey ∈ rkeys m ∧ "" ∉ rkeys m

theorem ctorInv_applyOpt (s : Sup) (o : SupOpt) (ho : optOK o) (h : ctorInv s.rules) : ctorInv (applyOpt s o).rules := by
  have put : ∀ k d, k ≠ "" → ctorInv (rput s.rules k d) := fun k d hk =>
    ⟨nodupKeys_rput h.1, by simp [mem_rkeys_rput, h.2.1], by simp [mem_rkeys_rput, h.2.2.1],
      by simp [mem_rkeys_rput, h.2.2.2, Ne.symm hk]⟩
  cases o with
  | directive k d => exact put k d ho
  | anyError d => exact put anyKey d (by decide)
  | backoff i m r => simp only [applyOpt]; split <;> exact h
  | _ => exact h

/-- every supervisor `NewSupervisor` returns, whatever the options (directive keys come from
    `reflect.Type.String()` and are never empty), has a constructor-shaped table with unique keys -/
theorem newSupervisor_ctorShaped (opts : List SupOpt) (ho : ∀ o ∈ opts, optOK o) :
    ctorShaped (newSupervisor opts).rules = true ∧ nodupKeys (newSupervisor opts).rules := by
  obtain ⟨h1, h2, h3, h4⟩ := List.foldlRecOn (motive := fun s => ctorInv s.rules) opts applyOpt (b := base)
    (by unfold ctorInv nodupKeys; decide) fun s hs o hm => ctorInv_applyOpt s o (ho o hm) hs
  unfold newSupervisor collapse
  cases ha : rget (opts.foldl applyOpt base).rules anyKey with
  | some d => exact ⟨by simp [ctorShaped, rget, rkeys], by simp [nodupKeys, rkeys]⟩
  | none =>
    refine ⟨?_, h1⟩
    simp only [ctorShaped, ha, Bool.and_eq_true, Option.isNone_iff_eq_none]
    exact ⟨⟨(rget_isSome_iff _ _).mpr h2, (rget_isSome_iff _ _).mpr h3⟩, (rget_eq_none_iff _ _).mpr h4⟩

def clampRe (r : Reentrancy) : Reentrancy := ⟨r.mode, if r.maxInFlight > maxU32 then maxU32 else r.maxInFlight⟩

/-- the reentrancy configuration after the wire: a (non-negative) limit is clamped into uint32 -/
theorem re_wire_exact (r : Reentrancy) (h : 0 ≤ r.maxInFlight) : decodeRe (encodeRe r) = clampRe r := by
  obtain ⟨m, n⟩ := r
  simp only [decodeRe, encodeRe, Reentrancy.new, clampRe, maxU32] at h ⊢
  congr 1
  have h0 : ¬ n < 0 := by omega
  by_cases h1 : n ≤ 0
  · have h2 : ¬ n > 4294967295 := by omega
    simp only [h0, h1, h2, if_true, if_false, Int.le_refl]; omega
  · by_cases h2 : n > 4294967295
    · simp only [h0, h1, h2, if_true, if_false]; decide
    · simp only [h0, h1, h2, if_false]

theorem re_roundtrip_exact (m : Mode) (n : Int) :
    decodeRe (encodeRe (Reentrancy.new m n)) = ⟨m, if n ≤ 0 then 0 else if n > maxU32 then maxU32 else n⟩ := by
  rw [re_wire_exact _ (by simp only [Reentrancy.new]; split <;> omega)]
  simp only [clampRe, Reentrancy.new, maxU32]
  congr 1
  by_cases h0 : n ≤ 0
  · simp only [h0, if_true]; decide
  · simp only [h0, if_false]; rfl

/-- invariants every configuration built through the public API satisfies (Go types: int64
    durations; Go maps: unique keys; WithExponentialBackoff: normalised triple; WithInitTimeout: only
    positive overrides) -/
structure Inv (d : Defaults) (c : SpawnCfg) : Prop where
  dSup : nodupKeys d.sup.rules ∧ inI64 d.sup.timeout = true ∧ tripleOK d.sup
  dPas : ∀ ns, d.pas = .timeBased ns → inI64 ns = true
  sup : ∀ s, c.sup = some s → nodupKeys s.rules ∧ inI64 s.timeout = true ∧ tripleOK s
  pas : ∀ ns, c.pas = some (.timeBased ns) → inI64 ns = true
  re : ∀ r, c.re = some r → 0 ≤ r.maxInFlight
  init : ∀ t, c.initTimeout = some t → 0 < t ∧ inI64 t = true

/-- equality on every observable accessor (the directive table through its lookup) -/
def obsEq (q p : PidCfg) : Prop :=
  q.sup.strategy = p.sup.strategy ∧ q.sup.maxRetries = p.sup.maxRetries ∧ q.sup.timeout = p.sup.timeout ∧
  q.sup.initialDelay = p.sup.initialDelay ∧ q.sup.maxDelay = p.sup.maxDelay ∧ q.sup.resetAfter = p.sup.resetAfter ∧
  (∀ k, rget q.sup.rules k = rget p.sup.rules k) ∧
  q.pas = p.pas ∧ q.re = p.re ∧ q.stash = p.stash ∧ q.role = p.role ∧ q.deps = p.deps ∧ q.initTimeout = p.initTimeout

theorem pas_roundtrip (p : Passivation) (h : ∀ ns, p = .timeBased ns → inI64 ns = true) : decodePas (encodePas p) = p := by
  cases p with
  | timeBased ns => simp [encodePas, decodePas, dur_roundtrip ns (h ns rfl)]
  | messageCount n => rfl
  | longLived => rfl

theorem re_field (r : Reentrancy) (h : 0 ≤ r.maxInFlight) :
    decodeRe (encodeRe (Reentrancy.new r.mode r.maxInFlight)) = clampRe r := by
  have : Reentrancy.new r.mode r.maxInFlight = r := by
    obtain ⟨m, n⟩ := r
    simp only [Reentrancy.new] at h ⊢
    congr 1; split <;> omega
  rw [this, re_wire_exact r h]

/-- configPID and wireSpawnOptions both drop the role "": doing it twice changes nothing -/
theorem role_idem (r : Option String) :
    (match (match r with | some r => if r = "" then none else some r | none => none) with
      | some r => if r = "" then none else some r | none => none) =
    (match r with | some r => if r = "" then none else some r | none => none) := by
  cases r with
  | none => rfl
  | some r => by_cases h : r = "" <;> simp [h]

theorem init_roundtrip (t : Int) (h : 0 < t ∧ inI64 t = true) : withInitTimeout (durAs (durNew t)) = some t := by
  simp [withInitTimeout, dur_roundtrip t h.2, h.1]

/-- **what the re-created actor holds, exactly**, for every configuration: everything, with the
    directive table re-normalised and the reentrancy limit clamped -/
theorem relocate_exact (d : Defaults) (c : SpawnCfg) (hi : Inv d c) :
    let p := configPID d c
    let q := relocate d c
    q.sup.strategy = p.sup.strategy ∧ q.sup.maxRetries = p.sup.maxRetries ∧ q.sup.timeout = p.sup.timeout ∧
    q.sup.initialDelay = p.sup.initialDelay ∧ q.sup.maxDelay = p.sup.maxDelay ∧ q.sup.resetAfter = p.sup.resetAfter ∧
    (∀ k, rget q.sup.rules k = normGet p.sup.rules k) ∧
    q.pas = p.pas ∧ q.re = p.re.map clampRe ∧ q.stash = p.stash ∧ q.role = p.role ∧ q.deps = p.deps ∧
    q.initTimeout = p.initTimeout := by
  obtain ⟨sup, pas, re, stash, role, deps, init⟩ := c
  intro p q
  have hsup : nodupKeys p.sup.rules ∧ inI64 p.sup.timeout = true ∧ tripleOK p.sup := by
    cases sup with
    | none => exact hi.dSup
    | some s => exact hi.sup s rfl
  obtain ⟨e1, e2, e3, e4, e5, e6, e7⟩ := sup_roundtrip_exact p.sup hsup.1 hsup.2.1 hsup.2.2
  refine ⟨e1, e2, e3, e4, e5, e6, e7, ?_, ?_, rfl, (role_idem _).trans (role_idem role), rfl, ?_⟩
  · cases pas with
    | none => exact pas_roundtrip d.pas hi.dPas
    | some x => exact pas_roundtrip x fun ns hns => hi.pas ns (congrArg some hns)
  · cases re with
    | none => rfl
    | some r => exact congrArg some (re_field r (hi.re r rfl))
  · cases init with
    | none => rfl
    | some t => exact init_roundtrip t (hi.init t rfl)

/-- **what a remotely spawned actor holds, exactly** (same defaults on both nodes): an explicit
    supervisor is altered exactly as in relocation, an absent one is the target's default -/
theorem remoteSpawn_exact (d : Defaults) (c : SpawnCfg) (hi : Inv d c) :
    let p := configPID d c
    let q := remoteSpawn d c
    (match c.sup with
     | some s => q.sup.strategy = s.strategy ∧ q.sup.maxRetries = s.maxRetries ∧ q.sup.timeout = s.timeout ∧
        q.sup.initialDelay = s.initialDelay ∧ q.sup.maxDelay = s.maxDelay ∧ q.sup.resetAfter = s.resetAfter ∧
        ∀ k, rget q.sup.rules k = normGet s.rules k
     | none => q.sup = p.sup) ∧
    q.pas = p.pas ∧ q.re = p.re.map clampRe ∧ q.stash = p.stash ∧ q.role = p.role ∧ q.deps = p.deps ∧
    q.initTimeout = p.initTimeout := by
  obtain ⟨sup, pas, re, stash, role, deps, init⟩ := c
  intro p q
  refine ⟨?_, ?_, ?_, rfl, role_idem role, rfl, ?_⟩
  · cases sup with
    | none => rfl
    | some s => exact sup_roundtrip_exact s (hi.sup s rfl).1 (hi.sup s rfl).2.1 (hi.sup s rfl).2.2
  · cases pas with
    | none => rfl
    | some x => exact pas_roundtrip x fun ns hns => hi.pas ns (congrArg some hns)
  · cases re with
    | none => rfl
    | some r => exact congrArg some (re_wire_exact r (hi.re r rfl))
  · cases init with
    | none => rfl
    | some t =>
      show (match (if t > 0 then some (durNew t) else none) with
        | some t => withInitTimeout (durAs t) | none => none) = some t
      rw [if_pos (hi.init t rfl).1]; exact init_roundtrip t (hi.init t rfl)

/-- the English property: same configuration on every observable accessor, on both routes -/
def C37_full : Prop :=
  ∀ (d : Defaults) (c : SpawnCfg), Inv d c →
    obsEq (relocate d c) (configPID d c) ∧ obsEq (remoteSpawn d c) (configPID d c)

/-- evaluated on the configuration the local actor holds -/
def guard (p : PidCfg) : Bool :=
  ctorShaped p.sup.rules && (match p.re with | some r => decide (r.maxInFlight ≤ maxU32) | none => true)

theorem guard_iff (p : PidCfg) :
    guard p = true ↔ ctorShaped p.sup.rules = true ∧ ∀ r, p.re = some r → r.maxInFlight ≤ maxU32 := by
  unfold guard; rw [Bool.and_eq_true]; cases p.re <;> simp

theorem clampRe_of_guard {p : PidCfg} (hg : guard p = true) : p.re.map clampRe = p.re := by
  cases hr : p.re with
  | none => rfl
  | some r => simp only [Option.map_some, clampRe, if_neg (Int.not_lt.mpr (((guard_iff p).mp hg).2 r hr))]

theorem C37_partial (d : Defaults) (c : SpawnCfg) (hi : Inv d c) (hg : guard (configPID d c) = true) :
    obsEq (relocate d c) (configPID d c) ∧ obsEq (remoteSpawn d c) (configPID d c) := by
  have hn := normGet_of_ctorShaped _ ((guard_iff _).mp hg).1
  have hre := clampRe_of_guard hg
  obtain ⟨e1, e2, e3, e4, e5, e6, e7, e8, e9, e10⟩ := relocate_exact d c hi
  obtain ⟨es, f8, f9, f10⟩ := remoteSpawn_exact d c hi
  refine ⟨⟨e1, e2, e3, e4, e5, e6, fun k => (e7 k).trans (hn k), e8, e9.trans hre, e10⟩, ?_⟩
  -- an explicit supervisor is the one the local actor holds; without one both sides hold the default
  unfold obsEq
  cases hs : c.sup with
  | none =>
    rw [hs] at es
    rw [show (remoteSpawn d c).sup = (configPID d c).sup from es]
    exact ⟨rfl, rfl, rfl, rfl, rfl, rfl, fun _ => rfl, f8, f9.trans hre, f10⟩
  | some s =>
    rw [hs] at es
    have hp : (configPID d c).sup = s := by show c.sup.getD d.sup = s; rw [hs]; rfl
    rw [hp] at hn ⊢
    obtain ⟨g1, g2, g3, g4, g5, g6, g7⟩ := es
    exact ⟨g1, g2, g3, g4, g5, g6, fun k => (g7 k).trans (hn k), f8, f9.trans hre, f10⟩

def dflt : Defaults := ⟨newSupervisor [], .timeBased 120000000000⟩

theorem tripleOK_zero (s : Sup) (h1 : s.initialDelay = 0) (h2 : s.maxDelay = 0) (h3 : s.resetAfter = 0) : tripleOK s := by
  refine ⟨Or.inl ⟨h1, h2, h3⟩, ?_, ?_, ?_⟩ <;> simp [h1, h2, h3, inI64, minI64, maxI64]

/-- witness: a supervisor whose table was emptied with the public `Reset()` — the decoder's
    NewSupervisor puts the two default directives back (finding C37-F2) -/
def resetSup : Sup := applyPost (newSupervisor []) .reset
def witness : SpawnCfg := ⟨some resetSup, none, none, false, none, [], none⟩

theorem witness_inv : Inv dflt witness := by
  refine ⟨⟨(newSupervisor_ctorShaped [] (by simp)).2, by decide, tripleOK_zero _ rfl rfl rfl⟩, ?_, ?_, ?_, ?_, ?_⟩
  · intro ns h; simp [dflt] at h; subst h; decide
  · intro s h
    simp only [witness, Option.some.injEq] at h
    subst h
    exact ⟨by simp [resetSup, applyPost, nodupKeys, rkeys], by decide, tripleOK_zero _ rfl rfl rfl⟩
  · intro ns h; simp [witness] at h
  · intro r h; simp [witness] at h
  · intro t h; simp [witness] at h

theorem C37_refuted : ¬ C37_full := by
  intro h
  have hobs := (h dflt witness witness_inv).1
  have hk := hobs.2.2.2.2.2.2.1 panicKey
  have hex := (relocate_exact dflt witness witness_inv).2.2.2.2.2.2.1 panicKey
  rw [hex] at hk
  revert hk
  decide

/-- the backoff triple survives relocation, for every configuration (without the `SupervisorSpec`
    fields of fix 1ad4e99 it comes back as 0/0/0) -/
theorem C37_backoff_survives (d : Defaults) (c : SpawnCfg) (hi : Inv d c) :
    (relocate d c).sup.initialDelay = (configPID d c).sup.initialDelay ∧
    (relocate d c).sup.maxDelay = (configPID d c).sup.maxDelay ∧
    (relocate d c).sup.resetAfter = (configPID d c).sup.resetAfter := by
  obtain ⟨_, _, _, e4, e5, e6, _⟩ := relocate_exact d c hi
  exact ⟨e4, e5, e6⟩

def tripleShape (s : Sup) : Prop :=
  (s.initialDelay = 0 ∧ s.maxDelay = 0 ∧ s.resetAfter = 0) ∨
  (0 < s.initialDelay ∧ s.initialDelay ≤ s.maxDelay ∧ 0 < s.resetAfter)

theorem tripleShape_applyOpt (s : Sup) (o : SupOpt) (h : tripleShape s) : tripleShape (applyOpt s o) := by
  cases o with
  | backoff i m r =>
    simp only [applyOpt]
    split
    · exact h
    · refine Or.inr ⟨by simp only; omega, ?_, ?_⟩ <;> simp only <;> (repeat' split) <;> omega
  | _ => exact h

/-- every supervisor `NewSupervisor` can build, from ANY options, has a constructor-shaped table and a
    normalised backoff triple: the guard's supervisor part and the shape clause of `Inv` -/
theorem C37_constructor_covered (opts : List SupOpt) (ho : ∀ o ∈ opts, optOK o) :
    ctorShaped (newSupervisor opts).rules = true ∧
    (((newSupervisor opts).initialDelay = 0 ∧ (newSupervisor opts).maxDelay = 0 ∧ (newSupervisor opts).resetAfter = 0) ∨
     (0 < (newSupervisor opts).initialDelay ∧ (newSupervisor opts).initialDelay ≤ (newSupervisor opts).maxDelay ∧
      0 < (newSupervisor opts).resetAfter)) := by
  refine ⟨(newSupervisor_ctorShaped opts ho).1, ?_⟩
  have hk : tripleShape (opts.foldl applyOpt base) :=
    List.foldlRecOn opts applyOpt (Or.inl ⟨rfl, rfl, rfl⟩) fun s hs o _ => tripleShape_applyOpt s o hs
  show tripleShape (collapse _)
  unfold collapse
  split <;> exact hk

/-- a non-trivial configuration satisfying the guard: custom directives, retry budget, backoff, time-based
    passivation, reentrancy, stash, role, a dependency, an init timeout -/
def sample : SpawnCfg :=
  ⟨some (newSupervisor [.strategy .oneForAll, .retry 3 5000000000, .backoff 1000 2000 3000, .directive "actor.VerifC37ErrA" .resume]),
   some (.timeBased 3600000000001), some (Reentrancy.new .stashNonReentrant 7), true, some "web", [⟨"d1", "hello"⟩], some 5000000000⟩

example : guard (configPID dflt sample) = true := by decide
example : guard (configPID dflt witness) = false := by decide

end GoaktVerif.C37
