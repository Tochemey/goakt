/-
C45 — "For any finite input and any composition of linear stages (Map, TryMap, Filter, FlatMap, Flatten,
Scan, Deduplicate, Batch, Buffer, OrderedParallelMap, ParallelMap), the sink receives exactly the elements
the corresponding list computation produces, in order (as a multiset for ParallelMap), and the stream
completes exactly once; a stage error ends the stream with that error."

Model: Model/C45 (stage actors as state machines, FIFO links, every scheduler choice a `Pick`).
Spec:  Spec/C45 (`sem`, plain list functions).
-/
import GoaktVerif.Model.C45.Net
import GoaktVerif.Spec.C45
import GoaktVerif.Lemmas.C45.Sem
import GoaktVerif.Lemmas.C45.Flow
import GoaktVerif.Lemmas.C45.Sink
import GoaktVerif.Lemmas.C45.NetInit
import GoaktVerif.Lemmas.C45.Bridge
import GoaktVerif.Lemmas.C45.FusedBridge
import GoaktVerif.Lemmas.C45.HomogSem

namespace GoaktVerif.C45
open GoaktVerif.Model.C45 GoaktVerif.Spec.C45

/-- pipelines whose stages all emit in input order (everything except the unordered ParallelMap) -/
def orderedPipeline (stages : List Stage) : Bool :=
  stages.all fun s => match s with
    | .pmap _ _ _ _ => false
    | _ => true

/-- what the sink may have observed, given the list semantics of the pipeline -/
def SinkOK (stages : List Stage) (input : List Val) (s : SinkSt) : Prop :=
  -- the completion hook never runs twice, and has run once when the sink has stopped
  s.hooks ≤ 1 ∧ (s.alive = false → s.hooks = 1) ∧
  -- at every moment the elements received are a prefix of the list semantics
  s.received <+: (sem stages input).1 ∧
  -- normal completion: exactly the list semantics, and no stage fails on this input
  (s.alive = false → s.termErr = none → s.received = (sem stages input).1 ∧ (sem stages input).2 = []) ∧
  -- failure: with an error some stage raises on this input
  (∀ e, s.termErr = some e → e ∈ (sem stages input).2)

/-- The full property (safety part), for every pipeline, input, fusion mode and EVERY schedule. -/
def C45_full : Prop :=
  ∀ (fusion : Bool) (stages : List Stage) (input : List Val) (picks : List Pick) (s : SinkSt),
    orderedPipeline stages = true →
    ((mkNet fusion stages input).run picks).sink? = some s → SinkOK stages input s

/-! ### the witness of finding C45-F1 (fixed in goakt by 688097a, which the model follows)

`[Batch 1, Buffer 1]` on `[1,2,3]`: Buffer(1) asks the Batch for one element at a time; on `witnessPicks` the
unfixed Batch dropped `[2,3]`. -/

def witnessStages : List Stage := [.batch 1, .buffer 1]
def witnessInput : List Val := [.int 1, .int 2, .int 3]
def witnessPicks : List Pick :=
  [.up 2, .up 1, .up 0, .down 0, .down 0, .down 0, .down 0, .down 1, .down 1, .down 2, .down 2]

/-- TEST, two concrete runs: the eager scheduler delivers the full list semantics and completes; after
    `witnessPicks` the sink holds `[[1]]` and no error -/
theorem witness_regression :
    (((simulate false false witnessStages witnessInput).sink?.map fun s => (s.received, s.alive, s.termErr)) =
      some ([.list [1], .list [2], .list [3]], false, none)) ∧
    ((((mkNet false witnessStages witnessInput).run witnessPicks).sink?.map fun s => (s.received, s.termErr)) =
      some ([.list [1]], none)) := by decide

/-- the middle nodes `mkNet` builds -/
def midsOf (fusion : Bool) (stages : List Stage) : List Node :=
  if fusion then fuseRuns stages [] else stages.map mkNode

/-- the stages behind each of those nodes -/
def groupsOf (fusion : Bool) (stages : List Stage) : List (List Stage) :=
  if fusion then groupRuns stages [] else stages.map fun s => [s]

theorem midsOf_eq (fusion : Bool) (stages : List Stage) :
    midsOf fusion stages = (groupsOf fusion stages).map nodeOfGroup := by
  cases fusion with
  | true => simp [midsOf, groupsOf, fuseRuns_eq]
  | false => simp [midsOf, groupsOf, List.map_map]; intro a _; rfl

theorem groupsOf_flatten (fusion : Bool) (stages : List Stage) : (groupsOf fusion stages).flatten = stages := by
  cases fusion with
  | true => simp [groupsOf, groupRuns_flatten]
  | false => exact (List.flatMap_def ..).symm.trans (List.flatMap_singleton' stages)

theorem groupsOf_good (fusion : Bool) (stages : List Stage) (h : ∀ st ∈ stages, Stage.covered st = true) :
    ∀ g ∈ groupsOf fusion stages, GoodGroup g := by
  cases fusion with
  | true => exact groupRuns_good stages [] h (by simp)
  | false =>
    intro g hg
    simp only [groupsOf, Bool.false_eq_true, if_false, List.mem_map] at hg
    obtain ⟨a, ha, rfl⟩ := hg
    exact Or.inl ⟨a, rfl, h a ha⟩

theorem mkNet_eq (fusion : Bool) (stages : List Stage) (input : List Val) :
    mkNet fusion stages input = wireAll (midsOf fusion stages).length.succ.succ (rawNet (midsOf fusion stages) input) := by
  simp [mkNet, mkNodes, rawNet, midsOf]

theorem midsOf_fresh (fusion : Bool) (stages : List Stage) : ∀ nd ∈ midsOf fusion stages, Fresh nd := by
  intro nd hnd
  rw [midsOf_eq] at hnd
  obtain ⟨g, _, rfl⟩ := List.mem_map.mp hnd
  match g with
  | [a] => exact fresh_mkNode a
  | [] | _ :: _ :: _ => exact ⟨rfl, FusedInv.init _, rfl⟩

def Stage.isParSt : Stage → Bool
  | .opmap _ _ _ _ | .pmap _ _ _ _ => true
  | _ => false

theorem isPar_nodeOfGroup (g : List Stage) (h : isPar (nodeOfGroup g) = true) : ∃ a, g = [a] ∧ Stage.isParSt a = true := by
  match g with
  | [] => simp [nodeOfGroup, isPar] at h
  | [a] =>
    refine ⟨a, rfl, ?_⟩
    cases a <;> simp [nodeOfGroup, mkNode, isPar] at h <;> rfl
  | a :: b :: r => simp [nodeOfGroup, isPar] at h

theorem midsOf_noPar (fusion : Bool) (stages : List Stage) (h : ∀ st ∈ stages, Stage.isParSt st = false) :
    ∀ nd ∈ midsOf fusion stages, isPar nd = false := by
  intro nd hnd
  rw [midsOf_eq] at hnd
  obtain ⟨g, hg, rfl⟩ := List.mem_map.mp hnd
  cases hp : isPar (nodeOfGroup g) with
  | false => rfl
  | true =>
    obtain ⟨a, rfl, ha⟩ := isPar_nodeOfGroup g hp
    have : a ∈ (groupsOf fusion stages).flatten := List.mem_flatten.mpr ⟨[a], hg, by simp⟩
    rw [groupsOf_flatten] at this
    rw [h a this] at ha; simp at ha

theorem run_inv_gen (P : List Val → Prop) (fusion : Bool) (stages : List Stage) (input : List Val) (picks : List Pick)
    (hpar : (∀ X, P X → Homog X) ∨ ∀ st ∈ stages, Stage.isParSt st = false) :
    GInv P input ((mkNet fusion stages input).run picks) := by
  have hfresh := midsOf_fresh fusion stages
  have hraw := GInv.raw (P := P) (midsOf fusion stages) input hfresh
    (hpar.imp id fun hp => midsOf_noPar fusion stages hp)
  have hal := rawNet_allAlive (midsOf fusion stages) input hfresh
  have hw := wireAll_inv _ hraw hal (midsOf fusion stages).length.succ.succ (by simp [rawNet])
  rw [mkNet_eq]
  exact hw.1.run picks

theorem run_inv (P : List Val → Prop) (fusion : Bool) (stages : List Stage) (input : List Val) (picks : List Pick)
    (h : ∀ st ∈ stages, Stage.covered st = true)
    (hpar : (∀ X, P X → Homog X) ∨ ∀ st ∈ stages, Stage.isParSt st = false) :
    GInv P input ((mkNet fusion stages input).run picks) :=
  run_inv_gen P fusion stages input picks hpar

theorem map_nodes_mkNet {α : Type} (f : Node → α) (hf : ∀ nd ev, f (nd.step ev).1 = f nd)
    (fusion : Bool) (stages : List Stage) (input : List Val) (picks : List Pick) :
    ((mkNet fusion stages input).run picks).nodes.map f =
      f (.src { rest := input }) :: (((groupsOf fusion stages).map fun g => f (nodeOfGroup g)) ++ [f (.sink defaultCfg {})]) := by
  rw [map_nodes_run f hf, mkNet_eq, map_nodes_wireAll f hf]
  simp [rawNet, midsOf_eq]

/-- the semantic functions along the pipeline `mkNet` builds -/
def FsOf (fusion : Bool) (stages : List Stage) (input : List Val) : List SemFn :=
  midF (.src { rest := input }) ::
    (((groupsOf fusion stages).map fun g => midF (nodeOfGroup g)) ++ [midF (.sink defaultCfg {})])

theorem semsOf_mkNet (fusion : Bool) (stages : List Stage) (input : List Val) (picks : List Pick) :
    semsOf ((mkNet fusion stages input).run picks) = FsOf fusion stages input :=
  map_nodes_mkNet midF (fun nd ev => (Node.step_static nd ev).sem) fusion stages input picks

theorem kindsOf_mkNet (fusion : Bool) (stages : List Stage) (input : List Val) (picks : List Pick) :
    ((mkNet fusion stages input).run picks).nodes.map ukind =
      none :: (((groupsOf fusion stages).map fun g => ukind (nodeOfGroup g)) ++ [none]) :=
  map_nodes_mkNet ukind (fun nd ev => (Node.step_static nd ev).kind) fusion stages input picks

theorem ukind_nodeOfGroup (g : List Stage) (h : GoodGroup g) : ukind (nodeOfGroup g) = none := by
  match g with
  | [a] =>
    have : Stage.covered a = true := h.elim (fun ⟨b, hb, hc⟩ => by cases hb; exact hc)
      fun hf => fusable_covered a (hf a List.mem_cons_self)
    cases a with
    | pmap w k b e => cases this
    | _ => rfl
  | [] | _ :: _ :: _ => rfl

/-- in every state of every run, node `j + 1` is of the kind of the node built for group `j` -/
theorem ukind_at {fusion : Bool} {stages : List Stage} {input : List Val} {picks : List Pick} {j : Nat} {nd : Node}
    {g : List Stage} (hn : ((mkNet fusion stages input).run picks).nodes[j + 1]? = some nd)
    (hg : (groupsOf fusion stages)[j]? = some g) : ukind nd = ukind (nodeOfGroup g) := by
  have hk : (((mkNet fusion stages input).run picks).nodes.map ukind)[j + 1]? = some (ukind nd) := by simp [hn]
  rw [kindsOf_mkNet, List.getElem?_cons_succ, List.getElem?_append_left (by simpa using (List.getElem?_eq_some_iff.mp hg).1)] at hk
  simpa [hg] using hk.symm

/-- Whatever stages follow (`post`; `hG`: fusion does not join a stage of `pre` with one of `post`), the link below the
    nodes built for the ordered stages `pre` carries, in every state of every run, an approximation of `sem pre input`. -/
theorem link_sem (P : List Val → Prop) (fusion : Bool) (pre post : List Stage) (gs : List (List Stage))
    (input : List Val) (picks : List Pick)
    (hG : groupsOf fusion (pre ++ post) = groupsOf fusion pre ++ gs)
    (hcov : ∀ st ∈ pre, Stage.covered st = true)
    (hinv : GInv P input ((mkNet fusion (pre ++ post) input).run picks))
    (hP : ∀ j, P (idealAt (FsOf fusion (pre ++ post) input) input j).1) :
    ∃ Y es, Approx (hist ((mkNet fusion (pre ++ post) input).run picks) (groupsOf fusion pre).length) Y es ∧ P Y ∧
      SemRel (Y, es) (sem pre input) := by
  have hsem := semsOf_mkNet fusion (pre ++ post) input picks
  have hlen : ((mkNet fusion (pre ++ post) input).run picks).nodes.length = (groupsOf fusion pre).length + gs.length + 2 := by
    have := congrArg List.length hsem
    simp [semsOf, FsOf, hG] at this
    omega
  have hu : ∀ (j : Nat) nd, j ≤ (groupsOf fusion pre).length →
      ((mkNet fusion (pre ++ post) input).run picks).nodes[j]? = some nd → isUnord nd = false := by
    intro j nd hj hn
    cases j with
    | zero => obtain ⟨s, hs, _⟩ := hinv.src; cases Option.some.inj (hn.symm.trans hs); rfl
    | succ j =>
      have hg : (groupsOf fusion (pre ++ post))[j]? = some (groupsOf fusion pre)[j] := by
        rw [hG, List.getElem?_append_left hj, List.getElem?_eq_getElem hj]
      rw [isUnord_eq_ukind, ukind_at hn hg,
        ukind_nodeOfGroup _ (groupsOf_good fusion pre hcov _ (List.getElem_mem hj))]; rfl
  have hap := hinv.approx_link (by rw [hsem]; exact hP) (groupsOf fusion pre).length (by omega) hu
  have hI := idealAt_eq_semF (midF (.src { rest := input })) ((groupsOf fusion pre).map fun g => midF (nodeOfGroup g))
    ((gs.map fun g => midF (nodeOfGroup g)) ++ [midF (.sink defaultCfg {})]) input
  rw [List.length_map] at hI
  rw [hsem, FsOf, hG, List.map_append, List.append_assoc, hI] at hap
  have hr := semF_groups (groupsOf fusion pre) (groupsOf_good fusion pre hcov) input
  rw [groupsOf_flatten] at hr
  have hPL := hP (groupsOf fusion pre).length
  rw [FsOf, hG, List.map_append, List.append_assoc, hI] at hPL
  exact ⟨_, _, hap, hPL, hr⟩

theorem SinkOKAt.mono {Y Y' : List Val} {es es' : List Err} {s : SinkSt}
    (h : SinkOKAt Y es s) (hr : SemRel (Y, es) (Y', es')) : SinkOKAt Y' es' s := by
  obtain ⟨a, b, c, d, f⟩ := h
  obtain ⟨r1, r2, r3⟩ := hr
  simp only at r1 r2 r3
  exact ⟨a, b, r1 ▸ c, fun ha he => ⟨r1 ▸ (d ha he).1, r2.mp (d ha he).2⟩, fun e he => r3 e (f e he)⟩

/-- COMPOSITION, generic in the class `P` of ideal inputs: for every covered pipeline, both fusion modes, every
    schedule — against the list semantics `sem`. -/
theorem C45_gen (P : List Val → Prop) (fusion : Bool) (stages : List Stage) (input : List Val) (picks : List Pick)
    (s : SinkSt) (h : ∀ st ∈ stages, Stage.covered st = true)
    (hpar : (∀ X, P X → Homog X) ∨ ∀ st ∈ stages, Stage.isParSt st = false)
    (hP : ∀ j, P (idealAt (FsOf fusion stages input) input j).1)
    (hs : ((mkNet fusion stages input).run picks).sink? = some s) : SinkOK stages input s := by
  have hinv := run_inv_gen P fusion stages input picks hpar
  have hL : (groupsOf fusion stages).length + 2 = ((mkNet fusion stages input).run picks).nodes.length := by
    have := congrArg List.length (semsOf_mkNet fusion stages input picks)
    simpa [semsOf, FsOf] using this.symm
  obtain ⟨Y, es, hap, _, hr⟩ := link_sem P fusion stages [] [] input picks (by simp) h
    (by rw [List.append_nil]; exact hinv) (by rw [List.append_nil]; exact hP)
  rw [List.append_nil] at hap
  exact (hinv.sink_of_approx s hs hL hap).mono hr

theorem covered_of_ordered (stages : List Stage) (h : orderedPipeline stages = true) :
    ∀ st ∈ stages, Stage.covered st = true := by
  intro st hst
  have := List.all_eq_true.mp h st hst
  cases st with
  | pmap w k b e => cases this
  | _ => rfl

theorem ideals_homog (fusion : Bool) (stages : List Stage) (input : List Val)
    (h : ∀ st ∈ stages, Stage.covered st = true) (hin : Homog input) :
    ∀ j, Homog (idealAt (FsOf fusion stages input) input j).1 := by
  apply idealAt_homog _ _ _ hin
  intro F hF X hX
  simp only [FsOf, List.mem_cons, List.mem_append, List.mem_map] at hF
  rcases hF with rfl | ⟨g, hg, rfl⟩ | rfl | hF
  · exact hX
  · exact group_homog g (groupsOf_good fusion stages h g hg) X hX
  · exact hX
  · simp at hF

/-- The full property as stated for typed streams: the input elements have one type (the Go API's `Of[T]`);
    every pipeline without the unordered ParallelMap, both fusion modes, every schedule. -/
def C45_typed : Prop :=
  ∀ (fusion : Bool) (stages : List Stage) (input : List Val) (picks : List Pick) (s : SinkSt),
    orderedPipeline stages = true → Homog input →
    ((mkNet fusion stages input).run picks).sink? = some s → SinkOK stages input s

theorem C45_holds : C45_typed := by
  intro fusion stages input picks s ho hin hs
  have hcov := covered_of_ordered stages ho
  exact C45_gen Homog fusion stages input picks s hcov (Or.inl fun _ hX => hX)
    (ideals_homog fusion stages input hcov hin) hs

/-- pipelines without any parallel stage: no assumption on the input at all -/
def flowPipeline (stages : List Stage) : Prop :=
  ∀ st ∈ stages, Stage.covered st = true ∧ Stage.isParSt st = false

theorem C45_partial_all (fusion : Bool) (stages : List Stage) (input : List Val) (picks : List Pick) (s : SinkSt)
    (h : flowPipeline stages) (hs : ((mkNet fusion stages input).run picks).sink? = some s) :
    SinkOK stages input s :=
  C45_gen (fun _ => True) fusion stages input picks s (fun st hst => (h st hst).1)
    (Or.inr fun st hst => (h st hst).2) (fun _ => trivial) hs

theorem C45_partial (stages : List Stage) (input : List Val) (picks : List Pick) (s : SinkSt)
    (h : flowPipeline stages) (hs : ((mkNet false stages input).run picks).sink? = some s) :
    SinkOK stages input s := C45_partial_all false stages input picks s h hs

theorem C45_partial_fused (stages : List Stage) (input : List Val) (picks : List Pick) (s : SinkSt)
    (h : flowPipeline stages) (hs : ((mkNet true stages input).run picks).sink? = some s) :
    SinkOK stages input s := C45_partial_all true stages input picks s h hs

/-- without the typing assumption the untyped model refutes `C45_full`: an OrderedParallelMap that has a failing
    int in flight when a list element arrives stops with the type error, which `sem` does not list -/
theorem C45_full_untyped_witness :
    (sem [.opmap 2 0 (some 5) "P0"] [.int 5, .list []]).2 = ["P0"] ∧
    (((mkNet false [.opmap 2 0 (some 5) "P0"] [.int 5, .list []]).run
        [.up 1, .up 0, .down 0, .down 0, .down 1]).sink?.map (·.termErr)) = some (some typeErr) := by decide

/-- hence the statement over ALL (also ill-typed) inputs is false of the untyped model; the typed statement is `C45_holds` -/
theorem C45_full_refuted_untyped : ¬ C45_full := by
  intro h
  obtain ⟨hsem, hrun⟩ := C45_full_untyped_witness
  cases hs : ((mkNet false [.opmap 2 0 (some 5) "P0"] [.int 5, .list []]).run
      [.up 1, .up 0, .down 0, .down 0, .down 1]).sink? with
  | none => rw [hs] at hrun; simp at hrun
  | some s =>
    rw [hs] at hrun
    simp only [Option.map_some, Option.some.injEq] at hrun
    have := (h false _ _ _ s (by decide) hs).2.2.2.2 typeErr hrun
    rw [hsem] at this
    simp [typeErr] at this


/-! ### the unordered ParallelMap: a pipeline `pre ++ [ParallelMap]`, every schedule, as a MULTISET

The stages of `pre` emit in order (everything but the unordered ParallelMap); the last stage runs its workers
concurrently and emits results as they arrive. At every moment the sink holds a sub-multiset of the results of
the non-failing elements; when the stream completes normally it holds a PERMUTATION of the list semantics and no
stage fails on this input; when it fails, with an error the list semantics lists. The hook runs exactly once. -/

theorem groupRuns_snoc (pre acc : List Stage) (s : Stage) (hs : s.fusable = false) :
    groupRuns (pre ++ [s]) acc = groupRuns pre acc ++ [[s]] := by
  induction pre generalizing acc with
  | nil => simp [groupRuns, hs, accGroup]
  | cons a pre ih =>
    simp only [List.cons_append, groupRuns]
    split
    · exact ih (a :: acc)
    · rw [ih []]; simp

theorem groupsOf_snoc (fusion : Bool) (pre : List Stage) (s : Stage) (hs : s.fusable = false) :
    groupsOf fusion (pre ++ [s]) = groupsOf fusion pre ++ [[s]] := by
  cases fusion with
  | true => simp [groupsOf, groupRuns_snoc pre [] s hs]
  | false => simp [groupsOf]

/-- what the sink may have observed below `pre ++ [ParallelMap w k bad e]` -/
def SinkOKUnordered (pre : List Stage) (w : Nat) (k : Int) (bad : Option Int) (e : Err) (input : List Val)
    (s : SinkSt) : Prop :=
  s.hooks ≤ 1 ∧ (s.alive = false → s.hooks = 1) ∧
  -- at every moment: a sub-multiset of the results of the elements that do not fail
  SubPerm s.received (okAll k bad e (sem pre input).1) ∧
  -- normal completion: a permutation of the list semantics, and no stage fails on this input
  (s.alive = false → s.termErr = none →
    List.Perm s.received (sem (pre ++ [.pmap w k bad e]) input).1 ∧ (sem (pre ++ [.pmap w k bad e]) input).2 = []) ∧
  -- failure: with an error some stage raises on this input
  (∀ er, s.termErr = some er → er ∈ (sem (pre ++ [.pmap w k bad e]) input).2)

def C45_unordered : Prop :=
  ∀ (fusion : Bool) (pre : List Stage) (w : Nat) (k : Int) (bad : Option Int) (e : Err) (input : List Val)
    (picks : List Pick) (s : SinkSt),
    orderedPipeline pre = true → Homog input →
    ((mkNet fusion (pre ++ [.pmap w k bad e]) input).run picks).sink? = some s →
    SinkOKUnordered pre w k bad e input s

theorem stageSem_pmap (w : Nat) (k : Int) (bad : Option Int) (e : Err) (vs : List Val) :
    stageSem (.pmap w k bad e) vs = parRun k bad e vs := by
  rw [parRun_eq_stageSem w k bad e vs]; rfl

theorem SinkOKU.transfer {pre : List Stage} {w : Nat} {k : Int} {bad : Option Int} {e : Err} {input : List Val}
    {Y : List Val} {es : List Err} {s : SinkSt} (h : SinkOKU k bad e Y es s) (hr : SemRel (Y, es) (sem pre input)) :
    SinkOKUnordered pre w k bad e input s := by
  obtain ⟨a, b, c, d, f⟩ := h
  obtain ⟨r1, r2, r3⟩ := hr
  simp only at r1 r2 r3
  subst r1
  have hsemA : sem (pre ++ [.pmap w k bad e]) input =
      ((parRun k bad e (sem pre input).1).1, (sem pre input).2 ++ (parRun k bad e (sem pre input).1).2.toList) := by
    rw [sem_append]; simp [sem, stageSem_pmap]
  rw [SinkOKUnordered, hsemA]
  refine ⟨a, b, c, fun ha he => ?_, fun er her => ?_⟩
  · obtain ⟨p1, p2, p3⟩ := d ha he
    exact ⟨p1, by simp [r2.mp p2, p3]⟩
  · exact (List.mem_append.mp (f er her)).elim (fun h1 => List.mem_append_left _ (r3 er h1)) (List.mem_append_right _)

theorem C45_unordered_holds : C45_unordered := by
  intro fusion pre w k bad e input picks s ho hin hs
  have hcov := covered_of_ordered pre ho
  have hG := groupsOf_snoc fusion pre (.pmap w k bad e) rfl
  have hinv := run_inv_gen Homog fusion (pre ++ [.pmap w k bad e]) input picks (Or.inl fun _ hX => hX)
  have hsem := semsOf_mkNet fusion (pre ++ [.pmap w k bad e]) input picks
  have hlen : (groupsOf fusion pre).length + 3 =
      ((mkNet fusion (pre ++ [.pmap w k bad e]) input).run picks).nodes.length := by
    have := congrArg List.length hsem
    simpa [semsOf, FsOf, hG] using this.symm
  have hP : ∀ j, Homog (idealAt (FsOf fusion (pre ++ [.pmap w k bad e]) input) input j).1 := by
    apply idealAt_homog _ _ _ hin
    intro F hF X hX
    simp only [FsOf, hG, List.mem_cons, List.mem_append, List.mem_map, List.not_mem_nil, or_false] at hF
    rcases hF with rfl | ⟨g, hg | rfl, rfl⟩ | rfl
    · exact hX
    · exact group_homog g (groupsOf_good fusion pre hcov g hg) X hX
    · show Homog (parRun k bad e X).1
      rw [← stageSem_pmap w]; exact stageSem_homog _ X hX
    · exact hX
  obtain ⟨Y, es, hap, hY, hr⟩ := link_sem Homog fusion pre _ _ input picks hG hcov hinv hP
  -- the stage above the sink is the unordered ParallelMap
  obtain ⟨nd, hn⟩ : ∃ nd, ((mkNet fusion (pre ++ [.pmap w k bad e]) input).run picks).nodes[
      (groupsOf fusion pre).length + 1]? = some nd := ⟨_, List.getElem?_eq_getElem (by omega)⟩
  obtain ⟨w', st, rfl⟩ := ukind_some (k := k) (bad := bad) (e := e)
    (ukind_at hn (g := [.pmap w k bad e]) (by rw [hG]; simp))
  exact (hinv.sink_below_unord s hs hlen hn hap hY).transfer hr

example : flowPipeline [.map 1, .filter 2 0, .scan, .batch 3, .flatten, .buffer 3] := by
  intro st hst; simp at hst; rcases hst with rfl | rfl | rfl | rfl | rfl | rfl <;> exact ⟨rfl, rfl⟩

example : orderedPipeline [.map 1, .opmap 3 2 (some 7) "P1", .batch 2] = true ∧ Homog [.int 1, .int 7, .int 3] :=
  ⟨by decide, Or.inl (by intro v hv; simp at hv; rcases hv with rfl | rfl | rfl <;> rfl)⟩

example : orderedPipeline [.map 1, .scan] = true ∧ Homog [.int 1, .int 7, .int 3] ∧
    (sem ([.map 1, .scan] ++ [.pmap 3 2 (some 9) "P1"]) [.int 1, .int 7, .int 3]).1.length = 3 :=
  ⟨by decide, Or.inl (by intro v hv; simp at hv; rcases hv with rfl | rfl | rfl <;> rfl), by decide⟩

end GoaktVerif.C45
