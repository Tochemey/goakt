/-
C17 — Stopping the actor system tears down every actor exactly once.

"ActorSystem.Stop runs PostStop exactly once for every running user actor, children before
 parents, and deactivates every active grain exactly once. After Stop returns no user handler runs,
 and sends to stopped actors fail or go to dead letters."

Quantifier: all actor trees and grain populations in the generated domain, with traffic in flight
during shutdown.

Models: `Model/C17.lean` (the teardown order of a forest: freeChildren shuts the children down
concurrently, then PostStop), `Model/C06.lean` (one actor's stop critical section, Tell's flag test),
`Model/C31.lean` (one grain process and the shutdown PoisonPill).

Result.  Proved for every forest, every interleaving of the concurrent child shutdowns:
PostStop exactly once per running actor and never for a stopped one (`C17_exactly_once`), children
before parents (`C17_children_first`); a PoisonPill handled by an active grain deactivates it, once,
inside its turn, whatever else is queued (`C17_grain_pill_deactivates`; with `C31_holds`: at most once
on every schedule); a Tell whose flag test runs after the actor stopped is rejected and enqueues
nothing (`C17_send_after_stop_rejected`).  FALSE: "after Stop returns no user handler runs" —
the stop of an actor does not wait for a handler that is mid-turn (C06-F1), so the whole chain
returns while that handler is still inside Receive (`C17_handler_outlives_stop`, the shared
counterexample).  A deactivated grain does not receive the messages queued behind the shutdown pill
(C31-F2 / C17-F2, 6dc1e0c): `C17_grain_drops_after_deactivation`.
-/
import GoaktVerif.Lemmas.C17
import GoaktVerif.Lemmas.C06
import GoaktVerif.Model.C31

namespace GoaktVerif.C17
open GoaktVerif.Model.C17

/-- every possible PostStop order of the teardown is a permutation of the actors it reaches -/
theorem C17_perm {f : F} {out : List Nat} (h : Stops f out) : out.Perm (visited f) := by
  induction h with
  | nil => exact .refl _
  | skip _ ih => exact ih
  | node _ _ hi ihk ihs => exact (interleave_perm hi).trans ((ihk.append (.refl _)).append ihs)

theorem stops_running {f : F} {out : List Nat} (h : Stops f out) (hc : closed f = true) :
    out.Perm (runningIds f) := (C17_perm h).trans (visited_running hc)

/-- In a forest with distinct actors in which a stopped actor has no running descendant, EVERY
    possible teardown order contains each running actor exactly once and no stopped actor at all. -/
theorem C17_exactly_once {f : F} {out : List Nat} (h : Stops f out)
    (hc : closed f = true) (hn : (ids f).Nodup) (id : Nat) :
    out.count id = if id ∈ runningIds f then 1 else 0 := by
  rw [(stops_running h hc).count_eq]
  exact (hn.sublist (runningIds_sublist f)).count

/-- In EVERY possible teardown order, an actor reached inside the subtree of a reached actor `p`
    has its PostStop before `p`'s. -/
theorem C17_children_first {f : F} {out : List Nat} (h : Stops f out) (c p : Nat) (hb : Below f c p) :
    [c, p].Sublist out := by
  induction h generalizing c p with
  | nil => cases hb
  | skip _ ih =>
    cases hb with
    | inSibs hb' => exact ih c p hb'
  | node hk _ hi ihk ihs =>
    cases hb with
    | here hc =>
      have h1 : [c].Sublist _ := List.singleton_sublist.mpr ((C17_perm hk).mem_iff.mpr hc)
      exact (h1.append (.refl _)).trans (interleave_sub_left hi)
    | inKids hb' => exact ((ihk c p hb').trans (List.sublist_append_left _ _)).trans (interleave_sub_left hi)
    | inSibs hb' => exact (ihs c p hb').trans (interleave_sub_right hi)

/-- the relation is not empty: for every forest the depth-first order is a possible teardown -/
theorem C17_some_order (f : F) : Stops f (dfs f) := by
  induction f with
  | nil => exact .nil
  | cons id r kids sibs ihk ihs =>
    cases r with
    | false => exact .skip ihs
    | true => exact .node ihk ihs (interleave_append _ _)

/-- a concrete forest: guardian 0 with children 1 (child 3, stopped child 4) and 2 -/
def sampleForest : F :=
  .cons 0 true (.cons 1 true (.cons 3 true .nil (.cons 4 false .nil .nil)) (.cons 2 true .nil .nil)) .nil

example : closed sampleForest = true ∧ (ids sampleForest).Nodup ∧ dfs sampleForest = [3, 1, 2, 0] := by decide
example : Below sampleForest 3 0 := .here (by decide)
example : Below sampleForest 3 1 := .inKids (.here (by decide))

open GoaktVerif.Model.C31 in
/-- an active grain whose turn dequeues the PoisonPill deactivates inside that turn: four worker
    steps later OnDeactivate has begun and ended exactly once more, the process is out of the grain
    map and inactive — whatever else is queued, whatever the other threads are. -/
theorem C17_grain_pill_deactivates (c : GoaktVerif.Model.C31.Cfg) (b : Nat) (rest : List GMsg)
    (hw : c.w = .loop (b + 1)) (hb : c.box = .pill :: rest) (ha : c.active = true) :
    let c' := wStep (wStep (wStep (wStep c)))
    c'.deleted = true ∧ c'.active = false ∧ c'.inMap = false ∧ c'.mon.posts = c.mon.posts + 1
      ∧ c'.w = .loop b ∧ c'.box = rest := by
  simp [wStep, hw, hb, ha, GoaktVerif.Model.C31.emit, GoaktVerif.Model.C31.finish, GoaktVerif.Spec.C06.monStep]

open GoaktVerif.Model.C31 in
/-- once deactivated, the turn FAILS a queued user message instead of handing it to OnReceive
    (6dc1e0c): no hook event, the message is consumed -/
theorem C17_grain_drops_after_deactivation (c : GoaktVerif.Model.C31.Cfg) (b : Nat) (rest : List GMsg)
    (hw : c.w = .loop (b + 1)) (hb : c.box = .user :: rest) (ha : c.active = false) :
    (wStep c).log = c.log ∧ (wStep c).box = rest ∧ (wStep c).w = .loop b := by
  simp [wStep, hw, hb, ha]

open GoaktVerif.Model.C06 in
/-- a Tell whose flag test runs once the actor has stopped (`running = false`) is rejected: the
    sender finishes without enqueueing and without scheduling the actor -/
theorem C17_send_after_stop_rejected (c : GoaktVerif.Model.C06.Cfg) (i : Nat) (p : Bool)
    (hpc : c.threads i = .tCheck p) (hr : c.running = false) :
    (tStep c i).threads i = .done ∧ (tStep c i).box = c.box ∧ (tStep c i).sysbox = c.sysbox
      ∧ (tStep c i).sched = c.sched := by
  simp [tStep, hpc, Cfg.isRunning, hr, setT]

open GoaktVerif.Model.C06 GoaktVerif.Spec.C06 GoaktVerif.C06 in
/-- the stop issued by the parent's freeChildren (the path ActorSystem.Stop takes for every user
    actor) runs to completion — its thread is `done` — while the actor's handler is still inside
    Receive on the worker: "after Stop returns no user handler runs" is false. -/
theorem C17_handler_outlives_stop :
    let c := run (init 32 (progOf [.tCheck false, .xPre .parent])) [0, 0, 0, 0, 1, 1, 0, 0, 2, 2, 2, 2, 2, 2, 2]
    c.threads 1 = .done ∧ c.running = false ∧ (∃ b, c.w = .recv b) ∧ c.mon.c4 = false := by
  refine ⟨by decide, by decide, ⟨31, by decide⟩, by decide⟩

end GoaktVerif.C17
