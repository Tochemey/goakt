/-
C16 — second part: a GRAIN as the requester (actor/grain_pid.go, GrainContext.RequestGrain/RequestActor).

Same property text as Props/C16.lean.  For a grain the code is stronger than for an actor in two
places, and the theorems say so: (1) every completed request with a continuation has run it exactly
once — also the ones completed by the deactivation teardown and the ones refused at admission; (2) a
blocking request PAUSES the user mailbox, so the handling order of ordinary messages is the global
arrival order, not only the order among the held ones.

Model: Model/C16G.lean.  All theorems are for every configuration and every script (`run`).
-/
import GoaktVerif.Lemmas.C16.GSteps
import GoaktVerif.Lemmas.Run

namespace GoaktVerif.C16G
open GoaktVerif.Model.C16G
open GoaktVerif.Model.C16 (Mode)

theorem run_inv_gen (ops : List Op) (s : St) (h : Inv s) : ∀ r ∈ run s ops, Inv r.1 :=
  Run.collect_inv (run := run) (P := Inv) (fun _ => rfl) (fun _ _ _ => rfl) (fun _ op h => inv_step h op) ops s h

theorem G_run_inv (inst : Bool) (m : Mode) (max : Nat) (g : Bool) (ops : List Op) :
    ∀ r ∈ run (St.init inst m max g) ops, Inv r.1 :=
  run_inv_gen ops _ (inv_init inst m max g)

theorem G_once {s : St} (h : Inv s) (k : Nat) : cbCount k s.log ≤ 1 :=
  h.core.cb_le_one k

/-- exactly once, whoever completed the request (reply, timeout, cancellation, admission failure,
    deactivation teardown): a completed request with a continuation has run it exactly once -/
theorem G_exactly_once {s : St} (h : Inv s) (k : Nat) (r : Req) (hg : getReq s.reqs k = some r)
    (hc : r.completed = true) (hcb : r.hasCb = true) : cbCount k s.log = 1 := by
  rw [h.log_cb k]
  simp [firedOf, hg, (h.reqs_ok k r hg).done_fired hc hcb]

theorem G_limit {s : St} (h : Inv s) (hmax : s.maxInFlight > 0) : s.inFlight ≤ s.maxInFlight := h.limit hmax

theorem G_counters {s : St} (h : Inv s) :
    s.inFlight = (cnt inMapP s.reqs : Nat) ∧ s.blocking = (cnt blockP s.reqs : Nat)
    ∧ (cnt inMapP s.reqs = 0 → s.inFlight = 0 ∧ s.blocking = 0) :=
  ⟨h.inflight, h.blocking, h.core.zero⟩

/-- the pause: with a blocking request outstanding and no response queued the grain's turn does nothing —
    in particular it does not take anything from the user mailbox -/
theorem G_pause_gate (s : St) (fuel : Nat) (hp : paused s = true) (hr : s.responses = []) : pump fuel s = s := by
  -- `fun_induction pump fuel s` yields one goal per leaf of `pump` (in the order of Model/C16G.lean), with the guards passed on
  -- the way as hypotheses, the leaf's result in the goal and, at a recursive call, the induction hypothesis.
  fun_induction pump fuel s
  -- out of fuel; a handler parked or the grain inactive; paused; mailbox empty: the loop stops
  case case1 | case2 | case4 | case5 => rfl
  -- a response waits: excluded by `hr`
  case case3 hx _ => exact nomatch hr.symm.trans hx
  -- the head of the user mailbox is handled: only when not paused, excluded by `hp`
  case case6 hn _ _ _ _ => exact absurd hp hn


def isOrd : Entry → Bool
  | .cb _ _ _ => false
  | _ => true

def ord (log : List Entry) : List Entry := log.filter isOrd

/-- handled so far, then what still waits in the user mailbox -/
def seqOf (s : St) : List Entry := ord s.log ++ s.queue.map entryOf

theorem step_vlog (p : Entry → Bool) (hp : ∀ k o, p (.cb k o true) = false) (s : St) (op : Op)
    (hT : ∀ k, op ≠ .T k) : (vlog (step s op).1).filter p = (vlog s).filter p ++ (delivered s op).filter p := by
  refine (t_step s op hT).2 p fun e he => ?_
  cases e with
  | cb k o t =>
    cases t with
    | true => exact hp k o
    | false => cases he
  | _ => cases he

theorem vlog_isOrd (s : St) : (vlog s).filter isOrd = seqOf s := by
  refine (List.filter_append ..).trans (congrArg (ord s.log ++ ·) (List.filter_eq_self.mpr fun e he => ?_))
  obtain ⟨m, _, rfl⟩ := List.mem_map.mp he
  cases m <;> rfl

/-- ARRIVAL ORDER (global): at every moment, the ordinary messages handled so far followed by the ones
    still waiting are exactly the messages delivered so far, in delivery order.  The user mailbox is never
    reordered — neither by a pause nor by its end — and nothing is handled twice or lost while the grain
    is active. -/
theorem G_step_seq (s : St) (op : Op) : seqOf (step s op).1 = seqOf s ++ delivered s op := by
  have hgen : (∀ k, op ≠ .T k) → seqOf (step s op).1 = seqOf s ++ delivered s op := fun hT => by
    rw [← vlog_isOrd, ← vlog_isOrd, step_vlog isOrd (fun _ _ => rfl) s op hT]
    congr 1
    cases op <;> simp only [delivered] <;> (try split) <;> rfl
  cases op with
  | T k =>
    simp only [step, delivered, List.append_nil]
    split
    · rfl
    · split
      · rfl
      · split
        · show ord (s.log ++ [_]) ++ _ = _
          rw [ord, List.filter_append]; simp [seqOf, ord, isOrd]
        · rfl
  | _ => exact hgen nofun

def offTurn (log : List Entry) : List Entry :=
  log.filter (fun e => match e with | .cb _ _ false => true | _ => false)

/-- on the grain's turn: continuations fired by a reply, a timeout, a cancellation, an admission failure or
    the deactivation teardown all run inside the turn loop; only a `Then` registered after completion from
    outside the grain (op `T`) runs elsewhere -/
theorem G_on_turn (s : St) (op : Op) (hT : ∀ k, op ≠ .T k) : offTurn (step s op).1.log = offTurn s.log := by
  let p : Entry → Bool := fun e => match e with | .cb _ _ false => true | _ => false
  have hq : ∀ q : List Msg, (q.map entryOf).filter p = [] := by
    intro q
    rw [List.filter_eq_nil_iff]
    intro e he
    obtain ⟨m, _, rfl⟩ := List.mem_map.mp he
    cases m <;> simp [entryOf, p]
  have hd : (delivered s op).filter p = [] := by
    cases op <;> simp only [delivered] <;> (try split) <;> rfl
  have := step_vlog p (fun _ _ => rfl) s op hT
  rwa [vlog, vlog, List.filter_append, List.filter_append, hq, hq, hd, List.append_nil, List.append_nil, List.append_nil] at this

def C16G_full : Prop :=
  ∀ (inst : Bool) (m : Mode) (max : Nat) (grainTarget : Bool) (ops : List Op), ∀ r ∈ run (St.init inst m max grainTarget) ops,
    let s := r.1
    (∀ k, cbCount k s.log ≤ 1)
    ∧ (∀ k q, getReq s.reqs k = some q → q.completed = true → q.hasCb = true → cbCount k s.log = 1)
    ∧ (s.maxInFlight > 0 → s.inFlight ≤ s.maxInFlight)
    ∧ s.inFlight = (cnt inMapP s.reqs : Nat) ∧ s.blocking = (cnt blockP s.reqs : Nat)
    ∧ (cnt inMapP s.reqs = 0 → s.inFlight = 0 ∧ s.blocking = 0)
    ∧ (∀ fuel, paused s = true → s.responses = [] → pump fuel s = s)
    ∧ (∀ op, seqOf (step s op).1 = seqOf s ++ delivered s op)
    ∧ (∀ op, (∀ k, op ≠ .T k) → offTurn (step s op).1.log = offTurn s.log)

theorem C16G_holds : C16G_full := by
  intro inst m max g ops r hr
  have h := G_run_inv inst m max g ops r hr
  have hc := G_counters h
  exact ⟨G_once h, fun k q hg a b => G_exactly_once h k q hg a b, G_limit h, hc.1, hc.2.1, hc.2.2,
    fun fuel a b => G_pause_gate _ fuel a b, fun op => G_step_seq _ op, fun op hT => G_on_turn _ op hT⟩

/-- non-vacuity: a paused grain with two buffered messages; the reply unpauses it and they are handled in
    arrival order; a shutdown with a request still in flight runs its continuation with the cancellation -/
example :
    let ops := [Op.q 1 none true, .m 1, .m 2, .r 1, .q 2 (some .allowAll) true, .S]
    (run (St.init true .stash 0) ops).map (fun r => (r.1.inFlight, r.1.blocking, r.1.queue.length, r.1.active))
      = [(1, 1, 0, true), (1, 1, 1, true), (1, 1, 2, true), (0, 0, 0, true), (1, 0, 0, true), (0, 0, 0, false)]
    ∧ ((run (St.init true .stash 0) ops).getLast?.map (·.1.log))
      = some [.req 1, .cb 1 .ok true, .handled 1, .handled 2, .req 2, .cb 2 .canceled true, .deactivated] := by decide

end GoaktVerif.C16G
