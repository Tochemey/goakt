/-
C46 — "Merge delivers the union of its sources with each source's order preserved, Concat delivers sources
one after another, Broadcast gives every element to every branch, Balance gives each element to exactly one
branch, Partition routes each element to the branch its function selects, and Zip pairs elements positionally."

Model: Model/C46 (the junction actors as state machines).  Spec: Spec/C46 (`Interleave`, checkers).
Each clause is stated for EVERY sequence of messages the junction actor can be handed after its stageWire
(any demand pattern, any arrival order of sub-values, completion at any time).
-/
import GoaktVerif.Model.C46
import GoaktVerif.Spec.C46
import GoaktVerif.Lemmas.C46.Interleave
import GoaktVerif.Lemmas.C46.FanIn
import GoaktVerif.Lemmas.C46.Hub
import GoaktVerif.Lemmas.C46.Zip
import GoaktVerif.Props.C45

namespace GoaktVerif.C46
open GoaktVerif.Model.C45 (Val Down)
open GoaktVerif.Model.C46 GoaktVerif.Spec.C46

/-- the hub after its construction by `newShared…` (all slots registered, no demand yet) -/
def hubInit (n : Nat) : HubSt × HTrace := (HubSt.init n, {})

def intsOnly (evs : List HEv) : Prop := ∀ ev ∈ evs, ∀ v, ev = .elem v → ∃ x, v = Val.int x

theorem live_noCancel (k : HubKind) (n : Nat) (evs : List HEv) (hc : noCancel evs) :
    (hubRun k (hubInit n) evs).1.live = List.replicate n true :=
  run_inv (Inv := fun (s : HubSt) (_ : HTrace) => s.live = List.replicate n true) (fun _ => rfl) (fun _ _ _ _ => rfl)
    (fun s _ ev h _ hev => by
      rw [(hubStep_keeps k s ev).2, ← h]
      cases ev with
      | slotCancel slot => exact (hev slot rfl).elim
      | _ => rfl)
    rfl evs hc

/-- BROADCAST with slot cancellation: a branch is sent every element the hub handles while it is live; once it
    has cancelled it keeps a prefix (nothing is sent to it any more) -/
def BroadcastCancelClause : Prop :=
  ∀ (n : Nat) (evs : List HEv),
    let r := hubRun .broadcast (hubInit n) evs
    ∀ i, i < n → (r.1.live.getD i false = true → proj r.2.sent i = r.2.ins) ∧ proj r.2.sent i <+: r.2.ins

theorem broadcast_cancel_correct : BroadcastCancelClause := by
  intro n evs
  have h : RouteInv (fun _ _ => true) n (hubRun .broadcast (hubInit n) evs).1 (hubRun .broadcast (hubInit n) evs).2 :=
    run_inv (ok := fun _ => True) (fun _ => rfl) (fun _ _ _ _ => rfl)
      (fun s _ ev h _ _ => h.step (by simp) ev fun v hv i hi => by
        subst hv
        rw [Bool.and_true]
        exact proj_liveSlots { s with pending := s.pending - 1 } v i (h.size ▸ hi))
      (RouteInv.init _ n) evs fun _ _ => trivial
  have hall : ∀ l : List Val, l.filter (fun _ => true) = l := fun l => List.filter_eq_self.mpr fun _ _ => rfl
  intro r i hi
  rw [← hall r.2.ins]
  exact h.slots i hi

/-- BROADCAST: every branch is sent every element the hub handles, in order -/
def BroadcastClause : Prop :=
  ∀ (n : Nat) (evs : List HEv), noCancel evs →
    ∀ i, i < n → proj (hubRun .broadcast (hubInit n) evs).2.sent i = (hubRun .broadcast (hubInit n) evs).2.ins

theorem broadcast_correct : BroadcastClause := by
  intro n evs hc i hi
  exact (broadcast_cancel_correct n evs i hi).1 (by simp [live_noCancel _ n evs hc, hi])

/-- PARTITION with slot cancellation: a live branch has been sent exactly the handled elements it selects; a
    cancelled one a prefix of them -/
def PartitionCancelClause : Prop :=
  ∀ (n m : Nat) (evs : List HEv), intsOnly evs →
    let r := hubRun (.partition m) (hubInit n) evs
    ∀ i, i < n →
      (r.1.live.getD i false = true → proj r.2.sent i = r.2.ins.filter (fun v => sel m v = i)) ∧
      proj r.2.sent i <+: r.2.ins.filter (fun v => sel m v = i)

theorem partition_cancel_correct : PartitionCancelClause := by
  intro n m evs hi
  have h : RouteInv (fun i v => sel m v = i) n (hubRun (.partition m) (hubInit n) evs).1
      (hubRun (.partition m) (hubInit n) evs).2 :=
    run_inv (fun _ => rfl) (fun _ _ _ _ => rfl)
      (fun s _ ev h _ hev => h.step (by simp) ev fun v hv i hi => by
        subst hv
        obtain ⟨x, rfl⟩ := hev v rfl
        exact proj_partition m s x i (h.size ▸ hi))
      (RouteInv.init _ n) evs hi
  exact h.slots

/-- PARTITION (selector x ↦ x mod m): branch i is sent exactly the handled elements whose selector is i -/
def PartitionClause : Prop :=
  ∀ (n m : Nat) (evs : List HEv), noCancel evs → intsOnly evs →
    ∀ i, i < n → proj (hubRun (.partition m) (hubInit n) evs).2.sent i =
      (hubRun (.partition m) (hubInit n) evs).2.ins.filter (fun v => sel m v = i)

theorem partition_correct : PartitionClause := by
  intro n m evs hc hi i hlt
  exact (partition_cancel_correct n m evs hi i hlt).1 (by simp [live_noCancel _ n evs hc, hlt])

/-- BALANCE (after fix 61853f2), for every message sequence, slot cancellations included: the elements sent
    so far are, in order, a prefix of the elements handled, each sent to exactly one branch in range; once the hub
    has told the branches streamComplete everything handled has been sent, and the input is then an interleaving of
    the per-branch sequences. -/
def BalanceClause : Prop :=
  ∀ (n : Nat) (evs : List HEv),
    let r := hubRun .balance (hubInit n) evs
    r.2.sent.map (·.2) <+: r.2.ins ∧
    Interleave (projs n r.2.sent) (r.2.sent.map (·.2)) ∧
    (r.2.completed = true → Interleave (projs n r.2.sent) r.2.ins)

theorem balance_correct : BalanceClause := by
  intro n evs
  have h : BlInv n (hubRun .balance (hubInit n) evs).1 (hubRun .balance (hubInit n) evs).2 :=
    run_inv (ok := fun _ => True) (fun _ => rfl) (fun _ _ _ _ => rfl) (fun _ _ ev h ha _ => h.step ha ev)
      ⟨rfl, fun _ hp => (by cases hp), rfl, fun _ => rfl, fun _ => rfl⟩ evs fun _ _ => trivial
  have hi := interleave_projs n _ h.tags
  refine ⟨by rw [← h.order]; exact List.prefix_append _ _, hi, fun hc => ?_⟩
  rw [← h.order, h.done hc, List.append_nil]; exact hi

/-- ZIP: see `zip_correct` — positional pairing: the i-th components of the tuples sent, followed by slot i's
    buffer, are slot i's arrivals in order -/
def ZipClause : Prop :=
  ∀ (n : Nat), 0 < n → ∀ (evs : List JEv), zipOK n evs →
    let r := zipRun n (zipInit n) evs
    ∀ i, i < n → r.2.sent.filterMap (tupAt i) ++ r.1.bufs.getD i [] = proj r.2.arr i

def MergeClause : Prop :=
  ∀ (n : Nat) (evs : List JEv), noWire evs →
    let r := mergeRun (mergeInit n) evs
    r.2.sent <+: r.2.arr ∧
    (r.2.completed = true → r.2.cancelled = false → r.2.sent = r.2.arr) ∧
    ((∀ p ∈ r.2.arr, p.1 < n) → r.2.completed = true → r.2.cancelled = false →
      Interleave (projs n r.2.arr) (r.2.sent.map (·.2)))

def ConcatClause : Prop :=
  ∀ (n : Nat) (evs : List JEv), noWire evs →
    let r := concatRun (concatInit n) evs
    r.2.sent <+: r.2.arr ∧ (r.2.completed = true → r.2.cancelled = false → r.2.sent = r.2.arr)

def C46_full : Prop :=
  MergeClause ∧ ConcatClause ∧ BroadcastClause ∧ BalanceClause ∧ PartitionClause ∧
  BroadcastCancelClause ∧ PartitionCancelClause ∧ ZipClause

theorem C46_holds : C46_full :=
  ⟨fun n evs hw => merge_correct n evs hw, fun n evs hw => concat_correct n evs hw,
   broadcast_correct, balance_correct, partition_correct, broadcast_cancel_correct, partition_cancel_correct,
   fun n hn evs hok => zip_correct n hn evs hok⟩


/-! ### composed: a fan-in junction FED BY SUB-PIPELINES — per-branch order end to end

In the code every sub-source of Merge / Concat / Zip is a whole pipeline materialised with an internal sink that
forwards each element it consumes to the junction actor (`mergeSubValue{slot, v}`), in order. Here slot `i` is fed
by a C45 network `mkNet fusion stages input` under ANY schedule `picks`; `FedBy` is the forwarding link (what slot
`i` has handed to the junction is a prefix of what sub-pipeline `i`'s sink has consumed — per-sender FIFO).
`C45_holds` (each sub-pipeline delivers a prefix of its list semantics, all of it at normal completion) composed
with the junction clauses gives: the elements the junction emits from branch `i` are, in order, a prefix of
`sem stagesᵢ inputᵢ`; a Merge that completes after every sub-pipeline completed emits an interleaving of the
`sem stagesᵢ inputᵢ`. -/

open GoaktVerif.Model.C45 (Stage Pick SinkSt mkNet Net) in
/-- a sub-pipeline feeding one slot, with the schedule it runs under -/
structure SubPipe where
  fusion : Bool
  stages : List Stage
  input : List Val
  picks : List Pick

open GoaktVerif.Model.C45 (SinkSt mkNet) in
def SubPipe.sink? (p : SubPipe) : Option SinkSt := ((mkNet p.fusion p.stages p.input).run p.picks).sink?

def SubPipe.ideal (p : SubPipe) : List Val := (GoaktVerif.Spec.C45.sem p.stages p.input).1

/-- typed, ordered sub-pipelines (the class `C45_holds` covers) -/
def SubPipe.ok (p : SubPipe) : Prop :=
  GoaktVerif.C45.orderedPipeline p.stages = true ∧ GoaktVerif.C45.Homog p.input

/-- the forwarding link between the sub-pipelines' internal sinks and the junction -/
def FedBy (subs : List SubPipe) (arr : List Tagged) : Prop :=
  ∀ (i : Nat) (p : SubPipe), subs[i]? = some p → ∃ s, p.sink? = some s ∧ proj arr i <+: s.received

/-- every sub-pipeline has completed normally and everything it delivered has reached the junction -/
def FedDone (subs : List SubPipe) (arr : List Tagged) : Prop :=
  ∀ (i : Nat) (p : SubPipe), subs[i]? = some p →
    ∃ s, p.sink? = some s ∧ s.alive = false ∧ s.termErr = none ∧ proj arr i = s.received

/-- a sub-pipeline's deliveries are a prefix of its list semantics (C45_holds) -/
theorem fed_prefix (subs : List SubPipe) (arr : List Tagged) (hok : ∀ p ∈ subs, p.ok) (hf : FedBy subs arr)
    (i : Nat) (p : SubPipe) (hp : subs[i]? = some p) : proj arr i <+: p.ideal := by
  obtain ⟨s, hs, hpre⟩ := hf i p hp
  obtain ⟨ho, hin⟩ := hok p (List.mem_of_getElem? hp)
  exact hpre.trans (GoaktVerif.C45.C45_holds p.fusion p.stages p.input p.picks s ho hin hs).2.2.1

theorem fed_done (subs : List SubPipe) (arr : List Tagged) (hok : ∀ p ∈ subs, p.ok) (hf : FedDone subs arr)
    (i : Nat) (p : SubPipe) (hp : subs[i]? = some p) : proj arr i = p.ideal := by
  obtain ⟨s, hs, ha, he, heq⟩ := hf i p hp
  obtain ⟨ho, hin⟩ := hok p (List.mem_of_getElem? hp)
  rw [heq]
  exact ((GoaktVerif.C45.C45_holds p.fusion p.stages p.input p.picks s ho hin hs).2.2.2.1 ha he).1

/-- MERGE fed by sub-pipelines, every junction message order, every schedule of every sub-pipeline -/
def MergeComposedClause : Prop :=
  ∀ (subs : List SubPipe) (evs : List JEv), noWire evs → (∀ p ∈ subs, p.ok) →
    let r := mergeRun (mergeInit subs.length) evs
    -- at every moment: branch i's elements in the output are, in order, a prefix of its list semantics
    (FedBy subs r.2.arr → ∀ (i : Nat) (p : SubPipe), subs[i]? = some p → proj r.2.sent i <+: p.ideal) ∧
    -- completion after all sub-pipelines completed: an interleaving of the list semantics of the branches
    (FedDone subs r.2.arr → (∀ p ∈ r.2.arr, p.1 < subs.length) → r.2.completed = true → r.2.cancelled = false →
      Interleave (subs.map SubPipe.ideal) (r.2.sent.map (·.2)))

theorem merge_composed : MergeComposedClause := by
  intro subs evs hw hok
  obtain ⟨h1, _, h3⟩ := merge_correct subs.length evs hw
  refine ⟨fun hf i p hp => (proj_prefix h1 i).trans (fed_prefix subs _ hok hf i p hp), fun hd htags hc hk => ?_⟩
  have hI := h3 htags hc hk
  have heq : projs subs.length (mergeRun (mergeInit subs.length) evs).2.arr = subs.map SubPipe.ideal := by
    apply List.ext_getElem?
    intro i
    by_cases hi : i < subs.length
    · rw [projs_getElem? _ _ i hi]
      have hp : subs[i]? = some subs[i] := List.getElem?_eq_getElem hi
      simp only [List.getElem?_map, hp, Option.map_some]
      rw [fed_done subs _ hok hd i _ hp]
    · have h1 : (projs subs.length (mergeRun (mergeInit subs.length) evs).2.arr)[i]? = none := by
        apply List.getElem?_eq_none; simp [projs]; omega
      have h2 : (subs.map SubPipe.ideal)[i]? = none := by
        apply List.getElem?_eq_none; simp; omega
      rw [h1, h2]
  rw [heq] at hI
  exact hI

/-- CONCAT fed by sub-pipelines: per-branch order end to end -/
def ConcatComposedClause : Prop :=
  ∀ (subs : List SubPipe) (evs : List JEv), noWire evs → (∀ p ∈ subs, p.ok) →
    let r := concatRun (concatInit subs.length) evs
    FedBy subs r.2.arr → ∀ (i : Nat) (p : SubPipe), subs[i]? = some p → proj r.2.sent i <+: p.ideal

theorem concat_composed : ConcatComposedClause := by
  intro subs evs hw hok r hf i p hp
  exact (proj_prefix (concat_correct subs.length evs hw).1 i).trans (fed_prefix subs _ hok hf i p hp)

/-- ZIP fed by sub-pipelines: the i-th components of the tuples sent are, in order, a prefix of branch i's list
    semantics (positional pairing of the list semantics of the branches) -/
def ZipComposedClause : Prop :=
  ∀ (subs : List SubPipe), 0 < subs.length → ∀ (evs : List JEv), zipOK subs.length evs → (∀ p ∈ subs, p.ok) →
    let r := zipRun subs.length (zipInit subs.length) evs
    FedBy subs r.2.arr → ∀ (i : Nat) (p : SubPipe), subs[i]? = some p →
      r.2.sent.filterMap (tupAt i) <+: p.ideal

theorem zip_composed : ZipComposedClause := by
  intro subs hn evs hz hok r hf i p hp
  have hi : i < subs.length := by
    have := List.getElem?_eq_some_iff.mp hp; exact this.1
  have h := zip_correct subs.length hn evs hz i hi
  have hpre : (zipRun subs.length (zipInit subs.length) evs).2.sent.filterMap (tupAt i) <+:
      proj (zipRun subs.length (zipInit subs.length) evs).2.arr i := by
    rw [← h]; exact List.prefix_append _ _
  exact hpre.trans (fed_prefix subs _ hok hf i p hp)

theorem C46_composed_holds : MergeComposedClause ∧ ConcatComposedClause ∧ ZipComposedClause :=
  ⟨merge_composed, concat_composed, zip_composed⟩

example : noWire [JEv.req 2, .value 0 (.int 1), .value 1 (.int 10), .done 0, .done 1] := by
  intro ev hev h; subst h; simp at hev

example : (mergeRun (mergeInit 2) [JEv.req 2, .value 0 (.int 1), .value 1 (.int 10), .done 0, .done 1]).2.completed = true ∧
    (mergeRun (mergeInit 2) [JEv.req 2, .value 0 (.int 1), .value 1 (.int 10), .done 0, .done 1]).2.sent =
      [(0, .int 1), (1, .int 10)] := by decide

/-- an element that arrives before any demand is kept and delivered when demand arrives (finding C46-F1) -/
example : (hubRun .balance (hubInit 2) [.elem (.int 5), .slotDemand 1 1, .elem (.int 6), .complete, .slotDemand 0 3]).2.sent =
      [(1, .int 5), (0, .int 6)] ∧
    (hubRun .balance (hubInit 2) [.elem (.int 5), .slotDemand 1 1, .elem (.int 6), .complete, .slotDemand 0 3]).2.completed = true := by
  decide

/-- Zip: two tuples out of [1,2,3] and [10,20]; the unmatched 3 stays buffered -/
example : (zipRun 2 (zipInit 2) [.req 5, .value 0 (.int 1), .value 0 (.int 2), .value 1 (.int 10), .value 0 (.int 3),
      .value 1 (.int 20)]).2.sent = [.list [1, 10], .list [2, 20]] := by decide

example : SubPipe.ok ⟨true, [.map 1, .opmap 2 1 none "P", .batch 2], [.int 1, .int 2, .int 3], []⟩ :=
  ⟨by decide, Or.inl (by intro v hv; simp at hv; rcases hv with rfl | rfl | rfl <;> rfl)⟩

end GoaktVerif.C46
