/-
C28 — Concurrent remote asks each get their own reply.

"Concurrent RemoteAsk calls sharing pooled connections each receive the response to their own
 request or an error, and RemoteBatchAsk returns responses in request order."
 (quantifier: all interleavings of concurrent asks over a bounded connection pool, including
  timeouts and discarded connections)

Model: Model/C28.lean — the pool (Get / Put / Discard / Close) and the step-by-step exchanges
SendProto / SendBatchProto of internal/net/client.go, with any number of concurrent calls, any
interleaving of their steps with the server's per-connection sequential handling, a failure or
timeout possible at every step, cancellation between batch frames, swallowed requests, client
Close at any time.  Theorems quantify over ALL schedules (`List Act`), proved by an inductive
invariant (Lemmas/C28.lean):

 * every idle connection is clean: balance written − read = 0, nothing in flight in either
   direction, no deadline armed (`Put` is reached only after the last response was read; every
   error path `Discard`s) — `C28_idle_clean`;
 * for a call that owns a connection: responses read ++ responses waiting ++ requests unserved is
   a subsequence of the requests it wrote — nobody else's frames are ever on its connection;
 * hence a call that returns success returns exactly the responses to its own requests, in
   request order — `C28_own_reply`.

Parameters (assumptions, see level_note): TCP delivers each direction in order; the server answers
the frames of one connection sequentially (ProtoServer.handleConn), at most one response per request.
-/
import GoaktVerif.Model.C28
import GoaktVerif.Spec.C28
import GoaktVerif.Lemmas.C28
import GoaktVerif.Lemmas.C28P

namespace GoaktVerif.C28
open GoaktVerif.Model.C28 GoaktVerif.Spec.C28

def final (cfg : Cfg) (acts : List Act) : St := run cfg {} acts

/-- THE FULL PROPERTY on the model: under every schedule, (1) the `k`-th call, if it returned
    success, returned the responses tagged `(k,0) … (k,n-1)` — the answers to its own `n` request
    frames, in request order; (2) every pooled connection is clean. -/
def C28_full : Prop :=
  ∀ (cfg : Cfg) (acts : List Act),
    (∀ k c l, (final cfg acts).calls[k]? = some c → c.result = some (some l) →
        ownReplies k c.reqs.length l = true) ∧
    (∀ cn ∈ (final cfg acts).pool.idle, cn.srv = [] ∧ cn.resp = [] ∧ cn.deadline = false)

theorem mkReqs_length (k n : Nat) : (mkReqs k n).length = n := by simp [mkReqs]

theorem C28_own_reply (cfg : Cfg) (acts : List Act) (k : Nat) (c : Call) (l : List Req)
    (hk : (final cfg acts).calls[k]? = some c) (hr : c.result = some (some l)) :
    ownReplies k c.reqs.length l = true := by
  obtain ⟨_, hcs, hid⟩ := inv_run cfg acts {} inv_init
  have hc := hcs c (List.mem_of_getElem? hk)
  obtain ⟨n, hn⟩ := hid k c hk
  have hl : l = c.reqs := hc.2.2.2.2.2.2 l hr  -- the last clause of `CallInv`
  simp [ownReplies, requestsOf, hl, hn, mkReqs]

theorem C28_idle_clean (cfg : Cfg) (acts : List Act) :
    ∀ cn ∈ (final cfg acts).pool.idle, cn.srv = [] ∧ cn.resp = [] ∧ cn.deadline = false :=
  (inv_run cfg acts {} inv_init).1

theorem C28_holds : C28_full := fun cfg acts =>
  ⟨fun k c l hk hr => C28_own_reply cfg acts k c l hk hr, C28_idle_clean cfg acts⟩

/-- Non-vacuity: three concurrent calls over a pool of one; call 0 (with a deadline) times out while
    its request is still unserved and its connection is discarded; call 1 (a batch of two) and call 2
    complete on a shared pooled connection; both successful calls hold their own replies. -/
example :
    let s := final { maxIdle := 1 }
      [.newCall 1 true, .call 0 (.get 0 true), .call 0 (.deadline true), .call 0 (.write true),
       .newCall 2 false, .call 1 (.get 0 true), .call 1 (.write true), .call 1 (.write true),
       .call 0 (.read false),
       .call 1 (.serve true), .call 1 (.read true), .call 1 (.serve true), .call 1 (.read true), .call 1 (.put true),
       .newCall 1 false, .call 2 (.get 0 true), .call 2 (.write true), .call 2 (.serve true),
       .call 2 (.read true), .call 2 (.put true)]
    s.calls.map (·.result) = [some none, some (some [(1, 0), (1, 1)]), some (some [(2, 0)])] ∧
    s.pool.idle.map (·.id) = [1] ∧ s.pool.closedConns = [0] := by decide +kernel

/-- Why the discipline matters (a TEST on a mutant of the model, not part of the property): if the
    read-timeout path returned the connection to the pool instead of discarding it, the next caller
    would read the late response of the timed-out request.  `leak` rebuilds that state by hand. -/
def leak : St :=
  { pool := { idle := [{ id := 0, srv := [(0, 0)] }], nextConn := 1 },
    calls := [{ reqs := [(0, 0)], hasDeadline := true, pc := .done, result := some none }] }

example :
    let s := run { maxIdle := 1 } leak
      [.newCall 1 false, .call 1 (.get 0 true), .call 1 (.write true), .call 1 (.serve true), .call 1 (.read true), .call 1 (.put true)]
    (s.calls.map (·.result))[1]? = some (some (some [(0, 0)])) := by decide +kernel


/-! ### the request a call writes is its own: payload buffers are never shared -/

/-- PAYLOAD BUFFERS ARE EXCLUSIVE: under every interleaving of `serializePayload` (pool `Get`) and the single
    deferred `payloadPool.Put` of any number of calls, the backing arrays owned by calls in progress are pairwise
    distinct and none of them is referenced by a box still in the pool — no call can overwrite the payload another
    call's envelope still references, so `write` of `Model.C28.callStep` really sends the caller's own request.  (That there is
    exactly one `Put` per function is a FACT re-extracted from client.go on every run.) -/
theorem C28_payload_exclusive (acts : List Payload.PAct) (hl : ∀ a ∈ acts, a.legal = true) :
    let s := Payload.prun {} acts
    (s.owned.map (·.2)).Nodup ∧ ∀ b ∈ s.pool, b ∉ s.owned.map (·.2) := by
  obtain ⟨h1, _⟩ := pinv_run acts {} hl pinv_init
  have := List.nodup_append.mp h1
  exact ⟨this.2.1, fun b hb hm => this.2.2 b hb b hm rfl⟩

/-- non-vacuity: three calls, buffers recycled through the pool, all distinct while owned -/
example :
    let s := Payload.prun {} [.get 0, .get 1, .put 0, .get 2, .put 1, .get 3]
    s.owned = [(3, 1), (2, 0)] ∧ s.pool = [] := by decide

/-- TEST (what the discipline excludes; seeded defect C28-s2): a second `Put` of call 0's buffer puts two boxes
    for the same array into the pool, and the next two calls both write into array 0. -/
example :
    let s := Payload.prun {} [.get 0, .put 0, .putAgain 0, .get 1, .get 2]
    s.owned = [(2, 0), (1, 0)] := by decide

end GoaktVerif.C28
