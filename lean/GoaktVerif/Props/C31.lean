/-
C31 — Grain activations are ordered and single-threaded.

"For each grain activation, OnActivate completes before the first OnReceive, OnDeactivate runs
 exactly once after the last OnReceive of that activation and never concurrently with it, and a
 message sent after deactivation activates a fresh instance that receives it."

Quantifier: all interleavings of sends, passivation, explicit deactivation and system shutdown.

Model: `Model/C31.lean` (grain_pid.go activate/deactivate/receive/runTurn/dispatchOne/
handlePoisonPill/handlePassivationPill/passivationTry, grain_engine.go ensureGrainProcess/localSend).
Spec: the monitor of `Spec/C06.lean` read as OnActivate / OnReceive / OnDeactivate
(clause 1: OnActivate-end before the first OnReceive; 2: OnDeactivate at most once; 3: no OnReceive
starts after OnDeactivate started; 4: never concurrent on different goroutines).

Result: the property HOLDS (`C31_holds`): every pool, every schedule, with or without reentrancy; also, for
every schedule, `C31_activate_first` and `C31_send_after_deactivation`.  The model follows goakt after 6dc1e0c
(a user message dequeued on an inactive process is failed, not received) and after 5462477 (the passivation
manager deactivates directly only while it owns the grain's dispatch turn: CAS Idle→Processing, re-test,
releaseTurn; otherwise the passivation pill goes through the mailbox).
-/
import GoaktVerif.Lemmas.C31.Guard

namespace GoaktVerif.C31
open GoaktVerif.Model.C31 GoaktVerif.Spec.C06

theorem C31_mon_is_log (reent expired : Bool) (budget : Nat) (prog : Nat → GT) (s : List Nat) :
    (run (init reent expired budget prog) s).mon = monOf (run (init reent expired budget prog) s).log :=
  run_inv (P := fun c => c.mon = monOf c.log) step_mon s _ rfl

/-- the property at full strength for one activation: any pool of senders, PoisonPill senders
    (system shutdown) and passivation attempts, any schedule -/
def C31_full : Prop :=
  ∀ (reent expired : Bool) (budget : Nat) (prog : Nat → GT), admissible prog →
    ∀ s : List Nat, (monOf (run (init reent expired budget prog) s).log).ok = true

def progOf (l : List GT) : Nat → GT := fun i => l.getD i .done

/-- the pools of the single-schedule theorems below are admissible -/
theorem progOf_admissible (p : Bool) (l : List GT) (h : l.all GT.initial = true) :
    admissible (progOf (.aB p :: l)) := by
  refine ⟨⟨p, rfl⟩, fun i hi => ?_⟩
  cases i with
  | zero => exact absurd rfl hi
  | succ j => exact getD_all h rfl j

/-- The passivation manager finds the grain inside OnReceive: it cannot take the dispatch turn
    (Processing), the decision travels through the mailbox and OnDeactivate runs in the turn, after the
    handler (the interleaving that broke clause 4 before goakt 5462477). -/
theorem C31_passivation_during_receive_goes_through_mailbox :
    (monOf (run (init false true 32 (progOf [.aB false, .mCheck])) [1, 1, 1, 0, 0, 2, 2, 0, 0, 0, 0, 0, 0]).log).ok = true
    ∧ ((run (init false true 32 (progOf [.aB false, .mCheck])) [1, 1, 1, 0, 0, 2, 2, 0, 0, 0, 0, 0, 0]).log.filter
        (fun e => match e with | .postB _ _ => true | _ => false)) = [.postB 0 .ppill] := by decide

/-- The manager owns the turn of an idle grain and is inside OnDeactivate when a PoisonPill arrives: the
    pill is handled only after the turn is released and finds the grain inactive (the interleaving that
    broke clause 2 before goakt 5462477). -/
theorem C31_direct_deactivation_owns_the_turn :
    (monOf (run (init false true 32 (progOf [.aB false, .mCheck, .sEnsure true])) [1, 1, 1, 0, 0, 0, 0, 2, 2, 2, 3, 3, 0, 2, 2, 0, 0, 0]).log).ok = true
    ∧ ((run (init false true 32 (progOf [.aB false, .mCheck, .sEnsure true])) [1, 1, 1, 0, 0, 0, 0, 2, 2, 2, 3, 3, 0, 2, 2, 0, 0, 0]).log.filter
        (fun e => match e with | .postB _ _ => true | _ => false)) = [.postB 3 .pass] := by decide

def scheduleBehindPill : List Nat := [1, 1, 1, 0, 0, 0, 2, 2, 3, 3, 0, 0, 0, 0, 0, 0]

/-- A message queued behind a PoisonPill is failed, not received (goakt 6dc1e0c, C31-F2). -/
theorem C31_message_behind_pill_not_received :
    (monOf (run (init true true 32 (progOf [.aB false, .sEnsure true, .sEnsure false])) scheduleBehindPill).log).ok = true
    ∧ (run (init true true 32 (progOf [.aB false, .sEnsure true, .sEnsure false])) scheduleBehindPill).box = []
    ∧ (run (init true true 32 (progOf [.aB false, .sEnsure true, .sEnsure false])) scheduleBehindPill).deleted = true := by
  decide

/-- Clause 1: OnActivate has completed before any OnReceive of the activation starts. -/
theorem C31_activate_first (reent expired : Bool) (budget : Nat) (prog : Nat → GT) (hp : admissible prog) (s : List Nat) :
    (monOf (run (init reent expired budget prog) s).log).c1 = true := by
  rw [← C31_mon_is_log]
  exact (run_inv base_step s _ (base_init reent expired budget prog hp)).ok1

/-- Once deactivate has removed the process from the grain map, a send that resolves its target leaves for
    a FRESH process, the old one is inactive and unregistered, and stays removed.  The fresh process is
    again an instance of this model, created by that send: `C31_activate_first` applies to it. -/
theorem C31_send_after_deactivation (reent expired : Bool) (budget : Nat) (prog : Nat → GT) (hp : admissible prog)
    (s : List Nat) (hd : (run (init reent expired budget prog) s).deleted = true) :
    (∀ i p, (run (init reent expired budget prog) s).threads i = .sEnsure p →
        (step (run (init reent expired budget prog) s) (i + 1)).threads i = .fresh p)
    ∧ (run (init reent expired budget prog) s).active = false ∧ (run (init reent expired budget prog) s).inMap = false
    ∧ ∀ a, (step (run (init reent expired budget prog) s) a).deleted = true := by
  have hB := run_inv base_step s _ (base_init reent expired budget prog hp)
  generalize run (init reent expired budget prog) s = c at *
  have ⟨hm, ha⟩ := hB.del hd
  refine ⟨fun i p hi => ?_, ha, hm, fun a => step_deleted c a hd⟩
  unfold step tStep
  simp only [hi, hm, hd, Bool.false_and, Bool.false_eq_true, if_false, if_true]
  exact setT_self ..

theorem C31_holds : C31_full := by
  intro reent expired budget prog hp s
  have ⟨hB, hG⟩ := run_inv (P := fun c => Base c ∧ GInv c)
    (fun c a h => ⟨base_step c a h.1, ginv_step c a h.1 h.2⟩) s _
    ⟨base_init reent expired budget prog hp, ginv_init reent expired budget prog hp⟩
  rw [← C31_mon_is_log, Mon.ok, hB.ok1, hG.ok2, hG.ok3, hG.ok4]; rfl

-- the hypothesis `deleted = true` of `C31_send_after_deactivation` can be met
example : (run (init false true 32 (progOf [.aB false, .sEnsure true, .sEnsure false]))
    [1, 1, 1, 0, 0, 0, 0, 2, 2, 0, 0, 0, 0, 0]).deleted = true := by decide

end GoaktVerif.C31
