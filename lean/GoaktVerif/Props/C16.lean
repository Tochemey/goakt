/-
C16 — Every reentrant request completes exactly once, on the requester's turn.

"Each Request/RequestName/RequestGrain completes exactly once with a reply, an error, a timeout or a
 cancellation, and its continuation runs on the requesting actor's turn. In StashNonReentrant mode no
 ordinary message is handled while a blocking request is outstanding and the held messages are handled
 afterwards in arrival order; the in-flight limit is never exceeded and the in-flight counters return
 to zero."

Reading of "completes": the request's state is completed exactly once (first completion wins).  A
shutdown (cancelInFlightRequests) completes the pending requests with ErrRequestCanceled WITHOUT
running their continuations; "exactly once" for the continuation is therefore stated for requests
completed by an envelope the requester dequeued, i.e. while it keeps running.

Model: Model/C16.lean.  All theorems are for every configuration (installed or not, default mode,
limit, actor or grain target — Request / RequestGrain) and every script of events (requests with per-call mode, ordinary messages, replies incl.
duplicates, timeouts, cancels, late Then, hold/release batching of the mailbox, shutdown) — `run`.
Tie: differential run of a real requester/responder pair (harness/verifdrv/c16) against `run`.
-/
import GoaktVerif.Lemmas.C16.Steps
import GoaktVerif.Lemmas.Run

namespace GoaktVerif.C16
open GoaktVerif.Model.C16

theorem step_inv {s : St} (h : Inv s) (op : Op) : Inv (step s op).1 := inv_step h op

theorem run_inv_gen (ops : List Op) (s : St) (h : Inv s) : ∀ r ∈ run s ops, Inv r.1 :=
  Run.collect_inv (run := run) (P := Inv) (fun _ => rfl) (fun _ _ _ => rfl) (fun _ op h => inv_step h op) ops s h

theorem run_inv (inst : Bool) (m : Mode) (max : Nat) (g : Bool) (ops : List Op) :
    ∀ r ∈ run (St.init inst m max g) ops, Inv r.1 :=
  run_inv_gen ops _ (inv_init inst m max g)

/-- at most once: no continuation runs twice -/
theorem C16_once {s : St} (h : Inv s) (k : Nat) : cbCount k s.log ≤ 1 :=
  h.core.cb_le_one k

/-- exactly once: a request completed by an envelope the requester dequeued, with a continuation
    registered (before or after), has run it exactly once -/
theorem C16_exactly_once {s : St} (h : Inv s) (k : Nat) (r : Req) (hg : getReq s.reqs k = some r)
    (hc : r.completed = true) (he : r.who = .envelope) (hcb : r.hasCb = true) : cbCount k s.log = 1 := by
  rw [h.log_cb k]
  simp [firedOf, hg, (h.reqs_ok k r hg).env_fired hc he hcb]

theorem C16_limit {s : St} (h : Inv s) (hmax : s.maxInFlight > 0) : s.inFlight ≤ s.maxInFlight := h.limit hmax

/-- the counters are the table: in-flight = tracked requests, blocking = tracked stash-mode requests,
    both zero when nothing is tracked -/
theorem C16_counters {s : St} (h : Inv s) :
    s.inFlight = (cnt inMapP s.reqs : Nat) ∧ s.blocking = (cnt blockP s.reqs : Nat)
    ∧ (cnt inMapP s.reqs = 0 → s.inFlight = 0 ∧ s.blocking = 0) :=
  ⟨h.inflight, h.blocking, h.core.zero⟩

/-- the stash gate: while a blocking request is outstanding, `dispatchOne` does not handle an ordinary
    message (anything but an AsyncResponse): it goes to the stash, in arrival order, and nothing else changes -/
theorem C16_stash_gate (s : St) (m : Msg) (hi : s.installed = true) (hb : s.blocking > 0) (hm : m.isResp = false) :
    dispatch s m = { s with stash := s.stash ++ [m] } := by
  unfold dispatch
  simp [hi, hb, hm]

/-- release: when the completion of the last blocking request is dequeued, the held messages re-enter the
    mailbox behind what is already queued, in the order they were held -/
theorem C16_release_order (s : St) (k : Nat) (o : Outcome) (r : Req) (hg : getReq s.reqs k = some r)
    (hm : r.inMap = true) (hc : r.completed = false) (hi : s.installed = true) (hrel : releases s r) :
    (doResponse s k o).queue = s.queue ++ s.stash ∧ (doResponse s k o).stash = [] := by
  rw [doResponse_pending s k o r hi hg hm hc]
  simp [hrel]

theorem dispatch_user (s : St) (u : Nat) (hb : s.installed = false ∨ s.blocking ≤ 0) :
    dispatch s (Msg.user u) = { s with log := s.log ++ [Entry.handled u] } := by
  have hgate : (s.installed && decide (s.blocking > 0) && !(Msg.user u).isResp) = false := by
    rcases hb with hb | hb
    · simp [hb]
    · have : ¬ s.blocking > 0 := by omega
      simp [this]
  unfold dispatch
  simp only [hgate]
  rfl

/-- the mailbox is FIFO: with no blocking request outstanding, queued user messages are handled in order -/
theorem pump_fifo (us : List Nat) (s : St) (fuel : Nat) (hf : us.length ≤ fuel) (hh : s.held = false)
    (hb : s.installed = false ∨ s.blocking ≤ 0) (hq : s.queue = us.map Msg.user) :
    (pump fuel s).log = s.log ++ us.map Entry.handled := by
  induction us generalizing s fuel with
  | nil =>
    cases fuel with
    | zero => simp [pump]
    | succ n => simp [pump, hh, hq]
  | cons u rest ih =>
    cases fuel with
    | zero => simp at hf
    | succ n =>
      unfold pump
      rw [if_neg (by simp [hh])]
      simp only [hq, List.map_cons]
      rw [dispatch_user { s with queue := List.map Msg.user rest } u hb]
      have := ih { s with queue := List.map Msg.user rest, log := s.log ++ [Entry.handled u] } n
        (by simp at hf; omega) hh hb rfl
      simp only at this ⊢
      rw [this]
      simp

/-- continuations that ran off the requester's turn -/
def offTurn (log : List Entry) : List Entry :=
  log.filter (fun e => match e with | .cb _ _ false => true | _ => false)

/-- on the requester's turn: every continuation run by a completion (reply, timeout, cancellation
    dequeued from the mailbox) runs inside `dispatchOne`; the only continuations that run elsewhere are
    those of a `Then` registered after completion from outside the actor (op `T`), which by contract run in
    the caller -/
theorem C16_on_turn (s : St) (op : Op) (hT : ∀ k, op ≠ .T k) : offTurn (step s op).1.log = offTurn s.log := by
  have hl : late s op = [] := by cases op <;> first | rfl | exact absurd rfl (hT _)
  refine ((k_step s op).2 _ fun e he => ?_).trans (by rw [hl]; exact List.append_nil _)
  cases e with
  | cb k o t =>
    cases t with
    | true => rfl
    | false => cases he
  | _ => rfl

/-- C16 over the model: in every state reached by any script from any configuration -/
def C16_full : Prop :=
  ∀ (inst : Bool) (m : Mode) (max : Nat) (grainTarget : Bool) (ops : List Op), ∀ r ∈ run (St.init inst m max grainTarget) ops,
    let s := r.1
    -- a continuation runs at most once, exactly once when the request was completed by a dequeued envelope
    (∀ k, cbCount k s.log ≤ 1)
    ∧ (∀ k q, getReq s.reqs k = some q → q.completed = true → q.who = .envelope → q.hasCb = true → cbCount k s.log = 1)
    -- the limit, the counters
    ∧ (s.maxInFlight > 0 → s.inFlight ≤ s.maxInFlight)
    ∧ s.inFlight = (cnt inMapP s.reqs : Nat) ∧ s.blocking = (cnt blockP s.reqs : Nat)
    ∧ (cnt inMapP s.reqs = 0 → s.inFlight = 0 ∧ s.blocking = 0)
    -- the gate and the turn, as properties of every dispatch / op from this state
    ∧ (∀ msg, s.installed = true → s.blocking > 0 → msg.isResp = false → dispatch s msg = { s with stash := s.stash ++ [msg] })
    ∧ (∀ op, (∀ k, op ≠ .T k) → offTurn (step s op).1.log = offTurn s.log)

theorem C16_holds : C16_full := by
  intro inst m max g ops r hr
  have h := run_inv inst m max g ops r hr
  have hc := C16_counters h
  exact ⟨C16_once h, fun k q hg a b c => C16_exactly_once h k q hg a b c, C16_limit h, hc.1, hc.2.1, hc.2.2,
    fun msg a b c => C16_stash_gate _ msg a b c, fun op hT => C16_on_turn _ op hT⟩

/-- a script that reaches a state with a blocking request outstanding and two held messages, then releases
    them in arrival order behind the continuation -/
example :
    let ops := [Op.q 1 none true, .m 1, .m 2, .r 1, .m 3]
    (run (St.init true .stash 0) ops).map (fun r => (r.1.inFlight, r.1.blocking, r.1.stash.length, r.1.log.length))
      = [(1, 1, 0, 1), (1, 1, 1, 1), (1, 1, 2, 1), (0, 0, 0, 4), (0, 0, 0, 5)]
    ∧ ((run (St.init true .stash 0) ops).getLast?.map (·.1.log))
      = some [.req 1 .ok, .cb 1 .ok true, .handled 1, .handled 2, .handled 3] := by decide

/-- the hypotheses of `C16_exactly_once` are satisfiable -/
example : ∃ s r, Inv s ∧ getReq s.reqs 1 = some r ∧ r.completed = true ∧ r.who = .envelope ∧ r.hasCb = true :=
  ⟨(step (step (St.init true .allowAll 0) (.q 1 none true)).1 (.r 1)).1,
    { mode := .allowAll, completed := true, outcome := .ok, who := .envelope, hasCb := true, inMap := false, fired := 1 },
    inv_step (inv_step (inv_init _ _ _) _) _, by decide, by decide, by decide, by decide⟩

end GoaktVerif.C16
