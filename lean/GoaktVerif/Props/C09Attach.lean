/-
C09 — attach order (finding C09-F4, fixed by the `fix:` commit "PostStart is processed once the spawn attached
the actor to the tree").

"The actor tree stays consistent: every live actor's parent is live and registered."

A spawn does two things with the new actor: it starts it (newPID: init, PostStart queued) and it attaches it to
the tree (completeSpawn → attachAndPublish → tree.addNode(parent, pid)).  The actor's PostStart handler may itself
spawn a child, which calls tree.addNode(pid, child).  The theorems below are about the tree model
(`Model.C09`, mirror of pid_tree.go) and say why the ORDER of these two addNode calls decides the property:

* `addNode_unknown_parent`: if the child's insertion comes first, the parent is unknown to the tree, addNode
  refuses ("parent pid does not exist") and leaves the tree as it was: the child is not registered, for every tree.
  goakt ignores that error (attachAndPublish: "other insertion failures keep the historical behavior"), so the
  child ran outside the tree.
* `attach_order_registers`: if the parent's insertion comes first and succeeded, the child's insertion succeeds,
  for every tree, and the child is registered with the parent's node as its parent.

The code is tied to the second order by the `attach` cases of the C09 check (zz_verif_c09attach.go): the spawning
goroutine is held between the two steps and the real tree is inspected afterwards.
-/
import GoaktVerif.Lemmas.C09.WF

namespace GoaktVerif.C09
open GoaktVerif.Model.C09

/-- child first: the parent is not registered, the insertion is refused and nothing changes -/
theorem addNode_unknown_parent (t : Tree) (parent p : Pid) (hp : parent.id ≠ NOS)
    (habs : aget p.id t.pids = none) (hpar : aget parent.id t.pids = none) :
    t.addNode parent p = (t, .parentMissing) := by
  simp [Tree.addNode, hp, habs, hpar]

/-- after a successful `addNode gp parent` the parent is registered and nobody else was added -/
theorem addNode_ok_registers (t t1 : Tree) (gp parent : Pid) (h : t.addNode gp parent = (t1, .ok)) :
    (aget parent.id t1.pids).map (·.pid) = some parent ∧
    (∀ k, k ≠ parent.id → aget k t.pids = none → aget k t1.pids = none) := by
  rcases addNode_eq t gp parent with ⟨r, hr, e⟩ | ⟨pn, hp, -, e⟩ <;> rw [e] at h
  · cases h; exact absurd rfl hr
  · cases h
    refine ⟨by simp [aget_aset], fun k hk hnone => ?_⟩
    simp only [aget_aset, hk, if_false, aget_modNode]
    split <;> simp [hnone]

/-- parent first: the child spawned by the parent's PostStart handler is registered, and its parent pointer is the
    parent's registered node object -/
theorem attach_order_registers (t t1 : Tree) (gp parent p : Pid)
    (h1 : t.addNode gp parent = (t1, .ok)) (hp : parent.id ≠ NOS) (hne : p.id ≠ parent.id)
    (habs : aget p.id t.pids = none) :
    (t1.addNode parent p).2 = .ok ∧
    (aget p.id (t1.addNode parent p).1.pids).map (·.pid) = some p ∧
    (aget p.id (t1.addNode parent p).1.pids).bind (·.parent) =
      (aget parent.id t1.pids).map (fun pn => (⟨parent.id, pn.ref⟩ : Ptr)) ∧
    (aget parent.id t1.pids).map (·.pid) = some parent := by
  obtain ⟨hreg, hrest⟩ := addNode_ok_registers t t1 gp parent h1
  have habs1 : aget p.id t1.pids = none := hrest p.id hne habs
  cases hpn : aget parent.id t1.pids with
  | none => simp [hpn] at hreg
  | some pn =>
    refine ⟨?_, ?_, ?_, ?_⟩
    · simp [Tree.addNode, hp, habs1, hpn]
    · simp [Tree.addNode, hp, habs1, hpn, aget_aset]
    · simp [Tree.addNode, hp, habs1, hpn, aget_aset]
    · simpa [hpn] using hreg

/-- non-vacuity: the concrete run of the `attach top` case (root 1, user guardian 3, P 11, K 12): child first is
    refused and K stays unregistered; parent first registers K under P -/
example :
    let t0 := ((Tree.empty.addRoot ⟨1, 1, 1⟩).1.addNode ⟨1, 1, 1⟩ ⟨3, 3, 3⟩).1
    (t0.addNode ⟨11, 11, 11⟩ ⟨12, 12, 12⟩).2 = .parentMissing ∧
    (aget 12 (t0.addNode ⟨11, 11, 11⟩ ⟨12, 12, 12⟩).1.pids).isNone = true ∧
    (t0.addNode ⟨3, 3, 3⟩ ⟨11, 11, 11⟩).2 = .ok ∧
    (((t0.addNode ⟨3, 3, 3⟩ ⟨11, 11, 11⟩).1.addNode ⟨11, 11, 11⟩ ⟨12, 12, 12⟩).1.parent 12) = some ⟨11, 11, 11⟩ := by
  decide

end GoaktVerif.C09
