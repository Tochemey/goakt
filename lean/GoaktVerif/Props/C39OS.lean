/-
C39 for the OR-set under FULL-STATE replication: replicas that exchange full states and have seen the same updates hold the
same (element, dot) pairs, clock and `Elements()` (`C39_orset_fullstate`).

The delta path of the OR-set is broken (C39-F1: `orset_violates_delta_law`).  The full-state path —
what anti-entropy ships for every type, and what ORMap ships for its key set on every update — is
sound: on well-formed OR-sets `Merge` is a join for the observation
(version vector as a function, (element, dot) pairs as a set), `Add` / `Remove` are inflationary,
so replicas that exchange full states (current or stale, in any order, duplicated, or never) and
have seen the same updates hold the same (element, dot) set, hence the same `Elements()`.

Technique: the generic theorem (`Laws` ⇒ `reach_inv`, Lemmas/C39Net.lean ⇒ `converge`, Props/C39.lean),
instantiated with
* cores = `(Nat → Nat) × (Nat → Dot → Prop)` (clock function, holds-relation): C38's equivalence
  `eqvOS` made an EQUALITY by function / proposition extensionality;
* `osFullOps` = `cvOps` with `Delta()` replaced by "the whole state": the replicator handlers of
  `Model/C41.lean` are unchanged, only what an update publishes differs, so every logged message is the
  updater's full state right after the update (a full-state message that may be delivered late,
  twice, out of order, or never), and `Act.sync` is a fresh anti-entropy full state;
  `upd_states_eq` shows that an update changes the replicas exactly as under the real `cvOps`.
The codec is taken as the identity here; that DecodeCRDT∘EncodeCRDT preserves entries, dots and
clock of an OR-set is `GoaktVerif.C40.orset_roundtrip`.
-/
import GoaktVerif.Props.C39
import GoaktVerif.Lemmas.C38.ORSet

namespace GoaktVerif.C39
open GoaktVerif.Model.Crdt GoaktVerif.Model.Crdt.AMap GoaktVerif.Model.C40 GoaktVerif.Model.C41 GoaktVerif.Model.C39 GoaktVerif.C38

/-- 1 ≤ dots ≤ clock (a counter is a clock value after a tick, never 0) -/
def osCoreWF (a : OsCore) : Prop := ∀ e d, a.2 e d → 1 ≤ d.counter ∧ d.counter ≤ a.1 d.nodeID

theorem osJoin_wf (a b : OsCore) (ha : osCoreWF a) (hb : osCoreWF b) : osCoreWF (osJoin a b) := by
  intro e d h
  rcases keeps_sub h with h | h
  · exact ⟨(ha e d h).1, Nat.le_trans (ha e d h).2 (Nat.le_max_left ..)⟩
  · exact ⟨(hb e d h).1, Nat.le_trans (hb e d h).2 (Nat.le_max_right ..)⟩

def osSemi : Semi OsCore where
  join := osJoin
  bot := (fun _ => 0, fun _ _ => False)
  WF := osCoreWF
  wf_bot := by intro e d h; exact absurd h id
  wf_join := osJoin_wf
  comm := by intro a b _ _; rw [osJoin_comm]
  assoc := by intro a b c _ _ _; rw [osJoin_assoc]
  idem := by intro a _; rw [osJoin_idem]
  bot_join := by
    intro a ha
    unfold osJoin
    -- a dot is at least 1, so the empty store has not seen it
    exact Prod.ext (funext fun _ => Nat.zero_max _) (funext fun e => funext fun d => propext
      ⟨fun h => h.elim (fun h => h.1.elim) And.left,
       fun h => Or.inr ⟨h, Or.inl (Nat.not_le_of_lt (ha e d h).1)⟩⟩)

theorem eq_bot_of_empty {a : OsCore} (hc : a.1 = fun _ => 0) (hd : ∀ e d, ¬ a.2 e d) : a = osSemi.bot :=
  Prod.ext hc (funext fun e => funext fun d => propext ⟨fun h => (hd e d h).elim, False.elim⟩)

/-- every dot was produced by a tick: its counter is at least 1 -/
def osPos (s : ORSet) : Prop := ∀ e d, d ∈ s.dotsOf e → 1 ≤ d.counter

theorem osCoreOf_wf {s : ORSet} (h : s.WF) (hp : osPos s) : osCoreWF (osCoreOf s) :=
  fun e d hd => ⟨hp e d hd, h.dots_le e d hd⟩

/-- same core ⇒ same `Elements()` (on maps) -/
theorem elements_of_core {a b : ORSet} (ha : a.entries.Sorted) (hb : b.entries.Sorted)
    (h : osCoreOf a = osCoreOf b) : a.elements = b.elements :=
  (eqvOS_of_core ha hb h).2.2

theorem osCoreOf_resetDelta (s : ORSet) : osCoreOf s.resetDelta = osCoreOf s := rfl

theorem pos_add {s : ORSet} (hp : osPos s) (n e : Nat) : osPos (s.add n e) := by
  intro e' d hd
  rcases (dotsOf_add s n e e' d).mp hd with hx | ⟨_, rfl⟩
  · exact hp e' d hx
  · exact Nat.succ_le_succ (Nat.zero_le _)

theorem pos_remove {s : ORSet} (h : s.entries.Sorted) (hp : osPos s) (e : Nat) : osPos (s.remove e) :=
  fun e' d hd => hp e' d ((dotsOf_remove h e e' d).mp hd).1

theorem pos_merge {s o : ORSet} (hs : osPos s) (ho : osPos o) : osPos (s.merge o) := by
  intro e d hd
  rcases (ORSet.mem_merge s o e d).mp hd with ⟨hx, _⟩ | ⟨hx, _⟩
  · exact hs e d hx
  · exact ho e d hx

theorem pos_new : osPos ORSet.new := fun _ _ hd => nomatch hd

theorem add_inflationary {s : ORSet} (h : s.WF) (n e : Nat) :
    osCoreOf (s.add n e) = osJoin (osCoreOf s) (osCoreOf (s.add n e)) := by
  refine (osJoin_of_le h.dots_le ⟨clockOf_le_add s n e, fun e' d hd => ?_⟩).symm
  rcases (dotsOf_add s n e e' d).mp hd with hx | ⟨_, rfl⟩
  · exact Or.inr hx
  · exact Or.inl (Nat.not_succ_le_self _)

theorem remove_inflationary {s : ORSet} (h : s.WF) (e : Nat) :
    osCoreOf (s.remove e) = osJoin (osCoreOf s) (osCoreOf (s.remove e)) := by
  have hc : ∀ k, ORSet.clockOf (s.remove e) k = ORSet.clockOf s k := by
    intro k; unfold ORSet.remove ORSet.clockOf; split <;> rfl
  exact (osJoin_of_le h.dots_le ⟨fun k => Nat.le_of_eq (hc k).symm, fun e' d hd =>
    Or.inr ((dotsOf_remove h.entries_sorted e e' d).mp hd).1⟩).symm

/-- the replicator operations with full-state propagation: `Delta()` = the whole state -/
def osFullOps : Ops CV := { cvOps with delta := fun v => some v }

/-- what a handled Update does to the replicas does not depend on what is published -/
theorem upd_states_eq (wire : CV → Option CV) (w : FNet CV) (i k dt : Nat) (init : CV) (f : CV → CV) :
    (w.step osFullOps wire (.upd i k dt init f)).reps = (w.step cvOps wire (.upd i k dt init f)).reps := by
  simp only [FNet.step, Model.C41.step, handleUpdate, osFullOps, cvOps]
  split <;> rfl

def osCore : CV → OsCore
  | .os s => osCoreOf s
  | _ => osSemi.bot

def osOk (v : CV) : Prop := ∃ s, v = .os s ∧ s.WF ∧ osPos s

def osRemF (e : Nat) : CV → CV
  | .os s => .os (s.remove e)
  | v => v

def osAddF (n e : Nat) : CV → CV
  | .os s => .os (s.add n e)
  | v => v

/-- Modify closures of an OR-set key: Add (any node id) and Remove -/
def osMut (f : CV → CV) (_ : CV) : Prop := (∃ n e, f = osAddF n e) ∨ (∃ e, f = osRemF e)

theorem os_laws : Laws osFullOps some (.os .new) osSemi osCore osOk osMut := by
  refine Laws.of_inflationary (fun v ⟨s, e, h, hp⟩ => e ▸ osCoreOf_wf h hp) ⟨.new, rfl, ORSet.wf_new, pos_new⟩ ?_
    ?_ (fun v v' h hw => by cases hw; exact ⟨h, rfl⟩) ?_ ?_
  · exact eq_bot_of_empty rfl fun _ _ h => (by cases h)
  · rintro a b ⟨sa, rfl, ha, pa⟩ ⟨sb, rfl, hb, pb⟩
    exact ⟨⟨_, rfl, ORSet.wf_merge ha hb, pos_merge pa pb⟩, osCoreOf_merge sa sb hb.clock_sorted⟩
  · rintro v ⟨s, rfl, h, hp⟩
    exact ⟨⟨_, rfl, ORSet.wf_resetDelta h, hp⟩, rfl⟩
  · rintro f s hm ⟨x, rfl, hx, px⟩
    rcases hm with ⟨n, e, rfl⟩ | ⟨e, rfl⟩
    · exact ⟨⟨_, rfl, ORSet.wf_add hx n e, pos_add px n e⟩, (add_inflationary hx n e).symm, fun h => (nomatch (h : some _ = none)),
        fun d h => ⟨(Option.some.inj h).symm, rfl⟩⟩
    · exact ⟨⟨_, rfl, ORSet.wf_remove hx e, pos_remove hx.entries_sorted px e⟩, (remove_inflationary hx e).symm,
        fun h => (nomatch (h : some _ = none)), fun d h => ⟨(Option.some.inj h).symm, rfl⟩⟩

/-- OR-set under full-state replication: for every history of Adds (any node ids) and Removes at any
    replicas, with the updaters' full states delivered late, out of order, duplicated or never, and
    fresh full-state merges between any two replicas at any time, two replicas that have seen the
    same updates hold the same (element, dot) pairs and version vector, hence expose the same
    `Elements()`. -/
theorem C39_orset_fullstate (w : FNet CV) (arr : Nat → List Nat)
    (h : Reach osFullOps some (.os .new) osMut 3 3 w arr) (i i' : Nat)
    (h1 : ∀ j ∈ arr i, j ∈ arr i') (h2 : ∀ j ∈ arr i', j ∈ arr i)
    (v v' : CV) (hv : w.at i 3 = some v) (hv' : w.at i' 3 = some v') :
    ∃ s s', v = .os s ∧ v' = .os s' ∧ osCoreOf s = osCoreOf s' ∧ s.elements = s'.elements := by
  obtain ⟨⟨s, rfl, hs, _⟩, ⟨s', rfl, hs', _⟩, hc⟩ := converge_ok os_laws w arr h i i' h1 h2 v v' hv hv'
  exact ⟨s, s', rfl, rfl, hc, elements_of_core hs.entries_sorted hs'.entries_sorted hc⟩

/-- non-vacuity, and the contrast with C39-F1: the history of `orset_delta_loses_add` (replica 0 adds
    1 then 2) under full-state propagation: replica 1 receives both messages and holds {1, 2};
    it has seen the same updates as replica 0. -/
example : ∃ (w : FNet CV) (arr : Nat → List Nat), Reach osFullOps some (.os .new) osMut 3 3 w arr
    ∧ (∀ j ∈ arr 0, j ∈ arr 1) ∧ (∀ j ∈ arr 1, j ∈ arr 0)
    ∧ (match w.at 1 3 with | some (.os s) => s.elements | _ => []) = [1, 2] := by
  have r1 := Reach.upd (ops := osFullOps) (wire := some) (init := CV.os .new) (Mut := osMut) (k := 3) (dt := 3)
    _ _ 0 (osAddF 1 1) Reach.init (Or.inl ⟨1, 1, rfl⟩)
  have r2 := Reach.upd _ _ 0 (osAddF 1 2) r1 (Or.inl ⟨1, 2, rfl⟩)
  have r3 := Reach.dlv _ _ 1 1 r2
  have r4 := Reach.dlv _ _ 1 0 r3
  exact ⟨_, _, r4, by decide, by decide, by decide⟩

end GoaktVerif.C39
