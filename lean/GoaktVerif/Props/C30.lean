/-
C30 — "A grain is active on at most one node at a time."

  For any interleaving of concurrent sends to, activations of, failed activations of and deactivations
  of one grain identity on several nodes sharing the cluster registry, at most one node holds an active
  instance at any moment, and once activity settles the registry names the node that holds it.

Model: `GoaktVerif.Model.C30` (one transition per registry operation / hook of the real code, tied to
/repo by controlled-schedule replay, see tools/props/c30.py).  `fix = false` is the code as it is.

Result: the property is FALSE of the current code (`C30_refuted`), for two independent reasons:
  F1  lost claim + vanished owner: `tryClaimGrain` returns (false, nil, nil) and the caller activates
      without a claim (witness: 3 nodes, one thread each);
  F2  `deactivate` removes the registry record unconditionally and is not serialised with the
      node's own activations (witness `C30_partial_needs_seq`: 2 nodes).
`C30_partial`: the property holds for every program and every schedule in which every node runs its
grain operations sequentially (one logical thread per node) and no step takes the F1 branch.
`C30_fixed`: a theorem about the PROPOSED repair only (`fix = true`, tryClaimGrain retrying the claim;
not applied to /repo): the F1 guard is then not needed.
-/
import GoaktVerif.Lemmas.C30

namespace GoaktVerif.C30
open GoaktVerif.Model.C30

/-- configurations reachable from `c0` by steps of arbitrary threads in arbitrary order;
`g c tid` says whether the step of `tid` in `c` is admitted -/
inductive Reach (fix : Bool) (g : Cfg → Nat → Bool) (c0 : Cfg) : Cfg → Prop
  | refl : Reach fix g c0 c0
  | step {c : Cfg} (tid : Nat) : Reach fix g c0 c → g c tid = true → Reach fix g c0 (step fix c tid)

def anyStep : Cfg → Nat → Bool := fun _ _ => true
/-- every step admitted except the lost-claim branch of tryClaimGrain -/
def noLostClaim : Cfg → Nat → Bool := fun c tid => !lostClaim c tid

def allDone (c : Cfg) : Bool := (List.range c.threads.length).all (done c)

/-- the property on one configuration: at most one active instance in the cluster, and when every
thread has finished the registry names the node holding the active instance -/
def Safe (c : Cfg) : Prop :=
  activeCount c.sh ≤ 1 ∧
  (allDone c = true → ∀ q, q < c.sh.nprocs → (c.sh.procs q).hook = true → c.sh.reg = some (c.sh.procs q).node)

def isSender (prog : List Op) : Bool := prog.any fun o => o != .d && o != .t
/-- at most one sender thread per node: what the per-identity single flight guarantees -/
def oneSender (thr : List (Node × List Op)) : Bool := distinct ((thr.filter fun x => isSender x.2).map Prod.fst)
/-- one thread per node: additionally no deactivation concurrent with the node's own operations -/
def oneThread (thr : List (Node × List Op)) : Bool := distinct (thr.map Prod.fst)

/-- THE FULL PROPERTY: any number of nodes, any programs (sends, failing activations, failing
publications, deactivations), any interleaving. -/
def C30_full : Prop :=
  ∀ (nn : Nat) (thr : List (Node × List Op)), oneSender thr = true →
    ∀ c, Reach false anyStep (init nn thr) c → Safe c

theorem inv_reach (fix : Bool) (g : Cfg → Nat → Bool) (c0 : Cfg) (h0 : Inv c0)
    (hg : ∀ c tid, g c tid = true → fix = true ∨ lostClaim c tid = false) :
    ∀ c, Reach fix g c0 c → Inv c := by
  intro c hr
  induction hr with
  | refl => exact h0
  | step tid _ hgt ih => exact inv_step fix _ tid ih (hg _ tid hgt)

theorem safe_reach (fix : Bool) (g : Cfg → Nat → Bool) (nn : Nat) (thr : List (Node × List Op)) (h1 : oneThread thr = true)
    (hg : ∀ c tid, g c tid = true → fix = true ∨ lostClaim c tid = false) :
    ∀ c, Reach fix g (init nn thr) c → Safe c := fun c hr =>
  have h := inv_reach fix g _ (inv_init nn thr h1) hg c hr
  ⟨active_le_one h.node, fun _ q hq hh => inv_named h.node q hq hh⟩

/-- PARTIAL (code as it is): sequential nodes, lost-claim branch not taken ⇒ the property holds in
every reachable configuration, for every program and every schedule of any length. -/
theorem C30_partial (nn : Nat) (thr : List (Node × List Op)) (h1 : oneThread thr = true) :
    ∀ c, Reach false noLostClaim (init nn thr) c → Safe c :=
  safe_reach false _ nn thr h1 fun _ _ h => .inr ((Bool.not_eq_true' _).mp h)

/-- MODEL OF THE PROPOSED FIX, NOT OF THE CODE (`fix = true`: tryClaimGrain retries the claim when the
owner record vanished; fixes/C30-retry-lost-claim.diff, not applied to /repo): sequential nodes ⇒ the
property holds for every schedule, no guard on the steps. Nothing about /repo is claimed by this theorem. -/
theorem C30_fixed (nn : Nat) (thr : List (Node × List Op)) (h1 : oneThread thr = true) :
    ∀ c, Reach true anyStep (init nn thr) c → Safe c :=
  safe_reach true _ nn thr h1 fun _ _ _ => .inl rfl

/-- replay of a schedule that checks the guard at every step -/
def runG (fix : Bool) (g : Cfg → Nat → Bool) (c : Cfg) : List Nat → Option Cfg
  | [] => some c
  | tid :: rest => if g c tid then runG fix g (step fix c tid) rest else none

theorem reach_runG (fix : Bool) (g : Cfg → Nat → Bool) (c0 : Cfg) :
    ∀ (sched : List Nat) (c c' : Cfg), Reach fix g c0 c → runG fix g c sched = some c' → Reach fix g c0 c'
  | [], c, c', hr, h => by cases h; exact hr
  | tid :: rest, c, c', hr, h => by
    simp only [runG] at h
    split at h
    · rename_i hgt
      exact reach_runG fix g c0 rest _ c' (Reach.step tid hr hgt) h
    · cases h

theorem unsafe_of_run {fix : Bool} {g : Cfg → Nat → Bool} {c0 : Cfg} {sched : List Nat}
    (hw : ((runG fix g c0 sched).map fun c => activeCount c.sh) = some 2) : ∃ c, Reach fix g c0 c ∧ ¬ Safe c := by
  cases hc : runG fix g c0 sched with
  | none => rw [hc] at hw; cases hw
  | some c =>
    rw [hc] at hw
    refine ⟨c, reach_runG fix g c0 sched _ c .refl hc, fun hs => ?_⟩
    have h2 : activeCount c.sh = 2 := Option.some.inj hw
    exact absurd (h2 ▸ hs.1) (by decide)

/-- F1 witness: node 0 and node 1 both find no owner; node 1 wins the NX put, node 0 loses it; node 1's
OnActivate fails and it removes its record; node 0's re-read finds nothing and it goes on without a
claim; node 2 claims and activates; node 0 activates too. -/
def thrF1 : List (Node × List Op) := [(0, [.s]), (1, [.sa]), (2, [.s])]
def schedF1 : List Nat := [0, 0, 0, 1, 1, 1, 1, 1, 0, 0, 1, 1, 1, 0, 0, 2, 2, 2, 2, 2, 2, 0]

theorem witnessF1 : ((runG false anyStep (init 3 thrF1) schedF1).map fun c => activeCount c.sh) = some 2 := by
  decide +kernel

theorem C30_refuted : ¬ C30_full := fun h =>
  have ⟨c, hr, hs⟩ := unsafe_of_run witnessF1
  hs (h 3 thrF1 (by decide) c hr)

/-- F2 witness (no lost claim involved): node 0 is active; its deactivation has run OnDeactivate and
emptied the local table but not yet removed the registry record; a new send on node 0 finds the record
naming node 0, re-activates and publishes; the pending removal then deletes the record; node 1 claims
and activates. -/
def thrF2 : List (Node × List Op) := [(0, [.s, .s]), (0, [.d]), (1, [.s])]
def schedF2 : List Nat := [0, 0, 0, 0, 0, 0, 0, 0, 1, 1, 0, 0, 0, 0, 0, 0, 0, 0, 1, 1, 2, 2, 2, 2, 2, 2]

theorem witnessF2 : ((runG false noLostClaim (init 2 thrF2) schedF2).map fun c => activeCount c.sh) = some 2 := by
  decide +kernel

/-- the sequential-node hypothesis of `C30_partial` cannot be weakened to the single-flight
hypothesis of `C30_full`: deactivation concurrent with a send on the same node breaks the property
without any lost claim. -/
theorem C30_partial_needs_seq :
    ¬ (∀ (nn : Nat) (thr : List (Node × List Op)), oneSender thr = true →
        ∀ c, Reach false noLostClaim (init nn thr) c → Safe c) := fun h =>
  have ⟨c, hr, hs⟩ := unsafe_of_run witnessF2
  hs (h 2 thrF2 (by decide) c hr)

/-- the hypotheses of `C30_partial` are satisfiable by a non-trivial run: two nodes, failing
activation, failing publication, deactivation; the guard holds along the schedule and the run ends
with one active instance named by the registry -/
example : oneThread [(0, [.s, .d, .sp]), (1, [.sa, .s])] = true ∧
    ((runG false noLostClaim (init 2 [(0, [.s, .d, .sp]), (1, [.sa, .s])])
        [0, 0, 0, 1, 1, 1, 0, 0, 1, 1, 0, 0, 0, 1, 1, 1, 0, 0, 0, 0, 1, 1, 1, 1, 1, 1, 1, 1, 0, 0, 0, 0, 0, 0, 0, 0, 0, 0, 0, 0]).map
      fun c => (activeCount c.sh, c.sh.reg, allDone c)) = some (1, some 1, true) := by
  decide +kernel

/-- the guard of `C30_partial` excludes exactly the F1 schedule -/
example : (runG false noLostClaim (init 3 thrF1) schedF1).isNone = true := by decide +kernel

/-- under the repaired `tryClaimGrain` the F1 schedule is harmless -/
example : ((runG true anyStep (init 3 thrF1) (schedF1 ++ [0, 0, 0, 0, 0, 0, 2, 2])).map
    fun c => (activeCount c.sh, c.sh.reg, allDone c)) = some (1, some 2, true) := by decide +kernel

end GoaktVerif.C30
