/-
C43 — The producer never outruns the consumer's demand.

"The producer controller never sends a sequenced message beyond the highest sequence the consumer
 controller has requested, so the consumer-side buffer never exceeds the configured flow-control window,
 under any fault and speed pattern."

Model, spec monitor, tie and scope are those of C42 (Model/C42.lean, Spec/C42.lean, Lemmas/C42/*): both
controllers field by field on the volatile, unchunked path; any loss / duplication / reordering on the
controller links; any tick and endpoint schedule.  Out of that model: chunking (a chunked message occupies
several buffer slots), durable queue, controller restart.  The demand clause alone is also proved on the chunk-aware
Model/C42c.lean (`C43c_full`, at the end of this file).
-/
import GoaktVerif.Lemmas.C42.World
import GoaktVerif.Lemmas.C42c.Demand

namespace GoaktVerif.C43
open GoaktVerif.Model.C42 GoaktVerif.Spec.C42 GoaktVerif.C42

/-- C43 in full, for every window, interval, script: every SequencedMessage the producer controller sends
    has a sequence ≤ the highest requestUpToSeq the consumer controller has sent so far (`okDemand`); after
    every consumer-controller handler `len(buffer) ≤ window` and `requestUpToSeq ≤ confirmedSeq + window`
    (`okWindow`). -/
def C43_full : Prop :=
  ∀ (window interval : Nat) (dc : Bool) (ss : List Step),
    (monitorOf window interval dc ss).okDemand = true ∧ (monitorOf window interval dc ss).okWindow = true

theorem C43_holds : C43_full :=
  fun window interval dc ss => ⟨(monitor_run window interval dc ss).dm, (monitor_run window interval dc ss).cm.win⟩

/-- the state form of the same fact, at every reachable world: what the producer controller may still emit
    (demandUpTo), what it has stored (currentSeq) are within the consumer controller's granted demand;
    buffer and grant are within the window -/
theorem C43_window (window interval : Nat) (dc : Bool) (ss : List Step) :
    let w := ((World.init window interval dc).run ss).1
    w.p.demandUpTo ≤ w.c.requestUpToSeq ∧ w.p.currentSeq ≤ w.c.requestUpToSeq ∧
    w.c.buffer.length ≤ w.c.window ∧ w.c.requestUpToSeq ≤ w.c.confirmedSeq + w.c.window := by
  have h := monitor_run window interval dc ss
  exact ⟨h.pd.dem, h.pd.cur, h.cl.buflen, h.cl.win⟩

/-- TEST (evaluated): the monitor does flag a message beyond the requested demand … -/
example : (Mon.run {} [.requested 4, .sent 5]).okDemand = false := by decide
/-- TEST (evaluated): … and an over-full buffer -/
example : (Mon.run {} [.cstate 2 0 2 3]).okWindow = false := by decide
/-- TEST (evaluated): a run that fills the window (window 2: two messages stored before any delivery) stays fine -/
example : (monitorOf 2 1 false [.deliverCP 0, .deliverPC 0, .deliverCP 0, .userP, .userP, .userP, .userP,
    .deliverPC 1, .deliverPC 0]).maxReq = 2 := by decide

/-- For every window, chunk size, sequence of frame lengths and script: at every step, every SequencedMessage
    the producer controller sends — whole message or chunk — has a sequence ≤ the highest requestUpToSeq the
    consumer controller has sent so far (`demandOK` runs the script and checks exactly that). -/
def C43c_full : Prop :=
  ∀ (window interval : Nat) (dc : Bool) (maxChunk : Nat) (lens : List Nat) (ss : List Step),
    GoaktVerif.C43c.demandOK (GoaktVerif.Model.C42c.World.init window interval dc maxChunk lens) 0 ss = true

theorem C43c_holds : C43c_full := by
  intro window interval dc maxChunk lens ss
  exact GoaktVerif.C43c.demandOK_of_inv (GoaktVerif.C43c.init_inv window interval dc maxChunk lens) ss

/-- the C43-F1 witness (fixed in /repo 78360fc) on the chunk-aware model — a 4-chunk message is stored with
    currentSeq 6 > demandUpTo 4, the consumer re-registers, and the StoredAck emits only chunks 3 and 4 -/
example :
    let w := (((GoaktVerif.Model.C42c.World.init 4 1 false 32 [48, 100]).step (.deliverCP 0)).1.step (.deliverPC 0)).1
    let run := fun (w : GoaktVerif.Model.C42c.World) (ss : List Step) => ss.foldl (fun w s => (w.step s).1) w
    let w9 := run w [.deliverCP 0, .userP, .userP, .userP, .tickC, .tickC, .deliverCP 0]
    w9.p.currentSeq = 6 ∧ w9.p.demandUpTo = 4 ∧
    GoaktVerif.C43c.sentSeqs (w9.step .userP).2.pouts = [3, 4] := by decide

end GoaktVerif.C43
