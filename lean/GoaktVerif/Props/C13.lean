/-
C13 — Stashed messages are neither lost, duplicated nor reordered.

"Messages stashed by an actor are delivered again exactly once when unstashed; UnstashAll
 re-delivers all of them in stash order and Unstash re-delivers the oldest. Stashing without a
 stash buffer reports an error instead of dropping silently."

Model (Model/C13): mailbox and stash box as FIFO lists, the three functions of actor/stash.go with
re-entry at the mailbox tail (doReceive), a handler that makes ANY list of stash calls per
delivery, and ANY interleaving of external arrivals with deliveries (`Step`).  The theorems are
invariants of every run (`runSteps`, arbitrary length).  The model is tied to /repo by the
differential run of a scripted actor in a real actor system (harness/verifdrv/c13).
-/
import GoaktVerif.Model.C13
import GoaktVerif.Lemmas.Run

namespace GoaktVerif.C13
open GoaktVerif.Model.C13

variable {α : Type}

def stashedSeq (t : List (Ev α)) : List α := t.filterMap fun | .stashed m => some m | _ => none
def restoredSeq (t : List (Ev α)) : List α := t.filterMap fun | .restored m => some m | _ => none
def deliveredSeq (t : List (Ev α)) : List α := t.filterMap fun | .delivered m => some m | _ => none
/-- everything ever enqueued in the main mailbox, in enqueue order; `true` = it came from the stash -/
def enqSeq (t : List (Ev α)) : List (Bool × α) :=
  t.filterMap fun | .arrived m => some (false, m) | .restored m => some (true, m) | _ => none
/-- the deliveries that are RE-deliveries: the mailbox is FIFO, so the k-th delivery is the k-th
    enqueue (`delivered_fifo`); keep those that came from the stash -/
def redelivered (t : List (Ev α)) : List α :=
  (((enqSeq t).take (deliveredSeq t).length).filter (·.1)).map (·.2)

theorem stashedSeq_append (a b : List (Ev α)) : stashedSeq (a ++ b) = stashedSeq a ++ stashedSeq b := List.filterMap_append ..
theorem restoredSeq_append (a b : List (Ev α)) : restoredSeq (a ++ b) = restoredSeq a ++ restoredSeq b := List.filterMap_append ..
theorem deliveredSeq_append (a b : List (Ev α)) : deliveredSeq (a ++ b) = deliveredSeq a ++ deliveredSeq b := List.filterMap_append ..
theorem enqSeq_append (a b : List (Ev α)) : enqSeq (a ++ b) = enqSeq a ++ enqSeq b := List.filterMap_append ..

theorem restored_map (box : List α) :
    stashedSeq (box.map Ev.restored) = [] ∧ restoredSeq (box.map Ev.restored) = box
    ∧ deliveredSeq (box.map Ev.restored) = [] ∧ (enqSeq (box.map Ev.restored)).map (·.2) = box := by
  induction box with
  | nil => exact ⟨rfl, rfl, rfl, rfl⟩
  | cons x xs ih => exact ⟨ih.1, congrArg (x :: ·) ih.2.1, ih.2.2.1, congrArg (x :: ·) ih.2.2.2⟩

theorem restoredSeq_eq_enq (t : List (Ev α)) : restoredSeq t = ((enqSeq t).filter (·.1)).map (·.2) := by
  induction t with
  | nil => rfl
  | cons e es ih =>
    cases e with
    | restored m => exact congrArg (m :: ·) ih
    | _ => exact ih

theorem drain_eq (box mb : List α) : drain box mb = mb ++ box := by
  induction box generalizing mb with
  | nil => exact (List.append_nil mb).symm
  | cons x xs ih => rw [drain, ih, List.append_assoc]; rfl

/-- conservation: (stash) everything ever stashed = what already left the stash, in the same
    order, followed by what the stash still holds; (mailbox) everything ever enqueued = what was
    delivered, in the same order, followed by what the mailbox still holds. -/
structure Inv (c : Core α) (t : List (Ev α)) : Prop where
  stash : stashedSeq t = restoredSeq t ++ c.stash.getD []
  mbox : (enqSeq t).map (·.2) = deliveredSeq t ++ c.mailbox

/-- events `e` taking the core from `c` to `c'` keep the invariant if they balance on both queues -/
theorem inv_append {c c' : Core α} {t : List (Ev α)} (e : List (Ev α)) (h : Inv c t)
    (hs : restoredSeq e ++ c'.stash.getD [] = c.stash.getD [] ++ stashedSeq e)
    (hm : deliveredSeq e ++ c'.mailbox = c.mailbox ++ (enqSeq e).map (·.2)) : Inv c' (t ++ e) :=
  ⟨by rw [stashedSeq_append, restoredSeq_append, h.stash, List.append_assoc, List.append_assoc, hs],
   by rw [enqSeq_append, deliveredSeq_append, List.map_append, h.mbox, List.append_assoc, List.append_assoc, hm]⟩

theorem doAct_none {c : Core α} (h : c.stash = none) (cur : α) (a : Act) : doAct c cur a = (c, [.result .notSet]) := by
  obtain ⟨mb, st⟩ := c
  cases h
  cases a <;> rfl

/-- without a stash buffer every call reports ErrStashBufferNotSet and the state is unchanged -/
theorem no_buffer (mb : List α) (cur : α) (a : Act) :
    doAct ⟨mb, none⟩ cur a = (⟨mb, none⟩, [.result .notSet]) :=
  doAct_none rfl cur a

theorem inv_doAct (c : Core α) (t : List (Ev α)) (cur : α) (a : Act) (h : Inv c t) :
    Inv (doAct c cur a).1 (t ++ (doAct c cur a).2) := by
  obtain ⟨mb, st⟩ := c
  cases st with
  | none => rw [no_buffer]; exact inv_append _ h rfl (List.append_nil _).symm
  | some box =>
    cases a with
    | stash => exact inv_append _ h rfl (List.append_nil _).symm
    | unstash =>
      cases box with
      | nil => exact inv_append _ h rfl (List.append_nil _).symm
      | cons x xs => exact inv_append _ h (List.append_nil _).symm rfl
    | unstashAll =>
      obtain ⟨r1, r2, r3, r4⟩ := restored_map box
      refine inv_append (c' := ⟨drain box mb, some []⟩) (box.map .restored ++ [.result .ok]) h ?_ ?_
      · rw [restoredSeq_append, stashedSeq_append, r1, r2]; exact List.append_nil (box ++ [])
      · rw [deliveredSeq_append, enqSeq_append, List.map_append, r3, r4]
        show drain box mb = mb ++ (box ++ [])
        rw [List.append_nil, drain_eq]

theorem inv_runActs (c : Core α) (t : List (Ev α)) (cur : α) (acts : List Act) (h : Inv c t) :
    Inv (runActs c cur acts).1 (t ++ (runActs c cur acts).2) :=
  Run.trace (run := fun c s => (runActs c cur s).1) (tr := fun c s => (runActs c cur s).2)
    (fun _ => rfl) (fun _ _ _ => rfl) (fun _ => rfl) (fun _ _ _ => rfl) (fun c a t => inv_doAct c t cur a) acts c t h

theorem inv_sysStep (c : Core α) (t : List (Ev α)) (s : Step α) (h : Inv c t) :
    Inv (sysStep c s).1 (t ++ (sysStep c s).2) := by
  obtain ⟨mb, st⟩ := c
  cases s with
  | arrive m => exact inv_append _ h (List.append_nil _).symm rfl
  | deliver acts =>
    cases mb with
    | nil => exact (List.append_nil t).symm ▸ h
    | cons m rest =>
      have h' : Inv ⟨rest, st⟩ (t ++ [Ev.delivered m]) :=
        inv_append _ h (List.append_nil _).symm (List.append_nil _).symm
      have := inv_runActs _ _ m acts h'
      rwa [List.append_assoc] at this

theorem inv_runSteps (c : Core α) (t : List (Ev α)) (steps : List (Step α)) (h : Inv c t) :
    Inv (runSteps c steps).1 (t ++ (runSteps c steps).2) :=
  Run.trace (run := fun c s => (runSteps c s).1) (tr := fun c s => (runSteps c s).2)
    (fun _ => rfl) (fun _ _ _ => rfl) (fun _ => rfl) (fun _ _ _ => rfl) (fun c s t => inv_sysStep c t s) steps c t h

theorem inv_fresh (buf : Bool) : Inv (fresh buf : Core α) [] := by
  constructor <;> cases buf <;> rfl

/-- for any stream of arrivals, any interleaving with deliveries and any stash
    decisions of the handler (a `Step` list of any length), conservation holds. -/
theorem inv_run (buf : Bool) (steps : List (Step α)) :
    Inv (runSteps (fresh buf) steps).1 (runSteps (fresh buf) steps).2 :=
  inv_runSteps (fresh buf) [] steps (inv_fresh buf)

/-- FIFO: the deliveries are exactly the first enqueues, in enqueue order -/
theorem delivered_fifo {c : Core α} {t : List (Ev α)} (h : Inv c t) :
    deliveredSeq t = ((enqSeq t).take (deliveredSeq t).length).map (·.2) := by
  have h1 : ((enqSeq t).map (·.2)).take (deliveredSeq t).length = deliveredSeq t := by
    rw [h.mbox]; exact List.take_left' rfl
  rw [List.map_take]; exact h1.symm

/-- re-deliveries ⊑ released ⊑ stashed (prefixes): a stashed message is re-delivered at most as
    often as it was stashed, only after it was unstashed, and always in stash order -/
theorem redelivered_prefix {c : Core α} {t : List (Ev α)} (h : Inv c t) :
    redelivered t <+: restoredSeq t ∧ restoredSeq t <+: stashedSeq t := by
  constructor
  · rw [restoredSeq_eq_enq]
    exact ((List.take_prefix _ _).filter _).map _
  · rw [h.stash]; exact List.prefix_append _ _

/-- the counts of `Inv` (the messages themselves are in `Inv.mbox`, `Inv.stash`): as many enqueued messages
    are undelivered as the mailbox holds, as many stashed ones unreleased as the stash holds -/
theorem pending_accounted {c : Core α} {t : List (Ev α)} (h : Inv c t) :
    (enqSeq t).length = (deliveredSeq t).length + c.mailbox.length
    ∧ (stashedSeq t).length = (restoredSeq t).length + (c.stash.getD []).length :=
  ⟨by rw [← List.length_append, ← h.mbox, List.length_map], by rw [← List.length_append, ← h.stash]⟩

/-- even with messages left in the stash: after the mailbox is drained, the re-deliveries are
    exactly the released ones and the rest is still stashed -/
theorem drained_mailbox {c : Core α} {t : List (Ev α)} (h : Inv c t) (hm : c.mailbox = []) :
    redelivered t = restoredSeq t ∧ stashedSeq t = redelivered t ++ c.stash.getD [] := by
  have hlen : (enqSeq t).length = (deliveredSeq t).length := by rw [(pending_accounted h).1, hm]; rfl
  have : redelivered t = restoredSeq t := by
    rw [redelivered, ← hlen, List.take_length, ← restoredSeq_eq_enq]
  exact ⟨this, this ▸ h.stash⟩

/-- exactly once, in order: when the mailbox has been drained and the stash is empty, the
    re-deliveries are precisely the stashed messages, in stash order -/
theorem exactly_once_quiescent {c : Core α} {t : List (Ev α)} (h : Inv c t)
    (hm : c.mailbox = []) (hs : c.stash.getD [] = []) :
    redelivered t = stashedSeq t := by
  rw [(drained_mailbox h hm).1, h.stash, hs, List.append_nil]

/-- Unstash re-enqueues the OLDEST stashed message (at the mailbox tail) and nothing else -/
theorem unstash_oldest (mb : List α) (x : α) (xs : List α) :
    doUnstash ⟨mb, some (x :: xs)⟩ = (⟨mb ++ [x], some xs⟩, [.restored x, .result .ok]) := rfl

/-- Unstash with nothing stashed reports the error and changes nothing -/
theorem unstash_empty (mb : List α) : doUnstash ⟨mb, some []⟩ = (⟨mb, some []⟩, [.result .empty]) := rfl

/-- UnstashAll re-enqueues ALL stashed messages in stash order and empties the stash -/
theorem unstashAll_order (mb box : List α) :
    doUnstashAll ⟨mb, some box⟩ = (⟨mb ++ box, some []⟩, box.map .restored ++ [.result .ok]) := by
  rw [← drain_eq]; rfl

/-- Stash appends (a clone of) the current message to the stash tail; mailbox untouched -/
theorem stash_appends (mb box : List α) (cur : α) :
    doStash ⟨mb, some box⟩ cur = (⟨mb, some (box ++ [cur])⟩, [.stashed cur, .result .ok]) := rfl

theorem runActs_none {c : Core α} (h : c.stash = none) (cur : α) (acts : List Act) :
    (runActs c cur acts).1 = c ∧ stashedSeq (runActs c cur acts).2 = [] ∧ restoredSeq (runActs c cur acts).2 = [] := by
  induction acts with
  | nil => exact ⟨rfl, rfl, rfl⟩
  | cons a as ih => rw [runActs, doAct_none h]; exact ih

theorem runSteps_none (steps : List (Step α)) : ∀ c : Core α, c.stash = none →
    stashedSeq (runSteps c steps).2 = [] ∧ restoredSeq (runSteps c steps).2 = [] := by
  induction steps with
  | nil => exact fun _ _ => ⟨rfl, rfl⟩
  | cons s ss ih =>
    intro c h
    have key : (sysStep c s).1.stash = none ∧ stashedSeq (sysStep c s).2 = [] ∧ restoredSeq (sysStep c s).2 = [] := by
      obtain ⟨mb, st⟩ := c
      cases s with
      | arrive m => exact ⟨h, rfl, rfl⟩
      | deliver acts =>
        cases mb with
        | nil => exact ⟨h, rfl, rfl⟩
        | cons m rest =>
          obtain ⟨e1, e2, e3⟩ := runActs_none (c := ⟨rest, st⟩) h m acts
          exact ⟨e1 ▸ h, e2, e3⟩
    obtain ⟨i1, i2⟩ := ih _ key.1
    rw [runSteps, stashedSeq_append, restoredSeq_append, key.2.1, key.2.2, i1, i2]
    exact ⟨rfl, rfl⟩

/-- along a whole run an actor without stash buffer never stashes and never re-delivers -/
theorem no_buffer_run (steps : List (Step α)) :
    stashedSeq (runSteps (fresh false) steps).2 = [] ∧ redelivered (runSteps (fresh false) steps).2 = [] := by
  obtain ⟨h2, h3⟩ := runSteps_none steps (fresh false) rfl
  exact ⟨h2, List.prefix_nil.mp (h3 ▸ (redelivered_prefix (inv_run false steps)).1)⟩

/-- Full statement.  For every message type, with or without stash buffer, for every stream of
    arrivals interleaved in any way with deliveries whose handlers make any stash calls:
    (1) the re-deliveries are a prefix of the released messages, which are a prefix of the stashed
        messages — same order, never more often than stashed (no duplicate, no reordering);
    (2) what is missing from those prefixes is exactly what the mailbox / the stash still hold
        (nothing lost), so once the mailbox is drained the re-deliveries ARE the released messages,
        and if the stash is empty too they are ALL stashed messages, exactly once, in stash order;
    (3) Unstash releases the oldest, UnstashAll all in stash order, to the mailbox tail;
    (4) without a stash buffer each call reports ErrStashBufferNotSet and changes nothing. -/
def C13_full : Prop :=
  ∀ (α : Type) (buf : Bool) (steps : List (Step α)),
    let r := runSteps (fresh buf : Core α) steps
    (redelivered r.2 <+: restoredSeq r.2 ∧ restoredSeq r.2 <+: stashedSeq r.2)
    ∧ (stashedSeq r.2 = restoredSeq r.2 ++ r.1.stash.getD []
       ∧ (enqSeq r.2).map (·.2) = deliveredSeq r.2 ++ r.1.mailbox)
    ∧ (r.1.mailbox = [] → redelivered r.2 = restoredSeq r.2 ∧ stashedSeq r.2 = redelivered r.2 ++ r.1.stash.getD [])
    ∧ (r.1.mailbox = [] → r.1.stash.getD [] = [] → redelivered r.2 = stashedSeq r.2)
    ∧ (∀ (mb : List α) (x : α) (xs : List α), (doUnstash ⟨mb, some (x :: xs)⟩).1 = ⟨mb ++ [x], some xs⟩)
    ∧ (∀ (mb box : List α), (doUnstashAll ⟨mb, some box⟩).1 = ⟨mb ++ box, some []⟩)
    ∧ (∀ (mb : List α) (cur : α) (a : Act), doAct ⟨mb, none⟩ cur a = (⟨mb, none⟩, [.result .notSet]))

theorem C13_holds : C13_full := by
  intro α buf steps
  have h := inv_run (α := α) buf steps
  exact ⟨redelivered_prefix h, ⟨h.stash, h.mbox⟩, drained_mailbox h, exactly_once_quiescent h,
    fun mb x xs => by rw [unstash_oldest], fun mb box => by rw [unstashAll_order], no_buffer⟩

/-- non-vacuous instance: 1 and 2 are stashed, 3 triggers UnstashAll; clauses (1), (2) and the UnstashAll half of (3)
    are exercised and the final state is quiescent with an empty stash -/
example :
    let r := runSteps (fresh true : Core Nat)
      [.arrive 1, .arrive 2, .arrive 3, .deliver [.stash], .deliver [.stash], .deliver [.unstashAll], .deliver [], .deliver []]
    r.1 = ⟨[], some []⟩ ∧ stashedSeq r.2 = [1, 2] ∧ redelivered r.2 = [1, 2] ∧ deliveredSeq r.2 = [1, 2, 3, 1, 2] := by
  decide

theorem runSteps_append (c : Core α) (s1 s2 : List (Step α)) :
    runSteps c (s1 ++ s2) = ((runSteps (runSteps c s1).1 s2).1, (runSteps c s1).2 ++ (runSteps (runSteps c s1).1 s2).2) := by
  induction s1 generalizing c with
  | nil => rfl
  | cons s ss ih => simp [runSteps, ih, List.append_assoc]

theorem caseLoop_is_run (batches : List (List Nat)) (fuel : Nat) (c : Core Msg) (ds : List (List Act)) :
    ∃ steps, runSteps c steps = ((caseLoop batches fuel c ds).1, (caseLoop batches fuel c ds).2.2) := by
  induction fuel generalizing c ds with
  | zero => exact ⟨[], rfl⟩
  | succ n ih =>
    unfold caseLoop
    cases hmb : c.mailbox with
    | nil => exact ⟨[], rfl⟩
    | cons m rest =>
      cases m with
      | user id =>
        obtain ⟨steps', hs'⟩ := ih (runSteps c (stepsFor batches (ds.headD []) (.user id))).1 ds.tail
        refine ⟨stepsFor batches (ds.headD []) (.user id) ++ steps', ?_⟩
        rw [runSteps_append, hs']
      | gate i =>
        obtain ⟨steps', hs'⟩ := ih (runSteps c (stepsFor batches [] (.gate i))).1 ds
        refine ⟨stepsFor batches [] (.gate i) ++ steps', ?_⟩
        rw [runSteps_append, hs']

/-- whatever the case line says, the run the driver prints is a `runSteps` run, so every theorem
    above applies to it -/
theorem runCase_is_run (buf : Bool) (batches : List (List Nat)) (ds : List (List Act)) :
    ∃ steps, runSteps (fresh buf) steps = ((runCase buf batches ds).1, (runCase buf batches ds).2.2) := by
  obtain ⟨steps, hs⟩ := caseLoop_is_run batches (fuelFor batches ds) (runSteps (fresh buf) (firstSteps batches)).1 ds
  refine ⟨firstSteps batches ++ steps, ?_⟩
  rw [runSteps_append, hs]
  rfl

/-- so the conservation invariant (and with it every consequence above) holds of every run the
    driver prints and the harness is compared with -/
theorem runCase_inv (buf : Bool) (batches : List (List Nat)) (ds : List (List Act)) :
    Inv (runCase buf batches ds).1 (runCase buf batches ds).2.2 := by
  obtain ⟨steps, hs⟩ := runCase_is_run buf batches ds
  have := inv_run buf steps
  rw [hs] at this
  exact this

end GoaktVerif.C13
