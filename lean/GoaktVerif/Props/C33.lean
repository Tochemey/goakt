/-
C33 — Relocation accounts for every item and runs once per departure.

"After a node departs, each of its relocatable actors ends up running on exactly one survivor or is
 listed in the single RelocationFailed event for that departure, and duplicate departure
 notifications while a relocation is in flight do not start a second relocation of the same node."

Model: `Model/C33.lean`.
* Part B (`relocate`, `relocateShare`, `sendBatches`, `enqueueRelocation`, `recordUnsent`,
  `releaseUndeliverableLazyGrains`, `reportAbortedRelocation`) is a pure function of the map iteration
  orders, the plan inputs and an environment `Env` (what each node answers for each item, which batches
  reach which peer).  The theorems quantify over EVERY environment, i.e. every pattern of item failures
  and peer failures during the relocation, every order, every survivor set.
* Part A (`beginRelocation/endRelocation`, relocator, worker bookkeeping) is a transition system; the
  theorems hold for EVERY history of NodeLeft notifications (duplicates included), order deliveries,
  spawn failures, worker completions, worker deaths and Terminated deliveries.

What stays a parameter (property labelled partial): real cluster membership and transport.  A batch
whose RPC fails is modelled as not applied by the target; the registry gate of
`recreateActorFromWire` that protects against a half-applied batch is outside the model.
-/
import GoaktVerif.Model.C33
import GoaktVerif.Lemmas.C33Jobs
import GoaktVerif.Lemmas.C33Acct

namespace GoaktVerif.C33
open GoaktVerif.Model.C32 GoaktVerif.Model.C33 GoaktVerif.C32

theorem filter_item_length (recs : List Rec) (it : Item) :
    (recs.filter (fun r => decide (r.item = it))).length = (recs.map Rec.item).count it := by
  rw [List.count_eq_length_filter, List.filter_map, List.length_map]
  rfl

theorem items_nodup (actors : List Actor) (grains : List Grain) (ha : actors.Nodup) (hg : grains.Nodup) :
    (itemsA actors ++ itemsG grains).Nodup := by
  refine List.nodup_append.mpr ⟨?_, ?_, ?_⟩
  · exact List.pairwise_map.mpr (ha.imp fun hne e => hne (Item.actor.inj e))
  · exact List.pairwise_map.mpr (hg.imp fun hne e => hne (Item.grain.inj e))
  · intro x hx y hy hxy
    obtain ⟨a, _, rfl⟩ := List.mem_map.mp hx
    obtain ⟨g, _, rfl⟩ := List.mem_map.mp hy
    cases hxy

theorem eventsOfRun_le (recs : List Rec) : eventsOfRun recs ≤ 1 := by
  unfold eventsOfRun; split <;> omega

theorem eventsOfRun_iff (recs : List Rec) : eventsOfRun recs = 1 ↔ failedItems recs ≠ [] := by
  unfold eventsOfRun; cases failedItems recs <;> simp

/-- every relocatable item of the departed node gets exactly one outcome, whatever fails -/
def C33_accounting : Prop :=
  ∀ (env : Env) (bs : Nat) (leaderRoles : List Role) (peers : List (List Role)) (base : List Nat)
    (actorOrder : List Actor) (grainOrder : List Grain), 0 < bs →
    let recs := relocate env bs leaderRoles peers base actorOrder grainOrder
    let items := itemsA actorOrder ++ itemsG (relocatableGrains grainOrder)
    -- one record per item of the snapshot, no record for anything else
    (recs.map Rec.item).Perm items
    -- with distinct entries (map keys): each item has exactly ONE record, which is either
    -- "handled by node n" (one node) or "failed" (listed in the event): never both, never neither
    ∧ (actorOrder.Nodup → grainOrder.Nodup → ∀ it ∈ items, (recs.filter (fun r => decide (r.item = it))).length = 1)
    -- the single event: at most one per run, exactly when something failed; its content is `failedItems`
    ∧ eventsOfRun recs ≤ 1
    ∧ (eventsOfRun recs = 1 ↔ failedItems recs ≠ [])

theorem C33_accounting_holds : C33_accounting := by
  intro env bs leaderRoles peers base actorOrder grainOrder hbs recs items
  -- `recItems` unfolds to `List.map Rec.item`
  have hperm : (recs.map Rec.item).Perm items := relocate_items env bs hbs leaderRoles peers base actorOrder grainOrder
  refine ⟨hperm, ?_, eventsOfRun_le recs, eventsOfRun_iff recs⟩
  intro ha hg it hit
  have hn : items.Nodup := items_nodup _ _ ha (hg.filter _)
  rw [filter_item_length, hperm.count_eq, hn.count, if_pos hit]

/-- same for a relocation that cannot run (cluster.Peers failed, worker not spawned, worker died):
    everything is accounted as failed except lazy grains the leader could release; one event -/
def C33_abort_accounting : Prop :=
  ∀ (env : Env) (actors : List Actor) (grainOrder : List Grain),
    let recs := abortRecs env actors grainOrder
    recs.map Rec.item = itemsA actors ++ itemsG (relocatableGrains grainOrder)
    ∧ (∀ a ∈ actors, Rec.failed (.actor a) ∈ recs)
    ∧ (∀ r ∈ recs, ∀ n it, r = Rec.ok n it → n = 0 ∧ ∃ g, it = .grain g ∧ g.eager = false ∧ env.releaseOK g = true)

theorem C33_abort_accounting_holds : C33_abort_accounting := by
  intro env actors grainOrder recs
  refine ⟨abortRecs_items env actors grainOrder, ?_, ?_⟩
  · intro a ha
    simp only [recs, abortRecs, List.mem_append, List.mem_map, itemsA]
    left
    exact ⟨.actor a, ⟨a, ha, rfl⟩, rfl⟩
  · intro r hr n it hrn
    subst hrn
    simp only [recs, abortRecs, List.mem_append, List.mem_map, itemsA, itemsG] at hr
    rcases hr with ⟨x, _, hx⟩ | ⟨x, ⟨g, _, rfl⟩, hx⟩
    · cases hx
    · simp only [unsentRec] at hx
      split at hx
      · cases hx
      · rename_i he
        split at hx
        · rename_i hr
          cases hx
          exact ⟨rfl, g, rfl, by simpa using he, hr⟩
        · cases hx

/-- redistribution of one share (`relocateShare`) on its own: exactly one record per item of the share -/
theorem C33_share_accounting (env : Env) (bs : Nat) (hbs : 0 < bs) (leaderRoles : List Role)
    (peers : List (List Role)) (target : Nat) (requests : List Batch) :
    ((relocateShare env bs leaderRoles peers target requests).map Rec.item).Perm (batchesItems requests) :=
  relocateShare_items env bs hbs leaderRoles peers target requests

def C33_once : Prop :=
  -- a duplicate NodeLeft while a job is registered for the address starts nothing: state unchanged
  (∀ (s : Sys) (addr snap : Nat), s.jobs addr = some snap → step s (.nodeLeft addr) = s)
  ∧ (∀ evs : List Ev,
      let s := run Sys.init evs
      -- per departure (= snapshot): its relocation ends at most once and at most one
      -- RelocationFailed event is ever published for it
      (∀ snap, s.closed snap ≤ 1 ∧ s.events snap ≤ 1)
      -- a Rebalance order still queued, or a worker that has not run yet, always owns the registered
      -- job of its address (so every further NodeLeft of that address is ignored by the first clause)
      ∧ (∀ snap addr, s.queued snap = some addr → s.jobs addr = some snap)
      ∧ (∀ name, s.live name = true → ∃ addr snap, s.workers name = some (addr, snap) ∧ s.jobs addr = some snap)
      -- never two workers waiting/running for the same departed address, nor a worker and a queued order
      ∧ (∀ n n' a sn sn', s.live n = true → s.live n' = true →
            s.workers n = some (a, sn) → s.workers n' = some (a, sn') → n = n')
      ∧ (∀ n a sn sn', s.live n = true → s.workers n = some (a, sn) → s.queued sn' ≠ some a)
      -- a relocation that ended is not registered any more: the same address may depart again
      ∧ (∀ snap addr, 1 ≤ s.closed snap → s.jobs addr ≠ some snap))

theorem C33_once_holds : C33_once := by
  refine ⟨step_nodeLeft_of_some, ?_⟩
  intro evs s
  have inv : Inv s := inv_run evs Sys.init inv_init
  refine ⟨?_, inv.k2, inv.k6, ?_, ?_, inv.k1⟩
  · intro snap
    exact ⟨inv.g1 snap, Nat.le_trans (inv.g2 snap) (inv.g1 snap)⟩
  · intro n n' a sn sn' hl hl' hw hw'
    obtain ⟨_, _, hu⟩ := owner_unique_of_live s inv n a sn hl hw
    by_cases hnn : n' = n
    · exact hnn.symm
    · exact absurd rfl (hu n' hnn hl' a sn' hw')
  · intro n a sn sn' hl hw hq
    obtain ⟨_, hu, _⟩ := owner_unique_of_live s inv n a sn hl hw
    exact hu sn' a hq rfl

def depSafe (d : Dep) : Prop := d.job = true ∨ d.snapshot = false

theorem nodeLeftSnap_of_safe (d : Dep) (h : depSafe d) : nodeLeftSnap d = d := by
  unfold nodeLeftSnap
  rcases h with h | h <;> simp [h]

theorem runActs_nodeLefts_of_safe (n : Nat) (d : Dep) (h : depSafe d) :
    runActs d (List.replicate n Act.nodeLeft) = d := by
  induction n with
  | zero => rfl
  | succ n ih =>
    simp only [List.replicate_succ, runActs, List.foldl_cons, act]
    rw [nodeLeftSnap_of_safe d h]
    exact ih

theorem runActs_append (d : Dep) (x y : List Act) : runActs d (x ++ y) = runActs (runActs d x) y :=
  List.foldl_append

/-- with the code's order (snapshot deleted BEFORE the job is released) no number of duplicate
    NodeLefts handled before, between or after the two calls of `finish` starts another relocation of
    the departure, and the run ends with the job released and the snapshot gone -/
def C33_finish_window : Prop :=
  ∀ (a b c n : Nat),
    let d := runActs ⟨true, true, n⟩ (finishWith finishOrder a b c)
    d.started = n ∧ d.job = false ∧ d.snapshot = false

theorem C33_finish_window_holds : C33_finish_window := by
  intro a b c n
  simp only [finishWith, finishOrder, runActs_append]
  rw [runActs_nodeLefts_of_safe a _ (Or.inl rfl)]
  have h1 : runActs ⟨true, true, n⟩ [Act.call .deletePeerState] = ⟨false, true, n⟩ := rfl
  rw [h1, runActs_nodeLefts_of_safe b _ (Or.inl rfl)]
  have h2 : runActs ⟨false, true, n⟩ [Act.call .endRelocation] = ⟨false, false, n⟩ := rfl
  rw [h2, runActs_nodeLefts_of_safe c _ (Or.inr rfl)]
  exact ⟨rfl, rfl, rfl⟩

/-- the reverse order opens a window: one duplicate NodeLeft between the calls starts a second
    relocation of the same departure (this is what the `nl` differential and the FACTS entry guard) -/
theorem finish_reversed_refuted :
    (runActs ⟨true, true, 1⟩ (finishWith [.endRelocation, .deletePeerState] 0 1 0)).started = 2 := by decide

/-- invariant: while a job is registered exactly `aborts + 1` relocations were started; otherwise
    either as many as aborted (a re-request may start the next one) or one more with nothing left to
    relocate (no further NodeLeft can start anything) -/
def lifeInv (d : Life) : Prop :=
  if d.job then d.runs = d.aborts + 1
  else d.runs = d.aborts ∨ (d.snapshot = false ∧ d.records = false ∧ d.runs = d.aborts + 1)

/-- while a relocation of the departure is in flight a NodeLeft does nothing, on both paths (goakt 51adf01) -/
theorem lifeStep_nodeLeft_of_job (d : Life) (hj : d.job = true) : lifeStep d .nodeLeft = d := by
  simp only [lifeStep, hj, if_true, ite_self]

theorem lifeInv_step (d : Life) (a : LifeAct) (h : lifeInv d) : lifeInv (lifeStep d a) := by
  obtain ⟨sn, rc, jb, rn, an, ab, em⟩ := d
  cases jb with
  | true =>
    replace h : rn = ab + 1 := h
    cases a with
    | nodeLeft => rw [lifeStep_nodeLeft_of_job _ rfl]; exact h
    | runOK => exact Or.inr ⟨rfl, rfl, h⟩
    | runAbort => exact Or.inl h
  | false =>
    replace h : rn = ab ∨ (sn = false ∧ rc = false ∧ rn = ab + 1) := h
    cases a with
    | nodeLeft =>
      -- a relocation starts iff something is left to relocate: the second alternative of `h` is excluded
      cases sn with
      | true => exact h.elim (congrArg (· + 1)) (fun h => nomatch h.1)
      | false =>
        cases rc with
        | true => exact h.elim (congrArg (· + 1)) (fun h => nomatch h.2.1)
        | false => exact h
    | runOK => exact h
    | runAbort => exact h

theorem lifeInv_run (l : List LifeAct) (d : Life) (h : lifeInv d) : lifeInv (lifeRun d l) :=
  List.foldlRecOn (motive := lifeInv) l lifeStep h fun d hd a _ => lifeInv_step d a hd

/-- once per departure, re-requests included: over EVERY sequence of NodeLefts (duplicates at any
    moment, on either path), completed runs and aborted runs, the number of relocations started never
    exceeds the number of aborted ones plus one; and while one is in flight it is exactly that -/
def C33_life : Prop :=
  ∀ (snapshot : Bool) (l : List LifeAct),
    let d := lifeRun (Life.init snapshot) l
    d.runs ≤ d.aborts + 1 ∧ (d.job = true → d.runs = d.aborts + 1)

theorem C33_life_holds : C33_life := by
  intro snapshot l d
  have h : lifeInv d := lifeInv_run l _ (Or.inl rfl)
  unfold lifeInv at h
  by_cases hj : d.job = true
  · rw [if_pos hj] at h
    exact ⟨Nat.le_of_eq h, fun _ => h⟩
  · rw [if_neg hj] at h
    exact ⟨h.elim (fun e => e ▸ Nat.le_succ _) (fun e => Nat.le_of_eq e.2.2), fun hj' => absurd hj' hj⟩

/-- "one RelocationStarted per started relocation" at full strength -/
def C33_announce_full : Prop :=
  ∀ (snapshot : Bool) (l : List LifeAct), (lifeRun (Life.init snapshot) l).announced = (lifeRun (Life.init snapshot) l).runs

/-- not true at full strength, BY DESIGN: without a snapshot and without a job the crash path
    announces the derived set even when it is empty (a late NodeLeft after the relocation completed).
    This is the only missing part (see `C33_announce_partial`). -/
theorem C33_announce_empty_set_witness : ¬ C33_announce_full := by
  intro h
  have := h false [.nodeLeft, .runOK, .nodeLeft]
  revert this
  decide

theorem announce_step (d : Life) (a : LifeAct) (h : d.announced = d.runs + d.empty) :
    (lifeStep d a).announced = (lifeStep d a).runs + (lifeStep d a).empty := by
  obtain ⟨sn, rc, jb, rn, an, ab, em⟩ := d
  replace h : an = rn + em := h
  subst h
  cases jb with
  | true =>
    cases a with
    | nodeLeft => rw [lifeStep_nodeLeft_of_job _ rfl]
    | runOK => rfl
    | runAbort => rfl
  | false =>
    cases a with
    | nodeLeft =>
      cases sn with
      | true => exact Nat.add_right_comm ..
      | false =>
        cases rc with
        | true => exact Nat.add_right_comm ..
        | false => rfl
    | runOK => rfl
    | runAbort => rfl

/-- the code as of goakt 51adf01, for EVERY sequence of NodeLefts (either path, any moment), completed and
    aborted runs:
    * a NodeLeft handled while a relocation of the departure is in flight changes nothing - no event,
      no dispatch - on BOTH paths (finding C33-F1);
    * every RelocationStarted event is either the announcement of a relocation that is started, or a
      crash-path announcement of an empty derived set: `announced = runs + empty`;
    * an empty-set announcement only happens with no snapshot, no registry record and no job. -/
def C33_announce_partial : Prop :=
  (∀ d : Life, d.job = true → lifeStep d .nodeLeft = d)
  ∧ (∀ (snapshot : Bool) (l : List LifeAct),
      let d := lifeRun (Life.init snapshot) l
      d.announced = d.runs + d.empty)
  ∧ (∀ d : Life, (lifeStep d .nodeLeft).empty ≠ d.empty → d.snapshot = false ∧ d.records = false ∧ d.job = false)

theorem C33_announce_partial_holds : C33_announce_partial := by
  refine ⟨?_, ?_, ?_⟩
  · exact lifeStep_nodeLeft_of_job
  · exact fun snapshot l =>
      List.foldlRecOn (motive := fun d => d.announced = d.runs + d.empty) l lifeStep rfl fun d hd a _ => announce_step d a hd
  · intro d hne
    obtain ⟨sn, rc, jb, rn, an, ab, em⟩ := d
    cases jb with
    | true => exact absurd (congrArg Life.empty (lifeStep_nodeLeft_of_job _ rfl)) hne
    | false =>
      cases sn with
      | true => exact absurd rfl hne
      | false =>
        cases rc with
        | true => exact absurd rfl hne
        | false => exact ⟨rfl, rfl, rfl⟩

-- regression for C33-F1: two duplicate NodeLefts on the crash path while the relocation is in flight
example : (lifeRun (Life.init false) [.nodeLeft, .nodeLeft, .nodeLeft]).announced = 1 := by decide

example : (lifeRun (Life.init true) [.nodeLeft, .nodeLeft, .runAbort, .nodeLeft, .nodeLeft, .runOK, .nodeLeft]).runs = 2 := by decide

def C33_full : Prop := C33_accounting ∧ C33_abort_accounting ∧ C33_once ∧ C33_finish_window ∧ C33_life

theorem C33_holds : C33_full := ⟨C33_accounting_holds, C33_abort_accounting_holds, C33_once_holds, C33_finish_window_holds, C33_life_holds⟩

-- NodeLeft(7), duplicate NodeLeft(7), order handled, worker completes with a failure, Terminated,
-- NodeLeft(7) again (new departure), its worker dies, Terminated aborts it
private def h1 : List Ev :=
  [.nodeLeft 7, .nodeLeft 7, .rebalance 0 true, .nodeLeft 7, .complete 1 true, .terminated 1,
   .nodeLeft 7, .rebalance 1 true, .die 2, .nodeLeft 7, .terminated 2]

example : (run Sys.init h1).events 0 = 1 ∧ (run Sys.init h1).events 1 = 1 ∧ (run Sys.init h1).nextSnap = 2 := by decide
example : (run Sys.init h1).jobs 7 = none := by decide
-- the hypothesis of the dedup clause is reachable
example : (run Sys.init [.nodeLeft 7]).jobs 7 = some 0 := by decide
-- stale Terminated of a completed worker does not abort the newer job of the same address
example : (run Sys.init [.nodeLeft 7, .rebalance 0 true, .complete 1 false, .nodeLeft 7, .terminated 1]).jobs 7 = some 1 := by decide

private def envEx : Env :=
  { localOK := fun it => it != .actor ⟨1, 0, false, true, false⟩, remoteOK := fun _ _ => true,
    poison := fun p _ => p == 0, releaseOK := fun _ => true }

-- two role-less actors, one peer that is unreachable: the leader keeps actor 1 (fails locally), the
-- peer's share (actor 2) comes back to the leader
example : (relocate envEx 500 [] [[]] [] [⟨1, 0, false, true, false⟩, ⟨2, 0, false, true, false⟩] []).map Rec.item
    = [.actor ⟨1, 0, false, true, false⟩, .actor ⟨2, 0, false, true, false⟩] := by decide
example : eventsOfRun (relocate envEx 500 [] [[]] [] [⟨1, 0, false, true, false⟩, ⟨2, 0, false, true, false⟩] []) = 1 := by decide

end GoaktVerif.C33
