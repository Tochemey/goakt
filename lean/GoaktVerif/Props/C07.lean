/-
C07 — Failures are handled by exactly the configured supervision directive.

"When a handler panics or reports an error, the parent applies the directive configured for that
 error type (or the any-error directive, or suspension if none): Stop stops the child (and its
 siblings under one-for-all), Restart re-runs PreStart with fresh state and bumps the restart count,
 Resume keeps the child's state and it processes later messages, and Escalate hands the failure to
 the grandparent. Once the restart budget of a positive window is exhausted the group is suspended
 instead of restarted."

Model: Model/C07.lean (NewSupervisor + options, notifyParent lookup, handlePanicking dispatch,
handleStop/RestartDirective with sibling groups, recordFault, the budget test, suspendGroup,
restartSubtree of a leaf, Reinstate).  Oracle: Spec/C07.lean (`expect` = what the text prescribes,
from the option list and the oracle's own fault history; `check` = the outcome on observations).
Theorems are for every option list, every family size and every op script (failures of six kinds,
pings, reinstatements, aged fault stamps).  Tie: the harness runs the same scripts on a real actor
system; the model's observation must equal the implementation's, and the same `judgeRun` that the
theorems are about is evaluated on the implementation's observations.
-/
import GoaktVerif.Lemmas.C07.Ops

namespace GoaktVerif.C07
open GoaktVerif.Model.C07 GoaktVerif.Spec.C07

/-- the observations the harness prints for a script: after each op, the family and the op's result -/
def obsRun (f : Family) (ops : List Op) : List (Obs × Res) := (run f ops).map (fun r => (r.1.obs, r.2.1))

/-- every op addresses an existing child and is neither a scripted PreStart failure (`F`) nor a public `Restart`
    (`R`): scripts with those are covered by the model and the differential, not by the refinement theorems -/
def validOps (n : Nat) (ops : List Op) : Prop := ∀ op ∈ ops, op.idx < n ∧ op.plain = true

instance (n : Nat) (ops : List Op) : Decidable (validOps n ops) := by unfold validOps; infer_instance

/-- REFINEMENT, one op: whatever the state (within the invariant), the model's reaction to an op is
    what the text prescribes for the configuration — in the `code` reading of the clause the code
    deviates on — and the invariant is kept.  Covers: lookup order type → any-error → suspend; the
    dispatch on the directive; sibling groups under one-for-all; the budget decision; Resume keeping the
    state; later messages handled (ping); Reinstate. -/
theorem step_refines_code (opts : List Opt) (f : Family) (h : Hists) (op : Op)
    (hinv : Inv opts f h) (hv : op.idx < f.cs.length) (hp : op.plain = true) :
    (judgeStep .code opts h (f.now + tick) op f.obs (step f op).1.obs (step f op).2.1).1 = true
    ∧ Inv opts (step f op).1 (judgeStep .code opts h (f.now + tick) op f.obs (step f op).1.obs (step f op).2.1).2 := by
  have hc : f.cs[op.idx]? = some f.cs[op.idx] := by simp [hv]
  cases op with
  | fail i k =>
    simp only [Op.idx] at hc hv
    generalize f.cs[i] = c at hc
    have hstep : step f (.fail i k) =
        if c.alive then ((notifyParent (tickF f) i k.ty).1, .ok, (notifyParent (tickF f) i k.ty).2)
        else (tickF f, .dead, []) := by
      simp only [step, getD_fresh hc]
      cases c.alive <;> rfl
    rw [hstep]
    cases ha : c.alive with
    | true =>
      obtain ⟨h1, h2, h3⟩ := notify_refines (g := tickF f) k (inv_tick hinv) hc ha
      have h2 : (expect opts h (f.now + tick) f.obs i k).1 ≠ .dead := h2
      refine ⟨?_, h3⟩
      simp only [judgeStep, if_true, Bool.and_eq_true]
      exact ⟨h1, by simpa using h2⟩
    | false =>
      have he : expect opts h (f.now + tick) f.obs i k = (.dead, h) := by
        unfold expect
        simp [obs_alive f i c hc, ha]
      have hb : check .code (newSupervisor opts).strategy .dead i f.obs (tickF f).obs = true :=
        branch_unchanged .code _ .dead i f (Or.inl rfl)
      simp only [judgeStep, he]
      exact ⟨by simpa using hb, inv_tick hinv⟩
  | ping i =>
    simp only [Op.idx] at hc
    exact ping_refines hinv hc
  | reinstate i =>
    simp only [Op.idx] at hc
    exact reinstate_refines hinv hc
  | age i =>
    simp only [Op.idx] at hc
    obtain ⟨h1, h2, h3⟩ := age_refines hinv hc
    simp only [judgeStep]
    refine ⟨?_, h3⟩
    simp [h1, h2]
  | failPre i k => simp [Op.plain] at hp
  | restartPub i => simp [Op.plain] at hp

theorem inv_init (opts : List Opt) (n : Nat) : Inv opts (Family.init opts n) (List.replicate n []) := by
  refine ⟨rfl, ?_, ?_, by simp [Family.init, clock0]⟩
  · simp [Family.init, Child.fresh]
  · intro j c hj
    simp only [Family.init, List.getElem?_replicate] at hj
    split at hj
    · cases hj; exact wf_fresh _
    · cases hj

theorem run_refines_gen (opts : List Opt) (ops : List Op) (f : Family) (h : Hists)
    (hinv : Inv opts f h) (hv : validOps f.cs.length ops) :
    judgeRun .code opts h f.now ops f.obs (obsRun f ops) = true ∧ ∀ r ∈ run f ops, ∃ h', Inv opts r.1 h' := by
  induction ops generalizing f h with
  | nil => exact ⟨rfl, fun r hr => nomatch hr⟩
  | cons op ops ih =>
    obtain ⟨hop, hpl⟩ := hv op List.mem_cons_self
    obtain ⟨h1, h2⟩ := step_refines_code opts f h op hinv hop hpl
    obtain ⟨hnow, hlen⟩ := step_frame f op
    obtain ⟨ih1, ih2⟩ := ih (step f op).1 _ h2 (fun o ho => hlen ▸ hv o (List.mem_cons_of_mem _ ho))
    rw [hnow] at ih1
    constructor
    · simp only [judgeRun, obsRun, run, List.map_cons, judgeRunWith, Bool.and_eq_true]
      exact ⟨h1, ih1⟩
    · intro r hr
      rcases List.mem_cons.mp hr with rfl | hr
      · exact ⟨_, h2⟩
      · exact ih2 r hr

theorem run_refines_init (opts : List Opt) (n : Nat) (ops : List Op) (hv : validOps n ops) :
    judgeRun .code opts (List.replicate n []) clock0 ops (Family.init opts n).obs (obsRun (Family.init opts n) ops) = true
    ∧ ∀ r ∈ run (Family.init opts n) ops, ∃ h', Inv opts r.1 h' :=
  run_refines_gen opts ops (Family.init opts n) _ (inv_init opts n) (by simpa [Family.init] using hv)

/-- REFINEMENT, all scripts: for every option list, every family size and every valid op script, the
    observations of the model satisfy the oracle in its `code` reading at every step. -/
theorem run_refines_code (opts : List Opt) (n : Nat) (ops : List Op) (hv : validOps n ops) :
    judgeRun .code opts (List.replicate n []) clock0 ops (Family.init opts n).obs (obsRun (Family.init opts n) ops) = true :=
  (run_refines_init opts n ops hv).1

/-- the fault counter the code keeps is the oracle's count over the recorded fault times, in every
    reachable state: `recordFault` = "consecutive faults, a fault-free gap longer than a positive window
    starts a new run" -/
theorem cf_eq_specCount (opts : List Opt) (n : Nat) (ops : List Op) (hv : validOps n ops) :
    ∀ r ∈ run (Family.init opts n) ops, ∀ c ∈ r.1.cs,
      c.cf = specCount (window (newSupervisor opts)) c.hist := by
  intro r hr c hc
  obtain ⟨h', hinv⟩ := (run_refines_init opts n ops hv).2 r hr
  obtain ⟨j, hj, rfl⟩ := List.getElem_of_mem hc
  exact hinv.sup ▸ (hinv.wf j _ (List.getElem?_eq_getElem hj)).cf_eq

/-- C07 as written: for every configuration and every failure sequence the observed outcome of each op
    is the one the text prescribes -/
def C07_full : Prop :=
  ∀ (opts : List Opt) (n : Nat) (ops : List Op), validOps n ops →
    judgeRun .text opts (List.replicate n []) clock0 ops (Family.init opts n).obs (obsRun (Family.init opts n) ops) = true

/-- finding C07-F1: with `WithDirective(ErrA, Escalate)` one failure of the only child puts the
    PanicSignal into the PARENT's Receive; the grandparent gets nothing -/
theorem C07_escalate_goes_to_parent :
    let f := (step (Family.init [.directive tyA dEscalate] 1) (.fail 0 .A)).1
    f.pSig = [0] ∧ f.gSig = [] := by decide

/-- the restart clause for a sibling restarted while running (finding C07-F2, fix 6e40710): under one-for-all +
    Restart, the second failure of child 0 restarts the running sibling 1 a second time and its restart count is 2 -/
theorem C07_sibling_restart_count_bumped :
    let opts := [Opt.strategy .oneForAll, .directive tyA dRestart]
    let f1 := (step (Family.init opts 2) (.fail 0 .A)).1
    let f2 := (step f1 (.fail 0 .A)).1
    (f1.cs.map (·.rc)) = [1, 1] ∧ (f2.cs.map (·.rc)) = [2, 2] ∧ (f2.cs.map (·.pre)) = [3, 3] := by decide

/-- regression statement for fix 07658af (finding C07-F3): a one-for-all restart whose first attempt
    fails behind the embedded shutdown of a running sibling (its PreStart errors 5 times, which exhausts `init`)
    and whose retry succeeds keeps that sibling registered under its parent, with restart count old + 1 -/
theorem C07_retried_restart_keeps_parent :
    let opts := [Opt.strategy .oneForAll, .directive tyA dRestart, .retry 2 2]
    let f := (run (Family.init opts 2) [.fail 0 .A, .failPre 1 5, .fail 0 .A]).getLast?.map (·.1)
    f.map (fun f => f.cs.map (fun c => (c.reg, c.alive, c.pre, c.rc))) = some [(true, true, 3, 2), (true, true, 8, 2)] := by
  decide

/-- the current code does not satisfy the text -/
theorem C07_refuted : ¬ C07_full := by
  intro h
  have := h [.directive tyA dEscalate] 1 [.fail 0 .A] (by decide)
  revert this
  decide

theorem judgeStep_hists_variant (opts : List Opt) (h : Hists) (now : Int) (op : Op) (b a : Obs) (res : Res) :
    (judgeStep .text opts h now op b a res).2 = (judgeStep .code opts h now op b a res).2 := by
  cases op <;> rfl

/-- the two readings differ only in who receives an escalated failure -/
theorem check_text_eq_code {st : Strategy} {e : Expect} {i : Nat} {b a : Obs} (he : e ≠ .escalate) :
    check .text st e i b a = check .code st e i b a := by
  cases e with
  | escalate => exact absurd rfl he
  | _ => rfl

/-- on a step the `code` reading accepts, the verdict of the `text` reading is the guard: the two agree off Escalate,
    and an escalated failure is in the parent's signals, not where the text wants it -/
theorem text_eq_guard (opts : List Opt) (h : Hists) (now : Int) (op : Op) (b a : Obs) (res : Res)
    (hc : (judgeStep .code opts h now op b a res).1 = true) :
    (judgeStep .text opts h now op b a res).1 = stepGuard opts h now op b := by
  cases op with
  | fail i k =>
    simp only [judgeStep, stepGuard] at hc ⊢
    generalize (expect opts h now b i k).1 = e at hc ⊢
    by_cases he : e = .escalate
    · subst he
      simp only [check, checkSignals, Bool.and_eq_true, beq_iff_eq] at hc
      have hp : (a.pSig == b.pSig) = false := by
        rw [beq_eq_false_iff_ne, hc.1.2.1]
        intro hx; simpa using congrArg List.length hx
      simp [check, checkSignals, hp]
    · rw [check_text_eq_code he, hc]
      cases e with
      | escalate => exact absurd rfl he
      | _ => rfl
  | _ => exact hc

theorem judgeRunWith_guarded (opts : List Opt) (ops : List Op) (h : Hists) (now : Int) (b : Obs) (l : List (Obs × Res))
    (hc : judgeRunWith (judgeStep .code opts) h now ops b l = true) :
    judgeRunWith (judgeStepGuarded opts) h now ops b l = true := by
  induction ops generalizing h now b l with
  | nil => simp [judgeRunWith]
  | cons op ops ih =>
    cases l with
    | nil => simp [judgeRunWith] at hc
    | cons p rest =>
      obtain ⟨a, res⟩ := p
      simp only [judgeRunWith, Bool.and_eq_true] at hc ⊢
      constructor
      · simp only [judgeStepGuarded, Bool.or_eq_true, Bool.not_eq_true']
        cases hg : stepGuard opts h (now + tick) op b with
        | false => exact Or.inl rfl
        | true => exact Or.inr ((text_eq_guard opts h (now + tick) op b a res hc.1).trans hg)
      · have : (judgeStepGuarded opts h (now + tick) op b a res).2 = (judgeStep .code opts h (now + tick) op b a res).2 :=
          judgeStep_hists_variant opts h (now + tick) op b a res
        rw [this]
        exact ih _ _ _ _ hc.2

/-- C07 restricted by the decidable per-step guard `stepGuard`: every step whose configured directive
    is not Escalate behaves exactly as the text says.  (What the guard excludes is what finding C07-F1
    describes; `run_refines_code` says what the code does there.) -/
def C07_guarded : Prop :=
  ∀ (opts : List Opt) (n : Nat) (ops : List Op), validOps n ops →
    judgeRunWith (judgeStepGuarded opts) (List.replicate n []) clock0 ops (Family.init opts n).obs
      (obsRun (Family.init opts n) ops) = true

theorem C07_partial : C07_guarded := by
  intro opts n ops hv
  exact judgeRunWith_guarded opts ops _ _ _ _ (run_refines_code opts n ops hv)

/-- the guard values along a script (for the non-vacuity examples) -/
def guardTrace (opts : List Opt) : Hists → Int → List Op → Obs → List (Obs × Res) → List Bool
  | _, _, [], _, _ => []
  | _, _, _ :: _, _, [] => []
  | h, now, op :: ops, b, (a, res) :: rest =>
    stepGuard opts h (now + tick) op b ::
      guardTrace opts (judgeStep .text opts h (now + tick) op b a res).2 (now + tick) ops a rest

/-- non-vacuity of the guard: a script on which it admits every step — a one-for-all group restart,
    a Resume, pings, then the budget (1 retry in a one-hour window) exhausted by the second Restart fault -/
example :
    let opts := [Opt.strategy .oneForAll, .directive tyA dRestart, .directive tyB dResume, .retry 1 3600000000000]
    let ops := [Op.fail 0 .A, .ping 0, .fail 1 .B, .ping 1, .fail 1 .A, .ping 0]
    validOps 2 ops ∧
    guardTrace opts (List.replicate 2 []) clock0 ops (Family.init opts 2).obs (obsRun (Family.init opts 2) ops)
      = [true, true, true, true, true, true]
    ∧ (obsRun (Family.init opts 2) ops).map (fun p => p.1.cs.map (fun c => (c.alive, c.susp, c.pre, c.rc)))
      = [[(true, false, 2, 1), (true, false, 2, 1)], [(true, false, 2, 1), (true, false, 2, 1)],
         [(true, false, 2, 1), (true, false, 2, 1)], [(true, false, 2, 1), (true, false, 2, 1)],
         [(false, true, 2, 1), (false, true, 2, 1)], [(false, true, 2, 1), (false, true, 2, 1)]] := by decide

/-- ... and a script on which the guard rejects a step (an Escalate directive) -/
example :
    let opts := [Opt.directive tyA dEscalate]
    let ops := [Op.ping 0, .fail 0 .A]
    guardTrace opts (List.replicate 1 []) clock0 ops (Family.init opts 1).obs (obsRun (Family.init opts 1) ops)
      = [true, false] := by decide

/-- non-vacuity of the invariant used by `step_refines_code`: it holds initially for every configuration
    (`inv_init`) and, e.g., after a group restart -/
example : ∃ h, Inv [.strategy .oneForAll, .directive tyA dRestart]
    (step (Family.init [.strategy .oneForAll, .directive tyA dRestart] 2) (.fail 0 .A)).1 h :=
  ⟨_, (step_refines_code _ _ _ (.fail 0 .A) (inv_init _ 2) (by decide) rfl).2⟩

end GoaktVerif.C07
