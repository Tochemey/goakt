/-
C39 for the multi-value register: replicas that have seen the same updates hold the same entries, clock and set of
`Values()` (`C39_mvregister`).  `MVRegister.Delta()` is the whole state, so the REAL replicator
operations (`cvOps`) and the REAL codec model (`wire idSer`) are used: every update publishes the
updater's full state, delivered in any order / duplicated / never, plus anti-entropy full states.

The observation of a register is the same shape as the OR-set's (`OsCore`): the clock as a function
and the relation "value v is held under dot d"; `MV.mem_merge` / `MV.clockOf_merge` say that
Merge acts on it by the same rule `osJoin`, so the semilattice `osSemi` of `Props/C39OS.lean` is
reused as is.

Guard (as in C38): a dot names ONE write — `valOf d` is the value written under dot `d`.  It holds
whenever a node id is used by one writer, because the dot of a write is (node, that node's own
clock entry + 1).
-/
import GoaktVerif.Props.C39OS
import GoaktVerif.Props.C40
import GoaktVerif.Lemmas.C38.MV

namespace GoaktVerif.C39
open GoaktVerif.Model.Crdt GoaktVerif.Model.Crdt.AMap GoaktVerif.Model.C40 GoaktVerif.Model.C41 GoaktVerif.Model.C39 GoaktVerif.C38

def mvCore : CV → OsCore
  | .mv r => mvCoreOf r
  | _ => osSemi.bot

/-- the registers that occur: well-formed, dots produced by ticks, values as written under their dots -/
def mvOk (valOf : Dot → Nat) (v : CV) : Prop :=
  ∃ r, v = .mv r ∧ r.WF ∧ (∀ e ∈ r.entries, 1 ≤ e.dot.counter) ∧ (∀ e ∈ r.entries, e.value = valOf e.dot)

def mvSetF (n v : Nat) : CV → CV
  | .mv r => .mv (r.set n v)
  | x => x

/-- `Set(node, v)` where `v` is THE value written under the dot this write gets -/
def mvMut (valOf : Dot → Nat) (f : CV → CV) (s : CV) : Prop :=
  ∃ n v, f = mvSetF n v ∧ ∀ r, s = .mv r → valOf ⟨n, MV.clockOf r n + 1⟩ = v

theorem mv_compat (valOf : Dot → Nat) {a b : MVRegister} (ha : ∀ e ∈ a.entries, e.value = valOf e.dot)
    (hb : ∀ e ∈ b.entries, e.value = valOf e.dot) : MVRegister.Compat a b :=
  MV.compat_of_agree fun _ _ _ hp hq => (ha _ hp).trans (hb _ hq).symm

theorem mv_laws (valOf : Dot → Nat) :
    Laws cvOps (wire idSer) (.mv .new) osSemi mvCore (mvOk valOf) (mvMut valOf) := by
  have wire_ok : ∀ v v', mvOk valOf v → wire idSer v = some v' → mvOk valOf v' ∧ mvCore v' = mvCore v := by
    rintro v v' ⟨r, rfl, h, hp, hv⟩ hw
    obtain ⟨w, he, hw⟩ := Option.bind_eq_some_iff.mp hw
    obtain ⟨w', he', rfl⟩ := Option.map_eq_some_iff.mp he
    rw [show decode idSer (.mv w') = (decMV idSer w').map .mv from rfl,
      GoaktVerif.C40.mv_roundtrip idSer GoaktVerif.C40.idSer_law r w' he'] at hw
    cases hw
    exact ⟨⟨_, rfl, MV.wf_resetDelta h, hp, hv⟩, rfl⟩
  refine Laws.of_inflationary (fun v ⟨r, e, h, hp, _⟩ => e ▸ fun x d hx => ⟨hp _ hx, h.dots_le _ hx⟩)
    ⟨.new, rfl, MV.wf_new, fun _ h => (by cases h), fun _ h => (by cases h)⟩ ?_ ?_ wire_ok ?_ ?_
  · exact eq_bot_of_empty rfl fun _ _ h => (by cases h)
  · rintro a b ⟨ra, rfl, ha, pa, va⟩ ⟨rb, rfl, hb, pb, vb⟩
    have hc := mv_compat valOf va vb
    exact ⟨⟨_, rfl, MV.wf_merge ha hb hc, fun e he => (MV.sub_merge ha hb hc he).elim (pa e) (pb e),
      fun e he => (MV.sub_merge ha hb hc he).elim (va e) (vb e)⟩, mvCoreOf_merge ha hb hc⟩
  · rintro v ⟨r, rfl, h, hp, hv⟩
    exact ⟨⟨_, rfl, MV.wf_resetDelta h, hp, hv⟩, rfl⟩
  · rintro f s ⟨n, v, rfl, hval⟩ ⟨r, rfl, h, hp, hv⟩
    have hc := MV.clockOf_set r n v
    refine ⟨⟨_, rfl, MV.wf_set h n v, fun e he => ?_, fun e he => ?_⟩, ?_, fun hn => (nomatch (hn : some _ = none)), fun d hd => ⟨(Option.some.inj hd).symm, ?_⟩⟩
    · cases List.mem_singleton.mp he; exact Nat.succ_le_succ (Nat.zero_le _)
    · cases List.mem_singleton.mp he; exact (hval r rfl).symm
    · -- the old clock is below the new one, and the only entry carries a dot the old state has not seen
      refine osJoin_of_le (fun x dd hx => h.dots_le _ hx) ⟨MV.clockOf_le_set r n v, fun x dd hx => Or.inl ?_⟩
      cases List.mem_singleton.mp hx
      exact Nat.not_succ_le_self _
    · simp [wire, encode, encMV, decode, decMV, idSer, mvSetF, MVRegister.set, tick]

/-- MV register: for every history of `Set`s in which a dot names one write, every delivery order /
    duplication / loss of the published states and any full-state merges, replicas that have seen
    the same updates hold the same (value, dot) entries and clock — hence the same set of `Values()`. -/
theorem C39_mvregister (valOf : Dot → Nat) (w : Net) (arr : Nat → List Nat)
    (h : Reach cvOps (wire idSer) (.mv .new) (mvMut valOf) 6 6 w arr) (i i' : Nat)
    (h1 : ∀ j ∈ arr i, j ∈ arr i') (h2 : ∀ j ∈ arr i', j ∈ arr i)
    (v v' : CV) (hv : w.at i 6 = some v) (hv' : w.at i' 6 = some v') :
    ∃ r r', v = .mv r ∧ v' = .mv r' ∧ mvCoreOf r = mvCoreOf r'
      ∧ (∀ x, x ∈ r.entries ↔ x ∈ r'.entries) ∧ (∀ x, x ∈ r.values ↔ x ∈ r'.values) := by
  obtain ⟨⟨r, rfl, _⟩, ⟨r', rfl, _⟩, hc⟩ := converge_ok (mv_laws valOf) w arr h i i' h1 h2 v v' hv hv'
  have hent : ∀ x, x ∈ r.entries ↔ x ∈ r'.entries := by
    intro x
    obtain ⟨vx, dx⟩ := x
    exact iff_of_eq (congrFun (congrFun (congrArg Prod.snd hc) vx) dx)
  refine ⟨r, r', rfl, rfl, hc, hent, ?_⟩
  intro x
  simp only [MVRegister.values, List.mem_map]
  constructor
  · rintro ⟨e, he, rfl⟩; exact ⟨e, (hent e).mp he, rfl⟩
  · rintro ⟨e, he, rfl⟩; exact ⟨e, (hent e).mpr he, rfl⟩

/-- non-vacuity: two concurrent writes (nodes 1 and 2, at replicas 0 and 1), cross-delivered;
    both replicas have seen both and hold both values -/
example : ∃ (w : Net) (arr : Nat → List Nat),
    Reach cvOps (wire idSer) (.mv .new) (mvMut fun d => d.nodeID * 10) 6 6 w arr
    ∧ (∀ j ∈ arr 0, j ∈ arr 1) ∧ (∀ j ∈ arr 1, j ∈ arr 0)
    ∧ (match w.at 0 6 with | some (.mv r) => r.values | _ => []) = [10, 20] := by
  have r1 := Reach.upd (ops := cvOps) (wire := wire idSer) (init := CV.mv .new) (Mut := mvMut fun d => d.nodeID * 10)
    (k := 6) (dt := 6) _ _ 0 (mvSetF 1 10) Reach.init ⟨1, 10, rfl, by intro r hr; rfl⟩
  have r2 := Reach.upd _ _ 1 (mvSetF 2 20) r1 ⟨2, 20, rfl, by intro r hr; rfl⟩
  have r3 := Reach.dlv _ _ 0 1 r2
  have r4 := Reach.dlv _ _ 1 0 r3
  exact ⟨_, _, r4, by decide, by decide, by decide⟩

end GoaktVerif.C39
