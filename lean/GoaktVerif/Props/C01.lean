/-
C01 — An actor's message handler never runs concurrently with itself.

"For every local actor and grain, no two invocations of its message handler (Receive, the active
 behavior, or OnReceive) are in progress at the same time on different goroutines, and at most one
 dispatcher worker runs the actor's turn at any instant. This holds whatever the mailbox type, the
 number of concurrent senders, and interleaved restarts, reinstatements, passivation and reentrant
 requests."

Model: `Model/C01.lean` (the Idle/Scheduled/Processing CAS machine with senders, workers and a
restart thread, any number of each, arbitrary programs).  Theorems quantify over EVERY schedule of
every length.  Tie: the same model is replayed step by step against the real, instrumented code
(engine E3, tools/props/c01.py).
-/
import GoaktVerif.Lemmas.C01
import GoaktVerif.Lemmas.Run

namespace GoaktVerif.C01
open GoaktVerif.Model.C01 GoaktVerif.Lemmas.C01 GoaktVerif.Lemmas.Dispatch

def ind (p : Prop) [Decidable p] : Nat := if p then 1 else 0

def tokens (c : Cfg) : Nat := c.sh.rq + sumBy (fun t => tok t.pc) c.threads
def owners (c : Cfg) : Nat := sumBy (fun t => own t.pc) c.threads
def handlersRunning (c : Cfg) : Nat := sumBy inRecv c.threads

/-- The inductive invariant: exactly one token exists iff the state is Scheduled; exactly one worker
    owns the turn iff the state is Processing; never were two handlers in progress. -/
def Inv (c : Cfg) : Prop :=
  tokens c = ind (c.sh.sched = .scheduled) ∧ owners c = ind (c.sh.sched = .processing) ∧ c.sh.maxIn ≤ 1

/- The type on the binder of `h` is not needed to elaborate: it spells out the `TokInv` that `Inv ⟨s, l⟩` unfolds to
   (`tokens`, `owners`, `ind`). -/
theorem Inv.perm : Blind Inv := fun s l _ p
    (h : TokInv sumBy Sched.scheduled Sched.processing (fun t => tok t.pc) (fun t => own t.pc) s.sched s.rq s.maxIn l) =>
  TokInv.perm sumBy_isSum p h

theorem exec_frame : Kept Inv := fun s t R pc hpc h =>
  TokInv.step sumBy_isSum three (exec_kind s t _ pc hpc).1 (sumBy_isSum.le R inRecv_le_own) h

theorem step_inv (c : Cfg) (tid : Nat) (h : Inv c) : Inv (step c tid).2 :=
  step_ind Inv.perm exec_frame c tid h

def run (c : Cfg) : List Nat → Cfg
  | [] => c
  | t :: ts => run (step c t).2 ts

theorem run_ind {P : Cfg → Prop} (hperm : Blind P) (hexec : Kept P) (c : Cfg) (sched : List Nat) (h : P c) :
    P (run c sched) :=
  Run.inv' (fun _ => rfl) (fun _ _ _ => rfl) (step_ind hperm hexec) sched c h

theorem run_inv (c : Cfg) (sched : List Nat) (h : Inv c) : Inv (run c sched) :=
  run_ind Inv.perm exec_frame c sched h

theorem init_inv (budget : Nat) (progs : List (List Op)) : Inv (init budget progs) := by
  rw [init_eq]
  exact TokInv.init sumBy_isSum three
    (spawn_zero tok 0 rfl (fun _ => rfl) rfl fun _ => rfl) (spawn_zero own 0 rfl (fun _ => rfl) rfl fun _ => rfl)

theorem reach_inv (budget : Nat) (progs : List (List Op)) (sched : List Nat) : Inv (run (init budget progs) sched) :=
  run_inv _ sched (init_inv budget progs)

/-- The full statement (for local actors with the default mailbox; scope: TRUSTED in tools/props/c01.py):
    for ANY number of sender, worker and restart threads with ANY programs, ANY turn budget and
    EVERY schedule: at most one handler invocation is in progress, at most one worker owns the
    turn, and never in the past were two handlers in progress at once. -/
def C01_full : Prop :=
  ∀ (budget : Nat) (progs : List (List Op)) (sched : List Nat),
    let c := run (init budget progs) sched
    handlersRunning c ≤ 1 ∧ owners c ≤ 1 ∧ c.sh.maxIn ≤ 1

theorem C01_holds : C01_full := fun budget progs sched =>
  TokInv.bound sumBy_isSum inRecv_le_own (reach_inv budget progs sched)

/-- non-vacuity: a concrete run in which a handler IS in progress (so the bound is about something) -/
example : handlersRunning (run (init 2 [[.tell 1], [.work]]) [0,0,0,0,0,0,1,1,1,1,1,1,1,1]) = 1 := by decide

/-- The defect that was repaired (fix a5d978b): a restart thread that stores Idle at its end breaks
    the invariant.  `resetStep` is what the old code did; from a reachable configuration in which a
    worker is inside the handler it leads to two handlers in progress. This is the model-side
    witness of corpus/C01/restart_reset_overlap.case. -/
def resetStep (c : Cfg) : Cfg := { c with sh := { c.sh with sched := .idle } }

theorem old_restart_reset_breaks :
    let c0 := run (init 2 [[.tell 1], [.restart], [.work], [.work]]) [1,1,0,0,0,0,0,0,2,2,2,2,2,2,2,2]
    let c1 := resetStep c0            -- the trailing schedState.reset() of the old restartSubtree
    let c2 := run c1 [1,1,1,1,1,1,1,3,3,3,3,3,3,3,3]
    handlersRunning c2 = 2 := by decide

end GoaktVerif.C01
