/-
C05 — The dispatcher never loses or duplicates a scheduled actor.

"Every actor handed to the dispatcher's ready queue is taken by exactly one worker (whether it sits
 in a worker's local ring, the global ring, or is stolen), no worker stays parked while work is
 queued and a worker is idle, and closing the dispatcher makes every worker exit."

Model: `Model/C05/Ring.lean` (the two ring buffers as arrays with head/tail/size, `grow`,
`stealHalf`) and `Model/C05/Queue.lean` (one transition per synchronisation site of
actor/ready_queue.go + dispatcher.signalStop's CAS; threads run arbitrary op lists).
The theorems below quantify over EVERY reachable configuration, i.e. every schedule of every
length, any number of workers `n`, any number of threads, any programs obeying the worker
discipline (`ProgsOk`: only worker `w` calls take(w)/pushLocal(w), as worker.run/reschedule do);
`consts_tie`, `ring_ops_are_list_ops`, `closed_stable` and `closed_parkAndTake_false` do not need reachability.

Reading of "no worker stays parked while work is queued and a worker is idle": the invariants
`no_lost_signal` (global queue) and `local_work_owner_awake` (local rings).  Work sitting in a BUSY
worker's local ring while a sibling is parked is NOT claimed: the code only wakes parked workers on
a global push, and the owner will take its local work itself on its next `take`.
-/
import GoaktVerif.Gen.C05
import GoaktVerif.Lemmas.Run
import GoaktVerif.Lemmas.C05.Park
import GoaktVerif.Lemmas.C05.Local

namespace GoaktVerif.C05
open GoaktVerif.Model.C05

theorem consts_tie :
    Gen.C05.localQueueCap = (Model.C05.localQueueCap : Int) ∧
    Gen.C05.globalQueueInitialCap = (Model.C05.globalQueueInitialCap : Int) :=
  ⟨rfl, rfl⟩

/-- `pushBack`/`globalQueue.push` append at the back, `popFront`/`pop` remove the front, `grow` keeps
the window, `stealHalf` hands out the head and moves the next ⌈size/2⌉-1 items (as many as fit), in order. -/
theorem ring_ops_are_list_ops :
    (∀ (r : Ring) x, r.WF → r.size < r.cap → (r.pushRaw x).toList = r.toList ++ [x]) ∧
    (∀ (r : Ring), r.WF → 0 < r.size → r.toList = r.popRaw.1 :: r.popRaw.2.toList) ∧
    (∀ (r : Ring), r.size ≤ r.cap → r.grow.toList = r.toList) ∧
    (∀ (r : Ring) x, r.WF → (r.gpush x).toList = r.toList ++ [x]) ∧
    (∀ (q d : Ring), q.WF → d.WF → 0 < q.size →
      ∃ mv, q.toList = (Ring.stealHalf q d).1 :: mv ++ (Ring.stealHalf q d).2.1.toList ∧
        (Ring.stealHalf q d).2.2.toList = d.toList ++ mv ∧
        mv.length = min ((q.size + 1) / 2 - 1) (d.cap - d.size)) :=
  ⟨fun _ x h hs => Ring.pushRaw_toList x h hs, fun _ h hs => Ring.popRaw_toList h hs,
   fun _ h => Ring.grow_toList h, fun _ x h => Ring.gpush_toList x h,
   fun _ _ hq hd hs => (Ring.stealHalf_spec hq hd hs).2.2⟩

/-- all items currently in some ring -/
def items (s : Shared) : List Nat := s.rings.flatMap Ring.toList ++ s.global.toList

theorem count_items (s : Shared) (x : Nat) : (items s).count x = s.cnt x := by
  simp [items, Shared.cnt, Shared.allRings, List.count_flatMap, Function.comp_def, Nat.add_comm]

/-- items removed from a ring: held by a thread between removal and return, or returned by a take -/
def removed (c : Cfg) : List Nat := c.threads.flatMap fun t => t.held ++ t.returned

theorem count_removed (c : Cfg) (x : Nat) :
    (removed c).count x = (c.threads.map fun t => t.held.count x + t.returned.count x).sum := by
  simp [removed, List.count_flatMap, Function.comp_def]

/-- CONSERVATION, every reachable configuration: the multiset of items stored into the rings equals
the multiset of items removed (each held by exactly one thread or returned by exactly one take)
plus the contents of all rings. Nothing is lost, nothing is duplicated. -/
theorem conservation {n : Nat} {progs : List (List Op)} (hp : ProgsOk n progs) {c : Cfg}
    (hr : Reachable (init n progs) c) :
    c.sh.pushed.Perm (removed c ++ items c.sh) := by
  have h := reachable_cinv (init_cinv hp) hr
  rw [List.perm_iff_count]
  intro x
  rw [List.count_append, count_items, count_removed, ← h.acct x]
  exact h.sinv.cons x

/-- once every thread has finished: pushed = returned by takes ⊎ left in the rings -/
theorem conservation_final {n : Nat} {progs : List (List Op)} (hp : ProgsOk n progs) {c : Cfg}
    (hr : Reachable (init n progs) c) (hdone : ∀ t ∈ c.threads, t.pc = none) :
    c.sh.pushed.Perm (c.threads.flatMap Thread.returned ++ items c.sh) := by
  have := conservation hp hr
  have e : removed c = c.threads.flatMap Thread.returned := by
    unfold removed; rw [List.flatMap_def, List.flatMap_def]
    exact congrArg _ (List.map_congr_left fun t ht => by rw [Thread.held, hdone t ht]; rfl)
  rwa [e] at this

/-- shapes: every ring keeps `head < cap`, `size ≤ cap`, `tail = (head+size) % cap`, and no slot of a
live window is nil (so `take`'s nil checks never drop an item) -/
theorem rings_well_formed {n : Nat} {progs : List (List Op)} (hp : ProgsOk n progs) {c : Cfg}
    (hr : Reachable (init n progs) c) :
    (∀ r ∈ c.sh.rings, r.WF ∧ 0 ∉ r.toList) ∧ c.sh.global.WF ∧ 0 ∉ c.sh.global.toList := by
  have h := (reachable_cinv (init_cinv hp) hr).sinv
  exact ⟨fun r hr => ⟨h.wf r (List.mem_cons_of_mem _ hr), h.nz r (List.mem_cons_of_mem _ hr)⟩, h.gwf, h.nz _ List.mem_cons_self⟩

/-- NO LOST SIGNAL, every reachable configuration (no discipline needed): while some worker waits
un-signalled on the condition variable, the global queue holds at most as many items as there are
pending wake-ups, plus one if a pusher still holds `parkMu` on its way to `Signal`. -/
theorem no_lost_signal {n : Nat} {progs : List (List Op)} {c : Cfg} (hr : Reachable (init n progs) c) :
    c.sh.waiters ≠ [] → c.sh.global.size ≤ c.sh.signalled.length + b2n (inPush c.holderPC) :=
  (reachable_pinv hr).vinv.covered

/-- while a worker waits un-signalled: every queued item is covered by a pending wake-up, or a running
(non-parked) thread holds `parkMu` inside `push`, before its `Signal` -/
theorem no_lost_signal_cover {n : Nat} {progs : List (List Op)} {c : Cfg} (hr : Reachable (init n progs) c)
    (hw : c.sh.waiters ≠ []) :
    c.sh.global.size ≤ c.sh.signalled.length ∨
    ∃ t, c.sh.parkMu = some t ∧ (c.pcOf t = some .pushStore ∨ c.pcOf t = some .pushSignal) := by
  have h := no_lost_signal hr hw
  cases hb : inPush c.holderPC with
  | false => rw [hb] at h; exact .inl h
  | true =>
    cases hm : c.sh.parkMu with
    | none => rw [Cfg.holderPC, hm] at hb; cases hb
    | some t => rw [Cfg.holderPC, hm] at hb; exact .inr ⟨t, rfl, eq_of_inPush hb⟩

/-- the DESIGN wording: queued global work and a waiting worker ⇒ a signal is pending or a running
(non-parked) thread holds `parkMu` inside `push`, before its `Signal` -/
theorem no_lost_signal' {n : Nat} {progs : List (List Op)} {c : Cfg} (hr : Reachable (init n progs) c)
    (hq : 0 < c.sh.global.size) (hw : c.sh.waiters ≠ []) :
    c.sh.signalled ≠ [] ∨
    ∃ t, c.sh.parkMu = some t ∧ (c.pcOf t = some .pushStore ∨ c.pcOf t = some .pushSignal) :=
  (no_lost_signal_cover hr hw).imp (fun h e => by rw [e] at h; exact absurd h (Nat.not_le_of_gt hq)) id

/-- `parked` is exact: the worker between `parked++` and `Wait`, the waiters, the woken-not-yet-running -/
theorem parked_exact {n : Nat} {progs : List (List Op)} {c : Cfg} (hr : Reachable (init n progs) c) :
    c.sh.parked = b2n (isWait c.holderPC) + c.sh.waiters.length + c.sh.signalled.length :=
  (reachable_pinv hr).vinv.parked_eq

theorem parkMu_mutex {n : Nat} {progs : List (List Op)} {c : Cfg} (hr : Reachable (init n progs) c)
    {t u : Nat} {p q : PC} (hp : c.pcOf t = some p) (hq : c.pcOf u = some q)
    (h1 : p.holdsPark = true) (h2 : q.holdsPark = true) : t = u := by
  have a := ((reachable_pinv hr).mutex t).mp (by rw [hp]; exact h1)
  have b := ((reachable_pinv hr).mutex u).mp (by rw [hq]; exact h2)
  rw [a] at b; exact Option.some.inj b

/-- every reachable configuration: if worker `i`'s local ring is non-empty then worker `i` is not
parked — it is not even past `popFront` of its current `take` (only the owner, or the owner acting
as thief, ever fills ring `i`). -/
theorem local_work_owner_awake {n : Nat} {progs : List (List Op)} (hp : ProgsOk n progs) {c : Cfg}
    (hr : Reachable (init n progs) c) {i : Nat} (hi : i < n) (hne : 0 < (c.sh.getL i).ring.size) :
    ∀ pc, c.pcOf i = some pc → pc.idle = false := by
  intro pc hpc
  cases hid : pc.idle with
  | false => rfl
  | true =>
    have := reachable_linv hp hr i hi
    rw [hpc] at this
    have := this.2 hid
    omega

/-- in particular the owner of a non-empty ring is neither about to wait nor waiting -/
theorem local_work_owner_not_parked {n : Nat} {progs : List (List Op)} (hp : ProgsOk n progs) {c : Cfg}
    (hr : Reachable (init n progs) c) {i : Nat} (hi : i < n) (hne : 0 < (c.sh.getL i).ring.size) (w : Nat) :
    c.pcOf i ≠ some (.pkWait w) ∧ c.pcOf i ≠ some (.pkWake w) :=
  ⟨fun h => (nomatch local_work_owner_awake hp hr hi hne _ h),
    fun h => (nomatch local_work_owner_awake hp hr hi hne _ h)⟩

/-- outside the owner's own adding critical sections `sizeAtomic` covers the ring: the lock-free probe
`sizeAtomic == 0` is sound for the owner (`popFront` never skips queued work) -/
theorem sizeAtomic_covers {n : Nat} {progs : List (List Op)} (hp : ProgsOk n progs) {c : Cfg}
    (hr : Reachable (init n progs) c) {i : Nat} (hi : i < n)
    (hpc : ∀ pc, c.pcOf i = some pc → pc.adding = false) :
    (c.sh.getL i).ring.size ≤ (c.sh.getL i).sizeAtomic := by
  have := reachable_linv hp hr i hi
  cases h : c.pcOf i with
  | none => rw [h] at this; exact this.1 rfl
  | some pc => rw [h] at this; exact this.1 (hpc pc h)

/-- `closed` is never reset -/
theorem closed_stable {c c' : Cfg} (hr : Reachable c c') (h : c.sh.closed = true) : c'.sh.closed = true :=
  hr.inv (P := fun c => c.sh.closed = true) h fun c tid ih =>
    step_cases (P := fun c => c.sh.closed = true) c tid ih fun _ _ _ _ _ _ hsh _ _ _ => hsh ▸ exec_closed_mono ih

/-- after close nobody can start waiting: no thread sits between `parked++` and `cond.Wait` -/
theorem closed_no_new_waiter {n : Nat} {progs : List (List Op)} {c : Cfg} (hr : Reachable (init n progs) c)
    (hc : c.sh.closed = true) (t w : Nat) : c.pcOf t ≠ some (.pkWait w) := by
  intro h
  have hp := reachable_pinv hr
  have hm := (hp.mutex t).mp (by rw [h]; rfl)
  have hh : c.holderPC = some (.pkWait w) := by rw [Cfg.holderPC, hm]; exact h
  have := (hp.vinv.wait_empty (by rw [hh]; rfl)).2
  rw [hc] at this; cases this

/-- once close's critical section is over, every parked worker has been woken (is signalled) -/
theorem closed_all_woken {n : Nat} {progs : List (List Op)} {c : Cfg} (hr : Reachable (init n progs) c)
    (hc : c.sh.closed = true) (hb : c.holderPC ≠ some .clBroadcast) :
    c.sh.waiters = [] ∧ ∀ t w, c.pcOf t = some (.pkWake w) → t ∈ c.sh.signalled := by
  have hw := (reachable_pinv hr).vinv.closed_waiters hc hb
  refine ⟨hw, fun t w h => ?_⟩
  have := reachable_winv hr t (by rw [h]; rfl)
  rwa [Shared.inCond, hw] at this

/-- a woken or newly arriving worker that gets `parkMu` on a closed queue returns (nil, false) at once:
`take` reports closed and `worker.run` exits (together with `closed_stable` and `closed_no_new_waiter`: it never blocks again) -/
theorem closed_parkAndTake_false (s : Shared) (tid w : Nat) (hc : s.closed = true) (hm : s.parkMu = none) :
    (exec s tid (.pkLock w)).2 = .ret .closed ∧
    (tid ∈ s.signalled → (exec s tid (.pkWake w)).2 = .ret .closed) := by
  refine ⟨?_, fun hs => ?_⟩
  · show (if s.parkMu.isSome then _ else parkLoop _ w).2 = _
    rw [hm]; exact congrArg Prod.snd (if_pos hc)
  · have : (s.signalled.contains tid && s.parkMu.isNone) = true := by simp [hm, hs]
    show (if (s.signalled.contains tid && s.parkMu.isNone) = true then parkLoop _ w else _).2 = _
    rw [if_pos this]; exact congrArg Prod.snd (if_pos hc)

/-- C05 as read in the header, for all pools, programs, schedules -/
def C05_full : Prop :=
  ∀ (n : Nat) (progs : List (List Op)), ProgsOk n progs → ∀ c, Reachable (init n progs) c →
    -- exactly once: conservation, before and after completion
    c.sh.pushed.Perm (removed c ++ items c.sh) ∧
    ((∀ t ∈ c.threads, t.pc = none) → c.sh.pushed.Perm (c.threads.flatMap Thread.returned ++ items c.sh)) ∧
    -- no lost wake-up on the global queue
    (c.sh.waiters ≠ [] → c.sh.global.size ≤ c.sh.signalled.length + b2n (inPush c.holderPC)) ∧
    c.sh.parked = b2n (isWait c.holderPC) + c.sh.waiters.length + c.sh.signalled.length ∧
    -- local work implies an awake owner
    (∀ i, i < n → 0 < (c.sh.getL i).ring.size → ∀ pc, c.pcOf i = some pc → pc.idle = false) ∧
    -- close
    (c.sh.closed = true →
      (∀ c', Reachable c c' → c'.sh.closed = true) ∧
      (∀ t w, c.pcOf t ≠ some (.pkWait w)) ∧
      (c.holderPC ≠ some .clBroadcast → c.sh.waiters = [] ∧ ∀ t w, c.pcOf t = some (.pkWake w) → t ∈ c.sh.signalled) ∧
      (c.sh.parkMu = none → ∀ tid w, (exec c.sh tid (.pkLock w)).2 = .ret .closed ∧
        (tid ∈ c.sh.signalled → (exec c.sh tid (.pkWake w)).2 = .ret .closed)))

theorem C05_holds : C05_full := by
  intro n progs hp c hr
  refine ⟨conservation hp hr, conservation_final hp hr, no_lost_signal hr, parked_exact hr,
    fun i hi hne => local_work_owner_awake hp hr hi hne, fun hc => ⟨fun c' hr' => closed_stable hr' hc,
      closed_no_new_waiter hr hc, closed_all_woken hr hc, fun hm tid w => closed_parkAndTake_false c.sh tid w hc hm⟩⟩

/-- a program set satisfying `ProgsOk`: two workers (take; reschedule 7; run) and a producer (schedule 1, 2; signalStop) -/
def exProgs : List (List Op) := [[.take, .pushLocal 6, .run], [.take, .run], [.push 0, .push 1, .close]]

example : ProgsOk 2 exProgs := by
  intro tid p hp
  match tid, hp with
  | 0, hp | 1, hp | 2, hp => cases hp; decide
  | k + 3, hp => cases hp

/-- run a schedule (TEST helper: evaluation of the executable model, not a proof about all schedules) -/
def runSched (c : Cfg) : List Nat → Cfg
  | [] => c
  | t :: ts => runSched (step c t).2 ts

theorem runSched_reachable (c0 c : Cfg) (hr : Reachable c0 c) (l : List Nat) : Reachable c0 (runSched c l) :=
  Run.inv' (fun _ => rfl) (fun _ _ _ => rfl) (fun c t h => Reachable.step c t h) l c hr

/-- a configuration (reachable, by `runSched_reachable`) in which a worker waits un-signalled while the pusher holds `parkMu` with
an item queued: the hypotheses of `no_lost_signal'` are satisfiable (TEST by evaluation) -/
example : let c := runSched (init 2 exProgs) [0, 0, 0, 0, 0, 2]
    c.sh.waiters = [0] ∧ c.sh.global.size = 1 ∧ c.sh.parkMu = some 2 ∧ c.pcOf 2 = some .pushStore := by decide

/-- a closed configuration (reachable, by `runSched_reachable`) with a woken worker (hypotheses of the close clauses; TEST by evaluation) -/
example : let c := runSched (init 2 exProgs) [0, 0, 0, 0, 0, 2, 2, 2, 2, 2, 2, 2, 2, 2, 2]
    c.sh.closed = true ∧ c.sh.parkMu = none ∧ 0 ∈ c.sh.signalled := by decide

end GoaktVerif.C05
