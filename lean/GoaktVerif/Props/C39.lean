/-
C39 — Replicas that apply the same updates converge.

"For any operations performed at several replicas, if each replica applies the deltas of the others
 (in any order, possibly duplicated) and/or merges their full states, then replicas that have seen
 the same set of updates expose the same value, equal to the merge of the originators' full states;
 no add, remove or increment is lost or resurrected by delta replication."

Model: `Model/C39.lean` — any number of replicators (the handlers of `Model/C41.lean`: handleUpdate
= apply, Delta(), ResetDelta(), store, publish; handleDelta = store-or-merge), the codec
(`Model/C40.lean`) between publisher and receiver, a log of published deltas delivered in any order,
any number of times, or never; CRDT types = `Model/Crdt/*.lean`.

Result.
* GENERIC THEOREM (`converge`, `complete_eq_join_all`; Lemmas/C39.lean, Lemmas/C39Net.lean): for any
  value type whose merge is a join on cores and whose mutators are delta-mutators (`Laws`: the stored
  core after an update = old core ⊔ core of the shipped delta), every replica's core is the join of
  the deltas it has seen, for every reachable network.  Hence equal seen-sets ⇒ equal cores, and a
  replica that has seen every delta holds the join of all of them (= the merge of the originators'
  full states, each of which is a join of a subset that contains its own deltas).
* The network also has full-state merges between any two replicas at any time (anti-entropy), `Act.sync`.
* INSTANCES proved: G-counter and PN-counter (guard: no uint64 overflow of a slot), Flag, LWW register (guard: a
  stamp names one write, timestamps ≥ 0) — `C39_gcounter`, `C39_pncounter`, `C39_flag`, `C39_lww`; MV register and
  OR-set under full-state replication in Props/C39MV.lean, Props/C39OS.lean.  `lww_stale_write_ignored`: a write
  with a stale stamp is refused by `Set` (goakt 670e96a), both replicas expose the newer value.
* The full statement is FALSE of the current code (`C39_refuted`), two independent witnesses:
  OR-set deltas lose earlier adds of the same node (`orset_delta_loses_add`; root cause
  `orset_violates_delta_law`), an OR-map remove + re-set leaves peers with the old value merged in
  (`ormap_readd_diverges`).
-/
import GoaktVerif.Lemmas.C39Net
import GoaktVerif.Lemmas.C38.LWW

namespace GoaktVerif.C39
open GoaktVerif.Model.Crdt GoaktVerif.Model.C40 GoaktVerif.Model.C41 GoaktVerif.Model.C39 GoaktVerif.C38

section generic
variable {V C : Type} {ops : Ops V} {wire : V → Option V} {init : V} {S : Semi C} {core : V → C}
  {Ok : V → Prop} {Mut : (V → V) → V → Prop} {k dt : Nat}

theorem seen_sub_log (inv : Inv S core Ok k w arr) (i : Nat) :
    ∀ x ∈ (arr i).map (coreAt S core w.log), x ∈ w.log.map fun d => core d.data := by
  intro x hx
  obtain ⟨j, hj, rfl⟩ := List.mem_map.mp hx
  have hb := inv.bound i j hj
  refine List.mem_map.mpr ⟨w.log[j], List.getElem_mem hb, ?_⟩
  unfold coreAt; rw [List.getElem?_eq_getElem hb]

theorem wf_log (L : Laws ops wire init S core Ok Mut) (inv : Inv S core Ok k w arr) :
    ∀ x ∈ w.log.map (fun d => core d.data), S.WF x := by
  intro x hx
  obtain ⟨d, hd, rfl⟩ := List.mem_map.mp hx
  obtain ⟨j, hj, hje⟩ := List.getElem_of_mem hd
  exact L.ok_wf _ (inv.logok j d (by rw [List.getElem?_eq_getElem hj, hje])).1

/-- Replicas that have seen the same SET of deltas (whatever the order and the duplications) hold
    the same core. -/
theorem converge (L : Laws ops wire init S core Ok Mut) (w : FNet V) (arr : Nat → List Nat)
    (h : Reach ops wire init Mut k dt w arr) (i i' : Nat)
    (h1 : ∀ j ∈ arr i, j ∈ arr i') (h2 : ∀ j ∈ arr i', j ∈ arr i)
    (v v' : V) (hv : w.at i k = some v) (hv' : w.at i' k = some v') : core v = core v' := by
  have inv := reach_inv L w arr h
  rw [(reach_val L h hv).2, (reach_val L h hv').2]
  apply J_sameSet S _ _ (wf_map L inv i) (wf_map L inv i')
  · intro x hx
    obtain ⟨j, hj, rfl⟩ := List.mem_map.mp hx
    exact List.mem_map_of_mem (h1 j hj)
  · intro x hx
    obtain ⟨j, hj, rfl⟩ := List.mem_map.mp hx
    exact List.mem_map_of_mem (h2 j hj)

/-- the common form of the per-type statements (`Ok` fixes the type of the values) -/
theorem converge_ok (L : Laws ops wire init S core Ok Mut) (w : FNet V) (arr : Nat → List Nat)
    (h : Reach ops wire init Mut k dt w arr) (i i' : Nat)
    (h1 : ∀ j ∈ arr i, j ∈ arr i') (h2 : ∀ j ∈ arr i', j ∈ arr i)
    (v v' : V) (hv : w.at i k = some v) (hv' : w.at i' k = some v') : Ok v ∧ Ok v' ∧ core v = core v' :=
  ⟨(reach_val L h hv).1, (reach_val L h hv').1, converge L w arr h i i' h1 h2 v v' hv hv'⟩

/-- A replica that has seen every published delta holds the join of all of them: nothing shipped
    is lost, nothing else is present. -/
theorem complete_eq_join_all (L : Laws ops wire init S core Ok Mut) (w : FNet V) (arr : Nat → List Nat)
    (h : Reach ops wire init Mut k dt w arr) (i : Nat) (hall : ∀ j, j < w.log.length → j ∈ arr i)
    (v : V) (hv : w.at i k = some v) : core v = J S (w.log.map fun d => core d.data) := by
  have inv := reach_inv L w arr h
  rw [(reach_val L h hv).2]
  refine J_sameSet S _ _ (wf_map L inv i) (wf_log L inv) (seen_sub_log inv i) fun x hx => ?_
  obtain ⟨d, hd, rfl⟩ := List.mem_map.mp hx
  obtain ⟨j, hj, hje⟩ := List.getElem_of_mem hd
  refine List.mem_map.mpr ⟨j, hall j hj, ?_⟩
  unfold coreAt; rw [List.getElem?_eq_getElem hj, hje]

/-- every replica's core is below the join of all published deltas (nothing is invented) -/
theorem below_join_all (L : Laws ops wire init S core Ok Mut) (w : FNet V) (arr : Nat → List Nat)
    (h : Reach ops wire init Mut k dt w arr) (i : Nat) (v : V) (hv : w.at i k = some v) :
    S.join (core v) (J S (w.log.map fun d => core d.data)) = J S (w.log.map fun d => core d.data) := by
  have inv := reach_inv L w arr h
  rw [(reach_val L h hv).2]
  exact J_mono S _ _ (wf_map L inv i) (wf_log L inv) (seen_sub_log inv i)

end generic

def gcSemi : Semi (AMap Nat) where
  join := mergeMax
  bot := []
  WF := AMap.Sorted
  wf_bot := AMap.sorted_nil
  wf_join := fun a b ha _ => sorted_mergeMax ha b
  comm := fun _ _ ha hb => mergeMax_comm ha hb
  assoc := fun _ _ _ ha hb hc => mergeMax_assoc ha hb hc
  idem := fun _ ha => mergeMax_idem ha
  bot_join := fun _ ha => mergeMax_nil_left ha

def gcCore : CV → AMap Nat
  | .gc c => c.state
  | _ => []

/-- the G-counter values that occur in a replicator: no pending delta, state a map -/
def gcOk (v : CV) : Prop := ∃ c, v = .gc c ∧ c.delta = [] ∧ AMap.Sorted c.state

/-- Modify closures of a G-counter key: `Increment(node, x)` (any node id) -/
def gcIncr (n x : Nat) : CV → CV
  | .gc c => .gc (c.increment n x)
  | v => v

/-- allowed at state `s`: an increment that does not overflow the uint64 slot -/
def gcMut (f : CV → CV) (s : CV) : Prop :=
  ∃ n x, f = gcIncr n x ∧ ∀ c, s = .gc c → AMap.getD c.state n 0 + x < U64

/-- the heart of the G-counter delta law: raising one slot = joining the one-slot delta -/
theorem incr_eq_join {st : AMap Nat} (hs : AMap.Sorted st) (n x : Nat) :
    AMap.set st n (AMap.getD st n 0 + x) = mergeMax st [(n, AMap.getD st n 0 + x)] := by
  show _ = maxStep st (n, AMap.getD st n 0 + x)
  unfold maxStep AMap.getD
  cases hg : AMap.get? st n with
  | none => rfl
  | some lv =>
    show _ = if lv + x > lv then _ else st
    split
    · rfl
    · rw [show x = 0 by omega]; exact AMap.set_same hs n lv hg

theorem gc_increment {c : GCounter} (hd : c.delta = []) (hs : AMap.Sorted c.state) (n x : Nat)
    (hlt : AMap.getD c.state n 0 + x < U64) :
    (c.increment n x).delta? = some ⟨[(n, AMap.getD c.state n 0 + x)], []⟩ ∧
    (c.increment n x).resetDelta.state = mergeMax c.state [(n, AMap.getD c.state n 0 + x)] ∧
    AMap.Sorted (c.increment n x).resetDelta.state := by
  have hnew : (AMap.getD c.state n 0 + x) % U64 = AMap.getD c.state n 0 + x := Nat.mod_eq_of_lt hlt
  refine ⟨?_, ?_, AMap.sorted_set hs _ _⟩
  · simp [GCounter.delta?, GCounter.increment, hd, AMap.set, AMap.getD_set, hnew]
  · show AMap.set c.state n ((AMap.getD c.state n 0 + x) % U64) = _
    rw [hnew]; exact incr_eq_join hs n x

theorem gc_delta_nil {c : GCounter} (hd : c.delta = []) : c.delta? = none := by
  unfold GCounter.delta?; rw [hd]; rfl

theorem gc_laws : Laws cvOps (wire idSer) (.gc .new) gcSemi gcCore gcOk gcMut := by
  refine Laws.of_shipping ?_ ⟨.new, rfl, rfl, AMap.sorted_nil⟩ rfl ?_ ?_ ?_
  · rintro v ⟨c, rfl, _, hs⟩; exact hs
  · rintro a b ⟨ca, rfl, hda, hsa⟩ ⟨cb, rfl, _, _⟩
    exact ⟨⟨_, rfl, hda, sorted_mergeMax hsa cb.state⟩, rfl⟩
  · rintro v v' ⟨c, rfl, hd, hs⟩ hw
    cases hw
    exact ⟨⟨_, rfl, rfl, hs⟩, rfl⟩
  · rintro f s ⟨n, x, rfl, hov⟩ ⟨c, rfl, hd, hs⟩
    obtain ⟨e1, e2, e3⟩ := gc_increment hd hs n x (hov c rfl)
    exact ⟨.gc ⟨[(n, AMap.getD c.state n 0 + x)], []⟩, _, congrArg (Option.map CV.gc) e1, rfl,
      ⟨_, rfl, rfl, List.pairwise_singleton _ _⟩, ⟨_, rfl, rfl, e3⟩, e2⟩

/-- G-counter: replicas that have seen the same set of deltas hold the same per-node counts (hence
    the same Value()), for every history of non-overflowing increments by any nodes at any replicas
    and every delivery order / duplication / loss of the deltas. -/
theorem C39_gcounter (w : Net) (arr : Nat → List Nat)
    (h : Reach cvOps (wire idSer) (.gc .new) gcMut 0 0 w arr) (i i' : Nat)
    (h1 : ∀ j ∈ arr i, j ∈ arr i') (h2 : ∀ j ∈ arr i', j ∈ arr i)
    (v v' : CV) (hv : w.at i 0 = some v) (hv' : w.at i' 0 = some v') :
    ∃ c c', v = .gc c ∧ v' = .gc c' ∧ c.state = c'.state ∧ c.value = c'.value := by
  obtain ⟨⟨c, rfl, _⟩, ⟨c', rfl, _⟩, hc⟩ := converge_ok gc_laws w arr h i i' h1 h2 v v' hv hv'
  exact ⟨c, c', rfl, rfl, hc, by unfold GCounter.value; rw [show c.state = c'.state from hc]⟩

def pnSemi : Semi (AMap Nat × AMap Nat) where
  join := fun a b => (mergeMax a.1 b.1, mergeMax a.2 b.2)
  bot := ([], [])
  WF := fun a => AMap.Sorted a.1 ∧ AMap.Sorted a.2
  wf_bot := ⟨AMap.sorted_nil, AMap.sorted_nil⟩
  wf_join := fun a b ha _ => ⟨sorted_mergeMax ha.1 b.1, sorted_mergeMax ha.2 b.2⟩
  comm := fun _ _ ha hb => by simp only [mergeMax_comm ha.1 hb.1, mergeMax_comm ha.2 hb.2]
  assoc := fun _ _ _ ha hb hc => by simp only [mergeMax_assoc ha.1 hb.1 hc.1, mergeMax_assoc ha.2 hb.2 hc.2]
  idem := fun _ ha => by simp only [mergeMax_idem ha.1, mergeMax_idem ha.2]
  bot_join := fun _ ha => by simp only [mergeMax_nil_left ha.1, mergeMax_nil_left ha.2]

def pnCore : CV → AMap Nat × AMap Nat
  | .pn c => (c.increments.state, c.decrements.state)
  | _ => ([], [])

def pnOk (v : CV) : Prop :=
  ∃ c, v = .pn c ∧ c.increments.delta = [] ∧ c.decrements.delta = []
    ∧ AMap.Sorted c.increments.state ∧ AMap.Sorted c.decrements.state

def pnIncr (n x : Nat) : CV → CV
  | .pn c => .pn (c.increment n x)
  | v => v

def pnDecr (n x : Nat) : CV → CV
  | .pn c => .pn (c.decrement n x)
  | v => v

def pnMut (f : CV → CV) (s : CV) : Prop :=
  ∃ n x, (f = pnIncr n x ∧ ∀ c, s = .pn c → AMap.getD c.increments.state n 0 + x < U64)
       ∨ (f = pnDecr n x ∧ ∀ c, s = .pn c → AMap.getD c.decrements.state n 0 + x < U64)

theorem pn_delta_left {i d : GCounter} {x : GCounter} (hi : i.delta? = some x) (hd : d.delta? = none) :
    PNCounter.delta? ⟨i, d⟩ = some ⟨x, .new⟩ := by
  unfold PNCounter.delta?; rw [hi, hd]; rfl

theorem pn_delta_right {i d : GCounter} {x : GCounter} (hi : i.delta? = none) (hd : d.delta? = some x) :
    PNCounter.delta? ⟨i, d⟩ = some ⟨.new, x⟩ := by
  unfold PNCounter.delta?; rw [hi, hd]; rfl

theorem pn_laws : Laws cvOps (wire idSer) (.pn .new) pnSemi pnCore pnOk pnMut := by
  refine Laws.of_shipping ?_ ⟨.new, rfl, rfl, rfl, AMap.sorted_nil, AMap.sorted_nil⟩ rfl ?_ ?_ ?_
  · rintro v ⟨c, rfl, _, _, h1, h2⟩; exact ⟨h1, h2⟩
  · rintro a b ⟨ca, rfl, h1, h2, h3, h4⟩ ⟨cb, rfl, _, _, _, _⟩
    exact ⟨⟨_, rfl, h1, h2, sorted_mergeMax h3 _, sorted_mergeMax h4 _⟩, rfl⟩
  · rintro v v' ⟨c, rfl, _, _, h3, h4⟩ hw
    cases hw
    exact ⟨⟨_, rfl, rfl, rfl, h3, h4⟩, rfl⟩
  · rintro f s ⟨n, x, h⟩ ⟨c, rfl, h1, h2, h3, h4⟩
    rcases h with ⟨rfl, hov⟩ | ⟨rfl, hov⟩
    · obtain ⟨e1, e2, e3⟩ := gc_increment h1 h3 n x (hov c rfl)
      exact ⟨.pn ⟨⟨[(n, AMap.getD c.increments.state n 0 + x)], []⟩, .new⟩, _,
        congrArg (Option.map CV.pn) (pn_delta_left e1 (gc_delta_nil h2)), rfl,
        ⟨_, rfl, rfl, rfl, List.pairwise_singleton _ _, AMap.sorted_nil⟩, ⟨_, rfl, rfl, rfl, e3, h4⟩, Prod.ext e2 rfl⟩
    · obtain ⟨e1, e2, e3⟩ := gc_increment h2 h4 n x (hov c rfl)
      exact ⟨.pn ⟨.new, ⟨[(n, AMap.getD c.decrements.state n 0 + x)], []⟩⟩, _,
        congrArg (Option.map CV.pn) (pn_delta_right (gc_delta_nil h1) e1), rfl,
        ⟨_, rfl, rfl, rfl, AMap.sorted_nil, List.pairwise_singleton _ _⟩, ⟨_, rfl, rfl, rfl, h3, e3⟩, Prod.ext rfl e2⟩

/-- PN-counter: same seen-set ⇒ same increment and decrement slots ⇒ same Value() -/
theorem C39_pncounter (w : Net) (arr : Nat → List Nat)
    (h : Reach cvOps (wire idSer) (.pn .new) pnMut 1 1 w arr) (i i' : Nat)
    (h1 : ∀ j ∈ arr i, j ∈ arr i') (h2 : ∀ j ∈ arr i', j ∈ arr i)
    (v v' : CV) (hv : w.at i 1 = some v) (hv' : w.at i' 1 = some v') :
    ∃ c c', v = .pn c ∧ v' = .pn c' ∧ c.value = c'.value := by
  obtain ⟨⟨c, rfl, _⟩, ⟨c', rfl, _⟩, hc⟩ := converge_ok pn_laws w arr h i i' h1 h2 v v' hv hv'
  have hc' := Prod.mk.inj hc
  refine ⟨c, c', rfl, rfl, ?_⟩
  unfold PNCounter.value GCounter.value
  rw [show c.increments.state = c'.increments.state from hc'.1, show c.decrements.state = c'.decrements.state from hc'.2]

def flSemi : Semi Bool where
  join := or
  bot := false
  WF := fun _ => True
  wf_bot := trivial
  wf_join := fun _ _ _ _ => trivial
  comm := fun a b _ _ => Bool.or_comm a b
  assoc := fun a b c _ _ _ => Bool.or_assoc a b c
  idem := fun a _ => Bool.or_self a
  bot_join := fun a _ => Bool.false_or a

def flCore : CV → Bool
  | .fl x => x.enabled
  | _ => false

def flOk (v : CV) : Prop := ∃ x, v = .fl x

def flEnable : CV → CV
  | .fl x => .fl x.enable
  | v => v

def flMut (f : CV → CV) (_ : CV) : Prop := f = flEnable

theorem fl_laws : Laws cvOps (wire idSer) (.fl .new) flSemi flCore flOk flMut := by
  refine Laws.of_inflationary (fun _ _ => trivial) ⟨.new, rfl⟩ rfl ?_ ?_ ?_ ?_
  · rintro a b ⟨x, rfl⟩ ⟨y, rfl⟩; exact ⟨⟨_, rfl⟩, rfl⟩
  · rintro v v' ⟨⟨e, d⟩, rfl⟩ hw
    cases e <;> (cases hw; exact ⟨⟨_, rfl⟩, rfl⟩)
  · rintro v ⟨x, rfl⟩; exact ⟨⟨_, rfl⟩, rfl⟩
  · rintro f s rfl ⟨⟨e, d⟩, rfl⟩
    -- an enabled flag is returned as it is (re-shipped if dirty); a disabled one becomes enabled and dirty
    cases e <;> cases d
    case true.false => exact ⟨⟨_, rfl⟩, rfl, fun _ => rfl, fun d h => (by cases h)⟩
    all_goals exact ⟨⟨_, rfl⟩, rfl, fun h => (by cases h), fun d h => ⟨(Option.some.inj h).symm, rfl⟩⟩

/-- Flag: replicas that have seen the same set of deltas agree on `Enabled()` -/
theorem C39_flag (w : Net) (arr : Nat → List Nat)
    (h : Reach cvOps (wire idSer) (.fl .new) flMut 5 5 w arr) (i i' : Nat)
    (h1 : ∀ j ∈ arr i, j ∈ arr i') (h2 : ∀ j ∈ arr i', j ∈ arr i)
    (v v' : CV) (hv : w.at i 5 = some v) (hv' : w.at i' 5 = some v') : flCore v = flCore v' :=
  (converge_ok fl_laws w arr h i i' h1 h2 v v' hv hv').2.2

def osElems : Option CV → List Nat
  | some (.os s) => s.elements
  | _ => []

def osAdd (n e : Nat) : CV → CV
  | .os s => .os (s.add n e)
  | v => v

/-- replica 0 adds 1 then 2 (node 1) to an OR-set; replica 1 receives both deltas, in order,
    and is left with {2} -/
theorem orset_delta_loses_add :
    osElems ((Net.run [.upd 0 3 3 (.os .new) (osAdd 1 1), .upd 0 3 3 (.os .new) (osAdd 1 2), .dlv 1 0, .dlv 1 1]).at 0 3) = [1, 2]
    ∧ osElems ((Net.run [.upd 0 3 3 (.os .new) (osAdd 1 1), .upd 0 3 3 (.os .new) (osAdd 1 2), .dlv 1 0, .dlv 1 1]).at 1 3) = [2] := by
  decide

/-- the root cause: `Add` is not a delta-mutator.  Merging the shipped delta into the state the
    update started from does not give the updated state — it drops the earlier element. -/
theorem orset_violates_delta_law :
    ∃ (s u d : ORSet), u = s.add 1 2 ∧ u.delta? = some d ∧ u.elements = [1, 2] ∧ (s.merge d).elements = [2] :=
  ⟨(ORSet.new.add 1 1).resetDelta, ((ORSet.new.add 1 1).resetDelta).add 1 2,
   ⟨[(2, [⟨1, 2⟩])], [(1, 2)], ORSet.newDelta⟩, rfl, by decide, by decide, by decide⟩

def lwVal : Option CV → Option Nat
  | some (.lw r) => r.value
  | _ => none

def lwSet (v : Nat) (ts : Int) (n : Nat) : CV → CV
  | .lw r => .lw (r.set v ts n)
  | x => x

/-- C39-F2 (`Set` refuses a stale stamp, goakt 670e96a; without that replica 1 would expose its own write 2):
    replica 0 writes 1 at time 10; replica 1 receives it, then writes 2 at time 5 (its clock is
    behind) — the write is ignored; both expose 1. -/
theorem lww_stale_write_ignored :
    lwVal ((Net.run [.upd 0 2 2 (.lw .new) (lwSet 1 10 1), .dlv 1 0, .upd 1 2 2 (.lw .new) (lwSet 2 5 2), .dlv 0 1]).at 0 2) = some 1
    ∧ lwVal ((Net.run [.upd 0 2 2 (.lw .new) (lwSet 1 10 1), .dlv 1 0, .upd 1 2 2 (.lw .new) (lwSet 2 5 2), .dlv 0 1]).at 1 2) = some 1 := by
  decide

/-! Guard of the LWW register instance: a stamp names ONE write — `valOf (ts, node)` is the value written under that stamp (two
different values under one stamp is C38's commutativity finding) — and timestamps are not negative
(a fresh register carries stamp (0, ""), which a write before 1970 would lose against).
The cores `LwCore` with `lwWins` / `lwJoin` and their laws are in Lemmas/C38/LWW.lean. -/

def lwSemi (valOf : Int × Nat → Option Nat) (h0 : valOf (0, 0) = none) : Semi LwCore where
  join := lwJoin
  bot := (none, 0, 0)
  WF := fun c => 0 ≤ c.2.1 ∧ c.1 = valOf (c.2.1, c.2.2)
  wf_bot := ⟨Int.le_refl 0, h0.symm⟩
  wf_join := by
    intro a b ha hb
    unfold lwJoin; split <;> assumption
  comm := by
    intro a b ha hb
    unfold lwJoin
    exact LWW.join_comm a b fun e => Prod.ext (ha.2.trans ((congrArg valOf e).trans hb.2.symm)) e
  assoc := by intro a b c _ _ _; unfold lwJoin; exact LWW.join_assoc a b c
  idem := by intro a _; unfold lwJoin; exact LWW.join_idem a
  bot_join := by
    rintro ⟨va, ta, na⟩ ⟨h1, h2⟩
    have hw := LWW.wins_iff (none, 0, 0) (va, ta, na)
    unfold lwJoin
    split
    · rfl
    · -- a well-formed core that does not win against the fresh register carries the fresh stamp
      rename_i hn
      have hn' := mt hw.mpr hn
      simp only [lexLt] at h1 h2 hn'
      have ht : ta = 0 := by omega
      have hna : na = 0 := by omega
      rw [h2, ht, hna, h0]

def lwCore : CV → LwCore
  | .lw r => (r.value, r.timestamp, r.nodeID)
  | _ => (none, 0, 0)

/-- the LWW values that occur: stamp ≥ 0, the value is the one written under the stamp, and only a
    never-written register holds nil -/
def lwOk (valOf : Int × Nat → Option Nat) (v : CV) : Prop :=
  ∃ r, v = .lw r ∧ 0 ≤ r.timestamp ∧ r.value = valOf (r.timestamp, r.nodeID)
    ∧ (r.value = none → r.timestamp = 0 ∧ r.nodeID = 0 ∧ r.dirty = false)

/-- `Set(v, ts, node)` with a non-negative timestamp, `v` being THE value written under that stamp;
    the stamp is not the one the register already holds (that case is re-stamped by Set itself, see
    fixes/C38-lww-unique-stamps and `C38.LWW_join`) -/
def lwMut (valOf : Int × Nat → Option Nat) (f : CV → CV) (s : CV) : Prop :=
  ∃ v ts n, f = lwSet v ts n ∧ 0 ≤ ts ∧ valOf (ts, n) = some v ∧
    ∀ r, s = .lw r → ¬ (ts = r.timestamp ∧ n = r.nodeID)

theorem lwOk_of_sameCore {valOf : Int × Nat → Option Nat} {r r' : LWWRegister} (hc : sameCore r' r) (hd : r'.dirty = false)
    (h : lwOk valOf (.lw r)) : lwOk valOf (.lw r') := by
  obtain ⟨_, e, a1, a2, a3⟩ := h
  cases e
  refine ⟨r', rfl, hc.2.1 ▸ a1, by rw [hc.1, hc.2.1, hc.2.2]; exact a2, fun hn => ?_⟩
  obtain ⟨x, y, _⟩ := a3 (hc.1 ▸ hn)
  exact ⟨hc.2.1.trans x, hc.2.2.trans y, hd⟩

theorem lw_laws (valOf : Int × Nat → Option Nat) (h0 : valOf (0, 0) = none) :
    Laws cvOps (wire idSer) (.lw .new) (lwSemi valOf h0) lwCore (lwOk valOf) (lwMut valOf) := by
  refine Laws.of_inflationary (fun v ⟨r, e, h1, h2, _⟩ => e ▸ ⟨h1, h2⟩)
    ⟨.new, rfl, Int.le_refl 0, h0.symm, fun _ => ⟨rfl, rfl, rfl⟩⟩ rfl ?_ ?_ ?_ ?_
  · rintro a b ⟨ra, rfl, ha⟩ ⟨rb, rfl, hb⟩
    refine ⟨?_, LWW.core_merge ra rb⟩
    rcases LWW.merge_core ra rb with h | h
    · exact lwOk_of_sameCore h rfl ⟨ra, rfl, ha⟩
    · exact lwOk_of_sameCore h rfl ⟨rb, rfl, hb⟩
  · rintro v v' ⟨⟨vr, tr, nr, dr⟩, rfl, h1, h2, h3⟩ hw
    cases vr with
    | none => cases hw
    | some x => cases hw; exact ⟨⟨_, rfl, h1, h2, fun h => nomatch h⟩, rfl⟩
  · rintro v ⟨r, rfl, hr⟩
    exact ⟨lwOk_of_sameCore (r := r) (r' := r.resetDelta) ⟨rfl, rfl, rfl⟩ rfl ⟨r, rfl, hr⟩, rfl⟩
  · rintro f s ⟨v, ts, n, rfl, hts, hval, hfresh⟩ ⟨r, rfl, hr⟩
    show lwOk valOf (.lw (r.set v ts n)) ∧
      lwJoin (lwCore (.lw r)) (lwCore (.lw (r.set v ts n))) = lwCore (.lw (r.set v ts n)) ∧
      ((r.set v ts n).delta?.map CV.lw = none → lwCore (.lw (r.set v ts n)) = lwCore (.lw r)) ∧
      ∀ d, (r.set v ts n).delta?.map CV.lw = some d →
        d = .lw (r.set v ts n) ∧ (wire idSer (.lw (r.set v ts n))).isSome
    by_cases hst : ts < r.timestamp ∨ (ts = r.timestamp ∧ n < r.nodeID)
    · -- stale write: the register is returned unchanged; it is re-shipped only if it was dirty
      rw [LWW.set_stale hst]
      refine ⟨⟨r, rfl, hr⟩, LWW.join_idem _, fun _ => rfl, fun d hd => ?_⟩
      obtain ⟨vr, tr, nr, dr⟩ := r
      cases dr with
      | false => cases hd
      | true =>
        cases hd
        cases vr with
        | none => exact nomatch (hr.2.2 rfl).2.2
        | some x => exact ⟨rfl, rfl⟩
    · rw [LWW.set_fresh hst (hfresh r rfl)]
      refine ⟨⟨_, rfl, hts, hval.symm, fun h => nomatch h⟩, ?_, fun h => (nomatch h), fun d hd => ⟨(Option.some.inj hd).symm, rfl⟩⟩
      -- the accepted write wins against the stored register
      have hw := LWW.wins_iff (LWW.core r) (some v, ts, n)
      have hne := hfresh r rfl
      show (if lwWins (LWW.core r) (some v, ts, n) then _ else _) = _
      rw [if_pos (hw.mpr (by simp only [LWW.core, lexLt]; omega))]

/-- LWW register: for all histories of writes with non-negative timestamps in which a stamp names
    one write, all delivery orders / duplications / losses and any full-state merges, replicas that
    have seen the same set of deltas expose the same value (and stamp). -/
theorem C39_lww (valOf : Int × Nat → Option Nat) (h0 : valOf (0, 0) = none) (w : Net) (arr : Nat → List Nat)
    (h : Reach cvOps (wire idSer) (.lw .new) (lwMut valOf) 2 2 w arr) (i i' : Nat)
    (h1 : ∀ j ∈ arr i, j ∈ arr i') (h2 : ∀ j ∈ arr i', j ∈ arr i)
    (v v' : CV) (hv : w.at i 2 = some v) (hv' : w.at i' 2 = some v') : lwCore v = lwCore v' :=
  (converge_ok (lw_laws valOf h0) w arr h i i' h1 h2 v v' hv hv').2.2

def omVals : Option CV → List (Nat × Nat)
  | some (.om m) => m.entriesOf.map fun p => (p.1, p.2.value)
  | _ => []

def omSet (n k x : Nat) : CV → CV
  | .om m => .om (m.set n k (GCounter.new.increment n x))
  | v => v

def omRem (k : Nat) : CV → CV
  | .om m => .om (m.remove k)
  | v => v

/-- replica 0 sets key 1 to a counter worth 4, replica 1 receives it; replica 0 removes key 1 and
    sets it again to a counter worth 1; replica 1 receives that last (full-state) delta.  Same keys
    everywhere, replica 0 exposes 1, replica 1 exposes 4. -/
theorem ormap_readd_diverges :
    omVals ((Net.run [.upd 0 4 4 (.om .new) (omSet 1 1 4), .dlv 1 0, .upd 0 4 4 (.om .new) (omRem 1),
                      .upd 0 4 4 (.om .new) (omSet 1 1 1), .dlv 1 2]).at 0 4) = [(1, 1)]
    ∧ omVals ((Net.run [.upd 0 4 4 (.om .new) (omSet 1 1 4), .dlv 1 0, .upd 0 4 4 (.om .new) (omRem 1),
                      .upd 0 4 4 (.om .new) (omSet 1 1 1), .dlv 1 2]).at 1 4) = [(1, 4)] := by
  decide

/-- the public API mutators of each CRDT type (numbered by `crdt.DataType`), with any node ids and arguments -/
inductive IsOp : Nat → (CV → CV) → Prop where
  | gcIncr (n x : Nat) : IsOp 0 (gcIncr n x)
  | pnIncr (n x : Nat) : IsOp 1 (fun | .pn c => .pn (c.increment n x) | v => v)
  | pnDecr (n x : Nat) : IsOp 1 (fun | .pn c => .pn (c.decrement n x) | v => v)
  | lwSet (v : Nat) (ts : Int) (n : Nat) : IsOp 2 (lwSet v ts n)
  | osAdd (n e : Nat) : IsOp 3 (osAdd n e)
  | osRem (e : Nat) : IsOp 3 (fun | .os s => .os (s.remove e) | v => v)
  | omSet (n k x : Nat) : IsOp 4 (omSet n k x)
  | omRem (k : Nat) : IsOp 4 (omRem k)
  | flEnable : IsOp 5 flEnable
  | mvSet (n v : Nat) : IsOp 6 (fun | .mv r => .mv (r.set n v) | x => x)

def initialOf : Nat → CV
  | 0 => .gc .new | 1 => .pn .new | 2 => .lw .new | 3 => .os .new | 4 => .om .new | 5 => .fl .new | _ => .mv .new

/-- the value a replica exposes, canonically (multi-value registers and sets as sorted lists) -/
def expose : CV → List Int × List (Nat × Nat)
  | .gc c => ([c.value], [])
  | .pn c => ([c.value], [])
  | .fl x => ([if x.value then 1 else 0], [])
  | .lw r => (match r.value with | some v => [v] | none => [], [])
  | .mv r => ((r.values.mergeSort (· ≤ ·)).map Int.ofNat, [])
  | .os s => (s.elements.map Int.ofNat, [])
  | .om m => (m.keyList.map Int.ofNat, m.entriesOf.map fun p => (p.1, p.2.value))

/-- The full statement: for each of the seven CRDT types, any history of API operations at any
    replicas and any delivery order / duplication / loss of the published deltas, two replicas that
    have seen the same set of deltas expose the same value. -/
def C39_full : Prop :=
  ∀ (dt : Nat), dt ≤ 6 → ∀ (w : Net) (arr : Nat → List Nat),
    Reach cvOps (wire idSer) (initialOf dt) (fun f _ => IsOp dt f) dt dt w arr →
    ∀ i i' v v', (∀ j ∈ arr i, j ∈ arr i') → (∀ j ∈ arr i', j ∈ arr i) →
      w.at i dt = some v → w.at i' dt = some v' → expose v = expose v'

theorem C39_refuted : ¬ C39_full := by
  intro h
  -- the OR-set witness as a reachable network with its seen-lists
  have r1 := Reach.upd (ops := cvOps) (wire := wire idSer) (init := initialOf 3) (Mut := fun f _ => IsOp 3 f)
    (k := 3) (dt := 3) _ _ 0 (osAdd 1 1) Reach.init (IsOp.osAdd 1 1)
  have r2 := Reach.upd _ _ 0 (osAdd 1 2) r1 (IsOp.osAdd 1 2)
  have r3 := Reach.dlv _ _ 1 0 r2
  have r4 := Reach.dlv _ _ 1 1 r3
  have := h 3 (by decide) _ _ r4 0 1 _ _ (by decide) (by decide) rfl rfl
  revert this
  decide

/-- the true part: LWW registers (one write per stamp, timestamps ≥ 0), G-counters and PN-counters
    (non-overflowing slots) and flags converge — for all
    histories, all delivery orders, duplications and losses of deltas, and any full-state merges -/
def C39_guarded : Prop :=
  (∀ (valOf : Int × Nat → Option Nat), valOf (0, 0) = none →
    ∀ (w : Net) (arr : Nat → List Nat), Reach cvOps (wire idSer) (.lw .new) (lwMut valOf) 2 2 w arr →
    ∀ i i' v v', (∀ j ∈ arr i, j ∈ arr i') → (∀ j ∈ arr i', j ∈ arr i) →
      w.at i 2 = some v → w.at i' 2 = some v' → expose v = expose v') ∧
  (∀ (w : Net) (arr : Nat → List Nat), Reach cvOps (wire idSer) (.pn .new) pnMut 1 1 w arr →
    ∀ i i' v v', (∀ j ∈ arr i, j ∈ arr i') → (∀ j ∈ arr i', j ∈ arr i) →
      w.at i 1 = some v → w.at i' 1 = some v' → expose v = expose v') ∧
  (∀ (w : Net) (arr : Nat → List Nat), Reach cvOps (wire idSer) (.gc .new) gcMut 0 0 w arr →
    ∀ i i' v v', (∀ j ∈ arr i, j ∈ arr i') → (∀ j ∈ arr i', j ∈ arr i) →
      w.at i 0 = some v → w.at i' 0 = some v' → expose v = expose v')
  ∧ (∀ (w : Net) (arr : Nat → List Nat), Reach cvOps (wire idSer) (.fl .new) flMut 5 5 w arr →
    ∀ i i' v v', (∀ j ∈ arr i, j ∈ arr i') → (∀ j ∈ arr i', j ∈ arr i) →
      w.at i 5 = some v → w.at i' 5 = some v' → expose v = expose v')

theorem C39_partial : C39_guarded := by
  refine ⟨?_, ?_, ?_, ?_⟩
  · intro valOf h0 w arr h i i' v v' h1 h2 hv hv'
    obtain ⟨⟨x, rfl, _⟩, ⟨y, rfl, _⟩, hc⟩ := converge_ok (lw_laws valOf h0) w arr h i i' h1 h2 v v' hv hv'
    simp only [expose, show x.value = y.value from (Prod.mk.inj hc).1]
  · intro w arr h i i' v v' h1 h2 hv hv'
    obtain ⟨c, c', rfl, rfl, hval⟩ := C39_pncounter w arr h i i' h1 h2 v v' hv hv'
    simp only [expose, hval]
  · intro w arr h i i' v v' h1 h2 hv hv'
    obtain ⟨c, c', rfl, rfl, _, hval⟩ := C39_gcounter w arr h i i' h1 h2 v v' hv hv'
    simp only [expose, hval]
  · intro w arr h i i' v v' h1 h2 hv hv'
    obtain ⟨⟨⟨e, _⟩, rfl⟩, ⟨⟨e', _⟩, rfl⟩, hc⟩ := converge_ok fl_laws w arr h i i' h1 h2 v v' hv hv'
    cases (hc : e = e')
    rfl

/-- non-vacuity: a reachable G-counter network with interleaved increments and out-of-order,
    duplicated deliveries, in which two replicas have seen the same deltas -/
example : ∃ (w : Net) (arr : Nat → List Nat), Reach cvOps (wire idSer) (.gc .new) gcMut 0 0 w arr
    ∧ w.log.length = 2 ∧ (∀ j ∈ arr 0, j ∈ arr 1) ∧ (∀ j ∈ arr 1, j ∈ arr 0) ∧ (w.at 1 0).isSome := by
  have r1 := Reach.upd (ops := cvOps) (wire := wire idSer) (init := CV.gc .new) (Mut := gcMut) (k := 0) (dt := 0)
    _ _ 0 (gcIncr 1 3) Reach.init ⟨1, 3, rfl, by intro c hc; cases hc; decide⟩
  have r2 := Reach.upd _ _ 1 (gcIncr 2 4) r1 ⟨2, 4, rfl, by intro c hc; cases hc; decide⟩
  have r3 := Reach.dlv _ _ 1 0 r2
  have r4 := Reach.dlv _ _ 0 1 r3
  have r5 := Reach.dlv _ _ 1 0 r4
  exact ⟨_, _, r5, by decide, by decide, by decide, by decide⟩

end GoaktVerif.C39
