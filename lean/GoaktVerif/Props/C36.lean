/-
C36 — "A cluster singleton runs at most once cluster-wide."

  For any interleaving of SpawnSingleton calls for one name from several nodes and of leader changes,
  at most one instance of that singleton runs in the cluster at any time.

Model: `GoaktVerif.Model.C36` — operations are the phases of SpawnSingleton calls (begin: follow the
leader views, registry precondition read, PreStart entered; end: the instance runs and publishes with a
plain put), leader-view changes per node, and kills; every interleaving at that granularity is an
operation sequence.  Tied to /repo by the same scripts on real in-process actor systems sharing a fake
registry (tools/props/c36.py).

Result: FALSE of the current code (`C36_refuted`, finding C36-F1): nothing reserves the name between
the precondition read (ActorExists) and the publication (plain PutActor), so when the coordinator changes
(or views disagree) while a spawn is inside that window, a second node passes the same check and both
instances run; the later put silently overwrites the earlier record.
`C36_partial`: with one coordinator that every node agrees on and that does not change, every interleaving
of calls from any nodes (and kills) keeps at most one instance running.  olric's per-key atomicity and
the leader election itself are parameters of the model.
-/
import GoaktVerif.Model.C36
import GoaktVerif.Lemmas.ListFacts
import GoaktVerif.Lemmas.Run

namespace GoaktVerif.C36
open GoaktVerif.Model.C36

/-- THE FULL PROPERTY: any number of nodes, any operation sequence (hence at any time). -/
def C36_full : Prop := ∀ (nn : Nat) (ops : List Op), totalLive (run (St.init nn) ops).1 ≤ 1

/-- node 0 is the coordinator and starts the singleton (held inside PreStart, after its registry check);
the coordinator changes to node 1 everywhere; node 1 is asked, finds no record, starts the singleton and
publishes; node 0's spawn completes and publishes over it -/
def witness : List Op := [.sBegin 0, .view 0 1, .view 1 1, .spawn 1, .sEnd 0]

theorem witness_two : totalLive (run (St.init 2) witness).1 = 2 ∧ (run (St.init 2) witness).1.reg = some 0 := by
  decide

theorem C36_refuted : ¬ C36_full := by
  intro h
  have := h 2 witness
  rw [witness_two.1] at this
  omega

def noViewChange : Op → Bool
  | .view _ _ => false
  | _ => true

/-- invariant under a constant agreed coordinator `ℓ`: only `ℓ` ever hosts or starts the singleton -/
structure Inv (nn ℓ : Nat) (s : St) : Prop where
  views : s.views = List.replicate nn ℓ
  onlyL : ∀ m, m ≠ ℓ → liveAt s m = false
  heldL : ∀ n m, (n, m) ∈ s.held → m = ℓ

theorem route_const {nn ℓ : Nat} {s : St} (hv : s.views = List.replicate nn ℓ) (hl : ℓ < nn) (n : Nat) (hn : n < nn) :
    (route s n).2 = some ℓ := by
  have hlen : s.views.length = nn := by rw [hv]; simp
  have hget : ∀ i, i < nn → s.views.getD i i = ℓ := by
    intro i hi
    rw [hv]; simp [List.getD, hi]
  unfold route Model.C36.nn
  rw [hlen]
  show (chase s.views (nn + 1 + 1) n 0).2 = some ℓ
  simp only [chase, hget n hn]
  by_cases e : ℓ = n
  · simp [e]
  · simp only [e, if_false, hlen]
    have : ¬ (0 ≥ nn) := by omega
    simp only [this, if_false]
    cases hnn : nn with
    | zero => omega
    | succ k =>
      simp only [chase]
      rw [← hnn, hget ℓ hl]
      simp

/-- `Inv` reads only the views, the live instances and the held calls -/
theorem Inv.of_frame {nn ℓ : Nat} {s t : St} (h : Inv nn ℓ s) (hv : t.views = s.views)
    (hl : t.live = s.live ∨ t.live = s.live.set ℓ true ∨ ∃ k, t.live = s.live.set k false)
    (hh : ∀ p ∈ t.held, p ∈ s.held ∨ p.2 = ℓ) : Inv nn ℓ t where
  views := hv.trans h.views
  onlyL := by
    intro m hm
    have := h.onlyL m hm
    unfold liveAt at this ⊢
    rcases hl with hl | hl | ⟨k, hl⟩ <;> rw [hl]
    · exact this
    · rw [getD_set, if_neg (fun x => hm x.1)]; exact this
    · rw [getD_set]; split
      · rfl
      · exact this
  heldL := fun n m hp => (hh _ hp).elim (h.heldL n m) id

theorem localBegin_frame (s : St) (vis : List Node) (m : Node) :
    (localBegin (logMembers s vis) m).1.views = s.views ∧ (localBegin (logMembers s vis) m).1.live = s.live ∧
    (localBegin (logMembers s vis) m).1.held = s.held := by
  unfold localBegin logMembers
  cases s.reg with
  | some o => exact ⟨rfl, rfl, rfl⟩
  | none => simp only []; split <;> exact ⟨rfl, rfl, rfl⟩

theorem Inv.ite {nn ℓ : Nat} {c : Prop} [Decidable c] {a b : St × Out} (ha : c → Inv nn ℓ a.1)
    (hb : ¬c → Inv nn ℓ b.1) : Inv nn ℓ (if c then a else b).1 :=
  iteInduction (motive := fun x : St × Out => Inv nn ℓ x.1) ha hb

theorem step_inv {nn ℓ : Nat} (hl : ℓ < nn) {s : St} (h : Inv nn ℓ s) (op : Op) (hop : noViewChange op = true) :
    Inv nn ℓ (step s op).1 := by
  have hlen : Model.C36.nn s = nn := by unfold Model.C36.nn; rw [h.views]; simp
  have sub : ∀ {t : St}, t.views = s.views → t.live = s.live → (∀ p ∈ t.held, p ∈ s.held) → Inv nn ℓ t :=
    fun hv hl hh => h.of_frame hv (Or.inl hl) fun p hp => Or.inl (hh p hp)
  -- `spawn` and `sBegin` differ only in what they do once PreStart is entered (on ℓ, by `route_const`)
  have begin : ∀ (n : Node) (k : St → Node → St × Out), (∀ s', s'.views = s.views → s'.live = s.live →
      s'.held = s.held → Inv nn ℓ (k s' ℓ).1) →
      Inv nn ℓ (if !(n < Model.C36.nn s) then (s, Out.badOp) else if heldBy s n || folBy s n then (s, .busy) else
        match route s n with
        | (vis, none) => (logMembers s vis, .eloop)
        | (vis, some m) => if heldOn s m then (s, .busy) else
          match localBegin (logMembers s vis) m with
          | (s', .done o) => (s', o)
          | (s', .held) => k s' m).1 := by
    intro n k hk
    refine .ite (fun _ => h) fun hn => .ite (fun _ => h) fun _ => ?_
    have hr := route_const h.views hl n (by simpa [hlen] using hn)
    rcases hrt : route s n with ⟨vis, r⟩
    rw [hrt] at hr; cases hr
    refine .ite (fun _ => h) fun _ => ?_
    have fr := localBegin_frame s vis ℓ
    generalize localBegin (logMembers s vis) ℓ = q at fr ⊢
    obtain ⟨s', _ | _⟩ := q <;> obtain ⟨hv, hli, hh⟩ := fr
    · exact sub hv hli fun p hp => hh ▸ hp
    · exact hk s' hv hli hh
  cases op with
  | view n k => cases hop
  | bad => exact h
  | follow n =>
    simp only [step]
    refine .ite (fun _ => h) fun _ => .ite (fun _ => h) fun _ => ?_
    cases route s n with
    | mk vis r =>
      cases r with
      | none => exact h
      | some m => exact .ite (fun _ => sub rfl rfl fun _ => id) fun _ => h
  | cancel n =>
    simp only [step]
    refine .ite (fun _ => h) fun _ => ?_
    cases s.fol.find? (·.1 = n) with
    | none => exact h
    | some p => exact sub rfl rfl fun _ => id
  | join n =>
    simp only [step]
    refine .ite (fun _ => h) fun _ => ?_
    cases s.fol.find? (·.1 = n) with
    | none => exact h
    | some p => exact .ite (fun _ => h) fun _ => sub rfl rfl fun _ => id
  | cancelHeld n =>
    simp only [step]
    exact .ite (fun _ => h) fun _ => .ite (fun _ => sub rfl rfl fun _ => id) fun _ => h
  | kill n =>
    simp only [step]
    exact .ite (fun _ => h) fun _ => .ite (fun _ => h.of_frame rfl (Or.inr (Or.inr ⟨n, rfl⟩)) fun _ => Or.inl) fun _ => h
  | sEnd n =>
    simp only [step]
    refine .ite (fun _ => h) fun _ => ?_
    cases hf : s.held.find? (·.1 = n) with
    | none => exact h
    | some p =>
      obtain ⟨x, m⟩ := p
      cases h.heldL _ m (List.mem_of_find?_eq_some hf)
      have hh : ∀ p ∈ s.held.filter (·.1 ≠ n), p ∈ s.held ∨ p.2 = ℓ := fun p hp => Or.inl (List.mem_filter.mp hp).1
      -- the branches of `sEnd` in source order: the followers' retry is released (runs on ℓ); the winner gave up,
      -- with followers (`?_`: by `s.reg`, they read the record or their retry is held) or alone; the normal end (runs on ℓ)
      refine .ite (fun _ => h.of_frame rfl (Or.inr (Or.inl rfl)) hh) fun _ => .ite (fun _ => .ite (fun _ => ?_) fun _ =>
        h.of_frame rfl (Or.inl rfl) hh) fun _ => h.of_frame rfl (Or.inr (Or.inl rfl)) hh
      cases s.reg with
      | none => exact sub rfl rfl fun _ => id
      | some o => exact h.of_frame rfl (Or.inl rfl) hh
  | spawn n => exact begin n _ fun s' hv hli hh =>
      h.of_frame hv (Or.inr (Or.inl (by rw [← hli]; rfl))) fun p hp => Or.inl (hh ▸ hp)
  | sBegin n => exact begin n _ fun s' hv hli hh => h.of_frame hv (Or.inl hli) fun p hp =>
      (List.mem_cons.mp hp).elim (fun e => Or.inr (by rw [e])) fun hp => Or.inl (hh ▸ hp)

theorem run_inv {nn ℓ : Nat} (hl : ℓ < nn) : ∀ (ops : List Op) (s : St), Inv nn ℓ s → ops.all noViewChange = true →
    Inv nn ℓ (run s ops).1 := fun ops s h hall =>
  (Run.inv (run := fun s ops => (run s ops).1) (step := fun s op => (step s op).1)
    (P := fun s ops => Inv nn ℓ s ∧ ops.all noViewChange = true) (fun _ => rfl) (fun _ _ _ => rfl)
    (fun s op ops ⟨h, hall⟩ => by
      rw [List.all_cons, Bool.and_eq_true] at hall; exact ⟨step_inv hl h op hall.1, hall.2⟩)
    ops s ⟨h, hall⟩).1

theorem inv_init (nn ℓ : Nat) : Inv nn ℓ (St.init nn ℓ) where
  views := rfl
  onlyL := by intro m _; simp only [liveAt, St.init, List.getD, List.getElem?_replicate]; split <;> rfl
  heldL := by intro n m h; cases h

/-- PARTIAL (code as it is): one agreed coordinator `ℓ` that never changes ⇒ for every interleaving of
SpawnSingleton phases issued on any nodes, and of kills, at most one instance runs at any time. -/
theorem C36_partial (nn ℓ : Nat) (hl : ℓ < nn) (ops : List Op) (h : ops.all noViewChange = true) :
    totalLive (run (St.init nn ℓ) ops).1 ≤ 1 :=
  filter_le_one_of_only _ ℓ (run_inv hl ops _ (inv_init nn ℓ) h).onlyL

/-- non-vacuity: 3 nodes agreeing on coordinator 2; held and full spawns from every node, a kill and a
re-spawn: exactly one instance at the end, hosted by node 2 and named by the registry -/
example :
    let ops : List Op := [.sBegin 0, .spawn 1, .sEnd 0, .spawn 2, .kill 2, .sBegin 1, .kill 2, .sEnd 1, .spawn 0]
    ops.all noViewChange = true ∧ totalLive (run (St.init 3 2) ops).1 = 1 ∧ (run (St.init 3 2) ops).1.reg = some 2 ∧
    (run (St.init 3 2) ops).1.started = 2 := by
  decide

end GoaktVerif.C36
