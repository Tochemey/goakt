/-
C32 — Relocation places every actor and grain of a departed node exactly once.

"For any departed-node state and any set of survivors with roles and current loads, the relocation
 plan assigns every relocatable actor to exactly one survivor that advertises its role, or reports
 it unplaceable exactly when no survivor does; singletons go to the leader; each relocatable grain
 is assigned exactly once; non-relocatable and system entries are not assigned; and role-less actors
 land on a least-loaded target. Redistribution after a survivor becomes unreachable keeps these
 rules."

Model: `Model/C32.lean` (hand-written, mirrors actor/relocation_worker.go and internal/chunk).
The Go code ranges over maps; the iteration ORDER is an explicit argument and every theorem below
is for EVERY order, every departed state, every survivor set / role sets, every base loads.

Reading of the clauses against the code
* "assigns" = the entry sits in the share of a target AND that target's dispatch
  (`enqueueRelocation` → `recreateActorFromWire`/`recreateSingletonFromWire`) goes on to respawn it.
  `allocateActors` itself does not look at the relocatable flag or the name: the snapshot builders
  drop such entries upstream and the target's dispatch drops them downstream (`recreateGate`), so a
  non-relocatable or system entry is never *recreated* wherever it sits (clause `C32_gate`).
* "current load" of a target = its base load plus the number of entries of this plan already handed
  to it (`AllocInv.loads_eq`), which is what the code's `loads` slice holds.

Tie: differential of the real functions against these definitions (harness/verifdrv/c32), with an
order-witness search for the two map-ordered functions; see design/C32.md.
-/
import GoaktVerif.Gen.C32
import GoaktVerif.Model.C32
import GoaktVerif.Spec.C32
import GoaktVerif.Lemmas.C32
import GoaktVerif.Lemmas.C32Alloc
import GoaktVerif.Lemmas.C32Grains
import GoaktVerif.Lemmas.C32Redis

namespace GoaktVerif.C32
open GoaktVerif.Model.C32

def C32_actors : Prop :=
  ∀ (leaderRoles : List Role) (peers : List (List Role)) (base : List Nat) (order : List Actor),
    let targets := leaderRoles :: peers
    let out := allocateActors leaderRoles peers base order
    let lead := out.1
    let shares := out.2.1
    let unpl := out.2.2
    -- one share per target (index 0 = leader, i+1 = peers[i])
    shares.length = targets.length
    -- singletons go to the leader, which also recreates its own balanced share
    ∧ lead = order.filter (·.singleton) ++ shares.headD []
    -- every entry lands in exactly one bucket; nothing is invented
    ∧ order.Perm (order.filter (·.singleton) ++ shares.flatten ++ unpl)
    -- a shared entry is a non-singleton on a target advertising its role
    ∧ (∀ i a, a ∈ shares.getD i [] → a.singleton = false ∧ eligibleForRole (targets.getD i []) a.role = true)
    -- unplaceable = exactly the non-singletons no target can host
    ∧ (∀ a, a ∈ unpl ↔ a ∈ order ∧ a.singleton = false ∧ ∀ t ∈ targets, eligibleForRole t a.role = false)
    -- every non-singleton some target can host is in a share
    ∧ (∀ a, a ∈ order → a.singleton = false → (∃ t ∈ targets, eligibleForRole t a.role = true) →
        ∃ i, i < targets.length ∧ a ∈ shares.getD i [])
    -- with distinct entries (map keys): at most one share, and never both shared and unplaceable
    ∧ (order.Nodup → ∀ i j a, a ∈ shares.getD i [] → a ∈ shares.getD j [] → i = j)
    ∧ (order.Nodup → ∀ i a, a ∈ shares.getD i [] → a ∉ unpl)

theorem C32_actors_holds : C32_actors := by
  intro leaderRoles peers base order targets out lead shares unpl
  have inv := allocInv_run targets base order
  have hunpl : ∀ a, a ∈ unpl ↔ a ∈ order ∧ a.singleton = false ∧ ∀ t ∈ targets, eligibleForRole t a.role = false := by
    intro a
    show a ∈ (allocRun targets base order).unplaceable ↔ _
    rw [inv.unpl_eq, List.mem_filter, orphan_iff, eligibleSomewhere_eq_false]
  refine ⟨inv.len_shares, congrArg (· ++ _) inv.singles_eq, alloc_partition targets base order,
    fun i a ha => ⟨(placeable_iff.1 (inv.placed ha).2).1, inv.elig i a ha⟩, hunpl,
    fun a ha hs ⟨t, ht, hte⟩ => inv.covers ha (placeable_iff.2 ⟨hs, List.any_eq_true.2 ⟨t, ht, hte⟩⟩),
    fun hnd i j a hi hj => inv.unique hnd hi hj, fun hnd i a hi hu => ?_⟩
  -- a shared entry is placeable, an unplaceable one an orphan
  have hp := placeable_iff.1 (inv.placed hi).2
  rw [(eligibleSomewhere_eq_false.2 ((hunpl a).1 hu).2.2)] at hp
  cases hp.2

def C32_least_loaded : Prop :=
  ∀ (leaderRoles : List Role) (peers : List (List Role)) (base : List Nat) (pre post : List Actor) (a : Actor),
    a.singleton = false →
    let targets := leaderRoles :: peers
    -- state of the loop when `a`'s turn comes, and at the end
    let st := allocRun targets base pre
    let fin := allocRun targets base (pre ++ a :: post)
    -- the load the code compares = base load + entries of this plan already handed to the target
    (∀ j, j < targets.length →
        st.loads.getD j 0 = (initLoads targets.length base).getD j 0 + (st.shares.getD j []).length)
    ∧ (∀ i, pickTarget targets st.loads a.role = some i →
        i < targets.length
        ∧ eligibleForRole (targets.getD i []) a.role = true
        ∧ a ∈ fin.shares.getD i []
        -- minimal current load among the targets advertising the role, lowest index on ties
        ∧ (∀ j, j < targets.length → eligibleForRole (targets.getD j []) a.role = true →
            st.loads.getD i 0 ≤ st.loads.getD j 0 ∧ (st.loads.getD i 0 = st.loads.getD j 0 → i ≤ j))
        -- hence for a role-less actor: minimal among ALL targets
        ∧ (a.role = 0 → ∀ j, j < targets.length → st.loads.getD i 0 ≤ st.loads.getD j 0))
    ∧ (pickTarget targets st.loads a.role = none →
        a ∈ fin.unplaceable ∧ ∀ j, j < targets.length → eligibleForRole (targets.getD j []) a.role = false)

theorem C32_least_loaded_holds : C32_least_loaded := by
  intro leaderRoles peers base pre post a hs targets st fin
  have inv := allocInv_run targets base pre
  have hfin : fin = post.foldl (allocStep targets) (allocStep targets st a) := by
    show allocRun targets base (pre ++ a :: post) = _
    rw [allocRun, List.foldl_append]; rfl
  refine ⟨inv.loads_eq, fun i hp => ?_, fun hp => ⟨?_, pickTarget_none hp⟩⟩
  · obtain ⟨hi, hie, hmin⟩ := pickTarget_some hp
    refine ⟨hi, hie, ?_, hmin, fun hr j hj => (hmin j hj ?_).1⟩
    · rw [hfin]
      apply allocFold_mono
      rw [allocStep_some hs hp]
      exact mem_appendAt_self a (inv.len_shares ▸ hi)
    · -- a role-less actor is eligible everywhere
      rw [eligibleForRole, hr]; rfl
  · -- an entry of the order that no target can host is among the unplaceable ones at the end
    show a ∈ (allocRun targets base (pre ++ a :: post)).unplaceable
    rw [(allocInv_run targets base (pre ++ a :: post)).unpl_eq]
    exact List.mem_filter.2
      ⟨List.mem_append_right _ List.mem_cons_self, orphan_iff.2 ⟨hs, eligibleSomewhere_of_pick hp⟩⟩

def C32_grains : Prop :=
  ∀ (totalPeers : Nat) (order : List Grain), 0 < totalPeers →
    let rel := relocatableGrains order
    let out := allocateGrains totalPeers rel
    let lead := out.1
    let shares := out.2
    -- grains that disabled relocation are not assigned, all others are considered
    (∀ g, g ∈ rel ↔ g ∈ order ∧ g.disabled = false)
    ∧ (order.Nodup → rel.Nodup)
    -- the leader's grains followed by the peers' shares (1..) are the relocatable grains, once each,
    -- nothing else (share 0 is the leader's and is already inside `lead`)
    ∧ lead ++ (shares.drop 1).flatten = rel
    -- no share without a target: shares 1.. map to peers[0..totalPeers-2]
    ∧ shares.length ≤ totalPeers
    -- even split: every share has `quotient` grains
    ∧ (∀ c ∈ shares, c.length = rel.length / totalPeers)

theorem C32_grains_holds : C32_grains := by
  intro t order ht rel out lead shares
  have h := allocateGrains_spec t rel ht
  refine ⟨?_, ?_, h.1, h.2.1, h.2.2.1⟩
  · intro g
    simp [rel, relocatableGrains, List.mem_filter]
  · intro hn
    exact hn.filter _

def C32_redistribute : Prop :=
  ∀ (requests : List Request) (survivors : List (List Role)) (leaderRoles : List Role),
    let actors := requestActors requests
    let grains := requestGrains requests
    let r := redistribute requests survivors leaderRoles
    r.actorShares.length = survivors.length
    -- every unsent actor: one survivor share, or the leader, or the failure record; nothing invented
    ∧ actors.Perm (r.actorShares.flatten ++ r.leaderActors ++ r.failedActors)
    ∧ (∀ i a, a ∈ r.actorShares.getD i [] → eligibleForRole (survivors.getD i []) a.role = true)
    -- leader fallback only when no survivor advertises the role and the leader does
    ∧ (∀ a, a ∈ r.leaderActors ↔ a ∈ actors ∧ (∀ t ∈ survivors, eligibleForRole t a.role = false)
          ∧ eligibleForRole leaderRoles a.role = true)
    -- failure recorded iff nobody (survivors and leader) advertises the role
    ∧ (∀ a, a ∈ r.failedActors ↔ a ∈ actors ∧ (∀ t ∈ survivors, eligibleForRole t a.role = false)
          ∧ eligibleForRole leaderRoles a.role = false)
    ∧ (actors.Nodup → ∀ i j a, a ∈ r.actorShares.getD i [] → a ∈ r.actorShares.getD j [] → i = j)
    -- every unsent grain goes to exactly one survivor, or to the leader when nobody survives
    ∧ (r.grainShares.flatten ++ r.leaderGrains).Perm grains
    ∧ (survivors ≠ [] → r.grainShares.length = survivors.length ∧ r.leaderGrains = [])
    ∧ (survivors = [] → r.grainShares = [] ∧ r.leaderGrains = grains)

theorem C32_redistribute_holds : C32_redistribute := by
  intro requests survivors leaderRoles actors grains r
  have inv : ReassignInv survivors leaderRoles (reassignByRole requests survivors leaderRoles).1 actors :=
    reassignInv_run survivors leaderRoles actors
  obtain ⟨hf1, hf2, hf3, _⟩ := redistribute_fields requests survivors leaderRoles
  obtain ⟨hlen, hperm, hgrains, hsome, hnone⟩ := redistribute_accounting requests survivors leaderRoles
  refine ⟨hlen, hperm, fun i a ha => inv.elig i a (hf1 ▸ ha), fun a => ?_, fun a => ?_,
    fun hnd i j a hi hj => inv.unique hnd (hf1 ▸ hi) (hf1 ▸ hj), hgrains, hsome, hnone⟩
  · show a ∈ (redistribute requests survivors leaderRoles).leaderActors ↔ _
    rw [hf2, inv.leader_eq, List.mem_filter, leaderOnly_iff, eligibleSomewhere_eq_false]
  · show a ∈ (redistribute requests survivors leaderRoles).failedActors ↔ _
    rw [hf3, inv.failed_eq, List.mem_filter, nobody_iff, eligibleSomewhere_eq_false]

/-- who survives an unreachable target: exactly the peers whose remoting endpoint differs from the
    target's in host OR port (a peer sharing only the host, or only the port, is a survivor), in the
    original order; so the redistribution rules above range over all of them -/
def C32_survivors : Prop :=
  ∀ (peers : List Peer) (target : Peer),
    (∀ p, p ∈ survivingPeersExcept peers target ↔ p ∈ peers ∧ (p.host ≠ target.host ∨ p.port ≠ target.port))
    ∧ (survivingPeersExcept peers target).Sublist peers
    ∧ (∀ (requests : List Request) (leaderRoles : List Role) (a : Actor),
        let survivors := (survivingPeersExcept peers target).map (·.roles)
        a ∈ (redistribute requests survivors leaderRoles).failedActors →
          ∀ p ∈ peers, (p.host ≠ target.host ∨ p.port ≠ target.port) → eligibleForRole p.roles a.role = false)

theorem C32_survivors_holds : C32_survivors := by
  intro peers target
  have hmem : ∀ p, p ∈ survivingPeersExcept peers target ↔ p ∈ peers ∧ (p.host ≠ target.host ∨ p.port ≠ target.port) := by
    intro p
    rw [survivingPeersExcept, List.mem_filter, Bool.not_eq_true', Bool.and_eq_false_iff, beq_eq_false_iff_ne,
      beq_eq_false_iff_ne]
  refine ⟨hmem, List.filter_sublist, ?_⟩
  intro requests leaderRoles a survivors hfail p hp hdiff
  obtain ⟨_, _, _, _, hfailed, _⟩ := C32_redistribute_holds requests survivors leaderRoles
  exact ((hfailed a).1 hfail).2.1 p.roles (List.mem_map.2 ⟨p, (hmem p).2 ⟨hp, hdiff⟩, rfl⟩)

/-- redistribution places each unsent actor on a least-loaded eligible survivor at its turn
    (load = number of unsent actors already reassigned to that survivor), lowest index on ties -/
def C32_redistribute_least : Prop :=
  ∀ (survivors : List (List Role)) (leaderRoles : List Role) (pre post : List Actor) (a : Actor),
    let st := pre.foldl (reassignStep survivors leaderRoles) (reassignInit survivors.length)
    let fin := (pre ++ a :: post).foldl (reassignStep survivors leaderRoles) (reassignInit survivors.length)
    ∀ i, leastLoadedEligibleSurvivor survivors st.shares a.role = some i →
      i < survivors.length
      ∧ eligibleForRole (survivors.getD i []) a.role = true
      ∧ a ∈ fin.shares.getD i []
      ∧ (∀ j, j < survivors.length → eligibleForRole (survivors.getD j []) a.role = true →
          (st.shares.getD i []).length ≤ (st.shares.getD j []).length
          ∧ ((st.shares.getD i []).length = (st.shares.getD j []).length → i ≤ j))

theorem C32_redistribute_least_holds : C32_redistribute_least := by
  intro survivors leaderRoles pre post a st fin i hp
  have inv := reassignInv_run survivors leaderRoles pre
  obtain ⟨hi, hie, hmin⟩ := pickTarget_some hp
  refine ⟨hi, hie, ?_, fun j hj hje => ?_⟩
  · have hfin : fin = post.foldl (reassignStep survivors leaderRoles) (reassignStep survivors leaderRoles st a) :=
      List.foldl_append
    rw [hfin]
    apply reassignFold_mono
    rw [reassignStep_some hp]
    exact mem_appendAt_self a (inv.len_shares ▸ hi)
  · -- the load the scan compares is the length of the survivor's share
    have := hmin j hj hje
    rwa [getD_map_length, getD_map_length] at this

def C32_gate : Prop :=
  ∀ a : Actor,
    -- system entries and non-relocatable (non-singleton) entries are never recreated, wherever they sit
    ((a.system = true ∨ (a.singleton = false ∧ a.relocatable = false)) → recreateGate a = false)
    -- relocatable non-system entries always are
    ∧ (a.system = false → a.relocatable = true → recreateGate a = true)

theorem C32_gate_holds : C32_gate := by
  intro a
  unfold recreateGate
  cases a.system <;> cases a.singleton <;> cases a.relocatable <;> simp

/-- both ends of the filter: whatever lives on the departed node (`pop`), the snapshot holds exactly its
    relocatable non-system actors; so system and non-relocatable entries are in no share, not among
    the singletons and never reported unplaceable, and every entry the plan hands to a target passes
    that target's recreate gate -/
def C32_both_ends : Prop :=
  ∀ (pop : List Actor) (leaderRoles : List Role) (peers : List (List Role)) (base : List Nat) (order : List Actor),
    order.Perm (snapshotActors pop) →
    let out := allocateActors leaderRoles peers base order
    (∀ a, a ∈ snapshotActors pop ↔ a ∈ pop ∧ a.system = false ∧ a.relocatable = true)
    ∧ (∀ a, a ∈ pop → (a.system = true ∨ a.relocatable = false) →
        a ∉ out.1 ∧ (∀ i, a ∉ out.2.1.getD i []) ∧ a ∉ out.2.2)
    ∧ (∀ a, (a ∈ out.1 ∨ ∃ i, a ∈ out.2.1.getD i []) → recreateGate a = true)

theorem C32_both_ends_holds : C32_both_ends := by
  intro pop leaderRoles peers base order hperm out
  have hkeep : ∀ a, a ∈ snapshotActors pop ↔ a ∈ pop ∧ a.system = false ∧ a.relocatable = true := by
    intro a
    simp [snapshotActors, snapshotKeep, List.mem_filter]
  -- everything the plan mentions is an entry of the snapshot
  have hsub := fun a h => (hkeep a).1 (hperm.subset (allocateActors_sub leaderRoles peers base order a h))
  refine ⟨hkeep, fun a _ hbad => ?_, fun a ha => ?_⟩
  · have hnot : ¬ (a.system = false ∧ a.relocatable = true) := fun h => by
      rcases hbad with hb | hb
      · rw [h.1] at hb; cases hb
      · rw [h.2] at hb; cases hb
    exact ⟨fun h => hnot (hsub a (.inl h)).2, fun i h => hnot (hsub a (.inr (.inl ⟨i, h⟩))).2,
      fun h => hnot (hsub a (.inr (.inr h))).2⟩
  · have := (hsub a (ha.imp_right .inl)).2
    exact (C32_gate_holds a).2 this.1 this.2

def batchActors : List Batch → List Actor
  | [] => []
  | .actors l :: bs => l ++ batchActors bs
  | .grains _ :: bs => batchActors bs

def batchGrains : List Batch → List Grain
  | [] => []
  | .actors _ :: bs => batchGrains bs
  | .grains l :: bs => l ++ batchGrains bs

theorem batchActors_eq (bs : List Batch) :
    batchActors bs = bs.flatMap fun | .actors l => l | .grains _ => [] := by
  induction bs with
  | nil => rfl
  | cons b bs ih => cases b <;> simp [batchActors, ih]

theorem batchGrains_eq (bs : List Batch) :
    batchGrains bs = bs.flatMap fun | .actors _ => [] | .grains l => l := by
  induction bs with
  | nil => rfl
  | cons b bs ih => cases b <;> simp [batchGrains, ih]

theorem flatMap_nil_fun {α β : Type} (l : List α) : l.flatMap (fun _ => ([] : List β)) = [] :=
  List.flatMap_eq_nil_iff.mpr fun _ _ => rfl

def C32_batches : Prop :=
  ∀ (bs : Nat) (actors : List Actor) (grains : List Grain), 0 < bs →
    batchActors (buildBatches bs actors grains) = actors
    ∧ batchGrains (buildBatches bs actors grains) = grains
    ∧ (∀ c ∈ chunkify actors bs, 0 < c.length ∧ c.length ≤ bs)
    ∧ (∀ c ∈ chunkify grains bs, 0 < c.length ∧ c.length ≤ bs)

theorem C32_batches_holds : C32_batches := by
  intro bs actors grains hbs
  refine ⟨?_, ?_, chunkify_bounds actors bs hbs, chunkify_bounds grains bs hbs⟩
  · simp only [batchActors_eq, buildBatches, List.flatMap_append, List.flatMap_map, List.flatMap_id', flatMap_nil_fun,
      chunkify_flatten _ _ hbs, List.append_nil]
  · simp only [batchGrains_eq, buildBatches, List.flatMap_append, List.flatMap_map, List.flatMap_id', flatMap_nil_fun,
      chunkify_flatten _ _ hbs, List.nil_append]

/-- the batch size of the code (regenerated from actor/relocation_worker.go on every run) is
    positive, so `Chunkify` terminates and `C32_batches` applies to `buildRelocateBatchRequests` -/
theorem batches_of_code_constant (actors : List Actor) (grains : List Grain) :
    0 < Gen.C32.defaultRelocationBatchSize
    ∧ batchActors (buildBatches Gen.C32.defaultRelocationBatchSize.toNat actors grains) = actors
    ∧ batchGrains (buildBatches Gen.C32.defaultRelocationBatchSize.toNat actors grains) = grains := by
  have hpos : 0 < Gen.C32.defaultRelocationBatchSize := by decide
  have hn : 0 < Gen.C32.defaultRelocationBatchSize.toNat := by
    have := hpos; omega
  have h := C32_batches_holds _ actors grains hn
  exact ⟨hpos, h.1, h.2.1⟩

/-- C32 at full strength: for EVERY iteration order, departed state, survivor set, role sets and
    base loads. -/
def C32_full : Prop :=
  C32_actors ∧ C32_least_loaded ∧ C32_grains ∧ C32_redistribute ∧ C32_survivors ∧ C32_redistribute_least ∧ C32_gate ∧ C32_both_ends ∧ C32_batches

theorem C32_holds : C32_full :=
  ⟨C32_actors_holds, C32_least_loaded_holds, C32_grains_holds, C32_redistribute_holds, C32_survivors_holds,
   C32_redistribute_least_holds, C32_gate_holds, C32_both_ends_holds, C32_batches_holds⟩

private def ex1 : List Actor :=
  [⟨1, 0, false, true, false⟩, ⟨2, 1, false, true, false⟩, ⟨3, 2, false, true, false⟩,
   ⟨4, 3, false, true, false⟩, ⟨5, 0, true, true, false⟩, ⟨9, 0, false, true, false⟩]

-- leader advertises role 1; peers: {1}, {}, {2}; role 3 is advertised by nobody
example : (allocateActors [1] [[1], [], [2]] [] ex1).2.2.map (·.id) = [4] := by decide
example : (allocateActors [1] [[1], [], [2]] [] ex1).2.1.map (·.map (·.id)) = [[1], [2], [9], [3]] := by decide
example : (allocateActors [1] [[1], [], [2]] [] ex1).1.map (·.id) = [5, 1] := by decide
-- a hypothesis instance of C32_least_loaded: a role-less actor whose turn comes with loads [5, 0]
example : pickTarget [[], [1]] (allocRun [[], [1]] [5, 0] [⟨1, 0, false, true, false⟩]).loads 0 = some 1 := by decide
-- grains: 7 relocatable grains over 3 targets: remainder 1 to the leader, chunks of 2
example : (allocateGrains 3 ((List.range 7).map fun i => ⟨i, false, false⟩)).2.map (·.map (·.id))
    = [[1, 2], [3, 4], [5, 6]] := by decide
example : ex1.Nodup := by decide
-- a survivor sharing the unreachable target's port (the usual deployment) or host stays a survivor
example : (survivingPeersExcept [⟨1, 9000, []⟩, ⟨2, 9000, [1]⟩, ⟨1, 9001, []⟩] ⟨1, 9000, []⟩).map (·.host) = [2, 1] := by decide

end GoaktVerif.C32
