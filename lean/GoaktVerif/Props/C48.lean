/-
C48 — The TTL map behaves like a map with per-key expiry.

"For any sequence of Set, Get, Delete and Reset operations and clock advances, Get returns the
 last value Set for a key exactly when that Set happened less than the TTL ago and no later
 Delete or Reset intervened; internal eviction and compaction never lose a live entry or revive
 an expired one."

Model: Model/C48.lean (items index map, order slice, head, evict, maybeCompact with both paths,
injected clock; also Len and ActiveLen).  Spec: Spec/C48.lean (a function key → Option (value ×
expireAt) on which nothing is ever evicted).  The theorems are a forward simulation for ALL
histories (no bound on length, keys, values, clock steps) plus the history-level reading of the
English sentence.  Tie: differential run of the real TTLMap (clock hook injected in-package)
against `Model.C48.run`, comparing every answer and a dump of items/len(order)/head.
-/
import GoaktVerif.Model.C48
import GoaktVerif.Spec.C48
import GoaktVerif.Lemmas.C48Ops
import GoaktVerif.Lemmas.Run

namespace GoaktVerif.C48
open GoaktVerif.Model.C48 GoaktVerif.Spec.C48

/-- `evict` keeps the representation invariant and changes the abstract map only by dropping
    entries whose deadline has passed: no live entry is lost, nothing is revived or altered -/
theorem C48_evict_sound (now : Int) (s : TTL) (hi : Inv s) :
    Inv (evict now s) ∧ ∀ k, DropsExpired now (abs (evict now s) k) (abs s k) :=
  ⟨inv_evict now s hi, abs_evict now s hi⟩

/-- `maybeCompact` (fast path and slow path) keeps the invariant and leaves the abstract map
    exactly as it was -/
theorem C48_compact_sound (s : TTL) (hi : Inv s) :
    Inv (maybeCompact s) ∧ ∀ k, abs (maybeCompact s) k = abs s k :=
  compact_spec s hi

-- non-vacuous instance: a state with a dead prefix, a Get-deleted hole and a live entry; compaction fires
example : Inv (⟨10, [(7, 2)], [⟨5, 1, 3⟩, ⟨6, 1, 4⟩, ⟨7, 9, 20⟩], 2⟩ : TTL) :=
  ⟨by decide, by decide, by
    intro k i h
    simp only [Items.find] at h
    split at h
    · cases h; subst_vars; exact ⟨by decide, ⟨7, 9, 20⟩, rfl, rfl⟩
    · cases h⟩
example : (maybeCompact ⟨10, [(7, 2)], [⟨5, 1, 3⟩, ⟨6, 1, 4⟩, ⟨7, 9, 20⟩], 2⟩).order = [⟨7, 9, 20⟩] := by decide

def toS : Op → SOp
  | .set k v => .set k v
  | .get k => .get k
  | .del k => .del k
  | .reset => .reset
  | .len => .len
  | .activeLen => .activeLen
  | .tick d => .tick d

/-- simulation relation: same clock and ttl, the invariant, and the concrete map is the spec map
    minus (some) entries that are already expired -/
structure Rel (c : Cfg) (sc : SCfg) : Prop where
  now : c.now = sc.now
  ttl : c.s.ttl = sc.ttl
  inv : Inv c.s
  drops : ∀ k, DropsExpired c.now (abs c.s k) (sc.m k)

theorem liveVal_eq_get (m : SMap) (now : Int) (k : Nat) : liveVal now (m k) = m.get now k := by
  unfold liveVal SMap.get
  cases m k with
  | none => rfl
  | some p => rfl

/-- what the spec's answer demands of the implementation's answer -/
def OutOK (sc : SCfg) (out : Out) : SOut → Prop
  | .unit => out = .unit
  | .val o => out = .val o
  | .active => ∀ keys : List Nat, keys.Nodup → (∀ k, sc.m k ≠ none → k ∈ keys) →
      out = .num (sc.m.active sc.now keys)
  | .anyLen => ∃ n, out = .num n ∧ ∀ keys : List Nat, keys.Nodup → sc.m.active sc.now keys ≤ n

theorem rel_init (ttl t0 : Int) : Rel ⟨t0, TTL.new ttl⟩ ⟨ttl, t0, SMap.empty⟩ :=
  ⟨rfl, rfl, inv_new ttl, fun k => .inl (abs_new ttl k)⟩

/-- keys of live entries, concretely and abstractly, coincide -/
theorem live_keys (c : Cfg) (sc : SCfg) (hr : Rel c sc) (k : Nat) :
    (∃ i, (k, i) ∈ c.s.items ∧ liveSlot c.now c.s.order (k, i) = true) ↔ (sc.m.get sc.now k).isSome = true := by
  rw [← liveVal_eq_get, ← hr.now, ← (hr.drops k).liveVal, abs_eq_bind]
  have key : ∀ i, liveSlot c.now c.s.order (k, i) =
      (liveVal c.now ((c.s.order[i]?).map fun e => (e.val, e.exp))).isSome := by
    intro i
    unfold liveSlot
    cases c.s.order[i]? with
    | none => rfl
    | some e => show decide _ = (if _ then _ else _ : Option Int).isSome; split <;> simp [*]
  constructor
  · rintro ⟨i, hm, hl⟩
    rw [find_of_mem hr.inv.nodup hm, Option.bind_some, ← key, hl]
  · intro h
    cases hf : c.s.items.find k with
    | none => rw [hf] at h; cases h
    | some i => exact ⟨i, mem_of_find hf, by rw [key, ← h, hf, Option.bind_some]⟩

theorem active_count (c : Cfg) (sc : SCfg) (hr : Rel c sc) (keys : List Nat) (hn : keys.Nodup)
    (hcov : ∀ k, sc.m k ≠ none → k ∈ keys) :
    (c.s.items.filter (liveSlot c.now c.s.order)).length = sc.m.active sc.now keys := by
  unfold SMap.active
  have h1 : (c.s.items.filter (liveSlot c.now c.s.order)).length
      = (Keys (c.s.items.filter (liveSlot c.now c.s.order))).length := (List.length_map ..).symm
  rw [h1]
  apply List.Perm.length_eq
  rw [List.perm_ext_iff_of_nodup]
  · intro k
    simp only [Keys, List.mem_map, List.mem_filter]
    constructor
    · rintro ⟨⟨k', i⟩, ⟨hm, hl⟩, rfl⟩
      have hlive := (live_keys c sc hr k').mp ⟨i, hm, hl⟩
      refine ⟨hcov k' ?_, hlive⟩
      intro hnone
      simp [SMap.get, hnone] at hlive
    · rintro ⟨_, hlive⟩
      obtain ⟨i, hm, hl⟩ := (live_keys c sc hr k).mpr hlive
      exact ⟨(k, i), ⟨hm, hl⟩, rfl⟩
  · exact Assoc.nodup_keys_filter _ hr.inv.nodup
  · exact List.Nodup.sublist List.filter_sublist hn

theorem len_ge_active (c : Cfg) (sc : SCfg) (hr : Rel c sc) (keys : List Nat) (hn : keys.Nodup) :
    sc.m.active sc.now keys ≤ c.s.items.length := by
  unfold SMap.active
  have h1 : c.s.items.length = (Keys c.s.items).length := (List.length_map ..).symm
  rw [h1]
  apply List.Nodup.length_le_of_subset (List.Nodup.sublist List.filter_sublist hn)
  intro k hk
  have hlive := (List.mem_filter.mp hk).2
  obtain ⟨i, hm, _⟩ := (live_keys c sc hr k).mpr hlive
  exact List.mem_map.mpr ⟨(k, i), hm, rfl⟩

/-- every operation preserves the simulation relation and answers as the spec does -/
theorem step_refines (c : Cfg) (sc : SCfg) (hr : Rel c sc) (op : Op) :
    Rel (step c op).1 (sstep sc (toS op)).1 ∧ OutOK sc (step c op).2 (sstep sc (toS op)).2 := by
  cases op with
  | set k v =>
    obtain ⟨hi, ht, ha⟩ := set_spec c.now k v c.s hr.inv
    show Rel ⟨c.now, Model.C48.set c.now k v c.s⟩ ⟨sc.ttl, sc.now, sc.m.set k v (sc.now + sc.ttl)⟩ ∧ _
    generalize Model.C48.set c.now k v c.s = s' at hi ht ha ⊢
    refine ⟨⟨hr.now, ht.trans hr.ttl, hi, fun k' => (ha k').trans ?_⟩, rfl⟩
    show DropsExpired c.now _ (if k' = k then some (v, sc.now + sc.ttl) else sc.m k')
    rw [← hr.now, ← hr.ttl]
    exact (hr.drops k').ite _ _
  | get k =>
    obtain ⟨hi, ht, hv, ha⟩ := get_spec c.now k c.s hr.inv
    refine ⟨⟨hr.now, ht.trans hr.ttl, hi, fun k' => (ha k').trans (hr.drops k')⟩, ?_⟩
    show Out.val _ = Out.val (sc.m.get sc.now k)
    rw [hv, (hr.drops k).liveVal, liveVal_eq_get, hr.now]
  | del k =>
    obtain ⟨hi, ht, ha⟩ := delete_spec k c.s hr.inv
    refine ⟨⟨hr.now, ht.trans hr.ttl, hi, fun k' => ?_⟩, rfl⟩
    show DropsExpired c.now (abs (delete k c.s) k') (if k' = k then none else sc.m k')
    rw [ha k']
    exact (hr.drops k').ite _ _
  | reset => exact ⟨⟨hr.now, hr.ttl, (reset_spec c.s).1, fun _ => .inl rfl⟩, rfl⟩
  | len => exact ⟨hr, _, rfl, fun keys hn => len_ge_active c sc hr keys hn⟩
  | activeLen =>
    obtain ⟨hi, ht, ha⟩ := activeLen_spec c.now c.s hr.inv
    exact ⟨⟨hr.now, ht.trans hr.ttl, hi, fun k' => (ha k').trans (hr.drops k')⟩,
      fun keys hn hcov => congrArg Out.num (active_count c sc hr keys hn hcov)⟩
  | tick d =>
    exact ⟨⟨congrArg (· + (d : Int)) hr.now, hr.ttl, hr.inv,
      fun k' => (hr.drops k').mono (Int.le_add_of_nonneg_right (Int.natCast_nonneg d))⟩, rfl⟩

/-- position-wise agreement of the model's answers with the spec's demands -/
def Matches : List (SCfg × SOut) → List Out → Prop
  | [], [] => True
  | (sc, so) :: ss, o :: os => OutOK sc o so ∧ Matches ss os
  | _, _ => False

theorem run_refines (ops : List Op) : ∀ (c : Cfg) (sc : SCfg), Rel c sc →
    Matches (srun sc (ops.map toS)) (run c ops).2 := by
  induction ops with
  | nil => intro c sc _; simp [srun, run, Matches]
  | cons op ops ih =>
    intro c sc hr
    obtain ⟨hr', ho⟩ := step_refines c sc hr op
    simp only [List.map_cons, srun, run, Matches]
    exact ⟨ho, ih _ _ hr'⟩

/-- final spec configuration after a history -/
def sfinal (sc : SCfg) : List SOp → SCfg
  | [] => sc
  | op :: ops => sfinal (sstep sc op).1 ops

/-- total clock advance of a history -/
def elapsed : List SOp → Int
  | [] => 0
  | .tick d :: ops => d + elapsed ops
  | _ :: ops => elapsed ops

/-- the operation leaves key `k` alone (not a Set/Delete of `k`, not a Reset) -/
def Untouched (k : Nat) : SOp → Prop
  | .set k' _ => k' ≠ k
  | .del k' => k' ≠ k
  | .reset => False
  | _ => True

theorem sfinal_append (sc : SCfg) (a b : List SOp) : sfinal sc (a ++ b) = sfinal (sfinal sc a) b :=
  Run.append (fun _ => rfl) (fun _ _ _ => rfl) sc a b

theorem sfinal_untouched (k : Nat) (mid : List SOp) : ∀ (sc : SCfg), (∀ op ∈ mid, Untouched k op) →
    (sfinal sc mid).m k = sc.m k ∧ (sfinal sc mid).now = sc.now + elapsed mid := by
  induction mid with
  | nil => exact fun sc _ => ⟨rfl, (Int.add_zero _).symm⟩
  | cons op mid ih =>
    intro sc h
    have hop := h op List.mem_cons_self
    obtain ⟨i1, i2⟩ := ih (sstep sc op).1 (fun o ho => h o (List.mem_cons_of_mem _ ho))
    rw [sfinal, i1, i2]
    cases op with
    | set k' v => exact ⟨if_neg (Ne.symm hop), rfl⟩
    | del k' => exact ⟨if_neg (Ne.symm hop), rfl⟩
    | reset => exact hop.elim
    | tick d => exact ⟨rfl, Int.add_assoc ..⟩
    | _ => exact ⟨rfl, rfl⟩

theorem sstep_ttl (sc : SCfg) (op : SOp) : (sstep sc op).1.ttl = sc.ttl := by
  cases op <;> rfl

theorem sfinal_ttl (ops : List SOp) (sc : SCfg) : (sfinal sc ops).ttl = sc.ttl :=
  Run.inv' (run := sfinal) (P := fun c => c.ttl = sc.ttl) (fun _ => rfl) (fun _ _ _ => rfl)
    (fun c op h => (sstep_ttl c op).trans h) ops sc rfl

/-- the English sentence read on the spec, (1): after `… Set(k,v) mid`, where `mid` contains no Set/Delete of `k` and no
    Reset, a Get(k) yields `v` exactly when less than the TTL has elapsed since that Set -/
theorem spec_get_after_set (sc0 : SCfg) (pre mid : List SOp) (k : Nat) (v : Int)
    (hmid : ∀ op ∈ mid, Untouched k op) :
    (sfinal sc0 (pre ++ .set k v :: mid)).m.get (sfinal sc0 (pre ++ .set k v :: mid)).now k
      = if elapsed mid < sc0.ttl then some v else none := by
  simp only [sfinal_append, sfinal]
  have httl := sfinal_ttl pre sc0
  generalize sfinal sc0 pre = sc1 at httl ⊢
  obtain ⟨h1, h2⟩ := sfinal_untouched k mid (sstep sc1 (.set k v)).1 hmid
  have hm : (sstep sc1 (.set k v)).1.m k = some (v, sc1.now + sc1.ttl) := if_pos rfl
  rw [SMap.get, h1, hm, h2]
  show (if sc1.now + elapsed mid < sc1.now + sc1.ttl then some v else none) = _
  simp only [httl, Int.add_lt_add_iff_left]

/-- (2): after a Delete(k) or a Reset with no later Set(k), Get(k) finds nothing -/
theorem spec_get_after_del (sc0 : SCfg) (pre mid : List SOp) (k : Nat) (op : SOp)
    (hop : op = .del k ∨ op = .reset) (hmid : ∀ o ∈ mid, ∀ v, o ≠ .set k v) :
    (sfinal sc0 (pre ++ op :: mid)).m.get (sfinal sc0 (pre ++ op :: mid)).now k = none := by
  simp only [sfinal_append, sfinal]
  generalize sfinal sc0 pre = sc1
  have hnone : (sstep sc1 op).1.m k = none := by
    rcases hop with rfl | rfl
    · exact if_pos rfl
    · rfl
  generalize (sstep sc1 op).1 = sc2 at hnone
  suffices h : (sfinal sc2 mid).m k = none by rw [SMap.get, h]
  induction mid generalizing sc2 with
  | nil => exact hnone
  | cons o mid ih =>
    refine ih (fun o' ho' => hmid o' (List.mem_cons_of_mem _ ho')) _ ?_
    have ho := hmid o List.mem_cons_self
    cases o with
    | set k' v => exact (if_neg fun (h : k = k') => ho v (h ▸ rfl)).trans hnone
    | del k' =>
      show (if k = k' then none else sc2.m k) = none
      split
      · rfl
      · exact hnone
    | reset => rfl
    | _ => exact hnone

/-- (3): a key that was never Set is never found -/
theorem spec_get_never_set (ttl t0 : Int) (ops : List SOp) (k : Nat) (h : ∀ o ∈ ops, ∀ v, o ≠ .set k v) :
    (sfinal ⟨ttl, t0, SMap.empty⟩ ops).m.get (sfinal ⟨ttl, t0, SMap.empty⟩ ops).now k = none := by
  have := spec_get_after_del ⟨ttl, t0, SMap.empty⟩ [] ops k .reset (Or.inr rfl) h
  simpa [sfinal, sstep] using this

theorem run_append (c : Cfg) (a b : List Op) : (run c (a ++ b)).1 = (run (run c a).1 b).1 :=
  Run.append (run := fun c s => (run c s).1) (fun _ => rfl) (fun _ _ _ => rfl) c a b

theorem rel_run (ops : List Op) : ∀ (c : Cfg) (sc : SCfg), Rel c sc →
    Rel (run c ops).1 (sfinal sc (ops.map toS)) := by
  induction ops with
  | nil => intro c sc h; exact h
  | cons op ops ih =>
    intro c sc h
    simp only [run, List.map_cons, sfinal]
    exact ih _ _ (step_refines c sc h op).1

/-- a Get(k) issued after the history `ops` answers what the spec map holds, from any related pair -/
theorem get_after_rel {c : Cfg} {sc : SCfg} (hr : Rel c sc) (ops : List Op) (k : Nat) :
    (step (run c ops).1 (.get k)).2
      = .val ((sfinal sc (ops.map toS)).m.get (sfinal sc (ops.map toS)).now k) :=
  (step_refines _ _ (rel_run ops c sc hr) (.get k)).2

theorem get_after (ttl t0 : Int) (ops : List Op) (k : Nat) :
    (step (run ⟨t0, TTL.new ttl⟩ ops).1 (.get k)).2
      = .val ((sfinal ⟨ttl, t0, SMap.empty⟩ (ops.map toS)).m.get (sfinal ⟨ttl, t0, SMap.empty⟩ (ops.map toS)).now k) :=
  get_after_rel (rel_init ttl t0) ops k

/-- The full statement.
 (1) refinement: on every history, from a fresh map with any ttl (positive or not) and any start
     time, every answer of the model is the answer the abstract map-with-deadlines demands
     (Get: the value iff live; ActiveLen: the number of live keys; Len: at least that number);
 (2) Get(k) after `pre, Set(k,v), mid` with no Set/Delete of k and no Reset in `mid` returns `v`
     iff the clock advanced by less than ttl during `mid` (so exactly-at-expiry is a miss);
 (3) after Delete(k)/Reset and no later Set(k), Get(k) misses; (4) a never-Set key misses;
 (5) evict and maybeCompact only ever drop expired entries from the abstract map. -/
def C48_full : Prop :=
  (∀ (ttl t0 : Int) (ops : List Op),
      Matches (srun ⟨ttl, t0, SMap.empty⟩ (ops.map toS)) (run ⟨t0, TTL.new ttl⟩ ops).2) ∧
  (∀ (ttl t0 : Int) (pre mid : List Op) (k : Nat) (v : Int),
      (∀ op ∈ mid, Untouched k (toS op)) →
      (step (run ⟨t0, TTL.new ttl⟩ (pre ++ .set k v :: mid)).1 (.get k)).2
        = .val (if elapsed (mid.map toS) < ttl then some v else none)) ∧
  (∀ (ttl t0 : Int) (pre mid : List Op) (k : Nat) (op : Op), (op = .del k ∨ op = .reset) →
      (∀ o ∈ mid, ∀ v, o ≠ .set k v) →
      (step (run ⟨t0, TTL.new ttl⟩ (pre ++ op :: mid)).1 (.get k)).2 = .val none) ∧
  (∀ (ttl t0 : Int) (ops : List Op) (k : Nat), (∀ o ∈ ops, ∀ v, o ≠ .set k v) →
      (step (run ⟨t0, TTL.new ttl⟩ ops).1 (.get k)).2 = .val none) ∧
  (∀ (now : Int) (s : TTL), Inv s →
      (Inv (evict now s) ∧ ∀ k, DropsExpired now (abs (evict now s) k) (abs s k)) ∧
      (Inv (maybeCompact s) ∧ ∀ k, abs (maybeCompact s) k = abs s k))

theorem toS_set_ne {o : Op} {k : Nat} (h : ∀ v, o ≠ .set k v) : ∀ v, toS o ≠ .set k v := by
  intro v hv
  cases o <;> simp only [toS, reduceCtorEq] at hv
  cases hv
  exact h _ rfl

theorem C48_holds : C48_full := by
  refine ⟨fun ttl t0 ops => run_refines ops _ _ (rel_init ttl t0), ?_, ?_, ?_, ?_⟩
  · intro ttl t0 pre mid k v hmid
    rw [get_after]
    simp only [List.map_append, List.map_cons, toS]
    rw [spec_get_after_set ⟨ttl, t0, SMap.empty⟩ (pre.map toS) (mid.map toS) k v]
    intro op hop
    obtain ⟨o, ho, rfl⟩ := List.mem_map.mp hop
    exact hmid o ho
  · intro ttl t0 pre mid k op hop hmid
    rw [get_after]
    simp only [List.map_append, List.map_cons]
    rw [spec_get_after_del ⟨ttl, t0, SMap.empty⟩ (pre.map toS) (mid.map toS) k (toS op)]
    · rcases hop with rfl | rfl
      · exact Or.inl rfl
      · exact Or.inr rfl
    · intro o ho
      obtain ⟨o', ho', rfl⟩ := List.mem_map.mp ho
      exact toS_set_ne (hmid o' ho')
  · intro ttl t0 ops k h
    rw [get_after, spec_get_never_set]
    intro o ho
    obtain ⟨o', ho', rfl⟩ := List.mem_map.mp ho
    exact toS_set_ne (h o' ho')
  · intro now s hi
    exact ⟨C48_evict_sound now s hi, C48_compact_sound s hi⟩

-- ttl 10: Set at t=0, Get at t=9 hits, Get at t=10 (exactly at expiry) misses
example : (run ⟨0, TTL.new 10⟩ [.set 1 7, .tick 9, .get 1, .tick 1, .get 1]).2
    = [.unit, .unit, .val (some 7), .unit, .val none] := by decide
-- a history satisfying the hypothesis of clause (2): `mid` leaves key 1 alone
example : ∀ op ∈ ([.set 2 5, .tick 3, .del 2, .get 1] : List Op), Untouched 1 (toS op) := by
  intro op h
  simp only [List.mem_cons, List.not_mem_nil, or_false] at h
  rcases h with rfl | rfl | rfl | rfl <;> simp [toS, Untouched]

end GoaktVerif.C48
