/-
C47 — The circuit breaker follows its state machine.

"For any sequence of call outcomes, clock advances and concurrent callers, the breaker opens
 exactly when the windowed failure rate reaches the threshold with at least the minimum number of
 requests, rejects every call while open until the open timeout passes, admits at most the
 configured number of concurrent probes while half-open, and closes again when probes succeed."

Model: Model/C47.lean.  Two granularities: the call level (`cstep`:
acquire | outcome+record+release, any number of concurrent callers) and the atomic level (`fstep`:
one step per shared-memory access: the unlocked `State()` read, and `openToHalfOpen()`,
`halfOpenToClosed()`, `toOpen()`, `buckets.add`, the semaphore select each as one critical section).
Spec: Spec/C47.lean (textbook state machine over a queue-shaped rolling window).

Result: `C47_holds` — at the atomic level, for every schedule and any number of threads, every
state change follows the state machine (Open is left only for HalfOpen and only once `openUntil`
has passed; `openUntil` is stable while Open), the half-open bound holds, `record` opens exactly
under the window condition, a caller checked against `Open ∧ now < openUntil` is rejected.
`C47_call_level`: at the call level the model IS the spec machine for all histories; a single
thread's atomic steps run to completion are exactly the call-level operations (`atomic_acquire_eq`,
`atomic_finish_eq`).  Stated limit (`C47_residual`): the admission decision is taken on an unlocked
read, so a caller that read HalfOpen can still win a half-open token right after a concurrent probe
re-opened the breaker (bounded by halfOpenMaxCalls, changes no state).
The model follows the code after 42b281d (transitions re-validate the source state; finding C47-F1);
corpus/C47 keeps the schedules that defeat the code before it.
-/
import GoaktVerif.Model.C47
import GoaktVerif.Spec.C47
import GoaktVerif.Lemmas.C47Fine
import GoaktVerif.Lemmas.C47Sim
import GoaktVerif.Lemmas.Run

namespace GoaktVerif.C47
open GoaktVerif.Model.C47 GoaktVerif.Spec.C47

/-- the edges of the breaker's state machine: Closed→Open, HalfOpen→Open, HalfOpen→Closed, and
    Open→HalfOpen only once `openUntil` has passed; while it stays Open `openUntil` does not move -/
def LegalEdge (now : Int) (b b' : Br) : Prop :=
  (b'.state = b.state ∧ (b.state = .opened → b'.openUntil = b.openUntil)) ∨
  (b.state = .closed ∧ b'.state = .opened) ∨
  (b.state = .halfOpen ∧ b'.state = .opened) ∨
  (b.state = .halfOpen ∧ b'.state = .closed) ∨
  (b.state = .opened ∧ b'.state = .halfOpen ∧ b.openUntil ≤ now)

instance (now : Int) (b b' : Br) : Decidable (LegalEdge now b b') := by unfold LegalEdge; infer_instance

/-- (1) every state change follows the state machine; in particular the breaker stays Open
        (rejecting) until `openUntil` has passed -/
def ClauseEdges (cf : Conf) (s0 : FSys) : Prop :=
  ∀ s l s', FReach cf s0 s → fstep cf s l = some s' → LegalEdge s.now s.b s'.b

/-- (2) half-open tokens in use = threads holding one ≤ halfOpenMaxCalls -/
def ClauseProbes (cf : Conf) (s0 : FSys) : Prop :=
  ∀ s, FReach cf s0 s → s.b.sem = tokens s.pcs ∧ s.b.sem ≤ cf.hmax

/-- (3) the evaluation step of `record`, holding the post-advance window totals `t`, leaves the
        breaker Open iff it was Open already or `total ≥ minRequests ∧ fail/total ≥ rate` -/
def ClauseOpen (cf : Conf) (s0 : FSys) : Prop :=
  ∀ s tid o s' tok t, FReach cf s0 s → s.pcs[tid]? = some (.recEval tok t) → fstep cf s (.thr tid o) = some s' →
    (s'.b.state = .opened ↔ (s.b.state = .opened ∨ (enough cf t = true ∧ tripped cf t = true)))

/-- (4) a caller whose locked check finds `Open ∧ now < openUntil` is rejected and changes nothing -/
def ClauseReject (cf : Conf) (s0 : FSys) : Prop :=
  ∀ s tid o s', FReach cf s0 s → s.pcs[tid]? = some .acqOpen → s.b.state = .opened → s.now < s.b.openUntil →
    fstep cf s (.thr tid o) = some s' → s'.b = s.b ∧ s'.pcs[tid]? = some (.done false)

/-- (5) a HalfOpen breaker is closed only by a `record` whose window had enough samples below the
        threshold (the thread is at `recToClosed`) -/
def ClauseClose (cf : Conf) (s0 : FSys) : Prop :=
  ∀ s l s', FReach cf s0 s → fstep cf s l = some s' → s.b.state = .halfOpen → s'.b.state = .closed →
    ∃ tid o tok, l = .thr tid o ∧ s.pcs[tid]? = some (.recToClosed tok)

def C47_full : Prop :=
  ∀ (cf : Conf) (t0 : Int) (n : Nat), ConfOk cf →
    ClauseEdges cf (FSys.new cf t0 n) ∧ ClauseProbes cf (FSys.new cf t0 n) ∧
    ClauseOpen cf (FSys.new cf t0 n) ∧ ClauseReject cf (FSys.new cf t0 n) ∧ ClauseClose cf (FSys.new cf t0 n)

theorem legal_refl (now : Int) (b : Br) : LegalEdge now b b := Or.inl ⟨rfl, fun _ => rfl⟩

theorem legal_same (now : Int) (b b' : Br) (h1 : b'.state = b.state) (h2 : b'.openUntil = b.openUntil) :
    LegalEdge now b b' := Or.inl ⟨h1, fun _ => h2⟩

theorem legal_toOpen (cf : Conf) (now : Int) (b : Br) : LegalEdge now b (transitionTo cf now .opened b) := by
  unfold transitionTo
  cases hs : b.state
  · exact .inr (.inl ⟨hs, rfl⟩)
  · exact legal_refl now b
  · exact .inr (.inr (.inl ⟨hs, rfl⟩))

theorem legal_openToHalfOpen (now : Int) (b : Br) : LegalEdge now b (openToHalfOpen now b).2 := by
  by_cases hs : b.state = .opened
  · by_cases hlt : now < b.openUntil
    · rw [openToHalfOpen_early hs hlt]; exact legal_refl now b
    · rw [openToHalfOpen_late hs hlt]; exact .inr (.inr (.inr (.inr ⟨hs, rfl, Int.not_lt.1 hlt⟩)))
  · rw [openToHalfOpen_of_ne hs]; exact legal_refl now b

theorem legal_halfOpenToClosed (now : Int) (b : Br) : LegalEdge now b (halfOpenToClosed now b) := by
  unfold halfOpenToClosed
  split
  · exact legal_refl now b
  · exact .inr (.inr (.inr (.inl ⟨Decidable.of_not_not ‹_›, rfl⟩)))

/-- every atomic step of every thread is a legal edge (no reachability assumption needed) -/
theorem pcStep_legal (cf : Conf) (now : Int) (b b' : Br) (o : Outcome) (pc pc' : Pc)
    (h : pcStep cf now b o pc = some (b', pc')) : LegalEdge now b b' := by
  rcases (pcStep_cases h).1 with ⟨e1, e2⟩ | rfl | rfl | ⟨_, _, rfl⟩
  · exact legal_same now b b' e1 e2
  · exact legal_openToHalfOpen now b
  · exact legal_toOpen cf now b
  · exact legal_halfOpenToClosed now b

/-! Clauses (1), (3), (4), (5) are facts about ONE step from ANY configuration; only (2) needs reachability. -/

theorem fstep_legal {cf : Conf} {s s' : FSys} {l : FLabel} (hs : fstep cf s l = some s') : LegalEdge s.now s.b s'.b := by
  obtain ⟨d, -, rfl⟩ | ⟨tid, o, pc, b', pc', -, -, hst, rfl⟩ := fstep_cases hs
  · exact legal_refl _ _
  · exact pcStep_legal cf s.now s.b b' o pc pc' hst

theorem fstep_recEval {cf : Conf} {s s' : FSys} {tid : Nat} {o : Outcome} {tok : Bool} {t : Nat × Nat}
    (hp : s.pcs[tid]? = some (.recEval tok t)) (hs : fstep cf s (.thr tid o) = some s') :
    s'.b.state = .opened ↔ (s.b.state = .opened ∨ (enough cf t = true ∧ tripped cf t = true)) := by
  simp only [fstep, hp, pcStep] at hs
  cases he : enough cf t with
  | false =>
    simp only [he, Bool.not_false, if_true, Option.some.injEq] at hs
    subst hs
    simp
  | true =>
    cases ht : tripped cf t with
    | false =>
      simp only [he, ht, Bool.not_true, Bool.false_eq_true, if_false, Option.some.injEq] at hs
      subst hs
      simp
    | true =>
      simp only [he, ht, Bool.not_true, Bool.false_eq_true, if_false, if_true, Option.some.injEq] at hs
      subst hs
      simp [transitionTo_state]

theorem fstep_reject {cf : Conf} {s s' : FSys} {tid : Nat} {o : Outcome} (hp : s.pcs[tid]? = some .acqOpen)
    (hst : s.b.state = .opened) (hlt : s.now < s.b.openUntil) (hs : fstep cf s (.thr tid o) = some s') :
    s'.b = s.b ∧ s'.pcs[tid]? = some (.done false) := by
  simp only [fstep, hp, pcStep, openToHalfOpen_early hst hlt, Option.some.injEq] at hs
  subst hs
  exact ⟨rfl, List.getElem?_set_self (List.getElem?_eq_some_iff.1 hp).1⟩

theorem fstep_close {cf : Conf} {s s' : FSys} {l : FLabel} (hs : fstep cf s l = some s') (hho : s.b.state = .halfOpen)
    (hcl : s'.b.state = .closed) : ∃ tid o tok, l = .thr tid o ∧ s.pcs[tid]? = some (.recToClosed tok) := by
  obtain ⟨d, -, rfl⟩ | ⟨tid, o, pc, b', pc', rfl, hp, hst, rfl⟩ := fstep_cases hs
  · rw [hho] at hcl; cases hcl
  · have hcl : b'.state = .closed := hcl
    -- of the three transition functions only `halfOpenToClosed()` can leave the breaker Closed
    rcases (pcStep_cases hst).1 with ⟨e1, _⟩ | rfl | rfl | ⟨tok, rfl, _⟩
    · rw [e1, hho] at hcl; cases hcl
    · rw [openToHalfOpen_of_ne (by rw [hho]; decide), hho] at hcl; cases hcl
    · rw [transitionTo_state] at hcl; cases hcl
    · exact ⟨tid, o, tok, rfl, hp⟩

theorem clauseClose_holds (cf : Conf) (s0 : FSys) : ClauseClose cf s0 := fun _ _ _ _ hs hho hcl => fstep_close hs hho hcl

/-- at the atomic level: any options, any number of threads, every schedule -/
theorem C47_holds : C47_full :=
  fun cf t0 n _ => ⟨fun _ _ _ _ hs => fstep_legal hs, semInv_reach cf t0 n, fun _ _ _ _ _ _ _ hp hs => fstep_recEval hp hs,
    fun _ _ _ _ _ hp hst hlt hs => fstep_reject hp hst hlt hs, clauseClose_holds cf _⟩

theorem frun_reach {cf : Conf} {s0 : FSys} {ls : List FLabel} {s : FSys} : FReach cf s0 s → FReach cf s0 (frun cf s ls) :=
  Run.inv' (run := frun cf) (step := fun s l => (fstep cf s l).getD s) (fun _ => rfl) (fun _ _ _ => rfl)
    (fun s l h => by
      cases hs : fstep cf s l with
      | none => exact h
      | some s' => exact FReach.step l h hs) ls s

/-- rate 1/1, minRequests 1, openTimeout 1000, one bucket, one probe -/
def wcf : Conf := ⟨1, 1, 1, 1000, 100000, 1, 1⟩

/-- a stale `openToHalfOpen()` (the schedule of finding C47-F1): thread 0 opens the breaker
    (openUntil 1000); clock 1005; thread 1 reads Open and is preempted; thread 2 half-opens,
    probes, fails, re-opens (openUntil 2005); thread 1 resumes -/
def wprefix : List FLabel :=
  [.thr 0 .fail, .thr 0 .fail, .thr 0 .fail, .thr 0 .fail, .tick 1005,
   .thr 1 .ok,
   .thr 2 .fail, .thr 2 .fail, .thr 2 .fail, .thr 2 .fail, .thr 2 .fail, .thr 2 .fail]

def wstate : FSys := frun wcf (FSys.new wcf 0 3) wprefix

-- by evaluation: thread 1's `openToHalfOpen()` re-validates and rejects; the breaker stays Open until 2005
example : (wstate.b.state, wstate.now, wstate.b.openUntil, wstate.pcs[1]?) = (.opened, 1005, 2005, some .acqOpen) := by decide
example : ((frun wcf wstate [.thr 1 .ok]).b.state, (frun wcf wstate [.thr 1 .ok]).pcs[1]?) = (.opened, some (.done false)) := by decide

/-- STATED LIMIT (residual of the unlocked admission read): there is a reachable configuration in
    which a thread is admitted with a half-open token while the breaker is Open and the open timeout
    has NOT passed: it read HalfOpen before a concurrent probe failed and re-opened the breaker. -/
theorem C47_residual :
    ∃ (s s' : FSys) (tid : Nat), FReach wcf (FSys.new wcf 0 3) s ∧ fstep wcf s (.thr tid .ok) = some s' ∧
      s.b.state = .opened ∧ s.now < s.b.openUntil ∧ s'.pcs[tid]? = some (.running true) := by
  -- thread 0 opens; clock 1005; thread 2 half-opens and starts probing; thread 1 reads HalfOpen;
  -- thread 2 fails, re-opens and releases; thread 1 takes the token
  let pre : List FLabel :=
    [.thr 0 .fail, .thr 0 .fail, .thr 0 .fail, .thr 0 .fail, .tick 1005,
     .thr 2 .fail, .thr 2 .fail, .thr 2 .fail,
     .thr 1 .ok,
     .thr 2 .fail, .thr 2 .fail, .thr 2 .fail]
  exact ⟨frun wcf (FSys.new wcf 0 3) pre, frun wcf (FSys.new wcf 0 3) (pre ++ [.thr 1 .ok]), 1,
    frun_reach FReach.init, by decide⟩

/-- run one thread alone for `fuel` atomic steps (clock fixed), stopping early when it has no step -/
def runAlone (cf : Conf) (now : Int) (o : Outcome) : Nat → Br × Pc → Br × Pc
  | 0, r => r
  | n + 1, r =>
    match pcStep cf now r.1 o r.2 with
    | none => r
    | some r' => runAlone cf now o n r'

/-- the acquire phase stops at `running` or `done false` -/
def stopAcq (cf : Conf) (now : Int) (o : Outcome) : Nat → Br × Pc → Br × Pc
  | 0, r => r
  | n + 1, r =>
    match r.2 with
    | .running _ => r
    | .done _ => r
    | _ =>
      match pcStep cf now r.1 o r.2 with
      | none => r
      | some r' => stopAcq cf now o n r'

section
variable (cf : Conf) (now : Int) (o : Outcome) (n : Nat)

theorem stopAcq_stop (b : Br) (pc : Pc) (h : match pc with | .running _ | .done _ => True | _ => False) :
    stopAcq cf now o n (b, pc) = (b, pc) := by
  cases pc with
  | running _ | done _ => cases n <;> rfl
  | _ => exact h.elim

theorem stopAcq_acqSem (b : Br) :
    stopAcq cf now o (n + 1) (b, .acqSem) =
      ((trySem cf b).2, if (trySem cf b).1.1 then .running (trySem cf b).1.2 else .done false) := by
  by_cases hc : b.sem < cf.hmax
  · rw [trySem_of_lt hc]; simp only [stopAcq, pcStep, trySem_of_lt hc, if_true, stopAcq_stop cf now o n _ (.running true) trivial]
  · rw [trySem_of_ge hc]; simp only [stopAcq, pcStep, trySem_of_ge hc, Bool.false_eq_true, if_false, stopAcq_stop cf now o n _ (.done false) trivial]

/-- any fuel ≥ 3 runs the acquire phase to its end -/
theorem stopAcq_idle (b : Br) :
    stopAcq cf now o (n + 3) (b, .idle) =
      ((tryAcquire cf now b).2, if (tryAcquire cf now b).1.1 then .running (tryAcquire cf now b).1.2 else .done false) := by
  cases hs : b.state with
  | closed => rw [tryAcquire_closed hs]; simp only [stopAcq, pcStep, hs, if_true]
  | halfOpen => rw [tryAcquire_halfOpen hs, ← stopAcq_acqSem cf now o (n + 1)]; simp only [stopAcq, pcStep, hs]
  | opened =>
    by_cases hlt : now < b.openUntil
    · rw [tryAcquire_open_early hs hlt]
      simp only [stopAcq, pcStep, hs, openToHalfOpen_early hs hlt, Bool.false_eq_true, if_false]
    · rw [tryAcquire_open_late hs hlt, ← stopAcq_acqSem cf now o n]
      simp only [stopAcq, pcStep, hs, openToHalfOpen_late hs hlt]

end

/-- `tryAcquire` = the atomic acquire steps of one undisturbed thread (≤ 3 of them) -/
theorem atomic_acquire_eq (cf : Conf) (now : Int) (o : Outcome) (b : Br) :
    stopAcq cf now o 3 (b, .idle) =
      ((tryAcquire cf now b).2, if (tryAcquire cf now b).1.1 then .running (tryAcquire cf now b).1.2 else .done false) :=
  stopAcq_idle cf now o 0 b

section
variable (cf : Conf) (now : Int) (o : Outcome) (n : Nat) (tok : Bool)

theorem runAlone_rel (b : Br) :
    runAlone cf now o (n + 2) (b, .rel tok) = (if tok then release b else b, .done true) := rfl

theorem runAlone_recEval (t : Nat × Nat) (b : Br) :
    runAlone cf now o (n + 4) (b, .recEval tok t) =
      (if tok then release (recordDecide cf now b t) else recordDecide cf now b t, .done true) := by
  cases he : enough cf t
  · rw [recordDecide_few he]; simp only [runAlone, pcStep, he, Bool.not_false, if_true]
  · rw [recordDecide_enough he]
    cases ht : tripped cf t <;> simp only [runAlone, pcStep, he, ht, Bool.not_true, Bool.false_eq_true, if_false, if_true]

/-- any fuel ≥ 5 runs a thread from `running` to `done` (4 steps; the spare unit lets `runAlone_rel` close by `rfl`) -/
theorem runAlone_running (b : Br) :
    runAlone cf now o (n + 5) (b, .running tok) = (finish cf now o tok b, .done true) := by
  cases o with
  | cancel => exact runAlone_rel cf now .cancel (n + 2) tok b
  | ok => exact runAlone_recEval cf now .ok n tok _ _
  | fail => exact runAlone_recEval cf now .fail n tok _ _

end

/-- `finish` (= record, unless cancelled, then release) = the atomic steps of one undisturbed
    thread from `running` to `done` (≤ 4 of them) -/
theorem atomic_finish_eq (cf : Conf) (now : Int) (o : Outcome) (tok : Bool) (b : Br) :
    runAlone cf now o 5 (b, .running tok) = (finish cf now o tok b, .done true) :=
  runAlone_running cf now o 0 tok b

def toSOp : COp → Option SOp
  | .begin id => some (.begin id)
  | .finish id o => some (.finish id (match o with | .ok => some true | .fail => some false | .cancel => none))
  | .precancelled => some .precancelled
  | .metrics => some .metrics
  | .tick d => some (.tick d)
  | .staleToHalfOpen => none       -- not events of the call-level spec: they exist only to replay the
  | .staleToClosed => none         -- atomic-level race through the public harness

def toSOut : COut → SOut
  | .unit => .unit
  | .admitted t => .admitted t
  | .rejected => .rejected
  | .totals s f => .totals s f
  | .unknownCaller => .unknownCaller

structure SysRel (cf : Conf) (s : Sys) (ss : SSys) : Prop where
  now : s.now = ss.now
  b : BRel cf s.b ss.b
  infl : s.inflight = ss.inflight

/-- one step of the call-level model = one step of the spec machine, same answer -/
theorem cstep_refines (cf : Conf) (hok : ConfOk cf) (s : Sys) (ss : SSys) (h : SysRel cf s ss) (op : COp) (sop : SOp)
    (hop : toSOp op = some sop) :
    SysRel cf (cstep cf s op).1 (sstep (toSConf cf) ss sop).1 ∧
    toSOut (cstep cf s op).2 = (sstep (toSConf cf) ss sop).2 := by
  obtain ⟨now, sb, infl⟩ := ss
  obtain ⟨rfl, hb, rfl⟩ : s.now = now ∧ BRel cf s.b sb ∧ s.inflight = infl := ⟨h.now, h.b, h.infl⟩
  cases op <;> cases hop
  case begin id =>
    obtain ⟨h1, h2⟩ := tryAcquire_sim cf s.now s.b sb hb
    simp only [cstep, sstep, ← h1]
    cases s.inflight.any (fun c => c.1 == id)
    · cases (tryAcquire cf s.now s.b).1.1 <;> exact ⟨⟨rfl, h2, rfl⟩, rfl⟩
    · exact ⟨h, rfl⟩
  case finish id o =>
    simp only [cstep, sstep]
    cases s.inflight.find? (fun c => c.1 == id) with
    | none => exact ⟨h, rfl⟩
    | some c => exact ⟨⟨rfl, finish_sim cf hok.2.2.1 s.now o c.2 s.b sb hb, rfl⟩, rfl⟩
  case precancelled => exact ⟨h, rfl⟩
  case metrics =>
    obtain ⟨h1, h2⟩ := metrics_sim cf hok.2.2.1 s.now s.b sb hb
    exact ⟨⟨rfl, h1, rfl⟩, by simp only [cstep, sstep, toSOut, h2]⟩
  case tick d => exact ⟨⟨rfl, hb, rfl⟩, rfl⟩

/-- any sequence of begin/finish (callers overlapping arbitrarily), pre-cancelled
    calls, Metrics() and clock advances gives, answer by answer, what the spec machine gives -/
theorem crun_refines (cf : Conf) (hok : ConfOk cf) (ops : List COp) (sops : List SOp)
    (hops : ops.mapM toSOp = some sops) : ∀ (s : Sys) (ss : SSys), SysRel cf s ss →
    (crun cf s ops).2.map toSOut = (srun (toSConf cf) ss sops).2 ∧
    SysRel cf (crun cf s ops).1 (srun (toSConf cf) ss sops).1 := by
  induction ops generalizing sops with
  | nil => cases hops; exact fun s ss h => ⟨rfl, h⟩
  | cons op ops ih =>
    intro s ss h
    rw [List.mapM_cons] at hops
    obtain ⟨sop, h1, hops⟩ := Option.bind_eq_some_iff.1 hops
    obtain ⟨srest, h2, hops⟩ := Option.bind_eq_some_iff.1 hops
    cases hops
    obtain ⟨hr, ho⟩ := cstep_refines cf hok s ss h op sop h1
    obtain ⟨i1, i2⟩ := ih srest h2 _ _ hr
    exact ⟨by rw [crun, srun, List.map_cons, ho, i1], i2⟩

theorem sysRel_new (cf : Conf) (h : 1 ≤ cf.num) (t0 : Int) : SysRel cf (Sys.new cf t0) (SSys.new (toSConf cf) t0) :=
  ⟨rfl, brel_new cf h t0, rfl⟩

def SLegal (now : Int) (b b' : SBr) : Prop :=
  b'.state = b.state ∨
  (b.state = .closed ∧ b'.state = .opened) ∨
  (b.state = .halfOpen ∧ b'.state = .opened) ∨
  (b.state = .halfOpen ∧ b'.state = .closed) ∨
  (b.state = .opened ∧ b'.state = .halfOpen ∧ b.openUntil ≤ now)

theorem acquire_legal (cf : SConf) (now : Int) (b : SBr) : SLegal now b (b.acquire cf now).2 := by
  cases hs : b.state with
  | closed => rw [acquire_closed hs]; exact .inl rfl
  | halfOpen => rw [acquire_halfOpen hs]; exact .inl (tryProbe_state cf b)
  | opened =>
    by_cases hlt : now < b.openUntil
    · rw [acquire_rejects_while_open hs hlt]; exact .inl rfl
    · rw [acquire_open_late hs hlt]
      exact .inr (.inr (.inr (.inr ⟨hs, (tryProbe_state cf _).trans (halfOpened_state now b), Int.not_lt.1 hlt⟩)))

/-- an observed outcome opens the breaker exactly when the post-advance window has enough samples
    and the failure rate reaches the threshold; it closes a HalfOpen breaker exactly when there are
    enough samples below the threshold -/
theorem observe_state (cf : SConf) (now : Int) (success : Bool) (b : SBr) :
    let w := { (b.win.advance cf now) with q := bump success (b.win.advance cf now).q : SWin }
    let s := sumS w.q
    let f := sumF w.q
    ((b.observe cf now success).state = .opened ↔
        (b.state = .opened ∨ (cf.minReq ≤ s + f ∧ cf.p * (s + f) ≤ f * cf.q))) ∧
    ((b.observe cf now success).state = .closed ↔
        ((b.state = .closed ∧ ¬ (cf.minReq ≤ s + f ∧ cf.p * (s + f) ≤ f * cf.q)) ∨
         (b.state = .halfOpen ∧ cf.minReq ≤ s + f ∧ ¬ cf.p * (s + f) ≤ f * cf.q))) := by
  simp only [SBr.observe, rateReached]
  generalize sumS (bump success (b.win.advance cf now).q) = s
  generalize sumF (bump success (b.win.advance cf now).q) = f
  by_cases h1 : s + f < cf.minReq
  · have : ¬ cf.minReq ≤ s + f := by omega
    simp [h1, this]
  · have h1' : cf.minReq ≤ s + f := by omega
    simp only [h1, if_false, h1', true_and]
    by_cases h2 : cf.p * (s + f) ≤ f * cf.q
    · simp only [h2, decide_true, if_true]
      cases hs : b.state <;> simp
    · simp only [h2, decide_false, Bool.false_eq_true, if_false]
      cases hs : b.state <;> simp

theorem observe_legal (cf : SConf) (now : Int) (success : Bool) (b : SBr) : SLegal now b (b.observe cf now success) := by
  obtain ⟨h1, h2⟩ := observe_state cf now success b
  generalize b.observe cf now success = b' at h1 h2
  unfold SLegal
  cases hs : b.state <;> cases hs' : b'.state <;>
    simp only [hs, hs', reduceCtorEq, false_and, true_and, false_or, or_false, true_or, or_true, and_true, and_false,
      true_iff, false_iff] at h1 h2 ⊢
  -- what is left is not an edge: from Closed the result is Opened under the window condition (h1) and Closed otherwise (h2);
  -- an Open breaker stays Open (h1)
  case closed.halfOpen => exact (h2 h1).elim
  case opened.halfOpen => exact absurd trivial h1

theorem finish_legal (cf : SConf) (now : Int) (res : Option Bool) (probe : Bool) (b : SBr) :
    SLegal now b (b.finish cf now res probe) := by
  unfold SBr.finish
  cases res with
  | none => cases probe <;> exact .inl rfl
  | some s => cases probe <;> exact observe_legal cf now s b

/-- probes in flight never exceed `hmax`, and admission outside Closed always takes a probe slot -/
theorem acquire_probes (cf : SConf) (now : Int) (b : SBr) (h : b.probes ≤ cf.hmax) :
    (b.acquire cf now).2.probes ≤ cf.hmax ∧
    ((b.acquire cf now).1.1 = true → (b.acquire cf now).1.2 = false → b.state = .closed) := by
  cases hs : b.state with
  | closed => rw [acquire_closed hs]; exact ⟨h, fun _ _ => rfl⟩
  | halfOpen => rw [acquire_halfOpen hs]; exact ⟨tryProbe_probes cf b h, fun h1 h2 => absurd ((tryProbe_fst cf b).symm.trans h1) (h2 ▸ nofun)⟩
  | opened =>
    by_cases hlt : now < b.openUntil
    · rw [acquire_rejects_while_open hs hlt]; exact ⟨h, nofun⟩
    · rw [acquire_open_late hs hlt]; exact ⟨tryProbe_probes cf _ ((halfOpened_probes now b).symm ▸ h), fun h1 h2 => absurd ((tryProbe_fst cf _).symm.trans h1) (h2 ▸ nofun)⟩

/-- Call level (each `tryAcquire` and each `record`+`release` indivisible — which is what one
    undisturbed thread's atomic steps amount to, `atomic_acquire_eq` / `atomic_finish_eq` — callers
    overlapping in any way, any clock behaviour, any history length): the model of
    breaker.go/bucket.go refines the spec machine of Spec/C47 answer by answer (ring buffer =
    rolling queue, semaphore = probes in flight); and that spec machine moves only along the
    textbook edges, rejects while Open before `openUntil`, and keeps probes ≤ halfOpenMaxCalls
    (`observe_state` gives the exact open/close conditions on the post-advance window). -/
theorem C47_call_level :
    (∀ (cf : Conf), ConfOk cf → ∀ (t0 : Int) (ops : List COp) (sops : List SOp), ops.mapM toSOp = some sops →
      (crun cf (Sys.new cf t0) ops).2.map toSOut = (srun (toSConf cf) (SSys.new (toSConf cf) t0) sops).2) ∧
    (∀ (cf : SConf) (now : Int) (b : SBr),
      SLegal now b (b.acquire cf now).2 ∧
      (b.state = .opened → now < b.openUntil → b.acquire cf now = ((false, false), b)) ∧
      (b.probes ≤ cf.hmax → (b.acquire cf now).2.probes ≤ cf.hmax)) :=
  ⟨fun cf hok t0 ops sops h => (crun_refines cf hok ops sops h _ _ (sysRel_new cf hok.2.2.2.1 t0)).1,
   fun cf now b => ⟨acquire_legal cf now b, acquire_rejects_while_open, fun h => (acquire_probes cf now b h).1⟩⟩

-- non-vacuity: a history with overlapping callers that opens, half-opens and closes the breaker (by evaluation)
example : ([.begin 1, .begin 2, .finish 1 .fail, .finish 2 .fail, .begin 3, .tick 10, .begin 4, .finish 4 .ok] : List COp).mapM toSOp
    = some [.begin 1, .begin 2, .finish 1 (some false), .finish 2 (some false), .begin 3, .tick 10, .begin 4, .finish 4 (some true)] := by decide
example : ((crun ⟨1, 2, 2, 10, 5, 2, 1⟩ (Sys.new ⟨1, 2, 2, 10, 5, 2, 1⟩ 0)
    [.begin 1, .begin 2, .finish 1 .fail, .finish 2 .fail, .begin 3, .tick 10, .begin 4, .finish 4 .ok]).2)
    = [.admitted false, .admitted false, .unit, .unit, .rejected, .unit, .admitted true, .unit] := by decide

end GoaktVerif.C47
