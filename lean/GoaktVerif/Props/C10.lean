/-
C10 — Each watcher receives exactly one Terminated for a watched actor.

"When a watched local actor terminates by any path, every watcher that is still running and did not
 unwatch it receives exactly one Terminated message naming that actor; a watcher that unwatched before
 termination receives none."

Every termination path (Shutdown, PoisonPill, parent Stop, Kill, supervisor stop, passivation, restart's
shutdown phase, system stop) reaches `doStop`, whose `freeWatchers` is the only sender of `Terminated(p)` to
local watchers.  The theorems are over the tree model of C09 (`Model/C09.lean`, tied to pid_tree.go by the
differential) plus `Model/C10.lean`: `freeWatchers` with an arbitrary environment (other goroutines'
Watch / UnWatch / start / stop steps) interleaved before the snapshot and between any two loop iterations.
Local watchers only; remote watchers are told by best-effort RemoteTell and are outside the property.
-/
import GoaktVerif.Lemmas.C10

namespace GoaktVerif.C10
open GoaktVerif.Model.C09 GoaktVerif.Model.C10

/-- The full statement.  For every state `s` whose tree is consistent, every actor `p`, every environment
    burst `pre` before the snapshot and bursts `envs` during the walk, and every actor `w`:
    the number of `Terminated(p)` delivered to `w` by this termination is
    1 if `w` is in `watchers(p)` at the instant of the snapshot and is found `IsRunning()` at its turn,
    0 otherwise (in particular 0 for a watcher whose UnWatch was linearised before the snapshot) —
    never 2, whatever the other goroutines do in between. -/
def C10_full : Prop :=
  ∀ (s : Sys) (p : Nat) (pre : List Env) (envs : List (List Env)) (w : Nat),
    WF (applyEnvs s pre).tree → WatchersNodup (applyEnvs s pre).tree →
    terminatedCount (freeWatchersI s p pre envs).log w p
      = terminatedCount s.log w p
        + hit (runningAtTurn p w (((applyEnvs s pre).tree.watchers p).getD []) envs (applyEnvs s pre))

theorem C10_holds : C10_full := by
  intro s p pre envs w hwf hnd
  unfold freeWatchersI
  simp only
  cases hs : (applyEnvs s pre).tree.watchers p with
  | none => simp [runningAtTurn, hit]
  | some ws =>
    simp only [Option.getD_some]
    rw [notifyAll_count p w ws envs _ (watchers_snapshot_nodup _ p ws hwf hnd hs)]
    simp

/-- the hypotheses hold in every reachable tree (any op sequence of pid_tree.go's writers) -/
theorem hyps_reachable (ops : List Op) : WF (Tree.empty.run ops) ∧ WatchersNodup (Tree.empty.run ops) :=
  ⟨wf_run ops _ wf_empty, wn_run ops _ wn_empty⟩

/-- a watcher that is not in the snapshot gets nothing (the count is unchanged) -/
theorem not_in_snapshot_gets_none (s : Sys) (p : Nat) (pre : List Env) (envs : List (List Env)) (w : Nat)
    (hwf : WF (applyEnvs s pre).tree) (hnd : WatchersNodup (applyEnvs s pre).tree)
    (hout : w ∉ (((applyEnvs s pre).tree.watchers p).getD []).map (·.id)) :
    terminatedCount (freeWatchersI s p pre envs).log w p = terminatedCount s.log w p := by
  rw [C10_holds s p pre envs w hwf hnd, runningAtTurn_none _ _ _ _ _ hout]
  rfl

/-- right after `w.UnWatch(p)` the tree's `watchers(p)` does not contain `w` -/
theorem unwatch_not_in_watchers (t : Tree) (p w : Nat) (hwf : WF t) (hnd : WatchersNodup t) :
    w ∉ (((t.removeWatcher (mkPid p) (mkPid w)).watchers p).getD []).map (·.id) := by
  have hwf' := wf_removeWatcher t (mkPid p) (mkPid w) hwf
  have hnd' := wn_removeWatcher t (mkPid p) (mkPid w) hnd
  have hdel : look Node.watchers (t.removeWatcher (mkPid p) (mkPid w)).pids p w = none := by
    unfold Tree.removeWatcher
    simp only [modNode_pids]
    rw [look_amod_adel (Node.delWatcher_watchers _)]
    exact if_pos ⟨rfl, rfl⟩
  generalize t.removeWatcher (mkPid p) (mkPid w) = t' at hwf' hnd' hdel
  cases hs : t'.watchers p with
  | none => exact List.not_mem_nil
  | some ws =>
    obtain ⟨n, hp, e⟩ := snapshot_ids t' p ws hwf' hnd' hs
    rw [Option.getD_some, e, ← aget_isSome_iff, ← look_of_aget hp, hdel]
    exact Bool.false_ne_true

/-- a watcher whose `UnWatch(p)` is the last step linearised before the snapshot receives no `Terminated(p)` -/
theorem unwatched_before_gets_none (s : Sys) (p : Nat) (pre : List Env) (envs : List (List Env)) (w : Nat)
    (hwf : WF (applyEnvs s pre).tree) (hnd : WatchersNodup (applyEnvs s pre).tree) :
    terminatedCount (freeWatchersI s p (pre ++ [Env.unwatch w p]) envs).log w p = terminatedCount s.log w p := by
  have happ : applyEnvs s (pre ++ [Env.unwatch w p]) = (applyEnvs s pre).unwatch w p := by
    simp [applyEnvs, List.foldl_append, Env.apply]
  apply not_in_snapshot_gets_none
  · rw [happ]; exact wf_removeWatcher _ _ _ hwf
  · rw [happ]; exact wn_removeWatcher _ _ _ hnd
  · rw [happ]; exact unwatch_not_in_watchers _ p w hwf hnd

/-- never a duplicate: one termination adds at most one `Terminated(p)` per watcher -/
theorem at_most_one (s : Sys) (p : Nat) (pre : List Env) (envs : List (List Env)) (w : Nat)
    (hwf : WF (applyEnvs s pre).tree) (hnd : WatchersNodup (applyEnvs s pre).tree) :
    terminatedCount (freeWatchersI s p pre envs).log w p ≤ terminatedCount s.log w p + 1 := by
  rw [C10_holds s p pre envs w hwf hnd]
  have : ∀ o, hit o ≤ 1 := by
    intro o
    match o with
    | some true => exact Nat.le_refl 1
    | some false => exact Nat.zero_le 1
    | none => exact Nat.zero_le 1
  exact Nat.add_le_add_left (this _) _

/-- `freeWatchers` runs once per incarnation: `Shutdown` of an actor whose running bit is clear
    (it already stopped) returns at once and changes nothing -/
theorem shutdown_offline_noop (fuel : Nat) (s : Sys) (p : Nat) (h : s.running.contains p = false) :
    s.shutdown (fuel + 1) p = some s := by
  unfold Sys.shutdown
  rw [h]
  rfl

/-! non-vacuity: user guardian 3, death watch 4, watched actor 10, watchers 11 and 12; 12 unwatches just
    before the snapshot, 11 gets exactly one, 12 none, the death watch one -/
def exSys : Sys :=
  let t := Tree.empty.run [.addRoot ⟨3, 3, 0⟩, .addNode ⟨3, 3, 0⟩ ⟨4, 4, 0⟩, .addNode ⟨3, 3, 0⟩ ⟨10, 10, 0⟩,
    .addNode ⟨3, 3, 0⟩ ⟨11, 11, 0⟩, .addNode ⟨3, 3, 0⟩ ⟨12, 12, 0⟩, .addWatcher ⟨10, 10, 0⟩ ⟨4, 4, 0⟩,
    .addWatcher ⟨10, 10, 0⟩ ⟨11, 11, 0⟩, .addWatcher ⟨10, 10, 0⟩ ⟨12, 12, 0⟩]
  { tree := t, running := [3, 4, 10, 11, 12], suspended := [], stopping := [], log := [] }

example : let s' := freeWatchersI exSys 10 [Env.unwatch 12 10] [[], [Env.watch ⟨12, 12, 0⟩ ⟨10, 10, 0⟩]]
    (terminatedCount s'.log 11 10, terminatedCount s'.log 12 10, terminatedCount s'.log 4 10) = (1, 0, 1) := by
  decide

example : WF exSys.tree ∧ WatchersNodup exSys.tree := hyps_reachable _

end GoaktVerif.C10
