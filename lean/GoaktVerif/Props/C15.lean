import GoaktVerif.Model.C15
import GoaktVerif.Model.C15Grain
import GoaktVerif.Spec.C15
import GoaktVerif.Lemmas.C15NoLoss

/-
C15 — "Every Ask (PID.Ask, the package-level Ask, SendSync, ReceiveContext.Ask, BatchAsk) returns either the
reply the target gave to that particular message or an error. A reply is never delivered to a different Ask call,
and a reply the target gives before the caller's deadline is not lost."

Model: `Model.C15` (small-step; receive-context pool, response-channel pool, mailbox recycling of the previous
sentinel, caller and responder protocols; any number of callers, any schedule, deadlines as explicit steps).
-/
namespace GoaktVerif.C15
open GoaktVerif.Model.C15

/-- every value received by an Ask was sent for that Ask (requests carry distinct ids, replies carry the id of
the request they answer) -/
def ownReply (c : Cfg) : Bool :=
  c.threads.all fun t => t.hist.all fun (op, r) =>
    match op, r with
    | .ask k, .reply v => v == k
    | _, _ => true

def noLoss (c : Cfg) : Bool := noLossLog c.log

def askIds (progs : List (List Op)) : List ReqId :=
  progs.flatten.filterMap fun | .ask k => some k | .handle => none

/-- well-formed workloads: request ids are distinct, and the mailbox has a single consumer (the dispatcher runs
one worker at a time on an actor — property C01) -/
def wf (progs : List (List Op)) : Bool :=
  decide (askIds progs).Nodup && decide ((progs.filter (·.contains .handle)).length ≤ 1)

/-- the full property for a variant of the protocol -/
def Holds (mode : Mode) : Prop :=
  ∀ progs, wf progs = true → ∀ acts : List Act,
    ownReply (runActs (init mode progs) acts) = true ∧ noLoss (runActs (init mode progs) acts) = true

/-- the full property, for the code as it is (since fix d1a16fa: `Mode.fixed`; both pools in use) -/
def C15_full : Prop := Holds .fixed

/-! ### the code before fix d1a16fa, refutation (a): an in-time reply is dropped — replayed on the real pre-fix code
(seeded/C15-revert-fix; the schedule is kept in corpus/C15 as a passing case) -/

def lossProgs : List (List Op) := [[.ask 1], [.ask 2, .ask 3, .ask 4], [.handle, .handle, .handle, .handle]]

/-- Ask(1) receives its reply but has not yet executed its final `responseClosed.Store(true)`.  Its context is
recycled by the next `Dequeue`, handed to Ask(4) and rebuilt (`responseClosed := false`).  Then the late store of
Ask(1) closes it, `Response` for request 4 loses its CAS and returns without sending, and Ask(4) times out. -/
def lossActs : List Act :=
  [.run 0, .run 1, .run 2, .run 2, .run 2, .run 0, .run 2, .run 2, .run 2, .run 1, .run 1, .run 1,
   .run 2, .run 2, .run 2, .run 1, .run 1, .run 1, .run 0, .run 2, .run 2, .timeout 1, .run 1, .run 1]

theorem C15_loss_witness :
    wf lossProgs = true ∧ noLoss (runActs (init .asIs lossProgs) lossActs) = false ∧
    (runActs (init .asIs lossProgs) lossActs).threads.map (·.hist.reverse) =
      [[(.ask 1, .reply 1)], [(.ask 2, .reply 2), (.ask 3, .reply 3), (.ask 4, .timeout)],
       [(.handle, .handled 1), (.handle, .handled 2), (.handle, .handled 3), (.handle, .handled 4)]] := by decide +kernel

/-! ### refutation (b): a reply is delivered to a different Ask — needs a preemption between the CAS and the
channel send inside `Response` (no instrumentable site there: proved on the model only) -/

def crossProgs : List (List Op) := [[.ask 1], [.ask 2], [.handle, .handle]]

/-- the responder wins the CAS for request 1 and is preempted; Ask(1) times out, closes, drains its (empty)
channel and pools it; Ask(2) takes that channel from the pool; the responder now sends reply 1 into it. -/
def crossActs : List Act :=
  [.run 0, .run 2, .run 2, .timeout 0, .run 0, .run 0, .run 1, .run 2, .run 1, .run 1]

theorem C15_cross_witness :
    wf crossProgs = true ∧ ownReply (runActs (init .asIs crossProgs) crossActs) = false ∧
    ((runActs (init .asIs crossProgs) crossActs).threads.map (·.hist.reverse)).take 2 =
      [[(.ask 1, .timeout)], [(.ask 2, .reply 1)]] := by decide +kernel

/-- the code as it was before fix d1a16fa (`Mode.asIs`) violates the property -/
theorem C15_asIs_refuted : ¬ Holds .asIs := by
  intro h
  have := (h lossProgs C15_loss_witness.1 lossActs).2
  rw [C15_loss_witness.2.1] at this
  cases this

/-- each clause fails on its own -/
theorem C15_asIs_refuted_ownReply :
    ¬ (∀ progs, wf progs = true → ∀ acts, ownReply (runActs (init .asIs progs) acts) = true) := by
  intro h
  have := h crossProgs C15_cross_witness.1 crossActs
  rw [C15_cross_witness.2.1] at this
  cases this

/-! ### the repaired protocol (`Mode.fixed`, fixes/C15-ask-no-late-store.diff): own reply, for every schedule

After its select the caller does not touch the receive context; the response channel is pooled only when the
reply has arrived.  Both pools stay in use.  Invariant `FInv` (Lemmas/C15Basic.lean): linear ownership of receive
contexts (pool / unbuilt caller / mailbox / sentinel), a pooled channel is empty and referenced by no pending
request, a buffered value carries the id of the request the channel was handed out for. -/

theorem ownReply_of_finv {c : Cfg} {own} (h : FInv c own) : ownReply c = true := by
  refine List.all_eq_true.mpr fun t ht => List.all_eq_true.mpr fun ⟨op, r⟩ hx => ?_
  obtain ⟨tid, hget⟩ := List.mem_iff_getElem?.mp ht
  cases op with
  | handle => rfl
  | ask k =>
    cases r with
    | reply v => exact beq_iff_eq.mpr ((h.thr tid t hget).2 k v hx)
    | _ => rfl

/-- Own reply needs the single-consumer half of `wf` only: request ids may repeat. -/
theorem ownReply_of_single_consumer (progs : List (List Op)) (h : (progs.filter hasH).length ≤ 1) (acts : List Act) :
    ownReply (runActs (init .fixed progs) acts) = true :=
  (finv_init progs h).elim fun _ h0 => (finv_runActs acts _ _ h0).elim fun _ h1 => ownReply_of_finv h1

theorem C15_fixed_ownReply :
    ∀ progs, wf progs = true → ∀ acts : List Act, ownReply (runActs (init .fixed progs) acts) = true := by
  intro progs hwf acts
  simp only [wf, Bool.and_eq_true, decide_eq_true_eq] at hwf
  exact ownReply_of_single_consumer progs hwf.2 acts

theorem askIds_eq (progs : List (List Op)) : askIds progs = progs.flatMap (·.filterMap askId) := by
  rw [askIds, List.filterMap_flatten, List.flatMap_def]
  rfl

/-- Both invariants hold, with one ghost map, at every configuration a well-formed workload can reach: `FInv`
(Lemmas/C15Basic.lean) and `NInv` (Lemmas/C15NoLoss.lean; its clause `noloss` is what `C15_fixed_noLoss` states). -/
theorem C15_fixed_invariants (progs : List (List Op)) (hwf : wf progs = true) (acts : List Act) :
    ∃ own, FInv (runActs (init .fixed progs) acts) own ∧ NInv (runActs (init .fixed progs) acts) own := by
  simp only [wf, Bool.and_eq_true, decide_eq_true_eq] at hwf
  obtain ⟨own0, h0⟩ := finv_init progs hwf.2
  exact both_runActs acts _ own0 h0 (ninv_init progs (askIds_eq progs ▸ hwf.1) own0)

/-- no in-time reply is lost, for every schedule -/
theorem C15_fixed_noLoss :
    ∀ progs, wf progs = true → ∀ acts : List Act, noLoss (runActs (init .fixed progs) acts) = true :=
  fun progs hwf acts => (C15_fixed_invariants progs hwf acts).elim fun _ h => h.2.noloss

/-- the protocol as it is now satisfies the full property -/
theorem C15_holds : C15_full :=
  fun progs hwf acts => ⟨C15_fixed_ownReply progs hwf acts, C15_fixed_noLoss progs hwf acts⟩

/-- non-vacuity of `wf`: two callers with three requests and one worker -/
example : wf [[.ask 1, .ask 2], [.ask 3], [.handle, .handle, .handle]] = true := by decide +kernel

/-- the two refutation schedules are harmless on the repaired protocol (tests of the model, not theorems about all
schedules): no reply is lost, no reply is cross-delivered -/
example : noLoss (runActs (init .fixed lossProgs)
    [.run 0, .run 1, .run 2, .run 2, .run 2, .run 0, .run 2, .run 2, .run 2, .run 1, .run 1,
     .run 2, .run 2, .run 2, .run 1, .run 1, .run 2, .run 2, .run 2, .run 1]) = true := by decide +kernel

example : ownReply (runActs (init .fixed crossProgs) crossActs) = true := by decide +kernel

end GoaktVerif.C15

/-! ### the grain path (`actorSystem.localSend`, `Model.C15Grain`) had the late store too (finding C15-F3, fixed by
6a916c2): `init false` below is the code before that fix, `init true` the code as it is

A witness on the model (the same schedule is replayed on the real `localSend` / `grainMailbox` / `GrainContext` on every
run, corpus/C15/witness.case): AskGrain(1) times out legitimately and is starved before its late
`responseClosed.Store(true)`; the grain mailbox recycles its context, AskGrain(4) rebuilds it; the late store closes it and
`Response` for request 4 returns without sending. -/

namespace GoaktVerif.C15.Grain
open GoaktVerif.Model.C15Grain

def noLossLog : List Ev → Bool
  | [] => true
  | .timedOut k :: earlier => !earlier.contains (.respDone k) && noLossLog earlier
  | _ :: earlier => noLossLog earlier

def lossProgs : List (List Op) := [[.ask 1], [.ask 2, .ask 3, .ask 4], [.handle, .handle, .handle, .handle]]

def lossActs : List Act :=
  [.run 0, .run 0, .run 0, .run 0, .run 0, .timeout 0, .run 0, .run 2, .run 2, .run 2,
   .run 1, .run 1, .run 1, .run 1, .run 1, .run 2, .run 2, .run 2, .run 1,
   .run 1, .run 1, .run 1, .run 1, .run 1, .run 2, .run 2, .run 2, .run 1,
   .run 1, .run 1, .run 1, .run 1, .run 1, .run 0, .run 2, .run 2, .timeout 1, .run 1, .run 1]

theorem C15_grain_loss_witness :
    noLossLog (runActs (init false lossProgs) lossActs).log = false ∧
    (runActs (init false lossProgs) lossActs).threads.map (·.hist.reverse) =
      [[(.ask 1, .timeout)], [(.ask 2, .reply 2), (.ask 3, .reply 3), (.ask 4, .timeout)],
       [(.handle, .handled 1), (.handle, .handled 2), (.handle, .handled 3), (.handle, .handled 4)]] := by decide +kernel

/-- test (one schedule, not a theorem about all schedules): the same schedule is harmless once the late store is gone -/
example : noLossLog (runActs (init true lossProgs)
    [.run 0, .run 0, .run 0, .run 0, .run 0, .timeout 0, .run 0, .run 2, .run 2, .run 2,
     .run 1, .run 1, .run 1, .run 1, .run 1, .run 2, .run 2, .run 2, .run 1,
     .run 1, .run 1, .run 1, .run 1, .run 1, .run 2, .run 2, .run 2, .run 1,
     .run 1, .run 1, .run 1, .run 1, .run 1, .run 2, .run 2, .run 2, .run 1]).log = true := by decide +kernel

end GoaktVerif.C15.Grain
