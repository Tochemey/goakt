/-
C35 — Relocation handoff masking respects caller deadlines.

"A synchronous name-based send that hits a relocating endpoint returns within the caller's
 timeout, and an asynchronous name-based send never blocks or sleeps; both return a retryable
 error when the target cannot be resolved in time."

Model: Model/C35 — the retry loop of actor/relocation_handoff.go (deliverAcrossHandoff +
sleepWithinHandoff) and deliverBypassingHandoff on an ABSTRACT clock.  The four constants are
regenerated from the Go source on every run (Gen/C35) and `cfg_is_source` ties the model's
configuration to them; the loop itself is tied by a one-sided differential run of the real code
(real timers) against a scripted actor system.

PARTIAL: the theorems are about the abstract clock.  Real timers fire late and the goroutine can
be descheduled between a wake-up and the next `time.Until`; then the real call returns later
than the bound by exactly that lateness (the model's `d i`, the cost of the i-th resolution, can
absorb it, see `sync_return_time`).  The theorems quantify over all timeouts, all resolution
scripts `res : Nat → Res` (unbounded), all resolution costs and all start times.
-/
import GoaktVerif.Gen.C35
import GoaktVerif.Lemmas.C35

namespace GoaktVerif.C35
open GoaktVerif.Model.C35 GoaktVerif.Spec.C35

def cfgGen : Cfg :=
  ⟨Gen.C35.handoffWindow.toNat, Gen.C35.minBackoff.toNat, Gen.C35.maxBackoff.toNat, Gen.C35.notFoundMaskWindow.toNat⟩

/-- the driver's configuration is the source's (a changed constant breaks this proof) -/
theorem cfg_is_source :
    defaultCfg.window = cfgGen.window ∧ defaultCfg.minB = cfgGen.minB ∧
    defaultCfg.maxB = cfgGen.maxB ∧ defaultCfg.nfWindow = cfgGen.nfWindow ∧
    (0 ≤ Gen.C35.handoffWindow ∧ 0 ≤ Gen.C35.minBackoff ∧ 0 ≤ Gen.C35.maxBackoff ∧ 0 ≤ Gen.C35.notFoundMaskWindow) := by
  decide

/-- what the proofs need of the constants: a positive minimal backoff not above the maximal one -/
def CfgOK (cfg : Cfg) : Prop := 0 < cfg.minB ∧ cfg.minB ≤ cfg.maxB

theorem cfgGen_ok : CfgOK cfgGen := by unfold CfgOK; decide

section
variable (cfg : Cfg) (maxWait : Nat) (ctxDone : Bool) (res : Nat → Res) (d : Nat → Nat) (t0 : Nat)

/-- A synchronous send is the loop run from the end of the first resolution, with the caller's deadline (if any)
    and a pinned-mask deadline inside `cfg.window` and inside the timeout. -/
theorem sync_loop : ∃ callerDl deadline, t0 + d 0 ≤ deadline ∧ deadline ≤ t0 + d 0 + cfg.window ∧
    (0 < maxWait → deadline ≤ t0 + d 0 + maxWait ∧ callerDl = some (t0 + d 0 + maxWait)) ∧
    sync cfg maxWait ctxDone res d t0 =
      loop cfg callerDl deadline ctxDone res d (fuelFor cfg) 0 (t0 + d 0) cfg.minB none [] false :=
  ⟨_, _, Nat.le_add_right _ _, Nat.add_le_add_left (by split <;> omega) _,
    fun h => ⟨Nat.add_le_add_left (by split <;> omega) _, if_pos h⟩, rfl⟩

/-- The call returns: the loop never runs out of iterations. -/
theorem sync_returns (hc : CfgOK cfg) : (sync cfg maxWait ctxDone res d t0).out ≠ .outOfFuel := by
  obtain ⟨hm, hmm⟩ := hc
  obtain ⟨callerDl, deadline, -, hdl, -, e⟩ := sync_loop cfg maxWait ctxDone res d t0
  rw [e]
  -- `bp`, `bn` bound what is left of the two masking windows, plus one minimal backoff while any is left;
  -- every wait takes a minimal backoff off one of them
  refine loop_rule (Q := fun r => r.out ≠ .outOfFuel) (P := fun fuel _ now backoff nfDl _ =>
    cfg.minB ≤ backoff ∧ ∃ bp bn, (now < deadline → deadline + cfg.minB ≤ bp + now) ∧
      (∀ D, nfDl = some D → now < D → D + cfg.minB ≤ bn + now) ∧ (nfDl = none → cfg.nfWindow + cfg.minB ≤ bn) ∧
      bp + bn + cfg.minB ≤ fuel * cfg.minB) cfg callerDl deadline ctxDone res d ?_ ?_ false
    ⟨Nat.le_refl _, cfg.window + cfg.minB, cfg.nfWindow + cfg.minB, by omega, by simp, by simp, ?_⟩
  · rintro fuel _ _ _ _ _ _ o ⟨_, bp, bn, _, _, _, h⟩ he rfl
    have : fuel = 0 := he
    subst this; omega
  · rintro fuel i now backoff nfDl - pinned dl dur nfDl' ⟨hb, bp, bn, h1, h2, h3, h4⟩ hk hlt hend hfull
    rw [Nat.succ_mul] at h4
    refine ⟨by omega, ?_⟩
    rcases hk with _ | hk
    · have := h1 hlt
      exact ⟨bp - cfg.minB, bn, by omega, fun D hD _ => by have := h2 D hD; omega, h3, by omega⟩
    · have hn : dl + cfg.minB ≤ bn + now := by
        rcases hk with h | ⟨h, hw, _⟩
        · exact h2 dl h hlt
        · have := h3 h; omega
      exact ⟨bp, bn - cfg.minB, by omega, by rintro D ⟨⟩ _; omega, by simp, by omega⟩
  · have h1 := Nat.div_add_mod (cfg.window + cfg.nfWindow) cfg.minB
    have h2 := Nat.mod_lt (cfg.window + cfg.nfWindow) hm
    rw [fuelFor, Nat.add_mul, Nat.mul_comm ((cfg.window + cfg.nfWindow) / cfg.minB) cfg.minB]
    omega

/-- With a caller timeout, every wait ends by the caller's deadline, so the total time spent
    waiting is at most the timeout. -/
theorem sync_waits_within_timeout (hw : 0 < maxWait) :
    sleepsEndBy (t0 + d 0 + maxWait) (sync cfg maxWait ctxDone res d t0).sleeps = true ∧
    totalSleep (sync cfg maxWait ctxDone res d t0).sleeps ≤ maxWait := by
  obtain ⟨_, deadline, -, -, h, e⟩ := sync_loop cfg maxWait ctxDone res d t0
  obtain ⟨hdl, rfl⟩ := h hw
  rw [e]
  generalize hc : t0 + d 0 + maxWait = c at hdl ⊢
  refine loop_rule (Q := fun r => sleepsEndBy c r.sleeps = true ∧ totalSleep r.sleeps ≤ maxWait)
    (P := fun _ _ now _ nfDl acc => totalSleep acc + (t0 + d 0) ≤ now ∧ totalSleep acc + (t0 + d 0) ≤ c ∧
      (∀ s ∈ acc, s.start + s.dur ≤ c) ∧ ∀ x, nfDl = some x → x ≤ c)
    cfg (some c) deadline ctxDone res d ?_ ?_ false ⟨by simp [totalSleep], by simp [totalSleep]; omega, by simp, by simp⟩
  · rintro _ _ _ _ _ acc _ _ ⟨_, h2, h3, _⟩ _
    exact ⟨by simpa [sleepsEndBy] using h3, by rw [totalSleep_reverse]; omega⟩
  · rintro - - now backoff nfDl acc pinned dl dur nfDl' ⟨h1, h2, h3, h4⟩ hk - hend -
    have hle : dl ≤ c ∧ ∀ x, nfDl' = some x → x ≤ c := by
      rcases hk with _ | (h | ⟨_, _, h⟩)
      · exact ⟨hdl, h4⟩
      · exact ⟨h4 dl h, by rintro x ⟨⟩; exact h4 dl h⟩
      · exact ⟨h c rfl, by rintro x ⟨⟩; exact h c rfl⟩
    rw [totalSleep_cons]
    refine and_assoc.mp ⟨by simp only; omega, ?_, hle.2⟩
    intro s hs
    rcases List.mem_cons.mp hs with rfl | hs
    · simp only; omega
    · exact h3 s hs

/-- Whatever the caller's timeout: waiting on a pinned endpoint takes at most
    min(maxWait, relocationHandoffWindow) in total, waiting on failed resolutions at most
    relocationNotFoundMaskWindow in total. -/
theorem sync_waits_within_windows :
    pSum (sync cfg maxWait ctxDone res d t0).sleeps ≤ cfg.window ∧
    (0 < maxWait → pSum (sync cfg maxWait ctxDone res d t0).sleeps ≤ maxWait) ∧
    nSum (sync cfg maxWait ctxDone res d t0).sleeps ≤ cfg.nfWindow ∧
    totalSleep (sync cfg maxWait ctxDone res d t0).sleeps ≤ cfg.window + cfg.nfWindow := by
  obtain ⟨callerDl, deadline, hsd, hdw, hdm, e⟩ := sync_loop cfg maxWait ctxDone res d t0
  rw [totalSleep_split, e]
  -- not-found waits lie between the first not-found observation (`nfWindow` before `D`, or later) and the clock
  have key : pSum (loop cfg callerDl deadline ctxDone res d (fuelFor cfg) 0 (t0 + d 0) cfg.minB none [] false).sleeps
        + (t0 + d 0) ≤ deadline ∧
      nSum (loop cfg callerDl deadline ctxDone res d (fuelFor cfg) 0 (t0 + d 0) cfg.minB none [] false).sleeps
        ≤ cfg.nfWindow := by
    refine loop_rule (Q := fun r => pSum r.sleeps + (t0 + d 0) ≤ deadline ∧ nSum r.sleeps ≤ cfg.nfWindow)
      (P := fun _ _ now _ nfDl acc => pSum acc + (t0 + d 0) ≤ now ∧ pSum acc + (t0 + d 0) ≤ deadline ∧
        (nfDl = none → nSum acc = 0) ∧ ∀ D, nfDl = some D → nSum acc + D ≤ now + cfg.nfWindow ∧ nSum acc ≤ cfg.nfWindow)
      cfg callerDl deadline ctxDone res d ?_ ?_ false ⟨by simp [pSum, totalSleep], by simpa [pSum, totalSleep] using hsd,
        fun _ => by simp [nSum, totalSleep], by simp⟩
    · rintro _ _ _ _ nfDl acc _ _ ⟨_, h2, h3, h4⟩ _
      rw [pSum_reverse, nSum_reverse]
      refine ⟨h2, ?_⟩
      cases nfDl with
      | none => rw [h3 rfl]; omega
      | some D => exact (h4 D rfl).2
    · rintro - - now backoff nfDl acc pinned dl dur nfDl' ⟨h1, h2, h3, h4⟩ hk hlt hend -
      rw [pSum_cons, nSum_cons]
      rcases hk with _ | hk <;> simp only [Bool.not_true, Bool.not_false, Bool.false_eq_true, if_false, if_true]
      · exact and_assoc.mp ⟨by omega, fun h => by have := h3 h; omega, fun D hD => by have := h4 D hD; omega⟩
      · refine and_assoc.mp ⟨by omega, by simp, ?_⟩
        rintro D ⟨⟩
        rcases hk with h | ⟨h, hw, _⟩
        · have := h4 dl h; omega
        · have := h3 h; omega
  exact ⟨by omega, fun hw => by have := (hdm hw).1; omega, key.2, by omega⟩

/-- The call returns at the end of its last wait plus the cost of the resolution that follows
    it (at once, when it never waited). -/
theorem sync_return_time : ReturnOK d (t0 + d 0) (sync cfg maxWait ctxDone res d t0) := by
  obtain ⟨callerDl, deadline, -, -, -, e⟩ := sync_loop cfg maxWait ctxDone res d t0
  rw [e]
  refine loop_rule (Q := ReturnOK d (t0 + d 0)) (P := fun _ i now _ _ acc =>
    (acc = [] → now = t0 + d 0) ∧ ∀ s, acc.head? = some s → now = s.start + s.dur + d i)
    cfg callerDl deadline ctxDone res d ?_ ?_ false ⟨fun _ => rfl, by simp⟩
  · rintro _ i now _ _ acc _ o ⟨h0, h1⟩ he t ht
    cases he.returnTime ht
    exact ⟨fun h => h0 (by simpa using h), fun s hs => h1 s (by simpa [List.getLast?_reverse] using hs)⟩
  · intros
    exact ⟨by simp, by rintro s ⟨⟩; rfl⟩

/-- The call returns by the caller's deadline plus the cost of the last resolution. -/
theorem sync_returns_by (hw : 0 < maxWait) (t : Nat)
    (ht : returnTime (sync cfg maxWait ctxDone res d t0).out = some t) :
    t ≤ t0 + d 0 + maxWait + d ((sync cfg maxWait ctxDone res d t0).lookups - 1) := by
  have hr := sync_return_time cfg maxWait ctxDone res d t0 t ht
  have hend := (sync_waits_within_timeout cfg maxWait ctxDone res d t0 hw).1
  simp only [sleepsEndBy, List.all_eq_true, decide_eq_true_eq] at hend
  cases hl : (sync cfg maxWait ctxDone res d t0).sleeps.getLast? with
  | none => have := hr.1 (by simpa using hl); omega
  | some s =>
    have h1 := hr.2 s hl
    have h2 := hend s (List.mem_of_getLast? hl)
    omega

/-- With instantaneous resolutions the call returns within the caller's timeout. -/
theorem sync_returns_within_timeout (hw : 0 < maxWait) (hd : ∀ i, d i = 0) (t : Nat)
    (ht : returnTime (sync cfg maxWait ctxDone res d t0).out = some t) : t ≤ t0 + maxWait := by
  have := sync_returns_by cfg maxWait ctxDone res d t0 hw t ht
  rw [hd, hd] at this; omega

/-- The final delivery is bounded by the caller's deadline (the deliver context carries it). -/
theorem sync_delivery_deadline (hw : 0 < maxWait) (t : Nat) (dl : Option Nat)
    (h : (sync cfg maxWait ctxDone res d t0).out = .delivered t dl) : dl = some (t0 + d 0 + maxWait) := by
  obtain ⟨_, deadline, -, -, hc, e⟩ := sync_loop cfg maxWait ctxDone res d t0
  obtain ⟨-, rfl⟩ := hc hw
  revert h
  rw [e]
  refine loop_rule (Q := fun r => r.out = .delivered t dl → dl = _) (P := fun _ _ _ _ _ _ => True)
    cfg _ deadline ctxDone res d ?_ (fun _ _ _ _ _ _ _ _ _ => trivial) false trivial
  rintro _ _ _ _ _ _ _ _ _ he rfl
  exact he.2.2

/-- When the call gives up it surfaces a retryable error, and which one is decided by the last
    resolution: ErrRelocationInProgress for a pinned endpoint, the (retryable) resolution error
    otherwise; a delivery happens only on a live resolution. -/
theorem sync_outcome : FitsOK res (sync cfg maxWait ctxDone res d t0) := by
  obtain ⟨callerDl, deadline, -, -, -, e⟩ := sync_loop cfg maxWait ctxDone res d t0
  rw [e]
  refine loop_rule (Q := FitsOK res) (P := fun _ _ _ _ _ _ => True) cfg callerDl deadline ctxDone res d ?_
    (fun _ _ _ _ _ _ _ _ _ => trivial) false trivial
  rintro _ i _ _ _ _ _ o _ he
  exact ⟨by simp, he.fits⟩

end

/-- deliverBypassingHandoff resolves once, never waits, and returns ErrRelocationInProgress
    exactly when the (clustered) target sits on a relocating endpoint. -/
theorem async_never_waits (inCluster : Bool) (r : Res) (d0 t0 : Nat) :
    (async inCluster r d0 t0).sleeps = [] ∧ (async inCluster r d0 t0).lookups = 1 ∧
    ((∃ t, (async inCluster r d0 t0).out = .gaveUpRelocating t) ↔ (inCluster = true ∧ r = .pinned)) ∧
    returnTime (async inCluster r d0 t0).out = some (t0 + d0) := by
  cases r <;> cases inCluster <;> simp [async, returnTime]

def C35_full : Prop :=
  ∀ (maxWait : Nat) (ctxDone : Bool) (res : Nat → Res) (d : Nat → Nat) (t0 : Nat),
    let r := sync cfgGen maxWait ctxDone res d t0
    -- the synchronous send returns …
    r.out ≠ .outOfFuel ∧
    -- … never waits past the caller's deadline, nor longer than the timeout in total …
    (0 < maxWait → sleepsEndBy (t0 + d 0 + maxWait) r.sleeps = true ∧ totalSleep r.sleeps ≤ maxWait) ∧
    -- … and never longer than the two masking windows
    totalSleep r.sleeps ≤ cfgGen.window + cfgGen.nfWindow ∧
    -- it returns right after its last wait (plus the resolution that follows it) …
    ReturnOK d (t0 + d 0) r ∧
    -- … so within the timeout when resolutions are instantaneous, and the delivery is bounded too
    (0 < maxWait → (∀ i, d i = 0) → ∀ t, returnTime r.out = some t → t ≤ t0 + maxWait) ∧
    (0 < maxWait → ∀ t dl, r.out = .delivered t dl → dl = some (t0 + d 0 + maxWait)) ∧
    -- the error surfaced is the retryable one that stalled it
    FitsOK res r ∧
    -- the asynchronous send never waits
    (∀ (inCluster : Bool) (r0 : Res) (d0 : Nat),
      (async inCluster r0 d0 t0).sleeps = [] ∧ (async inCluster r0 d0 t0).lookups = 1 ∧
      ((∃ t, (async inCluster r0 d0 t0).out = .gaveUpRelocating t) ↔ (inCluster = true ∧ r0 = .pinned)))

theorem C35_holds : C35_full := by
  intro maxWait ctxDone res d t0
  refine ⟨sync_returns _ _ _ _ _ _ cfgGen_ok, fun hw => sync_waits_within_timeout _ _ _ _ _ _ hw,
    (sync_waits_within_windows _ _ _ _ _ _).2.2.2, sync_return_time _ _ _ _ _ _,
    fun hw hd t ht => sync_returns_within_timeout _ _ _ _ _ _ hw hd t ht,
    fun hw t dl h => sync_delivery_deadline _ _ _ _ _ _ hw t dl h,
    sync_outcome _ _ _ _ _ _, ?_⟩
  intro ic r0 d0
  have := async_never_waits ic r0 d0 t0
  exact ⟨this.1, this.2.1, this.2.2.1⟩

-- 120 ms timeout, target pinned forever: waits 50 ms and 70 ms, gives up at 120 ms
example : (sync defaultCfg 120000000 false (fun _ => .pinned) (fun _ => 0) 0).sleeps.map (·.dur) = [50000000, 70000000] := by decide
example : (sync defaultCfg 120000000 false (fun _ => .pinned) (fun _ => 0) 0).out = .gaveUpRelocating 120000000 := by decide
-- the hypotheses of `sync_delivery_deadline` are satisfiable
example : (sync defaultCfg 300000000 false (fun i => if i < 2 then .pinned else .live) (fun _ => 0) 0).out
    = .delivered 150000000 (some 300000000) := by decide

end GoaktVerif.C35
