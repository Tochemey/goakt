/-
C03 — Messages from one sender are processed in the order they were sent.

"For every FIFO mailbox type (default unbounded, segmented, bounded, non-blocking bounded and fair),
 messages that one goroutine sends to one actor are processed in send order, also when other senders
 interleave and when BatchTell is used. Messages stashed and later unstashed keep their relative
 arrival order."

The theorems are about the reservation-queue specification `Spec.C03` (the sequential reading of every
Vyukov-style mailbox: reserve fixes the position, publish makes it visible, deq pops the head iff published;
the fair mailbox is one such queue per sender) for all histories, and about the recorder model `Model.C03`.
What each one claims and how the implementation is tied: design/C03.md.
-/
import GoaktVerif.Gen.C03
import GoaktVerif.Model.C03
import GoaktVerif.Spec.C03

namespace GoaktVerif.C03
open GoaktVerif.Spec.C03 GoaktVerif.Model.C03

theorem segmentSize_tie : Gen.C03.segmentSize = 256 := rfl

theorem publishCell_msg (m : Msg) (c : Cell) : (publishCell m c).msg = c.msg := by
  unfold publishCell; split
  · rename_i h; rw [h]; rfl
  · rfl

theorem reserves_append (x y : List Ev) : reserves (x ++ y) = reserves x ++ reserves y := by
  induction x with
  | nil => rfl
  | cons e t ih => cases e <;> simp [reserves, ih]

theorem step_inv (s : St) (e : Ev) :
    (step s e).out ++ (step s e).cells.map Cell.msg = s.out ++ s.cells.map Cell.msg ++ reserves [e] := by
  -- `fun_cases step s e`: one goal per leaf of `step` (numbered as in Spec/C03.lean), the leaf's result in place of the call
  fun_cases step s e
  case case1 m => simp [reserves, Cell.msg]   -- reserve
  case case2 m =>   -- publish: a cell keeps its message
    simp only [reserves, List.append_nil, List.map_map]
    congr 1
    apply List.map_congr_left
    intro c _; exact publishCell_msg m c
  case case3 m rest hc => simp [hc, reserves, Cell.msg]   -- deq, `hc : s.cells = .ready m :: rest`
  case case4 => exact (List.append_nil _).symm   -- deq, head not published (or no cell): nothing moves

theorem run_inv (h : List Ev) : ∀ s : St,
    (run s h).out ++ (run s h).cells.map Cell.msg = s.out ++ s.cells.map Cell.msg ++ reserves h := by
  induction h with
  | nil => intro s; exact (List.append_nil _).symm
  | cons e t ih =>
    intro s
    show (run (step s e) t).out ++ (run (step s e) t).cells.map Cell.msg = _
    rw [ih (step s e), step_inv, List.append_assoc, ← reserves_append]; rfl

/-- FIFO in reservation order, for every history: what has been dequeued, followed by what is still
queued, is exactly the sequence of reservations -/
theorem deq_then_queue_eq_reserves (h : List Ev) :
    (run St.init h).out ++ (run St.init h).cells.map Cell.msg = reserves h := by
  simpa [St.init] using run_inv h St.init

theorem out_prefix (h : List Ev) : (run St.init h).out <+: reserves h :=
  ⟨_, deq_then_queue_eq_reserves h⟩

/-- `a` occurs before `b` in `l` -/
def Before (a b : Msg) (l : List Msg) : Prop := ∃ p q r, l = p ++ a :: q ++ b :: r

theorem before_of_prefix {a b : Msg} {out l : List Msg} (hp : out <+: l) (hnd : l.Nodup)
    (hab : Before a b l) (hb : b ∈ out) : Before a b out := by
  obtain ⟨rest, e⟩ := hp
  obtain ⟨p, q, r, hl⟩ := hab
  have e2 : out ++ rest = (p ++ a :: q) ++ (b :: r) := by rw [e, hl]
  have hbr : b ∉ rest := by
    intro hbrest
    rw [← e] at hnd
    exact (List.nodup_append.mp hnd).2.2 b hb b hbrest rfl
  rcases List.append_eq_append_iff.mp e2 with ⟨x, h1, h2⟩ | ⟨y, h1, h2⟩
  · exact absurd (by rw [h2]; simp) hbr
  · cases y with
    | nil => exact absurd (by simp at h2; rw [← h2]; simp) hbr
    | cons b' y' =>
      simp at h2
      exact ⟨p, q, y', by rw [h1, h2.1]⟩

/-- C03 on the specification: if `a` is reserved before `b`, then `b` is never dequeued unless `a` was
dequeued before it -/
theorem fifo (h : List Ev) (a b : Msg) (hnd : (reserves h).Nodup) (hab : Before a b (reserves h))
    (hb : b ∈ (run St.init h).out) : Before a b (run St.init h).out :=
  before_of_prefix (out_prefix h) hnd hab hb

/-- the order is fixed at `reserve`: `a` reserved anywhere before `b`'s reserve event is dequeued before `b` -/
theorem fifo_reserved_before (h1 h3 : List Ev) (a b : Msg) (hres : a ∈ reserves h1)
    (hnd : (reserves (h1 ++ .reserve b :: h3)).Nodup) (hb : b ∈ (run St.init (h1 ++ .reserve b :: h3)).out) :
    Before a b (run St.init (h1 ++ .reserve b :: h3)).out := by
  obtain ⟨p, q, hpq⟩ := List.append_of_mem hres
  exact fifo _ a b hnd ⟨p, q, reserves h3, by rw [reserves_append, hpq]; rfl⟩ hb

/-- the happens-before form: Enqueue(a) RETURNED (its publish event happened, after its reserve) before
Enqueue(b) was CALLED (its reserve event) — under any interleaving with other producers and the consumer -/
theorem fifo_happens_before (h1 h2 h3 : List Ev) (a b : Msg)
    (hres : a ∈ reserves h1)
    (hnd : (reserves (h1 ++ .publish a :: h2 ++ .reserve b :: h3)).Nodup)
    (hb : b ∈ (run St.init (h1 ++ .publish a :: h2 ++ .reserve b :: h3)).out) :
    Before a b (run St.init (h1 ++ .publish a :: h2 ++ .reserve b :: h3)).out :=
  fifo_reserved_before (h1 ++ .publish a :: h2) h3 a b
    (by rw [reserves_append]; exact List.mem_append_left _ hres) hnd hb

theorem increasing_prefix : ∀ {l l' : List Nat}, l' <+: l → increasing l = true → increasing l' = true
  | _, [], _, _ => rfl
  | _, [_], _, _ => rfl
  | _, a :: b :: t, ⟨r, e⟩, h => by
    subst e
    simp only [List.cons_append, increasing, Bool.and_eq_true] at h ⊢
    exact ⟨h.1, increasing_prefix (l' := b :: t) ⟨r, rfl⟩ h.2⟩

theorem ordered_of_prefix {out res : List Msg} (hp : ∀ s, seqsOf s out <+: seqsOf s res)
    (hs : ∀ s, increasing (seqsOf s res) = true) : perSenderOrdered out = true := by
  unfold perSenderOrdered
  rw [List.all_eq_true]
  exact fun s _ => increasing_prefix (hp s) (hs s)

/-- if every sender reserves its messages with increasing sequence numbers (one goroutine sends them one
after the other), the dequeue sequence passes the oracle — so an oracle failure on the implementation
is a genuine departure from the specification -/
theorem oracle_sound (h : List Ev) (hs : ∀ s, increasing (seqsOf s (reserves h)) = true) :
    perSenderOrdered (run St.init h).out = true :=
  ordered_of_prefix (fun _ => ((out_prefix h).filter _).map _) hs

/-- queue `k` of the fair mailbox together with what it has handed out: a reservation queue -/
def proj (s : FSt) (k : Nat) : St := { cells := s.cells k, out := s.out.filter (·.1 = k) }

def evOf (k : Nat) : FEv → List Ev
  | .reserve m => if k = m.1 then [.reserve m] else []
  | .publish m => if k = m.1 then [.publish m] else []
  | .deq j => if k = j then [.deq] else []

def Own (s : FSt) : Prop := ∀ k, ∀ c ∈ s.cells k, c.msg.1 = k

theorem fstep_own {s : FSt} (h : Own s) (e : FEv) : Own (fstep s e) := by
  intro k c
  -- in each case the `split` is on whether `k` is the queue the event addresses
  fun_cases fstep s e
  case case1 m =>   -- reserve
    intro hc; dsimp only at hc; split at hc
    · rcases List.mem_append.mp hc with h1 | h1
      · exact h k c h1
      · rw [List.mem_singleton.mp h1]; exact ‹k = m.1›.symm
    · exact h k c hc
  case case2 m =>   -- publish
    intro hc; dsimp only at hc; split at hc
    · obtain ⟨c', hc', rfl⟩ := List.mem_map.mp hc
      rw [publishCell_msg]; exact h k c' hc'
    · exact h k c hc
  case case3 j m rest hj =>   -- deq j, `hj : s.cells j = .ready m :: rest`
    intro hc; dsimp only at hc; split at hc
    · rename_i hk; subst hk; exact h k c (hj ▸ List.mem_cons_of_mem _ hc)
    · exact h k c hc
  case case4 => exact h k c   -- deq j, head not published: nothing moves

/-- the fair mailbox is one reservation queue per sender: an event steps the queue it addresses and leaves the others -/
theorem fstep_proj {s : FSt} (h : Own s) (e : FEv) (k : Nat) : proj (fstep s e) k = run (proj s k) (evOf k e) := by
  fun_cases fstep s e
  case case1 | case2 => simp only [evOf, proj]; split <;> rfl   -- reserve, publish: for queue `m.1` or another
  case case3 j m rest hj =>   -- deq j, `hj : s.cells j = .ready m :: rest`: `m` is of sender `j` and goes out
    have hm : m.1 = j := h j (.ready m) (hj ▸ List.mem_cons_self)
    by_cases hk : k = j
    · subst hk; simp [evOf, run, step, proj, hj, List.filter_append, hm]
    · simp [evOf, proj, run, List.filter_append, hm, hk, Ne.symm hk]
  case case4 j hn =>   -- deq j, head not published (`hn`): nothing moves
    by_cases hk : k = j
    · subst hk; simp only [evOf, if_pos, run, List.foldl, step, proj]   -- `hn` sends `step` down its last arm too
    · simp only [evOf, if_neg hk]; rfl

theorem frun_proj (k : Nat) (h : List FEv) : ∀ s, Own s → proj (frun s h) k = run (proj s k) (h.flatMap (evOf k)) := by
  induction h with
  | nil => exact fun _ _ => rfl
  | cons e t ih =>
    intro s hs
    show proj (frun (fstep s e) t) k = _
    rw [ih _ (fstep_own hs e), fstep_proj hs, List.flatMap_cons]; exact (List.foldl_append ..).symm

theorem reserves_evOf (k : Nat) (h : List FEv) : reserves (h.flatMap (evOf k)) = (freserves h).filter (·.1 = k) := by
  induction h with
  | nil => rfl
  | cons e t ih =>
    rw [List.flatMap_cons, reserves_append, ih]
    cases e with
    | reserve m => by_cases hk : k = m.1 <;> simp [evOf, freserves, reserves, hk, eq_comm]
    | publish m => by_cases hk : k = m.1 <;> simp [evOf, freserves, reserves, hk]
    | deq j => by_cases hk : k = j <;> simp [evOf, freserves, reserves, hk]

/-- fair mailbox, every history and every round-robin choice: the messages of sender `k` are dequeued
as a prefix of the order in which `k` reserved them -/
theorem fair_out_prefix (h : List FEv) (k : Nat) :
    (frun FSt.init h).out.filter (·.1 = k) <+: (freserves h).filter (·.1 = k) := by
  have := out_prefix (h.flatMap (evOf k))
  rw [reserves_evOf, ← show proj (frun FSt.init h) k = run St.init _ from
    frun_proj k h _ (fun _ _ hc => nomatch hc)] at this
  exact this

theorem fair_per_sender_prefix (h : List FEv) (k : Nat) :
    seqsOf k (frun FSt.init h).out <+: seqsOf k (freserves h) :=
  (fair_out_prefix h k).map _

theorem fair_oracle_sound (h : List FEv) (hs : ∀ s, increasing (seqsOf s (freserves h)) = true) :
    perSenderOrdered (frun FSt.init h).out = true :=
  ordered_of_prefix (fair_per_sender_prefix h) hs

/-- `BatchTell(ms)` = `Tell` for each message in order = append the batch in order -/
theorem batchTell_eq (mb ms : List Item) : batchTell mb ms = mb ++ ms := by
  induction ms generalizing mb with
  | nil => exact (List.append_nil _).symm
  | cons m t ih => exact (ih (tell mb m)).trans (List.append_assoc mb [m] t)

/-- UnstashAll re-enqueues the whole stash buffer in stash (= arrival) order, behind what is already queued -/
theorem unstashAll_order (rest : List Item) (st handled : List Nat) (b : Bool) :
    deliver { mailbox := .unstashAll :: rest, stash := st, stashing := b, handled := handled } =
      { mailbox := rest ++ st.map .msg, stash := [], stashing := false, handled := handled } := rfl

/-- Unstash re-enqueues the OLDEST stashed message and leaves the others -/
theorem unstash_oldest (rest : List Item) (x : Nat) (st handled : List Nat) (b : Bool) :
    deliver { mailbox := .unstashOne :: rest, stash := x :: st, stashing := b, handled := handled } =
      { mailbox := rest ++ [.msg x], stash := st, stashing := false, handled := handled } := rfl

theorem deliverN_add (m n : Nat) (a : A) : deliverN (m + n) a = deliverN n (deliverN m a) := by
  induction m generalizing a with
  | zero => simp [deliverN]
  | succ m ih => rw [Nat.succ_add]; simp only [deliverN]; exact ih (deliver a)

theorem deliverN_msgs (b : Bool) (ms : List Nat) : ∀ (rest : List Item) (st handled : List Nat),
    deliverN ms.length { mailbox := ms.map .msg ++ rest, stash := st, stashing := b, handled := handled } =
      { mailbox := rest, stash := if b then st ++ ms else st, stashing := b,
        handled := if b then handled else handled ++ ms } := by
  induction ms with
  | nil => intro rest st handled; cases b <;> simp [deliverN]
  | cons m t ih =>
    intro rest st handled
    cases b <;> simp only [List.length_cons, deliverN, List.map_cons, List.cons_append, deliver, Bool.false_eq_true,
      if_false, if_true] <;> rw [ih] <;> simp

/-- a full round trip: `pre` handled, then stashing starts, `ms` are stashed, UnstashAll, while `post` is
already queued: the stashed messages come out in their arrival order (after `post`) -/
theorem stash_roundtrip (pre ms post : List Nat) :
    (deliverN (pre.length + 1 + ms.length + 1 + post.length + ms.length)
      { mailbox := pre.map .msg ++ (.stashOn :: (ms.map .msg ++ (.unstashAll :: post.map .msg))),
        stash := [], stashing := false, handled := [] }).handled = pre ++ post ++ ms := by
  have one : ∀ a, deliverN 1 a = deliver a := fun _ => rfl
  simp only [deliverN_add, one, deliverN_msgs, deliver, List.nil_append, Bool.false_eq_true, if_false, if_true]
  -- the last segment has nothing queued behind it: give `deliverN_msgs` its `rest := []`
  rw [← List.append_nil (ms.map Item.msg), deliverN_msgs]; rfl

def C03_full : Prop :=
  -- FIFO mailboxes (reservation queues): happens-before order is kept under every interleaving
  (∀ (h1 h2 h3 : List Ev) (a b : Msg), a ∈ reserves h1 →
     (reserves (h1 ++ .publish a :: h2 ++ .reserve b :: h3)).Nodup →
     b ∈ (run St.init (h1 ++ .publish a :: h2 ++ .reserve b :: h3)).out →
     Before a b (run St.init (h1 ++ .publish a :: h2 ++ .reserve b :: h3)).out) ∧
  (∀ h : List Ev, (run St.init h).out <+: reserves h) ∧
  -- fair mailbox: per sender
  (∀ (h : List FEv) (k : Nat), seqsOf k (frun FSt.init h).out <+: seqsOf k (freserves h)) ∧
  -- BatchTell is Tell in order
  (∀ mb ms : List Item, batchTell mb ms = mb ++ ms) ∧
  -- stash keeps arrival order
  (∀ pre ms post : List Nat,
    (deliverN (pre.length + 1 + ms.length + 1 + post.length + ms.length)
      { mailbox := pre.map .msg ++ (.stashOn :: (ms.map .msg ++ (.unstashAll :: post.map .msg))),
        stash := [], stashing := false, handled := [] }).handled = pre ++ post ++ ms)

theorem C03_holds : C03_full :=
  ⟨fifo_happens_before, out_prefix, fair_per_sender_prefix, batchTell_eq, stash_roundtrip⟩

/-- two producers interleaved with the consumer: sender 1 sends 0 then 1 (second Enqueue called after
the first returned), sender 2 reserves in between and publishes late; the hypotheses of
`fifo_happens_before` hold and both messages of sender 1 are dequeued -/
example :
    let h1 : List Ev := [.reserve (1, 0), .reserve (2, 0)]
    let h2 : List Ev := [.deq]
    let h3 : List Ev := [.publish (2, 0), .publish (1, 1), .deq, .deq]
    (1, 0) ∈ reserves h1 ∧ (reserves (h1 ++ .publish (1, 0) :: h2 ++ .reserve (1, 1) :: h3)).Nodup ∧
    (1, 1) ∈ (run St.init (h1 ++ .publish (1, 0) :: h2 ++ .reserve (1, 1) :: h3)).out := by decide

example : increasing (seqsOf 1 (reserves [.reserve (1, 0), .reserve (2, 5), .reserve (1, 1)])) = true := by decide

end GoaktVerif.C03
