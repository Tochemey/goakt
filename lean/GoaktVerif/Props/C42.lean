/-
C42 — Reliable point-to-point delivery is ordered and gap-free under message faults.

"With reliable producer and consumer endpoints, for any loss, duplication and reordering of the messages
 exchanged between their controllers (and no controller restart), the consumer is handed the produced
 messages in production order with no gaps, every produced message is eventually confirmed, and a message
 is re-presented only while it is the unconfirmed one in flight."

Model: Model/C42.lean — both controllers field by field (volatile, unchunked path), the two controller
links as lists from which ANY element may be delivered, duplicated or dropped at any time, both endpoint
mailboxes (FIFO, lossy), ticks, and the endpoints' documented contract.  A script is any `List Step`.
Spec: Spec/C42.lean — the monitor `Mon` over the observable events of a run.
Tie: every handler of the real controllers is replayed step by step against `Producer.handle` /
`Consumer.handle` (harness/inpkg/actor/zz_verif_c42.go, Driver/C42.lean); the same monitor judges the
real trace.

Out of the model (the property is labelled partial for these): chunked messages, the durable producer
queue, controller restart / relocation, sequence-number exhaustion at MaxInt64.
-/
import GoaktVerif.Lemmas.C42.Eventually

namespace GoaktVerif.C42
open GoaktVerif.Model.C42 GoaktVerif.Spec.C42

/-- Safety half of C42, for every window, every resend interval, every script (= every sequence of
    deliveries, duplications, drops, reorderings, ticks, endpoint speeds and clock values, of any length):
    the Deliveries handed to the consumer endpoint carry sequences 1,2,3,… without gap, each is the message
    the producer controller stored under that sequence with the payload the producer endpoint produced,
    sequence k+1 is first presented only after the endpoint confirmed k, and a sequence is presented again
    only while it is the unconfirmed in-flight one (`Mon.okOrder`, Spec/C42.lean). -/
def C42_safety : Prop :=
  ∀ (window interval : Nat) (dc : Bool) (ss : List Step), (monitorOf window interval dc ss).okOrder = true

theorem C42_safety_holds : C42_safety :=
  fun window interval dc ss => (monitor_run window interval dc ss).cm.ord

/-- the invariant is inductive over single steps (this is the obligation a changed handler breaks) -/
theorem C42_inductive {w : World} {m : Mon} (h : Inv w m) (s : Step) :
    Inv (w.step s).1 (m.run (w.obsOfStep s (w.step s).1 (w.step s).2)) := h.step s

/-- non-vacuity of `C42_inductive`'s hypothesis: the initial world satisfies the invariant -/
example : Inv (World.init 4 1 true) (Mon.run {} (World.init 4 1 true).initObs) := Inv.init 4 1 true

/-- the consumer controller never takes its terminal failure path on the unchunked flow -/
theorem C42_consumer_never_fails (window interval : Nat) (dc : Bool) (ss : List Step) :
    ((World.init window interval dc).run ss).1.c.failed = false :=
  (monitor_run window interval dc ss).cl.nf

/-- the producer controller never takes its terminal failure path either (no "illegal demand range", no
    "unexpected Produced / StoredAck"): whatever the faults, a consumer controller with a valid window only
    ever sends legal grants, and an endpoint that keeps the documented contract (FIFO mailbox, re-answer the
    same token with the same Produced, acknowledge every Stored) never confuses the handshake -/
theorem C42_producer_never_fails (window interval : Nat) (dc : Bool) (hw : window ≤ maxWindow) (ss : List Step) :
    ((World.init window interval dc).run ss).1.p.failed = false := by
  obtain ⟨_, _, h2⟩ := run_inv _ _ ss (Inv.init window interval dc) (Inv2.init window interval dc hw)
  exact h2.u.nf

/-- non-vacuity: the default window satisfies the hypothesis -/
example : (1000 : Nat) ≤ maxWindow := by decide

/-- Progress half of C42, NOT temporal ("eventually" under fair loss is outside what a safety proof can
    say; named gap): from every reachable world — any window the controller accepts, any script — the fixed
    fault-free continuation `recover` (two consumer-controller ticks = the silence rule, then the newest
    RegisterConsumer, RegistrationAck and timeout Request are delivered) leaves the producer controller
    alive, makes it adopt the consumer controller's confirmation watermark (every message the endpoint
    confirmed is now confirmed at the producer: its unconfirmed buffer starts right after it), and puts a
    SequencedMessage for the oldest still-unconfirmed message back in flight.  So no reachable state with an
    unconfirmed message is stuck: the tick/registration/timeout-request rules that re-send it are enabled. -/
def C42_progress : Prop :=
  ∀ (window interval : Nat) (dc : Bool), 1 ≤ window → window ≤ maxWindow → ∀ ss : List Step,
    let w := ((World.init window interval dc).run ss).1
    (recover w).p.failed = false ∧ (recover w).p.confirmedSeq = (recover w).c.confirmedSeq ∧
    ∀ mm, (recover w).p.unconfirmed.head? = some mm →
      PMsg.sequenced (recover w).p.session mm.id mm.seq mm.payload ∈ (recover w).netPC

theorem C42_progress_holds : C42_progress := by
  intro window interval dc h1 h2 ss
  have g := (Good.init window interval dc h1 h2).run ss
  obtain ⟨m, i⟩ := g.inv
  obtain ⟨a, b, c, _⟩ := recover_progress _ m i g.i2 g.i3
  exact ⟨a, b, c⟩

/-- `recover` is an ordinary script of five steps -/
theorem C42_recover_is_script (w : World) : ∃ ss : List Step, ss.length = 5 ∧ (w.run ss).1 = recover w :=
  recover_is_script w

/-- "Every produced message is eventually confirmed", in the reachability form: from every reachable world
    (any window the controller accepts, any script, i.e. after ANY history of losses, duplications and
    reorderings) there EXISTS a finite continuation in which the producer endpoint does not act (`quiet`: the
    endpoint would otherwise keep producing; the continuation the proof builds also drops and duplicates nothing,
    which the statement does not say), after which every message the
    producer controller has stored is confirmed: nothing new was stored, confirmedSeq = currentSeq, the
    unconfirmed buffer is empty, the controller is alive.  The continuation repeats: `recover`, deliver the
    re-sent oldest unconfirmed message, tick (re-tell), let the consumer endpoint work through its mailbox.
    This is reachability (EF), not a temporal statement under a fairness assumption. -/
def C42_eventually : Prop :=
  ∀ (window interval : Nat) (dc : Bool), 1 ≤ window → window ≤ maxWindow → ∀ ss : List Step,
    ∃ cont : List Step, cont.all quiet = true ∧
      AllConfirmed ((World.init window interval dc).run ss).1 ((((World.init window interval dc).run ss).1).run cont).1

theorem C42_eventually_holds : C42_eventually := by
  intro window interval dc h1 h2 ss
  exact ((Good.init window interval dc h1 h2).run ss).eventually

/-- C42 as far as the model carries it (volatile, unchunked, no restart): safety for every fault schedule,
    neither controller ever fails, and the non-temporal progress statement -/
def C42_full : Prop :=
  C42_safety ∧
  (∀ (window interval : Nat) (dc : Bool), window ≤ maxWindow → ∀ ss : List Step,
    ((World.init window interval dc).run ss).1.p.failed = false ∧ ((World.init window interval dc).run ss).1.c.failed = false) ∧
  C42_progress ∧ C42_eventually

theorem C42_holds : C42_full :=
  ⟨C42_safety_holds,
   fun window interval dc hw ss => ⟨C42_producer_never_fails window interval dc hw ss, C42_consumer_never_fails window interval dc ss⟩,
   C42_progress_holds, C42_eventually_holds⟩

/-- TEST (evaluated): after a lost SequencedMessage, `recover` puts it back in flight -/
example :
    let w := ((World.init 3 1 false).run [.deliverCP 0, .deliverPC 0, .deliverCP 0, .userP, .userP, .dropPC 0]).1
    w.netPC = [] ∧ (recover w).netPC.contains (.sequenced 1 1 1 (payloadOf 1)) = true := by decide

/-- a clean run: registration, demand, three messages produced, delivered and confirmed, then idle ticks -/
def cleanScript : List Step :=
  [.deliverCP 0, .deliverPC 0, .deliverCP 0, .userP, .userP, .deliverPC 0, .userC true,
   .userP, .userP, .deliverPC 0, .userC true, .deliverCP 0, .userP, .userP, .deliverPC 0, .userC true]

/-- TEST (one script, evaluated): the monitor is not vacuous — three sequences were presented in order -/
example : (monitorOf 4 1 false cleanScript).last = 3 ∧ (monitorOf 4 1 false cleanScript).ids = [1, 2, 3] := by decide

/-- TEST (one script, evaluated): the monitor does flag a gap (presenting 2 after 0) -/
example : (Mon.run {} [.stored 1 1, .stored 2 2, .present 2 2 (payloadOf 2)]).okOrder = false := by decide

/-- TEST: … and a re-presentation after the confirmation -/
example : (Mon.run {} [.stored 1 1, .present 1 1 (payloadOf 1), .confirm 1, .present 1 1 (payloadOf 1)]).okOrder = false := by decide

end GoaktVerif.C42
