/-
C08 — Restart backoff and fault counting are arithmetically correct.

"For every fault count and configured initial/maximum delay, the restart delay equals
 min(initial x 2^(n-1), maximum), is never negative, never exceeds the maximum, never decreases as
 faults accumulate, and is zero when backoff is disabled. The consecutive-fault counter restarts
 from one when the previous fault is older than a positive reset window."

Tie: `Gen.C08.backoffDelay` is regenerated from actor/pid.go on every run (go2lean, Int64 with Go's
shift semantics).  `backoff_refines` proves it equal to the Int model `Model.C08.backoff` for ALL
2^192 int64 triples; every theorem below about `Gen.C08.backoffDelay` therefore speaks about the
current source.  `Gen.C08.recordFault` (clock reading and the two atomics as parameters) and `Gen.C08.budgetExceeded` are
regenerated too: `recordFault_refines` ties the Int model of recordFault to the source for every window, clock
reading ≥ 0, stamp and counter (so the exact boundary now-last = window is covered);
`WithExponentialBackoff` is a hand model tied by the differential.

Outcome: the full statement holds (C08_holds).  The early cap fires at shift 63 (fix of C08-F1: at shift 62
backoffDelay(63, 1ns, max > 2^62 ns) would return max instead of 2^62 ns).
-/
import GoaktVerif.Gen.C08
import GoaktVerif.Model.C08
import GoaktVerif.Spec.C08
import GoaktVerif.Lemmas.C08
import GoaktVerif.Lemmas.FixedWidth

namespace GoaktVerif.C08
open GoaktVerif.Model.C08 GoaktVerif.Spec.C08 GoaktVerif.C08L

theorem two_pow_mono {a b : Nat} (h : a ≤ b) : (2:Int) ^ a ≤ 2 ^ b := by
  exact_mod_cast Nat.pow_le_pow_right (n := 2) (by decide) h

theorem backoff_refines (n i m : Int64) :
    (Gen.C08.backoffDelay n i m).toInt = backoff n.toInt i.toInt m.toInt := by
  unfold Gen.C08.backoffDelay backoff
  have e0 : (0 : Int64).toInt = 0 := rfl
  have e63 : (63 : Int64).toInt = 63 := rfl
  simp only [Bool.or_eq_true, decide_eq_true_eq, Int64.le_iff_toInt_le, Int64.lt_iff_toInt_lt,
    ge_iff_le, gt_iff_lt, e0, e63, show (1 : Int64).toInt = 1 from rfl]
  by_cases hc : i.toInt ≤ 0 ∨ n.toInt < 1
  · rw [if_pos hc, if_pos hc]; rfl
  · rw [if_neg hc, if_neg hc]
    have hs := sub_one_toInt n (by omega)
    rw [hs]
    by_cases h63 : 63 ≤ n.toInt - 1
    · rw [if_pos h63, if_pos h63]
    · rw [if_neg h63, if_neg h63]
      have hs0 : 0 ≤ (n - 1).toInt := by omega
      have hs1 : (n - 1).toInt < 64 := by omega
      rw [shrInt64_toInt m (n - 1) hs0 hs1, hs]
      by_cases hgt : m.toInt / 2 ^ (n.toInt - 1).toNat < i.toInt
      · rw [if_pos hgt, if_pos hgt]
      · rw [if_neg hgt, if_neg hgt]
        have hp : (0:Int) < 2 ^ (n.toInt - 1).toNat := Int.pow_pos (by decide)
        have hle : i.toInt * 2 ^ (n.toInt - 1).toNat ≤ m.toInt :=
          (Int.le_ediv_iff_mul_le hp).mp (by omega)
        have hm := m.toInt_lt
        have := shlInt64_toInt i (n - 1) hs0 hs1 (by omega) (by rw [hs]; omega)
        rw [this, hs]

/-- from shift 63 on the product is beyond every int64 maximum, so the law gives the maximum -/
theorem min_cap (i m : Int) (k : Nat) (hi : 1 ≤ i) (hk : 63 ≤ k) (hm : m < 2 ^ 63) : min (i * 2 ^ k) m = m := by
  have h1 := two_pow_mono hk
  have h2 := Int.mul_le_mul_of_nonneg_right hi (Int.le_of_lt (show (0:Int) < 2 ^ k from Int.pow_pos (by decide)))
  omega

/-- below the early cap (n ≤ 63) the code computes exactly the law, whatever i and m are -/
theorem backoff_eq_spec_low (n i m : Int) (hn : n ≤ 63) : backoff n i m = specDelay n i m := by
  unfold backoff specDelay
  by_cases hc : i ≤ 0 ∨ n < 1
  · rw [if_pos hc, if_pos hc]
  · rw [if_neg hc, if_neg hc, if_neg (by omega)]
    have hp : (0:Int) < 2 ^ (n - 1).toNat := Int.pow_pos (by decide)
    by_cases hgt : i > m / 2 ^ (n - 1).toNat
    · rw [if_pos hgt]
      have := (Int.ediv_lt_iff_lt_mul hp).mp hgt
      omega
    · rw [if_neg hgt]
      have := (Int.le_ediv_iff_mul_le hp).mp (Int.not_lt.mp hgt)
      omega

/-- at and above the early cap (n ≥ 64) the code returns max, and so does the law: 2^63 > max -/
theorem backoff_eq_spec_high (n i m : Int) (hn : 64 ≤ n) (hm : m < 2 ^ 63) :
    backoff n i m = specDelay n i m := by
  unfold backoff specDelay
  by_cases hd : i ≤ 0 ∨ n < 1
  · rw [if_pos hd, if_pos hd]
  · rw [if_neg hd, if_neg hd, if_pos (by omega), min_cap i m _ (by omega) (by omega) hm]

theorem backoff_eq_spec (n i m : Int) (hm : m < 2 ^ 63) : backoff n i m = specDelay n i m := by
  by_cases hn : n ≤ 63
  · exact backoff_eq_spec_low n i m hn
  · exact backoff_eq_spec_high n i m (by omega) hm

/-- the judge's executable form of the law is the law -/
theorem specDelayExec_eq (n i m : Int) (hm : m < 2 ^ 63) : specDelayExec n i m = specDelay n i m := by
  unfold specDelayExec specDelay
  by_cases hd : i ≤ 0 ∨ n < 1
  · rw [if_pos hd, if_pos hd]
  · rw [if_neg hd, if_neg hd]
    by_cases hn : n - 1 ≥ 63 ∧ m < 2 ^ 63
    · rw [if_pos hn, min_cap i m _ (by omega) (by omega) hm]
    · rw [if_neg hn]

theorem spec_bounds (n i m : Int) (h : 0 ≤ m) : 0 ≤ specDelay n i m ∧ specDelay n i m ≤ m := by
  unfold specDelay
  split
  · omega
  · next hc =>
    have := Int.mul_pos (show 0 < i by omega) (show (0:Int) < 2 ^ (n - 1).toNat from Int.pow_pos (by decide))
    omega

theorem backoff_disabled (n i m : Int) (h : i ≤ 0) : backoff n i m = 0 := by
  unfold backoff; rw [if_pos (Or.inl h)]

/-- the law never decreases as faults accumulate — for every pair of counts -/
theorem spec_mono (n₁ n₂ i m : Int) (hm : 0 ≤ m) (hn : n₁ ≤ n₂) : specDelay n₁ i m ≤ specDelay n₂ i m := by
  by_cases hc : i ≤ 0 ∨ n₁ < 1
  · rw [show specDelay n₁ i m = 0 from if_pos hc]; exact (spec_bounds n₂ i m hm).1
  · unfold specDelay
    rw [if_neg hc, if_neg (by omega)]
    have hk : (n₁ - 1).toNat ≤ (n₂ - 1).toNat := by omega
    have := Int.mul_le_mul_of_nonneg_left (two_pow_mono hk) (show 0 ≤ i by omega)
    omega

/-- the (initialDelay, maxDelay) pairs a Supervisor can hold: (0,0) (never configured / option ignored)
    or 0 < initial ≤ max (WithExponentialBackoff raises max to initial) -/
def Configured (i m : Int) : Prop := (i = 0 ∧ m = 0) ∨ (0 < i ∧ i ≤ m)

theorem configure_configured (i m r : Int) :
    Configured (configure i m r).1 (configure i m r).2.1
    ∧ (0 < (configure i m r).1 → 0 < (configure i m r).2.2) := by
  unfold configure Configured
  by_cases h : i ≤ 0
  · simp [h]
  · simp only [if_neg h]
    constructor
    · right; constructor
      · omega
      · show i ≤ (if m < i then i else m); split <;> omega
    · intro _
      show 0 < (if r ≤ 0 then (if m < i then i else m) else r)
      split
      · split <;> omega
      · omega

/-- `recordFault`: the counter restarts from one exactly when the previous fault is older than a
    positive window; otherwise it is the previous count plus one. `last` becomes `now`. -/
theorem recordFault_spec (window now : Int) (s : Faults) :
    (recordFault window now s).1 = specCount window s.last now s.count
    ∧ (recordFault window now s).2.count = (recordFault window now s).1
    ∧ (recordFault window now s).2.last = now := by
  unfold recordFault specCount
  refine ⟨?_, rfl, rfl⟩
  split <;> rfl

/-- a non-positive window never resets -/
theorem recordFault_no_window (window now : Int) (s : Faults) (h : window ≤ 0) :
    (recordFault window now s).1 = s.count + 1 := by
  unfold recordFault
  rw [if_neg (by omega)]

/-- a run of faults none of which meets the reset test counts up by one each time: gaps within the window, a
    non-positive window, or a first fault after none (`last = 0`) -/
theorem recordFaults_noreset (window : Int) (nows : List Int) (s : Faults)
    (h : ∀ p ∈ (s.last :: nows).zip nows, ¬ (window > 0 ∧ p.1 > 0 ∧ p.2 - p.1 > window)) :
    recordFaults window nows s = (List.range' 1 nows.length).map (fun (j : Nat) => s.count + (j : Int)) := by
  induction nows generalizing s with
  | nil => rfl
  | cons now rest ih =>
    have hstep : recordFault window now s = (s.count + 1, { count := s.count + 1, last := now }) := by
      unfold recordFault
      rw [if_neg (h (s.last, now) (by simp))]
    have ih' := ih { count := s.count + 1, last := now } (fun p hp =>
      h p (by simp only [List.zip_cons_cons, List.mem_cons]; right; exact hp))
    simp only [recordFaults, hstep, ih', List.length_cons, List.range'_succ, List.map_cons]
    congr 1
    rw [List.range'_eq_map_range, List.range'_eq_map_range]
    simp only [List.map_map]
    apply List.map_congr_left
    intro a _
    simp only [Function.comp]
    omega

/-- any run of faults whose gaps all stay within the window counts up by one each time -/
theorem recordFaults_within (window : Int) (nows : List Int) (s : Faults)
    (h : ∀ p ∈ (s.last :: nows).zip nows, p.2 - p.1 ≤ window) :
    recordFaults window nows s = (List.range' 1 nows.length).map (fun (j : Nat) => s.count + (j : Int)) :=
  recordFaults_noreset window nows s fun p hp hc => by have := h p hp; omega

/-- C08 as stated: for every int64 fault count and every configurable (initial, max) the delay is
    min(initial·2^(n-1), max) (which gives 0 ≤ delay ≤ max, monotone, 0 when disabled), and the
    fault counter follows the window rule. -/
def C08_full : Prop :=
  (∀ n i m : Int64, Configured i.toInt m.toInt →
      (Gen.C08.backoffDelay n i m).toInt = specDelay n.toInt i.toInt m.toInt)
  ∧ (∀ window now s, (recordFault window now s).1 = specCount window s.last now s.count)

/-- the generated code equals the law on every int64 triple (no hypothesis on i ≤ m is even needed) -/
theorem backoff_law (n i m : Int64) :
    (Gen.C08.backoffDelay n i m).toInt = specDelay n.toInt i.toInt m.toInt := by
  rw [backoff_refines]
  exact backoff_eq_spec _ _ _ m.toInt_lt

/-- bounds and monotonicity need no more of the configuration than a non-negative maximum -/
theorem delay_bounds_of_nonneg (n i m : Int64) (h : 0 ≤ m.toInt) :
    0 ≤ (Gen.C08.backoffDelay n i m).toInt ∧ (Gen.C08.backoffDelay n i m).toInt ≤ m.toInt := by
  rw [backoff_law]; exact spec_bounds _ _ _ h

theorem delay_mono_of_nonneg (n₁ n₂ i m : Int64) (h : 0 ≤ m.toInt) (hn : n₁ ≤ n₂) :
    Gen.C08.backoffDelay n₁ i m ≤ Gen.C08.backoffDelay n₂ i m := by
  rw [Int64.le_iff_toInt_le] at hn ⊢
  rw [backoff_law, backoff_law]; exact spec_mono _ _ _ _ h hn

theorem delay_bounds (n i m : Int64) (h : 0 < i.toInt ∧ i.toInt ≤ m.toInt) :
    0 ≤ (Gen.C08.backoffDelay n i m).toInt ∧ (Gen.C08.backoffDelay n i m).toInt ≤ m.toInt :=
  delay_bounds_of_nonneg n i m (by omega)

theorem delay_mono (n₁ n₂ i m : Int64) (h : 0 < i.toInt ∧ i.toInt ≤ m.toInt) (hn : n₁ ≤ n₂) :
    Gen.C08.backoffDelay n₁ i m ≤ Gen.C08.backoffDelay n₂ i m :=
  delay_mono_of_nonneg n₁ n₂ i m (by omega) hn

theorem delay_disabled (n i m : Int64) (h : i.toInt ≤ 0) : Gen.C08.backoffDelay n i m = 0 := by
  apply Int64.toInt_inj.mp
  rw [backoff_refines, backoff_disabled _ _ _ h]; rfl

theorem C08_holds : C08_full :=
  ⟨fun n i m _ => backoff_law n i m, fun w now s => (recordFault_spec w now s).1⟩

/-- the consequences the English statement lists, spelled out -/
theorem C08_consequences :
    (∀ n i m : Int64, Configured i.toInt m.toInt →
        0 ≤ (Gen.C08.backoffDelay n i m).toInt ∧ (Gen.C08.backoffDelay n i m).toInt ≤ m.toInt)
    ∧ (∀ n₁ n₂ i m : Int64, Configured i.toInt m.toInt → n₁ ≤ n₂ →
        Gen.C08.backoffDelay n₁ i m ≤ Gen.C08.backoffDelay n₂ i m)
    ∧ (∀ n i m : Int64, i.toInt ≤ 0 → Gen.C08.backoffDelay n i m = 0) := by
  have hm : ∀ {i m : Int64}, Configured i.toInt m.toInt → 0 ≤ m.toInt := fun h => by
    rcases h with ⟨_, hm⟩ | h <;> omega
  exact ⟨fun n i m hcfg => delay_bounds_of_nonneg n i m (hm hcfg),
    fun n₁ n₂ i m hcfg hn => delay_mono_of_nonneg n₁ n₂ i m (hm hcfg) hn, delay_disabled⟩

/-- the Int64 definition of recordFault regenerated from pid.go equals the Int model, for every window,
    every non-negative clock reading, every stored stamp and every counter value below MaxInt64 -/
theorem recordFault_refines (window clock lastAt faults : Int64)
    (hclock : 0 ≤ clock.toInt) (hf : faults.toInt < 2 ^ 63 - 1) :
    (Gen.C08.recordFault window clock lastAt faults).1.toInt
        = (recordFault window.toInt clock.toInt ⟨faults.toInt, lastAt.toInt⟩).1
    ∧ (Gen.C08.recordFault window clock lastAt faults).2.1.toInt
        = (recordFault window.toInt clock.toInt ⟨faults.toInt, lastAt.toInt⟩).2.last
    ∧ (Gen.C08.recordFault window clock lastAt faults).2.2.toInt
        = (recordFault window.toInt clock.toInt ⟨faults.toInt, lastAt.toInt⟩).2.count := by
  have e0 : (0 : Int64).toInt = 0 := rfl
  have z1 : ((0 : Int64) + 1).toInt = 0 + 1 := add_one_toInt 0 (by rw [e0]; decide)
  unfold Gen.C08.recordFault recordFault
  simp only [Bool.and_eq_true, decide_eq_true_eq, gt_iff_lt, Int64.lt_iff_toInt_lt, e0]
  have hsub := sub_toInt clock lastAt hclock
  by_cases hc : window.toInt > 0 ∧ lastAt.toInt > 0 ∧ clock.toInt - lastAt.toInt > window.toInt
  · rw [if_pos (show (0 < window.toInt ∧ 0 < lastAt.toInt) ∧ window.toInt < (clock - lastAt).toInt from
        ⟨⟨hc.1, hc.2.1⟩, hsub hc.2.1 ▸ hc.2.2⟩), if_pos hc]
    exact ⟨z1, rfl, z1⟩
  · rw [if_neg (fun (h : (0 < window.toInt ∧ 0 < lastAt.toInt) ∧ window.toInt < (clock - lastAt).toInt) =>
        hc ⟨h.1.1, h.1.2, hsub h.1.2 ▸ h.2⟩), if_neg hc]
    exact ⟨add_one_toInt faults hf, rfl, add_one_toInt faults hf⟩

/-- the restart budget test of handleRestartDirective, regenerated: maxRetries > 0 ∧ window > 0 ∧ faults > maxRetries -/
theorem budgetExceeded_spec (mr : UInt32) (faults window : Int64) :
    Gen.C08.budgetExceeded mr faults window
      = decide (0 < mr.toNat ∧ 0 < window.toInt ∧ (mr.toNat : Int) < faults.toInt) := by
  unfold Gen.C08.budgetExceeded
  have e0 : (0 : Int64).toInt = 0 := rfl
  have hm : (0 : UInt32) < mr ↔ 0 < mr.toNat := by
    rw [UInt32.lt_iff_toNat_lt]; rfl
  simp only [gt_iff_lt, Int64.lt_iff_toInt_lt, e0, GoaktVerif.FixedWidth.uint32_toUInt64_toInt64_toInt, hm]
  rw [Bool.decide_and, Bool.decide_and, Bool.and_assoc]

example : Configured (100000000 : Int64).toInt (30000000000 : Int64).toInt := by right; decide
example : (Gen.C08.backoffDelay 63 1 9223372036854775807).toInt = 4611686018427387904 := by decide  -- the C08-F1 corner: shift 62 is not capped
example : (Gen.C08.backoffDelay 3 100000000 30000000000).toInt = 400000000 := by decide
example : (Gen.C08.backoffDelay 30 1099511627777 2199023255552).toInt = 2199023255552 := by decide  -- a product beyond max saturates
example : (recordFaults 10 [100, 105, 110, 125, 126] ⟨0, 0⟩) = [1, 2, 3, 1, 2] := by decide

-- recordFault_refines is not vacuous: a reset exactly one nanosecond past the window, none at the boundary
example : (Gen.C08.recordFault 10 111 100 7).1 = 1 := by decide
example : (Gen.C08.recordFault 10 110 100 7).1 = 8 := by decide
example : Gen.C08.budgetExceeded 3 4 1000 = true ∧ Gen.C08.budgetExceeded 3 3 1000 = false ∧ Gen.C08.budgetExceeded 3 9 0 = false := by decide

end GoaktVerif.C08
