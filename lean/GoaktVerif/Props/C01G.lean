/-
C01G / C02G — C01 and C02 for GRAINS: the invariants of the grain machine (`Inv`, `Acct`, `AbsInv`, `LenInv`, `Jat`;
`Inv`, `LenInv` and `Jat` kept together as `Good`), `C01G_holds`, `C02G_holds` and the witness that a paused grain may sit idle with mail.

The two properties are quoted in Props/C01.lean and Props/C02.lean.

Model: `Model/C01G.lean` — the grain turn loop (responses queue first, user mailbox skipped while
paused, hasPendingWork / finishOrReclaim, the grain mailbox with its `len` counter), senders of every
kind (TellGrain-style receive, async request / response envelopes, timer ticks, passivation pill) and
workers, any number of each, arbitrary programs.  Theorems quantify over EVERY schedule of every length.
Tie: the same model is replayed step by step against the real, instrumented grain code (engine E3,
tools/extra/c01g.py, run as an extra check of C01 and C02).
-/
import GoaktVerif.Lemmas.C01G
import GoaktVerif.Lemmas.Run

namespace GoaktVerif.C01G
open GoaktVerif.Model.C01G GoaktVerif.Lemmas.C01G GoaktVerif.Lemmas.Dispatch

def ind (p : Prop) [Decidable p] : Nat := if p then 1 else 0

def tokens (c : Cfg) : Nat := c.sh.rq + sumBy (fun t => tok t.pc) c.threads
def owners (c : Cfg) : Nat := sumBy (fun t => own t.pc) c.threads
/-- handler invocations (OnReceive or a request continuation) in progress -/
def handlersRunning (c : Cfg) : Nat := sumBy inRecv c.threads

/-- The inductive invariant: exactly one token exists iff the state is Scheduled; exactly one worker
    owns the turn iff the state is Processing; never were two handlers in progress. -/
def Inv (c : Cfg) : Prop :=
  tokens c = ind (c.sh.sched = .scheduled) ∧ owners c = ind (c.sh.sched = .processing) ∧ c.sh.maxIn ≤ 1

/- As in Props/C01.lean (`Inv.perm` there spells it out): `Inv ⟨s, l⟩` unfolds (`tokens`, `owners`, `ind`) to
   `TokInv sumBy .scheduled .processing (fun t => tok t.pc) (fun t => own t.pc) s.sched s.rq s.maxIn l`. -/
theorem Inv.perm : Blind Inv := fun _ _ _ p h => TokInv.perm sumBy_isSum p h

theorem exec_frame : Kept Inv := fun s t R pc hpc h =>
  TokInv.step sumBy_isSum three (exec_kind s t _ pc hpc).1 (sumBy_isSum.le R inRecv_le_own) h

theorem step_inv (c : Cfg) (tid : Nat) (h : Inv c) : Inv (step c tid).2 :=
  step_ind Inv.perm exec_frame c tid h

def run (c : Cfg) : List Nat → Cfg
  | [] => c
  | t :: ts => run (step c t).2 ts

theorem run_ind {P : Cfg → Prop} (hperm : Blind P) (hexec : Kept P) (c : Cfg) (sched : List Nat) (h : P c) :
    P (run c sched) :=
  Run.inv' (fun _ => rfl) (fun _ _ _ => rfl) (step_ind hperm hexec) sched c h

theorem run_inv (c : Cfg) (sched : List Nat) (h : Inv c) : Inv (run c sched) :=
  run_ind Inv.perm exec_frame c sched h

theorem init_inv (reent : Bool) (budget : Nat) (progs : List (List Op)) : Inv (init reent budget progs) :=
  TokInv.init sumBy_isSum three (init_zero tok 0 rfl (fun _ => rfl) rfl progs)
    (init_zero own 0 rfl (fun _ => rfl) rfl progs)

theorem reach_inv (reent : Bool) (budget : Nat) (progs : List (List Op)) (sched : List Nat) :
    Inv (run (init reent budget progs) sched) :=
  run_inv _ sched (init_inv reent budget progs)

/-- C01 for grains: for ANY number of sender and worker threads with ANY programs (user messages, blocking
    requests, async request / response envelopes, timer ticks, passivation pills), with or without a
    reentrancy state, ANY turn budget and EVERY schedule: at most one handler invocation (OnReceive or a
    request continuation) is in progress, at most one worker owns the turn, and never in the past were two
    handlers in progress at once. -/
def C01G_full : Prop :=
  ∀ (reent : Bool) (budget : Nat) (progs : List (List Op)) (sched : List Nat),
    let c := run (init reent budget progs) sched
    handlersRunning c ≤ 1 ∧ owners c ≤ 1 ∧ c.sh.maxIn ≤ 1

theorem C01G_holds : C01G_full := fun reent budget progs sched =>
  TokInv.bound sumBy_isSum inRecv_le_own (reach_inv reent budget progs sched)

/-- non-vacuity: a concrete run in which a handler IS in progress (so the bound is about something) -/
example : handlersRunning (run (init true 2 [[.send ⟨.user, 1⟩], [.work]])
    [0,0,0,0,0,0,0,1,1,1,1,1,1,1,1,1,1,1,1]) = 1 := by decide

def ids (cells : List Cell) : List Msg := cells.map (·.msg)

/-- the message a worker has dequeued and not yet finished with -/
def held (t : Thread) : List Msg := liftL heldP t.pc

def cq (m : Msg) (v : Queue) : Nat := (ids v.cells).count m

theorem cq_len (m : Msg) (v : Queue) (d : Int) : cq m { v with len := v.len + d } = cq m v := rfl

theorem ids_publish (x : Msg) (cells : List Cell) : ids (publish x cells) = ids cells := by
  induction cells with
  | nil => rfl
  | cons c cs ih =>
    simp only [publish]
    split
    · simp [ids]
    · simp only [ids, List.map_cons] at ih ⊢; rw [ih]

theorem ids_of_headReady {cells : List Cell} {x : Msg} (h : headReady cells = some x) :
    ids cells = x :: ids cells.tail := by
  cases cells with
  | nil => simp [headReady] at h
  | cons c cs =>
    simp only [headReady] at h
    split at h <;> simp at h
    simp [ids, h]

/-- Accounting invariant: every accepted message is in exactly one place. -/
def Acct (c : Cfg) : Prop :=
  (c.sh.handled ++ c.sh.absorbed ++ c.threads.flatMap held ++ ids c.sh.qR.cells ++ ids c.sh.qM.cells).Perm c.sh.accepted

/-- what an update of queue `q` does to the number of `a` queued, over both queues -/
theorem count_upd (v : GView) (q : Q) (f : Queue → Queue) (a : Msg) :
    (ids (v.upd q f).qR.cells).count a + (ids (v.upd q f).qM.cells).count a + (ids (v.q q).cells).count a
      = (ids v.qR.cells).count a + (ids v.qM.cells).count a + (ids (f (v.q q)).cells).count a := by
  cases q <;> simp only [GView.upd, onQ, GView.q, reduceCtorEq, ↓reduceIte] <;> omega

/-- A step moves one message from one place to the next: count the occurrences of each message. -/
theorem acct_step {v v' : GView} (h : GStep v v') {H : List Msg}
    (ha : (v.handled ++ v.absorbed ++ (v.held ++ H) ++ ids v.qR.cells ++ ids v.qM.cells).Perm v.accepted) :
    (v'.handled ++ v'.absorbed ++ (v'.held ++ H) ++ ids v'.qR.cells ++ ids v'.qM.cells).Perm v'.accepted := by
  refine List.perm_iff_count.mpr fun a => ?_
  have ha := ha.count_eq a
  simp only [List.count_append] at ha ⊢
  cases h with
  | skip | toPill | answer => exact ha
  | reserve q x =>
    have hu := count_upd v q (fun u => { u with cells := u.cells ++ [⟨x, false⟩] }) a
    simp only [GView.upd_handled, GView.upd_absorbed, GView.upd_held, ids, List.map_append, List.map_cons, List.map_nil,
      List.count_append] at hu ha ⊢
    omega
  | link q x =>
    have hu := count_upd v q (fun u => { u with cells := publish x u.cells }) a
    simp only [ids_publish] at hu
    simp only [GView.upd_handled, GView.upd_absorbed, GView.upd_held, GView.upd_accepted]
    omega
  | count q | discount q => cases q <;> exact ha
  | pop q x hm hd =>
    have hu := count_upd v q (fun u => { u with cells := u.cells.tail }) a
    rw [ids_of_headReady hm] at hu
    simp only [GView.upd_handled, GView.upd_absorbed, GView.upd_accepted, hd, List.count_cons, List.count_nil] at hu ha ⊢
    omega
  | absorb x _ hh => simp only [hh, List.count_cons, List.count_nil] at ha ⊢; omega
  | handle x l hh => simp only [hh, List.count_cons, List.count_nil] at ha ⊢; omega

theorem Acct.perm : Blind Acct := fun _ _ _ p h =>
  ((((p.flatMap_right held).symm.append_left _).append_right _).append_right _).trans h

theorem exec_acct : Kept Acct := fun s t _ pc hpc h =>
  acct_step (exec_kind s t _ pc hpc).2 h

/-- Exactly-once, part 1: in every reachable configuration the accepted messages are, as a multiset, exactly
    those handled (OnReceive / continuation ran), absorbed by the runtime without a handler, held by a worker
    (dequeued, handler not finished), or still in the responses queue or in the user mailbox. -/
theorem C02G_accounting (reent : Bool) (budget : Nat) (progs : List (List Op)) (sched : List Nat) :
    Acct (run (init reent budget progs) sched) := by
  refine run_ind Acct.perm exec_acct _ sched ?_
  unfold init Acct
  have : (progs.map (nextOp · [])).flatMap held = [] :=
    List.flatMap_eq_nil_iff.mpr (init_zero (liftL heldP) [] rfl (fun _ => rfl) rfl progs)
  rw [this]
  exact .refl _

/-- no message is handled more often than it was accepted (so: never twice when messages are distinct) -/
theorem C02G_no_duplicate (reent : Bool) (budget : Nat) (progs : List (List Op)) (sched : List Nat) (m : Msg) :
    (run (init reent budget progs) sched).sh.handled.count m ≤ (run (init reent budget progs) sched).sh.accepted.count m := by
  have h := (C02G_accounting reent budget progs sched).count_eq m
  simp only [List.count_append] at h
  omega

def AbsInv (c : Cfg) : Prop := (∀ x ∈ c.sh.absorbed, absorbable x) ∧ (∀ t ∈ c.threads, ppOK t.pc)

theorem abs_step {v v' : GView} (h : GStep v v') (ha : ∀ y ∈ v.absorbed, absorbable y) (hp : v.pp) :
    (∀ y ∈ v'.absorbed, absorbable y) ∧ v'.pp := by
  cases h with
  | absorb x hx =>
    refine ⟨fun y hy => ?_, trivial⟩
    rcases List.mem_cons.mp hy with rfl | hy
    · exact hx hp
    · exact ha y hy
  | toPill x hk => exact ⟨ha, hk⟩
  | _ => exact ⟨ha, hp⟩

theorem AbsInv.perm : Blind AbsInv := fun _ _ _ p h =>
  ⟨h.1, fun t ht => h.2 t (p.mem_iff.mpr ht)⟩

theorem exec_abs : Kept AbsInv := fun s t R pc hpc h => by
  have g := abs_step (exec_kind s t (sumBy inRecv R) pc hpc).2 h.1 (h.2 t List.mem_cons_self)
  refine ⟨g.1, fun t' ht' => ?_⟩
  rcases List.mem_cons.mp ht' with rfl | ht'
  · exact g.2
  · exact h.2 t' (List.mem_cons_of_mem _ ht')

/-- Exactly-once, part 2: the runtime consumes without a handler ONLY passivation pills and async responses
    (a response is dropped when no request with its correlation id is in flight).  Every user message, async
    request and timer tick that was accepted is therefore handled, held by the worker running the turn, or still
    queued — never silently dropped. -/
theorem C02G_absorbed_kinds (reent : Bool) (budget : Nat) (progs : List (List Op)) (sched : List Nat) :
    ∀ x ∈ (run (init reent budget progs) sched).sh.absorbed, x.kind = .pill ∨ x.kind = .resp :=
  (run_ind AbsInv.perm exec_abs _ sched
    ⟨fun _ h => absurd h List.not_mem_nil, fun t ht => of_eq_true (init_zero ppOK True rfl (fun _ => rfl) rfl progs t ht)⟩).1

/-- `len` of a queue = cells reserved in it − producers that have not yet counted theirs + consumers that have
    not yet discounted theirs -/
def LenInv (c : Cfg) (q : Q) : Prop :=
  (c.sh.q q).len + (sumBy (fun t => lift (midSP q) t.pc) c.threads : Int)
    = ((c.sh.q q).cells.length : Int) + (sumBy (fun t => lift (midDP q) t.pc) c.threads : Int)

theorem LenInv.perm (q : Q) : Blind (LenInv · q) := fun s l l' p h => by
  simp only [LenInv] at h ⊢; rwa [← sumBy_isSum.perm _ p, ← sumBy_isSum.perm _ p]

theorem exec_len (q : Q) : Kept (LenInv · q) := fun s t R pc hpc h => by
  -- `Shared.q` and `GView.q` are matches on `q`: `(gview s p).q q` meets `s.q q` only at a constructor
  cases q
  · exact ((exec_kind s t _ pc hpc).2.at .R).len h
  · exact ((exec_kind s t _ pc hpc).2.at .M).len h

theorem init_len (reent : Bool) (budget : Nat) (progs : List (List Op)) (q : Q) : LenInv (init reent budget progs) q := by
  unfold init LenInv
  rw [sumBy_isSum.zero (init_zero (lift (midSP q)) 0 rfl (fun _ => rfl) rfl progs),
    sumBy_isSum.zero (init_zero (lift (midDP q)) 0 rfl (fun _ => rfl) rfl progs)]
  cases q <;> rfl

/-- The `len` counter of each grain queue, in every reachable configuration.  In particular at quiescence
    (no thread inside an Enqueue or a Dequeue) `len` is the number of queued messages, and `IsEmpty` (`len = 0`)
    can only misreport a non-empty queue while a producer of that queue has not finished its Enqueue. -/
theorem C02G_len (reent : Bool) (budget : Nat) (progs : List (List Op)) (sched : List Nat) (q : Q) :
    LenInv (run (init reent budget progs) sched) q :=
  run_ind (LenInv.perm q) (exec_len q) _ sched (init_len reent budget progs q)

/-- the work that queue `q` holds for the grain: a reserved cell; for the mailbox only while the grain is not paused -/
def pendingAt (s : Shared) : Q → Prop
  | .R => s.qR.cells ≠ []
  | .M => s.qM.cells ≠ [] ∧ s.outstanding = []

/-- the reclaiming workers that count for queue `q` are those in finishOrReclaim that still answer for `q` (`recP q`) -/
def Jat (c : Cfg) (q : Q) : Prop :=
  WakeInv sumBy Sched.idle (fun t => lift inflightP t.pc) (fun t => lift (recP q) t.pc) (pendingAt c.sh q) c.sh.sched c.threads

/-- the pause ends only under a thread that holds a message -/
theorem out_step {v v' : GView} (h : GStep v v') (ho : v'.out = []) : v.out = [] ∨ v'.held ≠ [] := by
  cases h with
  | answer l hh => exact .inr hh
  | handle x l _ hl => exact .inl (hl ho)
  | _ => exact .inl ho

/-- `len = 0` on a non-empty queue ⇒ one of its producers is still inside Enqueue, hence in flight -/
theorem LenInv.inflight {q : Q} {s : Shared} {l : List Thread} (hl : LenInv ⟨s, l⟩ q)
    (h0 : (s.q q).len = 0) (hc : (s.q q).cells ≠ []) : 0 < sumBy (fun t => lift inflightP t.pc) l := by
  simp only [LenInv] at hl
  have := sumBy_isSum.le l fun t => midS_le_inflight q t.pc
  have := List.length_pos_iff.mpr hc
  omega

/-- not a `Kept`: `Jat` is kept only together with `Inv` and `LenInv` (`Good`, `exec_good` below) -/
theorem exec_wake (q : Q) (s : Shared) (t : Thread) (R : List Thread) (pc : PC) (hpc : t.pc = some pc)
    (hi : Inv ⟨s, t :: R⟩) (hl : LenInv ⟨s, t :: R⟩ q) (hJ : Jat ⟨s, t :: R⟩ q) :
    Jat ⟨(exec s t (sumBy inRecv R) pc).1, (exec s t (sumBy inRecv R) pc).2 :: R⟩ q := by
  obtain ⟨hd, hg⟩ := exec_kind s t (sumBy inRecv R) pc hpc
  have hi' := exec_frame s t R pc hpc hi
  refine WakeInv.step (ρ := fun t q => lift (recP q) t.pc) sumBy_isSum three q hd (fun hp' => ?_) (fun he hp => ?_) hJ
  · cases q with
    | R =>
      rcases (hg.at .R).cells_ne hp' with h | h
      · exact .inl h
      · exact .inr (.inl (Nat.lt_of_lt_of_le h (midS_le_inflight _ _)))
    | M =>
      rcases (hg.at .M).cells_ne hp'.1 with h | h
      · rcases out_step hg hp'.2 with ho | hh
        · exact .inl ⟨h, ho⟩
        · exact .inr (.inr (TokInv.not_idle sumBy_isSum three hi' (held_own _ hh)))
      · exact .inr (.inl (Nat.lt_of_lt_of_le h (midS_le_inflight _ _)))
  · cases q with
    | R => exact hl.inflight he hp
    | M =>
      rcases he with he | he
      · exact absurd hp.2 ((pausedNow_iff s).mp he)
      · exact hl.inflight he hp.1

/-- `Jat` rests on C01G's invariant (the pause ends only under the turn owner) and on the `len` invariant (`IsEmpty`
    misreports only while a producer is inside Enqueue): the three are kept together -/
def Good (c : Cfg) : Prop := Inv c ∧ ∀ q, LenInv c q ∧ Jat c q

theorem Good.perm : Blind Good := fun s l l' p h =>
  ⟨h.1.perm s l l' p, fun q => ⟨(h.2 q).1.perm q s l l' p, WakeInv.perm sumBy_isSum p (h.2 q).2⟩⟩

theorem exec_good : Kept Good := fun s t R pc hpc h =>
  ⟨exec_frame s t R pc hpc h.1, fun q =>
    ⟨exec_len q s t R pc hpc (h.2 q).1, exec_wake q s t R pc hpc h.1 (h.2 q).1 (h.2 q).2⟩⟩

theorem run_good (reent : Bool) (budget : Nat) (progs : List (List Op)) (sched : List Nat) :
    Good (run (init reent budget progs) sched) :=
  run_ind Good.perm exec_good _ sched
    ⟨init_inv reent budget progs, fun q => ⟨init_len reent budget progs q, .init <| by
      cases q; exact fun h => h rfl; exact fun h => h.1 rfl⟩⟩

/-- queue by queue: for pending responses only a worker at `wRE`, `wTs1`, `wTs2` answers (`recP_R`) -/
theorem no_lost_wakeup_at (reent : Bool) (budget : Nat) (progs : List (List Op)) (sched : List Nat) (q : Q) :
    let c := run (init reent budget progs) sched
    pendingAt c.sh q → 0 < c.sh.rq ∨ ∃ t ∈ c.threads,
      0 < tok t.pc ∨ 0 < own t.pc ∨ 0 < lift inflightP t.pc ∨ 0 < lift (recP q) t.pc := by
  intro c hq
  obtain ⟨hi, hJ⟩ := run_good reent budget progs sched
  exact TokInv.responsible sumBy_isSum three hi (hJ q).2 hq

/-- the grain's pending work, in terms of what is really queued: a response, or a user-mailbox message in a
    grain that is not paused.  (The code's `hasPendingWork` reads the `len` counters instead; `C02G_len` relates
    the two.)  A PAUSED grain whose only input is user messages has NO pending work: those messages wait for the
    response that ends the pause. -/
def pending (s : Shared) : Prop := s.qR.cells ≠ [] ∨ (s.qM.cells ≠ [] ∧ s.outstanding = [])

instance (s : Shared) : Decidable (pending s) := by unfold pending; infer_instance

def responsible (p : Option PC) : Prop :=
  0 < tok p ∨ 0 < own p ∨ 0 < lift inflightP p ∨ 0 < lift recMP p

/-- No lost wake-up (absence of stuck states).  In EVERY reachable configuration, for every schedule: if the grain
    has pending work then the ready queue holds an entry for it (any free worker's next take gets it), or some
    thread is still responsible for it: a token holder about to push or take, the owner of the current turn, a
    sender that has not finished its TrySchedule, or a worker still inside finishOrReclaim's re-check. -/
def C02G_no_lost_wakeup_stmt : Prop :=
  ∀ (reent : Bool) (budget : Nat) (progs : List (List Op)) (sched : List Nat),
    let c := run (init reent budget progs) sched
    pending c.sh → 0 < c.sh.rq ∨ ∃ t ∈ c.threads, responsible t.pc

theorem C02G_no_lost_wakeup : C02G_no_lost_wakeup_stmt := by
  intro reent budget progs sched c hp
  obtain ⟨q, hq⟩ : ∃ q, pendingAt c.sh q := hp.elim (⟨.R, ·⟩) (⟨.M, ·⟩)
  rcases no_lost_wakeup_at reent budget progs sched q hq with h | ⟨t, ht, h⟩
  · exact .inl h
  · exact .inr ⟨t, ht, h.imp_right (.imp_right (.imp_right fun h => Nat.lt_of_lt_of_le h (recP_le q t.pc)))⟩

/-- Corollary: when every thread has run to completion, pending work always comes with a ready-queue entry — a
    free worker will take the grain.  Read contrapositively: with no ready entry, the responses queue is empty and
    the user mailbox is empty OR the grain is paused. -/
theorem C02G_quiescent (reent : Bool) (budget : Nat) (progs : List (List Op)) (sched : List Nat)
    (hq : ∀ t ∈ (run (init reent budget progs) sched).threads, t.pc = none) :
    let c := run (init reent budget progs) sched
    0 < c.sh.rq ∨ (c.sh.qR.cells = [] ∧ (c.sh.qM.cells = [] ∨ c.sh.outstanding ≠ [])) := by
  intro c
  by_cases hp : pending c.sh
  · rcases C02G_no_lost_wakeup reent budget progs sched hp with h | ⟨t, ht, h⟩
    · exact .inl h
    · rw [hq t ht] at h
      rcases h with h | h | h | h <;> exact absurd h (Nat.lt_irrefl 0)
  · refine .inr ⟨Decidable.byContradiction fun h => hp (.inl h), ?_⟩
    by_cases hm : c.sh.qM.cells = []
    · exact .inl hm
    · exact .inr fun ho => hp (.inr ⟨hm, ho⟩)

/-- witness programs: a sender (blocking request 1, then user message 2), a worker, the sender of the response, a worker -/
def pausedProgs : List (List Op) := [[.send ⟨.block, 1⟩, .send ⟨.user, 2⟩], [.work], [.send ⟨.resp, 1⟩], [.work]]
/-- the sender and the first worker run to completion -/
def pausedCfg : Cfg := run (init true 3 pausedProgs) (List.replicate 14 0 ++ List.replicate 40 1)
/-- then the response is delivered and the second worker runs -/
def resumedCfg : Cfg := run pausedCfg (List.replicate 7 2 ++ List.replicate 60 3)

set_option maxRecDepth 8000 in
/-- The paused case is real and legitimate: a reachable configuration in which the sender and the worker are done,
    the user mailbox holds message 2, the grain is paused by blocking request 1, the state is Idle, the ready queue is
    empty and NOTHING is pending — and the response that ends the pause gets the queued message handled. -/
theorem C02G_paused_idle_is_reachable :
    ((pausedCfg.threads.take 2).all (·.pc.isNone) = true ∧ pausedCfg.sh.qM.cells ≠ [] ∧ pausedCfg.sh.outstanding = [1]
      ∧ pausedCfg.sh.sched = .idle ∧ pausedCfg.sh.rq = 0 ∧ pausedCfg.sh.handled = [⟨.block, 1⟩] ∧ ¬ pending pausedCfg.sh)
    ∧ (resumedCfg.threads.all (·.pc.isNone) = true ∧ resumedCfg.sh.handled = [⟨.user, 2⟩, ⟨.resp, 1⟩, ⟨.block, 1⟩]
      ∧ resumedCfg.sh.qM.cells = [] ∧ resumedCfg.sh.outstanding = [] ∧ resumedCfg.sh.sched = .idle) := by
  decide

-- non-vacuity of the hypotheses: a configuration WITH pending work (a reserved, not yet linked user message) …
example : pending (run (init true 2 [[.send ⟨.user, 1⟩]]) [0, 0]).sh := by decide
-- … and a quiescent one (every thread done), as `C02G_quiescent` assumes
set_option maxRecDepth 8000 in
example : ∀ t ∈ (run (init true 3 pausedProgs) (List.replicate 14 0 ++ List.replicate 40 1 ++ List.replicate 7 2 ++ List.replicate 60 3)).threads,
    t.pc = none := by decide

def C02G_full : Prop :=
  (∀ reent budget progs sched, let c := run (init reent budget progs) sched
      (c.sh.handled ++ c.sh.absorbed ++ c.threads.flatMap held ++ ids c.sh.qR.cells ++ ids c.sh.qM.cells).Perm c.sh.accepted)
  ∧ (∀ reent budget progs sched m, (run (init reent budget progs) sched).sh.handled.count m ≤ (run (init reent budget progs) sched).sh.accepted.count m)
  ∧ (∀ reent budget progs sched, ∀ x ∈ (run (init reent budget progs) sched).sh.absorbed, x.kind = .pill ∨ x.kind = .resp)
  ∧ (∀ reent budget progs sched q, LenInv (run (init reent budget progs) sched) q)
  ∧ C02G_no_lost_wakeup_stmt

theorem C02G_holds : C02G_full :=
  ⟨C02G_accounting, C02G_no_duplicate, C02G_absorbed_kinds, C02G_len, C02G_no_lost_wakeup⟩

end GoaktVerif.C01G
