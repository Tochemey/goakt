/-
C11 — "A name maps to at most one running actor in a system."

  Within one actor system, for any interleaving of concurrent Spawn, SpawnChild and SpawnNamedFromFunc
  calls with the same name, at most one actor with that path runs at any time and every successful
  caller receives that same PID. The system's actor count equals the number of running user actors
  after the calls settle.  (Quantified over 2-8 concurrent spawns of the same and different names,
  including spawns racing a stop of that name.)

Model: `GoaktVerif.Model.C11` — a machine whose operations are the PHASES of the calls (spawn begin /
end, stop begin / end, full calls, concurrent groups); every interleaving of concurrent callers at that
granularity is an operation sequence, so quantifying over all operation sequences quantifies over all
interleavings, any number of callers, any names.  Tied to /repo by running the same scripts on a real
actor system with gates inside PreStart / PostStop (tools/props/c11.py).

Result: still FALSE of the current code (`C11_refuted`, finding C11-F3): a SpawnChild whose PreStart is running
while its parent is stopped completes outside the tree; once parent and child are spawned again two instances of
the child's path run.  Two earlier defects are FIXED in /repo and their witnesses are now positive theorems:
`witness_stop_race_fixed` (C11-F1, f0fff1d) and `witness_name_index_fixed` (C11-F2, 38faff1).
`C11_partial`: for every interleaving of spawn phases (any kinds, names, number of callers) with no stop in
flight, the full statement holds.
-/
import GoaktVerif.Lemmas.C11Run

namespace GoaktVerif.C11
open GoaktVerif.Model.C11

/-- the property on the outcome `(s, outs)` of an execution -/
def Holds (s : St) (outs : List Out) : Prop :=
  -- every PID handed to a caller is flagged running …
  (∀ o, o ∈ outs → ∀ q b, (q, b) ∈ outPids o → b = true) ∧
  -- … and callers that received actors of the same path received the same PID
  (∀ o₁ o₂, o₁ ∈ outs → o₂ ∈ outs → ∀ q₁ b₁ q₂ b₂, (q₁, b₁) ∈ outPids o₁ → (q₂, b₂) ∈ outPids o₂ →
      pathOf s q₁ = pathOf s q₂ → q₁ = q₂) ∧
  -- at most one actor with a given path runs
  (∀ k, liveCount s k ≤ 1) ∧
  -- once the calls have settled the actor count is the number of running user actors
  (s.flights = [] → s.stops = [] → s.counter = runningCount s)

/-- THE FULL PROPERTY: every operation sequence (hence every prefix: "at any time"). -/
def C11_full : Prop := ∀ ops : List Op, Holds (run St.init ops).1 (run St.init ops).2

/-- spawn of "a" while a stop of "a" is held inside PostStop -/
def witness : List Op :=
  [.full ⟨.spawn, ["a"]⟩, .kBegin ["a"], .full ⟨.spawn, ["a"]⟩, .kEnd ["a"], .full ⟨.spawn, ["a"]⟩]

/-- former finding C11-F1 (fixed by f0fff1d: a spawn that finds its name held by a stopping actor fails with
ErrActorAlreadyExists instead of starting a second instance): the racing caller gets an error, nothing leaks,
the count stays exact, and the spawn issued after the stop has settled creates the only instance -/
theorem witness_stop_race_fixed :
    (outPids ((run St.init (witness.take 3)).2.getD 2 .none) = []) ∧
    ((run St.init (witness.take 4)).1.counter = 0 ∧ runningCount (run St.init (witness.take 4)).1 = 0) ∧
    liveCount (run St.init witness).1 ["a"] = 1 := by
  decide

/-- former finding C11-F2 (fixed by 38faff1: the name index hands a shared name back when the node that took it
over is deleted): a child named like a top-level actor, stopped again, no longer hides the top-level actor -/
def witnessNameIndex : List Op :=
  [.full ⟨.spawn, ["x"]⟩, .full ⟨.spawn, ["a"]⟩, .full ⟨.child, ["a", "x"]⟩, .kill ["a", "x"], .full ⟨.spawn, ["x"]⟩]

theorem witness_name_index_fixed :
    liveCount (run St.init witnessNameIndex).1 ["x"] = 1 ∧ (run St.init witnessNameIndex).1.counter = 2 := by decide

/-- THE REFUTATION (finding C11-F3, the one defect still open): a SpawnChild held in PreStart while its parent is stopped completes
anyway ("parent pid does not exist" is not treated as a failure): the child runs outside the tree; once the
parent and the child are spawned again two instances of the child's path run -/
def witnessOrphan : List Op :=
  [.full ⟨.spawn, ["a"]⟩, .sBegin ⟨.child, ["a", "x"]⟩, .kill ["a"], .sEnd ["a", "x"],
   .full ⟨.spawn, ["a"]⟩, .full ⟨.child, ["a", "x"]⟩]

theorem witness_orphan : liveCount (run St.init witnessOrphan).1 ["a", "x"] = 2 := by decide

theorem C11_refuted : ¬ C11_full := by
  intro h
  have := (h witnessOrphan).2.2.1 ["a", "x"]
  rw [witness_orphan] at this
  omega

/-- from any state satisfying the invariant, and the PIDs handed out still run at the end -/
theorem holds_of_inv (s : St) (h : Inv s) (ops : List Op) (hsp : ops.all spawnOnly = true) :
    Holds (run s ops).1 (run s ops).2 ∧
    ∀ o, o ∈ (run s ops).2 → ∀ q b, (q, b) ∈ outPids o → phaseOf (run s ops).1 q = .running := by
  obtain ⟨hinv, _, hok⟩ := run_ok ops s h hsp
  refine ⟨⟨fun o ho q b hm => (hok o ho q b hm).1, ?_, live_le_one hinv, fun _ _ => hinv.count⟩,
    fun o ho q b hm => (hok o ho q b hm).2⟩
  intro o₁ o₂ h1 h2 q₁ b₁ q₂ b₂ m1 m2 e
  exact same_pid hinv q₁ q₂ (hok o₁ h1 q₁ b₁ m1).2 (hok o₂ h2 q₂ b₂ m2).2 e

/-- PARTIAL (code as it is): any interleaving of the phases of any number of Spawn /
SpawnNamedFromFunc / SpawnChild calls on any names, with no Shutdown in flight ⇒ the full statement. -/
theorem C11_partial (ops : List Op) (hsp : ops.all spawnOnly = true) :
    Holds (run St.init ops).1 (run St.init ops).2 :=
  (holds_of_inv St.init inv_init ops hsp).1

/-- a non-trivial spawn-only execution: held spawns of "a" and of child "a/x" interleaved with a
concurrent group and full spawns; 3 actors end up running, all counted -/
example :
    let ops : List Op := [.sBegin ⟨.spawn, ["a"]⟩, .full ⟨.func, ["b"]⟩, .sEnd ["a"], .sBegin ⟨.child, ["a", "x"]⟩,
      .par [⟨.spawn, ["a"]⟩, ⟨.func, ["a"]⟩, ⟨.spawn, ["b"]⟩], .full ⟨.spawn, ["a"]⟩, .sEnd ["a", "x"], .full ⟨.child, ["a", "x"]⟩]
    ops.all spawnOnly = true ∧ (run St.init ops).1.counter = 3 ∧ runningCount (run St.init ops).1 = 3 := by
  decide

end GoaktVerif.C11
