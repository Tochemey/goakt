/-
C27 — Remote tells keep order and are never silently dropped.

"Messages sent by one goroutine to one remote actor with RemoteTell are delivered to that actor in
 send order, each at most once. A message whose send was accepted is either delivered or, when its
 batch fails or the client closes, published to the sender's dead letters; none is dropped
 silently."   (quantifier: all interleavings of concurrent callers with the per-destination
 coalescer, transport failures at any batch, and client close with messages pending)

Model: Model/C27.lean — small-step interleaving semantics of coalescer.submit / run / close and of
the failure fan-out (enqueueCoalescedFailure / drainCoalescedFailures).  A schedule is an arbitrary
`List Act` (any number of submitting threads, any interleaving, any transport outcome per flush, any
resolution of Go's random select, close and system shutdown at any point).  Every theorem below
quantifies over ALL schedules of ANY length; they are proved with inductive invariants
(Lemmas/C27.lean), not by enumeration.

Reading of the property on the model:
 * "delivered in send order, each at most once": the remote node handles the batches of one
   connection-serialised writer one after the other and the messages of a batch in slice order
   (remoteTellHandler's `for` loop), so the delivery order is the concatenation of the flushed
   batches. `C27_order`.
 * "accepted ⇒ delivered or dead-lettered": in a quiescent state (nothing left to run) every
   message whose `submit` returned nil is in a successfully flushed batch or was dead-lettered by
   the fan-out. `C27_full` — proved (`C27_holds`) since fixes 305110c (close drains every batch), f8d2f6b
   (failed batch dead-lettered inline when the fan-out cannot take it) and 7baca6b (writer waits for submits in
   progress before its final drain); the three former findings are regression theorems below.
-/
import GoaktVerif.Gen.C27
import GoaktVerif.Model.C27
import GoaktVerif.Spec.C27
import GoaktVerif.Lemmas.C27

namespace GoaktVerif.C27
open GoaktVerif.Model.C27 GoaktVerif.Spec.C27

def final (c : Cfg) (acts : List Act) : St := run c St.init acts

/-- GLOBAL FIFO: what has reached the transport is, at every moment and under every schedule, a
    prefix of the acceptance log: nothing is reordered, duplicated, invented or skipped by the
    writer; the rest of the log is exactly the writer's batch followed by the channel buffer. -/
theorem C27_fifo (c : Cfg) (acts : List Act) :
    let s := final c acts
    s.flushedFlat ++ s.batch ++ s.chan = s.log ∧ s.flushedFlat <+: s.log := by
  have h : Fifo (final c acts) := fifo_run c acts fifo_init
  refine ⟨h, ?_⟩
  rw [← h, List.append_assoc]
  exact List.prefix_append _ _

/-- PER-THREAD ORDER: for every thread `t`, under every schedule, the messages of `t` that reached
    the transport (concatenated flushed batches) are a prefix of the messages of `t` that were
    accepted, and those are a subsequence of what `t` sent, in the order `t` sent it.  `Sublist`
    uses every sent occurrence at most once: this is "in send order, each at most once". -/
def C27_order_stmt : Prop :=
  ∀ (c : Cfg) (acts : List Act) (t : Nat),
    let s := final c acts
    (ofT t s.flushedFlat) <+: (ofT t s.log) ∧ List.Sublist (ofT t s.log) (ofT t s.begun)

theorem C27_order : C27_order_stmt := by
  intro c acts t
  refine ⟨?_, ?_⟩
  · exact List.IsPrefix.filter _ (C27_fifo c acts).2
  · have h := threadOrder_run c acts threadOrder_init t
    exact List.Sublist.trans (List.sublist_append_left _ _) h

theorem ofT_eq_ofThread : ofT = ofThread := rfl

/-- the same, through the decidable oracle the judge evaluates on the implementation's history -/
theorem C27_order_oracle (c : Cfg) (acts : List Act) :
    orderOK (final c acts).begun (final c acts).flushedFlat = true := by
  simp only [orderOK, ← ofT_eq_ofThread, List.all_eq_true, List.isSublist_iff_sublist]
  intro t _
  obtain ⟨h1, h2⟩ := C27_order c acts t
  exact List.Sublist.trans h1.sublist h2

/-- nothing reaches the transport unless its `submit` returned nil -/
theorem C27_no_phantom (c : Cfg) (acts : List Act) (m : Msg) (h : m ∈ (final c acts).flushedFlat) :
    m ∈ (final c acts).log :=
  (C27_fifo c acts).2.subset h

/-- WHERE EVERY ACCEPTED MESSAGE IS, in any quiescent state of any schedule: delivered,
    dead-lettered, or at one of the three silent-loss sites of the current code —
    (a) still in the channel buffer although the writer goroutine has exited,
    (b) dropped by `enqueueCoalescedFailure` (queue full or system shutting down),
    (c) failed with no error handler configured. -/
theorem C27_loss_sites (c : Cfg) (acts : List Act) (hq : (final c acts).quiescent = true) :
    let s := final c acts
    ∀ m ∈ s.log, m ∈ s.delivered ∨ m ∈ s.dead ∨
      (m ∈ s.chan ∧ s.wpc = .exited) ∨ m ∈ s.dropped.flatten ∨ m ∈ s.unhandled.flatten := by
  intro s m hm
  have hf : Fifo s := fifo_run c acts fifo_init
  have ha : FlushedAcc s := flushedAcc_run c acts flushedAcc_init
  simp only [St.quiescent, Bool.and_eq_true, Bool.or_eq_true, List.isEmpty_iff, beq_iff_eq] at hq
  obtain ⟨⟨⟨_, hb⟩, hfq⟩, hw⟩ := hq
  rw [← hf, hb, List.append_nil, List.mem_append] at hm
  rcases hm with hm | hm
  · rcases ha m hm with h | h | h | h
    · exact Or.inl h
    · exact Or.inr (Or.inl h)
    · rw [hfq] at h; simp at h
    · exact Or.inr (Or.inr (Or.inr (Or.inr h)))
  · rcases hw with ⟨_, hc⟩ | hw
    · rw [hc] at hm; simp at hm
    · exact Or.inr (Or.inr (Or.inl ⟨hm, hw⟩))

/-- THE FULL PROPERTY (accounting clause), for the configuration the actor system uses (an error
    handler is wired): in every quiescent state of every schedule — including schedules with
    transport failures at any batch and `close` at any moment — every accepted message was
    delivered or dead-lettered. -/
def C27_full : Prop :=
  C27_order_stmt ∧
  ∀ (c : Cfg) (acts : List Act), c.hasHandler = true → 0 < c.maxBatch → 0 < c.fqCap →
    (final c acts).quiescent = true →
    accounted (final c acts).log (final c acts).delivered (final c acts).dead = true

/-- Regression (fixed C27-F1, fix 305110c): maxBatch = 1; thread 0 gets two messages accepted while
    the writer has not run yet; `close`; the writer's select picks `done`, drains and flushes ONE
    message, and — since the fix — goes round again until the channel is empty.  Before the fix the
    goroutine returned after the first batch and message (0,1) stayed in the channel for ever. -/
def witnessClose : List Act :=
  [.begin (0, 0), .sub 0 0, .sub 0 0, .begin (0, 1), .sub 0 0, .sub 0 0,
   .close, .wstep 0 true, .wstep 0 true, .wstep 0 true, .wstep 0 true,
   .wstep 0 true, .wstep 0 true, .wstep 0 true, .wstep 0 true, .wstep 0 true, .wstep 0 true, .wstep 0 true]

def cfg1 : Cfg := { maxBatch := 1, hasHandler := true, fqCap := 256 }

theorem witnessClose_facts :
    (final cfg1 witnessClose).quiescent = true ∧
    (final cfg1 witnessClose).results = [((0, 0), .ok), ((0, 1), .ok)] ∧
    (final cfg1 witnessClose).delivered = [(0, 0), (0, 1)] ∧
    (final cfg1 witnessClose).chan = [] ∧ (final cfg1 witnessClose).wpc = .exited := by decide +kernel

/-- Regression (fixed C27-F3, submit racing close): the sender passes the `done` pre-check, then `close`
    runs; the writer observes `done` but waits at the barrier (`c.inflight.Lock()`) until the sender's
    call has finished; the sender's try-send succeeds and the final drain delivers the message.  Before
    the fix the writer exited on the empty channel first and the message stayed there for ever. -/
def witnessRace : List Act :=
  [.begin (0, 0), .sub 0 0, .close, .wstep 0 true, .wstep 0 true, .wstep 0 true, .sub 0 0,
   .wstep 0 true, .wstep 0 true, .wstep 0 true, .wstep 0 true, .wstep 0 true, .wstep 0 true]

theorem witnessRace_facts :
    (final cfg1 witnessRace).quiescent = true ∧ (final cfg1 witnessRace).results = [((0, 0), .ok)] ∧
    (final cfg1 witnessRace).delivered = [(0, 0)] ∧ (final cfg1 witnessRace).chan = [] ∧
    accounted (final cfg1 witnessRace).log (final cfg1 witnessRace).delivered (final cfg1 witnessRace).dead = true := by
  decide +kernel

/-- Regression (fixed C27-F2, queue size 1 for brevity): two single-message batches fail while the drain
    goroutine has not run; the second hand-off finds the queue full and is dead-lettered inline. -/
def witnessFqFull : List Act :=
  [.begin (0, 0), .sub 0 0, .sub 0 0, .wstep 0 true, .wstep 0 true, .wstep 0 false,
   .begin (0, 1), .sub 0 0, .sub 0 0, .wstep 0 true, .wstep 0 true, .wstep 0 false,
   .fdrain]

theorem witnessFqFull_facts :
    let s := final { maxBatch := 1, hasHandler := true, fqCap := 1 } witnessFqFull
    s.quiescent = true ∧ s.done = false ∧ s.dead = [(0, 1), (0, 0)] ∧ s.dropped = [] ∧
    accounted s.log s.delivered s.dead = true := by decide +kernel

/-- Regression (system shutdown): once `shuttingDown` is set a failed batch is dead-lettered inline -/
theorem witnessSysDown_facts :
    let s := final cfg1 [.begin (0, 0), .sub 0 0, .sub 0 0, .sysdown, .wstep 0 true, .wstep 0 true, .wstep 0 false]
    s.quiescent = true ∧ s.dropped = [] ∧ accounted s.log s.delivered s.dead = true := by decide +kernel

/-- the error handler never drops a hand-off -/
theorem C27_no_handler_drop (c : Cfg) (acts : List Act) : (final c acts).dropped = [] :=
  run_move (P := fun s => s.dropped = []) (fun st h => st.dropped.trans h) acts rfl

/-- with a handler (and no hand-off ever dropped: `C27_no_handler_drop`), the only loss site left is the channel of an
    exited writer -/
theorem accounted_of_exit_clean (c : Cfg) (acts : List Act) (hh : c.hasHandler = true)
    (hq : (final c acts).quiescent = true) (hex : (final c acts).wpc = .exited → (final c acts).chan = []) :
    accounted (final c acts).log (final c acts).delivered (final c acts).dead = true := by
  have hslack := C27_no_handler_drop c acts
  have hu : (final c acts).unhandled = [] := noUnhandled_run c hh acts rfl
  simp only [accounted, List.all_eq_true, Bool.or_eq_true, List.contains_iff_mem]
  intro m hm
  rcases C27_loss_sites c acts hq m hm with h | h | h | h | h
  · exact .inl h
  · exact .inr h
  · rw [hex h.2] at h; cases h.1
  · rw [hslack] at h; cases h
  · rw [hu] at h; cases h

/-- PARTIAL THEOREM: for every schedule WITHOUT `close` (`done` still false at the end) in which the
    handler never had to drop a hand-off (fan-out queue had slack and the system was not shutting
    down: `dropped = []`), with an error handler configured, every accepted message of every
    quiescent state was delivered or dead-lettered.
    Excluded by the guards: exactly the loss sites (a) and (b) of `C27_loss_sites`. -/
theorem C27_partial (c : Cfg) (acts : List Act) (hh : c.hasHandler = true)
    (hclose : (final c acts).done = false) (hslack : (final c acts).dropped = [])
    (hq : (final c acts).quiescent = true) :
    accounted (final c acts).log (final c acts).delivered (final c acts).dead = true :=
  accounted_of_exit_clean c acts hh hq fun hw =>
    absurd (closing_run c acts closing_init (hw ▸ rfl)) (hclose ▸ nofun)

theorem run_append (c : Cfg) (s : St) (a b : List Act) : run c s (a ++ b) = run c (run c s a) b :=
  List.foldl_append

theorem done_step (c : Cfg) {s : St} (a : Act) (h : s.done = true) : (step c s a).done = true :=
  (step_sound c s a).done_mono h

/-- CLOSE IS COMPLETE, for EVERY schedule: whenever the writer goroutine has exited the channel is empty —
    every message whose submit returned nil has been flushed (delivered or handed to the error handler).
    The barrier closes the racing window of the former finding C27-F3. -/
theorem C27_close_complete (c : Cfg) (acts : List Act) (hmb : 0 < c.maxBatch) :
    (final c acts).wpc = .exited → (final c acts).chan = [] :=
  fun hw => (barrier_run c hmb acts closing_init postBarrier_init exitClean_init).2.2 (.inl hw)

/-- For every schedule (with or without close, any racing): with a handler configured, every accepted message of every
    quiescent state was delivered or dead-lettered.  This is the accounting clause of `C27_full`; `hslack` holds of every
    run (`C27_no_handler_drop`). -/
theorem C27_partial_close (c : Cfg) (acts : List Act) (hh : c.hasHandler = true) (hmb : 0 < c.maxBatch)
    (hslack : (final c acts).dropped = []) (hq : (final c acts).quiescent = true) :
    accounted (final c acts).log (final c acts).delivered (final c acts).dead = true :=
  accounted_of_exit_clean c acts hh hq (C27_close_complete c acts hmb)

/-- THE FULL PROPERTY HOLDS on the model of the current code. -/
theorem C27_holds : C27_full :=
  ⟨C27_order, fun c acts hh hmb _ hq => C27_partial_close c acts hh hmb (C27_no_handler_drop c acts) hq⟩

/-- the hypotheses of `C27_partial_close` are met by the close-with-pending-messages run `witnessClose` -/
example : (final cfg1 witnessClose).dropped = [] ∧ (final cfg1 witnessClose).quiescent = true := by decide +kernel

/-- the guards of `C27_partial` are satisfiable by a run with a failed batch, a blocked sender and
    batching: two threads, a failure, the fan-out drains — quiescent, not closed, nothing dropped -/
example :
    let s := final { maxBatch := 2, hasHandler := true, fqCap := 4 }
      [.begin (0, 0), .begin (1, 0), .sub 0 0, .sub 1 0, .sub 1 0, .sub 0 0,
       .wstep 0 true, .wstep 0 true, .wstep 0 true, .wstep 0 false, .fdrain,
       .begin (0, 1), .sub 0 0, .sub 0 0, .wstep 0 true, .wstep 0 true, .wstep 0 true]
    s.quiescent = true ∧ s.done = false ∧ s.dropped = [] ∧ s.dead = [(1, 0), (0, 0)] ∧
    s.delivered = [(0, 1)] ∧ s.log = [(1, 0), (0, 0), (0, 1)] := by decide +kernel

/-- the failure fan-out queue of the running system has at least one slot (regenerated from
    actor/remote_server.go on every run): with size 0 every failed batch would be dropped -/
theorem C27_fq_has_slack : 0 < Gen.C27.coalescedFailureQueueSize ∧ 0 < Gen.C27.remoteSendCoalescingMaxBatch := by
  decide

/-- ONE WRITER PER DESTINATION: whatever the number of goroutines racing through `getCoalescer` for a
    destination and however their steps interleave, at most one coalescer is ever created and every
    call returns that one — so all senders feed the single channel / single writer that the theorems
    above are about.  (The second lookup under `coalescersMu` is what this rests on; the call order
    is re-extracted from client.go on every run, FACTS in tools/props/c27.py.) -/
theorem C27_single_coalescer (n : Nat) (acts : List GC.GAct) :
    (GC.grun true (GC.ginit n) acts).created ≤ 1 ∧
    ∀ th ∈ (GC.grun true (GC.ginit n) acts).threads, ∀ c, th.got = some c → c = 0 := by
  obtain ⟨h1, _, _, h4, _⟩ := GC.ginv_run acts (GC.ginv_init n)
  exact ⟨h1, h4⟩

/-- non-vacuity: two first senders racing, both miss the fast path, both return coalescer 0 -/
example :
    let s := GC.grun true (GC.ginit 2) [.look 0, .look 1, .acquire 0, .cs, .cs, .cs, .acquire 1, .cs, .cs]
    s.created = 1 ∧ s.threads.map (·.got) = [some 0, some 0] ∧ s.threads.map (·.pc) = [.done, .done] := by decide +kernel

/-- TEST on the variant without the second lookup (seeded defect C27-m5): the same schedule creates
    two coalescers; thread 0 is left with the orphan. -/
example :
    let s := GC.grun false (GC.ginit 2) [.look 0, .look 1, .acquire 0, .cs, .cs, .acquire 1, .cs, .cs]
    s.created = 2 ∧ s.threads.map (·.got) = [some 0, some 1] ∧ s.map = some 1 := by decide +kernel

/-- the model's fan-out capacity is the source constant (regenerated on every run) -/
theorem C27_fq_cap_tie : Gen.C27.coalescedFailureQueueSize = (sysFanoutCap : Int) := by decide

end GoaktVerif.C27
