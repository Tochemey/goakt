/-
C06 — Lifecycle hooks are ordered and never overlap message handling.

"For each actor incarnation, PreStart completes before the first Receive, PostStop runs at most
 once, no Receive starts after PostStop has started, and PostStop never runs on one goroutine while
 Receive runs on another. This holds for every way an actor is stopped: PoisonPill, Stop/Kill from
 outside, parent stop, supervisor stop, passivation and restart."

Quantifier: all interleavings of message traffic with each stop path, including stop requests
issued from other actors' turns and from external goroutines.

Model: `Model/C06.lean` (pid.go Shutdown/doStop/reset, tryPassivation, restartSubtree, Tell/doReceive,
runTurn/dispatchOne/handleReceived over an abstract dispatch turn).  Spec: `Spec/C06.lean`
(`monOf`: the four clauses as a monitor over the hook-event history; the very same monitor judges
the histories recorded from the real actor system).

Result: the full statement is FALSE of the code (`C06_refuted`; witnesses for clauses 4 and 3; clause 1 only through a stale Tell):
Shutdown / tryPassivation take stopLocker and run PostStop on the caller's goroutine without
looking at the dispatch state.  (restartSubtree does wait for Idle: 4b1d5a5.)  What is TRUE for every
schedule: the PoisonPill path (`C06_pill_path`), and every execution in which the actor's turn,
external stop critical sections and restart windows do not overlap in time (`C06_partial`).
-/
import GoaktVerif.Lemmas.C06.Step

namespace GoaktVerif.C06
open GoaktVerif.Model.C06 GoaktVerif.Spec.C06

/-- the ghost field `mon` is `monOf` of the ghost log on every run: the invariant's clauses about
    `.mon` are statements about the recorded history -/
theorem C06_mon_is_log (budget : Nat) (prog : Nat → TPC) (s : List Nat) :
    (run (init budget prog) s).mon = monOf (run (init budget prog) s).log :=
  Run.inv' (P := fun c : Cfg => c.mon = monOf c.log) (fun _ => rfl) (fun _ _ _ => rfl) step_mon s _ rfl

/-- The property at full strength: for every dispatcher budget, every pool of threads (any number
    of senders, PoisonPill senders, external stoppers of every kind, passivation attempts and
    restarts, each starting at its first instruction) and every schedule of any length, the
    history of hook events satisfies the four clauses. -/
def C06_full : Prop :=
  ∀ (budget : Nat) (prog : Nat → TPC), (∀ i, (prog i).initial = true) →
    ∀ s : List Nat, (monOf (run (init budget prog) s).log).ok = true

/-- worker handles PostStart (0,0,0,0), sender checks and enqueues (1,1), worker takes the actor and
    enters Receive (0,0), the killer runs pre-check, Lock, running-test, PostStop (2,2,2,2) -/
def witnessOverlap : List Nat := [0, 0, 0, 0, 1, 1, 0, 0, 2, 2, 2, 2]

/-- clause 4 fails: `Kill` from another goroutine runs PostStop while the handler is inside Receive -/
theorem C06_overlap_external :
    (monOf (run (init 32 (progOf [.tCheck false, .xPre .kill])) witnessOverlap).log).c4 = false := by decide

def witnessRecvAfterStop : List Nat := [0, 0, 0, 0, 1, 1, 2, 2, 0, 0, 0, 3, 3, 3, 3, 0]

/-- clause 3 fails: two messages queued; the killer starts PostStop while the worker is between the
    two messages of its turn; reset() clears the behaviour stack only AFTER PostStop, so the worker
    starts the second Receive after PostStop has started -/
theorem C06_recv_after_poststop_external :
    (monOf (run (init 32 (progOf [.tCheck false, .tCheck false, .xPre .kill])) witnessRecvAfterStop).log).c3 = false := by
  decide

def scheduleLatePassivation : List Nat := [1, 1, 1, 1, 1, 1, 1, 2, 2, 2, 2]

/-- finding C06-F2 (repaired by 6f92e10): the passivation manager has popped the actor's entry, `Kill`
    runs to completion, the late tryPassivation tests `running` under the lock and gives up: one PostStop -/
theorem C06_late_passivation_once :
    (monOf (run (init 32 (progOf [.xPre .kill, .pCheck])) scheduleLatePassivation).log).c2 = true
    ∧ ((run (init 32 (progOf [.xPre .kill, .pCheck])) scheduleLatePassivation).threads 1 = .done) := by decide

/-- finding C06-F3 (repaired by 4b1d5a5): in EVERY configuration, a restart leaves its spin loop — and
    only then re-installs the behaviour and runs PreStart — only when the dispatch state is Idle: no
    worker owns the actor AND it is not sitting on the ready queue with a backlog -/
theorem C06_restart_enters_window_only_idle (c : Cfg) (i : Nat) (hpc : c.threads i = .rSpin)
    (hmove : (tStep c i).threads i ≠ .rSpin) : c.sched = .idle ∧ (tStep c i).win = some i := by
  by_cases hs : c.sched = .idle
  · exact ⟨hs, by simp [tStep, hpc, hs, setT]⟩
  · exact absurd (by simp [tStep, hpc, hs]) hmove

def scheduleRestartScheduled : List Nat := [1, 1, 1, 1, 1, 1, 1, 1, 1, 1, 1, 0, 0, 0, 1, 1, 1, 1]

/-- C06-F3's schedule (Restart of a Scheduled actor with a backlog): the restart stays in its spin
    loop, the worker drains the backlog, and only then PreStart begins; the four clauses hold on this run -/
theorem C06_restart_of_scheduled_actor_waits :
    (run (init 32 (progOf [.rCheck])) (scheduleRestartScheduled.take 11)).threads 0 = .rSpin
    ∧ (monOf (run (init 32 (progOf [.rCheck])) scheduleRestartScheduled).log).ok = true
    ∧ (run (init 32 (progOf [.rCheck])) scheduleRestartScheduled).threads 0 = .rFin := by decide

def witnessStaleTell : List Nat := [0, 0, 0, 0, 1, 2, 2, 2, 2, 2, 2, 2, 2, 2, 2, 2, 1, 0, 0]

/-- what is left of clause 1 in the model: Tell's flag test and its enqueue are two steps, so a send
    that passed the test before the stop can still enqueue after restart's PreStart has begun, and
    the worker then runs Receive inside PreStart.  (Model-level witness only: it cannot be replayed
    with gates — it needs a Tell paused between its test and its enqueue — and is not a recorded finding.) -/
theorem C06_prestart_overlap_stale_tell :
    (monOf (run (init 32 (progOf [.tCheck false, .rCheck])) witnessStaleTell).log).c1 = false := by decide

theorem C06_refuted : ¬ C06_full := by
  intro h
  have h1 := h 32 (progOf [.tCheck false, .xPre .kill]) (getD_all (by decide) rfl) witnessOverlap
  simp only [Mon.ok, Bool.and_eq_true] at h1
  exact Bool.noConfusion (h1.2.symm.trans C06_overlap_external)

/-- The four clauses hold on every history of every execution — any budget, any pool of threads, any
    length — whose schedule satisfies `okStep` at every step, i.e. in which
    (a) an external thread (Kill, PID.Stop, parent, supervisor, another actor's turn, passivation
        manager, restart) acquires stopLocker only while no turn of the actor is in progress and no
        restart window is open, and no turn starts while such a thread holds the lock or a restart
        window is open  ("external stop of an actor with no turn in progress");
    (b) restart leaves its spin loop only while the lock is free and no other restart window is open.
    The guard excludes the interleavings of the three witnesses above. -/
theorem C06_partial (budget : Nat) (prog : Nat → TPC) (hp : ∀ i, (prog i).initial = true)
    (s : List Nat) (hg : guarded (init budget prog) s = true) :
    (monOf (run (init budget prog) s).log).ok = true := by
  rw [← C06_mon_is_log]
  exact (inv_run _ s (inv_init budget prog hp) hg).ok

/-- non-vacuity of the guard: an external Kill of an idle actor, then a restart, then a message and
    a PoisonPill, is a guarded schedule that runs PostStop twice (two incarnations) -/
example :
    guarded (init 32 (progOf [.xPre .kill, .rCheck, .tCheck false, .tCheck true]))
      [0, 0, 0, 0, 1, 1, 1, 1, 1, 1, 1, 2, 2, 2, 2, 2, 2, 0, 0, 0, 0, 3, 3, 4, 4, 0, 0, 0, 0, 0, 0, 0, 0, 0, 0] = true
    ∧ ((run (init 32 (progOf [.xPre .kill, .rCheck, .tCheck false, .tCheck true]))
      [0, 0, 0, 0, 1, 1, 1, 1, 1, 1, 1, 2, 2, 2, 2, 2, 2, 0, 0, 0, 0, 3, 3, 4, 4, 0, 0, 0, 0, 0, 0, 0, 0, 0, 0]).log.filter
        (fun e => match e with | .postB _ _ => true | _ => false)).length = 2 := by decide

/-- invariant of sender-only pools: nobody but the worker ever touches stopLocker, no window -/
structure SInv (c : Cfg) : Prop where
  snd : ∀ i, (c.threads i).isSender = true
  win : c.win = none
  lock : (∀ b, c.w ≠ .sdIn b) → c.locker = none

theorem sinv_setT {c : Cfg} (hS : SInv c) (k : Nat) {pc : TPC} (hpc : pc.isSender = true) {sb bx : Nat} {s : Sched} :
    SInv (setT { c with sysbox := sb, box := bx, sched := s } k pc) :=
  { hS with snd := Pool.forall_upd (P := fun _ (t : TPC) => t.isSender = true) hpc fun i _ => hS.snd i }

theorem sinv_step (c : Cfg) (a : Nat) (hS : SInv c) : SInv (step c a) := by
  -- `fun_cases wStep c` yields one goal per leaf of the model's definition, with the pc equation and every branch condition
  -- as hypotheses; `case1`, `case2`, … follow the order of the leaves in Model/C06.lean (likewise `tStep`).
  cases a with
  | zero =>
    simp only [step]
    fun_cases wStep c
    -- idle (both ways), loop 0, loop (b + 1) (four ways), recv: the lock was free and stays free
    case case1 hw _ | case2 hw _ | case3 hw | case4 b hw _ | case5 b hw _ _ _ | case6 b hw _ _ _ | case7 b hw _ _
        | case8 b hw =>
      exact { hS with lock := fun _ => hS.lock (hw ▸ nofun) }
    -- sdLock, lock free: the worker takes it and is at `sdIn`
    case case9 b hw _ _ => exact { hS with lock := fun hn => absurd rfl (hn b) }
    -- sdLock with the lock taken; sdIn with no holder or another holder: no-ops
    case case10 | case11 | case14 => exact hS
    -- sdIn, the worker holds the lock and Shutdown returns: the lock is free again
    case case12 b hw h hl _ hr _ =>
      have ⟨_, hth, hwin, hret⟩ := csStep_frame c h
      exact ⟨fun i => (congrArg (fun t => (t i).isSender) hth).trans (hS.snd i), hwin.trans hS.win, fun _ => hret hr⟩
    -- sdIn, the worker holds the lock and stays at `sdIn`
    case case13 b hw h hl _ _ =>
      have ⟨hw', hth, hwin, _⟩ := csStep_frame c h
      exact ⟨fun i => (congrArg (fun t => (t i).isSender) hth).trans (hS.snd i), hwin.trans hS.win,
        fun hn => absurd (hw'.trans hw) (hn b)⟩
  | succ k =>
    have hk := hS.snd k
    simp only [step]
    fun_cases tStep c k
    -- done
    case case1 => exact hS
    -- tCheck (both ways), tEnq (PoisonPill, message)
    case case2 | case3 | case4 | case5 => exact sinv_setT hS k rfl
    -- xPre … rFin: no other program counter is a sender's
    all_goals
      rw [‹c.threads k = _›] at hk
      cases hk

theorem sinv_okStep {c : Cfg} (hS : SInv c) (a : Nat) : okStep c a = true := by
  cases a with
  | zero =>
    simp only [okStep]
    split
    next hw => rw [hS.lock (hw ▸ nofun), hS.win]; rfl
    · rfl
  | succ k =>
    simp only [okStep]
    have hk := hS.snd k
    split
    next hpc => rw [hpc] at hk; cases hk
    next hpc => rw [hpc] at hk; cases hk
    · rfl

theorem sinv_guarded (c : Cfg) (s : List Nat) (hS : SInv c) : guarded c s = true := by
  induction s generalizing c with
  | nil => rfl
  | cons a s ih => exact Bool.and_eq_true_iff.2 ⟨sinv_okStep hS a, ih _ (sinv_step c a hS)⟩

/-- When the only way the actor is stopped is the PoisonPill (any number of senders of messages and
    of PoisonPills, any schedule, any budget), all four clauses hold: dispatchOne runs Shutdown —
    hence PostStop — inside the actor's own turn. -/
theorem C06_pill_path (budget : Nat) (prog : Nat → TPC) (hp : ∀ i, (prog i).isSender = true ∧ (prog i).initial = true)
    (s : List Nat) : (monOf (run (init budget prog) s).log).ok = true := by
  refine C06_partial budget prog (fun i => (hp i).2) s (sinv_guarded _ s ?_)
  exact ⟨fun i => (hp i).1, rfl, fun _ => rfl⟩

/-- non-vacuity: a message, a PoisonPill and a late message; PostStop runs once, in the turn -/
example :
    ((run (init 32 (progOf [.tCheck false, .tCheck true, .tCheck false]))
      [0, 0, 0, 0, 1, 1, 2, 2, 0, 0, 0, 0, 0, 0, 0, 0, 0, 0, 3, 3, 0, 0]).log.filter
        (fun e => match e with | .postB _ _ => true | _ => false)) = [.postB 0 .pill] := by decide

end GoaktVerif.C06
