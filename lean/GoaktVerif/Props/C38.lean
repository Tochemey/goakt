/-
C38 — CRDT merge is a join: commutative, associative, idempotent.

"For every reachable state of every CRDT type (GCounter, PNCounter, Flag, LWWRegister, MVRegister,
 ORSet, ORMap), merging is commutative, associative and idempotent with respect to the observable
 value, merging never shrinks the information already present, and merging or cloning never
 modifies its inputs."

Models: Model/Crdt/*.lean (one file per Go file of /repo/crdt, field by field, incl. the delta / dirty
bookkeeping).  "Reachable" is an inductive predicate per type: every value obtainable from New…() by
the public operations in any order, with any arguments, merged with any other reachable value in any
grouping, incl. Delta / ResetDelta / Clone / Compact.  For MVRegister reachability is stated on whole
systems (`MVRegister.World`): the laws need that a node id is used by one replica only (the contract
of the nodeID parameter), which is a property of a system, not of one value.

"Observable value" per type (`eqv…`): the replicated part of the state and the public value, without
the delta/dirty bookkeeping (Merge takes it from the receiver or clears it, by design) and without slice
order.  "Information" (`le…`, Spec/C38.lean): pointwise ≤ for counters, the write stamp for LWW, the
causal order of dot stores for MVRegister / ORSet / ORMap (context grows; nothing seen-and-absent
comes back).  Purity holds by construction (Lean functions cannot modify their arguments, `clone` is
the identity); on the Go side it is checked by the harness (before/after dumps, mutation of results).

Outcome: the statement is FALSE for the current code in one place (replayed on the real code,
corpus/C38/witnesses.case): ORMap.Merge is not associative on values when a key is removed in one
operand and concurrently set in another (C38-F2).  `C38_refuted` proves the negation with an explicit
witness, `C38_partial` is the strongest true statement: everything else, and ORMap associativity on the
key set always and on values under the decidable guard `ORMap.noResurrect`.
LWWRegister (C38-F1, fixed in goakt; the model follows the fixed code): Merge resolves a full
(timestamp, node) tie in favour of its receiver, so it is commutative only if a stamp names one write.
Set orders a same-node same-timestamp write right after the stored one; `LWW_join` proves the laws for
every reachable system of replicas that write under their own node id (as for MVRegister).
`LWW_comm_shared_node_refuted` records why the node-id contract is needed: two replicas writing under
ONE node id produce one stamp for two values.

Tie to /repo: differential run of the real crdt package against these models after every operation
(tools/props/c38.py, harness/verifdrv/c38), and the same laws evaluated on the implementation's own
merges by Spec.C38.judgeOutput.
-/
import GoaktVerif.Lemmas.C38.LWW
import GoaktVerif.Lemmas.C38.MV
import GoaktVerif.Lemmas.C38.ORMap

namespace GoaktVerif.C38
open GoaktVerif.Model.Crdt GoaktVerif.Spec.C38

/-- the ORMap instance used throughout: values are reachable GCounters -/
abbrev OMReach : ORMap GCounter → Prop := ORMap.Reachable GCounter.Reachable

/-- "merging or cloning never modifies its inputs": in the model every operation is a function on
    immutable values and Clone returns an equal value -/
def ClonePure : Prop :=
  (∀ x : GCounter, x.clone = x) ∧ (∀ x : PNCounter, x.clone = x) ∧ (∀ x : Flag, x.clone = x) ∧
  (∀ x : LWWRegister, x.clone = x) ∧ (∀ x : MVRegister, x.clone = x) ∧ (∀ x : ORSet, x.clone = x) ∧
  (∀ x : ORMap GCounter, x.clone = x)

def C38_full : Prop :=
  JoinLaws GCounter.Reachable GCounter.merge eqvGC leGC ∧
  JoinLaws PNCounter.Reachable PNCounter.merge eqvPN lePN ∧
  JoinLaws Flag.Reachable Flag.merge eqvFlag leFlag ∧
  (∀ w, LWWRegister.World.Reachable w → JoinLaws w.has LWWRegister.merge eqvLWW leLWW) ∧
  (∀ w, MVRegister.World.Reachable w → JoinLaws w.has MVRegister.merge eqvMV leMV) ∧
  JoinLaws ORSet.Reachable ORSet.merge eqvOS leOS ∧
  JoinLaws OMReach ORMap.merge (eqvOM eqvGC) (leOM leGC) ∧
  ClonePure

theorem GCounter_join : JoinLaws GCounter.Reachable GCounter.merge eqvGC leGC :=
  GCounter.joinLaws_wf.mono @GCounter.wf_of_reachable

theorem PNCounter_join : JoinLaws PNCounter.Reachable PNCounter.merge eqvPN lePN :=
  PNCounter.joinLaws_wf.mono @PNCounter.wf_of_reachable

theorem Flag_join : JoinLaws Flag.Reachable Flag.merge eqvFlag leFlag where
  comm _ _ _ _ := Bool.or_comm ..
  assoc _ _ _ _ _ _ := Bool.or_assoc ..
  idem _ _ := Bool.or_self _
  infl x y _ _ := by
    obtain ⟨ex, _⟩ := x
    obtain ⟨ey, _⟩ := y
    cases ex <;> cases ey <;> exact ⟨rfl, rfl⟩

/-- LWW: a join on every family of registers (reachable or not) in which a stamp determines the value -/
theorem LWW_join_unique_stamps (S : LWWRegister → Prop) (hS : ∀ x y, S x → S y → StampsAgree x y) :
    JoinLaws S LWWRegister.merge eqvLWW leLWW := LWW.joinLaws S hS

/-- LWW: associativity, idempotence and inflation need no hypothesis at all -/
theorem LWW_assoc_idem_infl :
    (∀ x y z : LWWRegister, eqvLWW ((x.merge y).merge z) (x.merge (y.merge z))) ∧
    (∀ x : LWWRegister, eqvLWW (x.merge x) x) ∧
    (∀ x y : LWWRegister, leLWW x (x.merge y) = true ∧ leLWW y (x.merge y) = true) :=
  ⟨LWW.assoc, LWW.idem, LWW.infl⟩

/-- LWW: a join on the registers of every reachable system of replicas writing under their own node id -/
theorem LWW_join (w : LWWRegister.World) (h : LWWRegister.World.Reachable w) :
    JoinLaws w.has LWWRegister.merge eqvLWW leLWW := LWW.joinLaws w.has fun x y hx hy e =>
    (LWW.inv_of_reachable h).agree x y hx hy _ _ _ ⟨e, rfl⟩ ⟨rfl, rfl⟩

/-- without the node-id contract (per-value reachability: two replicas may write under one node id)
    commutativity fails; this is the precondition of `LWW_join`, not a defect -/
theorem LWW_comm_shared_node_refuted :
    ¬ (∀ x y, LWWRegister.Reachable x → LWWRegister.Reachable y → eqvLWW (x.merge y) (y.merge x)) := by
  intro h
  have := (h lwwA lwwB (.set _ _ _ .new) (.set _ _ _ .new)).1
  revert this; decide

theorem MV_join (w : MVRegister.World) (h : MVRegister.World.Reachable w) :
    JoinLaws w.has MVRegister.merge eqvMV leMV :=
  have I := MV.inv_of_reachable h
  (MV.joinLaws_good I.functional).mono fun _ hx => I.isGood hx

theorem ORSet_join : JoinLaws ORSet.Reachable ORSet.merge eqvOS leOS :=
  ORSet.joinLaws_wf.mono @ORSet.wf_of_reachable

theorem ORMap_comm_idem_infl {V : Type} [CrdtValue V] {RV : V → Prop} {eqvV : V → V → Prop} {leV : V → V → Bool}
    (VL : ValueLaws RV eqvV leV) :
    (∀ x y, ORMap.Reachable RV x → ORMap.Reachable RV y → eqvOM eqvV (x.merge y) (y.merge x)) ∧
    (∀ x, ORMap.Reachable RV x → eqvOM eqvV (x.merge x) x) ∧
    (∀ x y, ORMap.Reachable RV x → ORMap.Reachable RV y →
      leOM leV x (x.merge y) = true ∧ leOM leV y (x.merge y) = true) :=
  ⟨fun _ _ hx hy => ORMap.comm VL (ORMap.wf_of_reachable VL.closed hx) (ORMap.wf_of_reachable VL.closed hy),
   fun _ hx => ORMap.idem VL (ORMap.wf_of_reachable VL.closed hx),
   fun _ _ hx hy => ORMap.infl VL (ORMap.wf_of_reachable VL.closed hx) (ORMap.wf_of_reachable VL.closed hy)⟩

/-- associativity on values when no key is dropped by an inner merge and brought back by the third operand -/
theorem ORMap_assoc_guarded {V : Type} [CrdtValue V] {RV : V → Prop} {eqvV : V → V → Prop} {leV : V → V → Bool}
    (VL : ValueLaws RV eqvV leV) (x y z : ORMap V)
    (hx : ORMap.Reachable RV x) (hy : ORMap.Reachable RV y) (hz : ORMap.Reachable RV z)
    (hg : ORMap.noResurrect x y z = true) :
    eqvOM eqvV ((x.merge y).merge z) (x.merge (y.merge z)) :=
  ORMap.assoc VL (ORMap.wf_of_reachable VL.closed hx) (ORMap.wf_of_reachable VL.closed hy) (ORMap.wf_of_reachable VL.closed hz) hg

/-- associativity on the key set (clock, dots, Keys()) needs no guard -/
theorem ORMap_assoc_keys {V : Type} [CrdtValue V] {RV : V → Prop}
    (hcl : ∀ a b, RV a → RV b → RV (CrdtValue.merge a b)) (x y z : ORMap V)
    (hx : ORMap.Reachable RV x) (hy : ORMap.Reachable RV y) (hz : ORMap.Reachable RV z) :
    eqvOS ((x.merge y).merge z).keys (x.merge (y.merge z)).keys :=
  ORMap.assoc_keys (ORMap.wf_of_reachable hcl hx) (ORMap.wf_of_reachable hcl hy) (ORMap.wf_of_reachable hcl hz)

theorem GCounter.valueLaws_reach : ValueLaws GCounter.Reachable eqvGC leGC where
  closed _ _ ha hb := .merge ha hb
  refl _ _ := ⟨rfl, rfl⟩
  le_refl _ ha := leMap_refl (GCounter.wf_of_reachable ha).1
  join := GCounter_join

/-- witness of C38-F2: x holds key 7; y is x with key 7 removed; z sets key 7 concurrently -/
def omX : ORMap GCounter := ORMap.new.set 1 7 (GCounter.new.increment 1 5)
def omY : ORMap GCounter := omX.remove 7
def omZ : ORMap GCounter := ORMap.new.set 2 7 (GCounter.new.increment 2 3)

theorem omX_reach : OMReach omX := .set _ _ _ .new (.increment _ _ .new)
theorem omY_reach : OMReach omY := .remove _ omX_reach
theorem omZ_reach : OMReach omZ := .set _ _ _ .new (.increment _ _ .new)

theorem ORMap_assoc_refuted :
    ¬ (∀ x y z, OMReach x → OMReach y → OMReach z →
        eqvOM eqvGC ((x.merge y).merge z) (x.merge (y.merge z))) := by
  intro h
  have h7 := (h omX omY omZ omX_reach omY_reach omZ_reach).2 7
  have e1 : ((omX.merge omY).merge omZ).values.get? 7 = some ⟨[(2, 3)], [(2, 3)]⟩ := by decide
  have e2 : (omX.merge (omY.merge omZ)).values.get? 7 = some ⟨[(1, 5), (2, 3)], [(1, 5)]⟩ := by decide
  rw [e1, e2] at h7
  exact absurd h7.1 (by decide)

theorem C38_refuted : ¬ C38_full := fun h =>
  ORMap_assoc_refuted fun x y z hx hy hz => h.2.2.2.2.2.2.1.assoc x y z hx hy hz

/-- everything that is true of the current code -/
def C38_partial_stmt : Prop :=
  JoinLaws GCounter.Reachable GCounter.merge eqvGC leGC ∧
  JoinLaws PNCounter.Reachable PNCounter.merge eqvPN lePN ∧
  JoinLaws Flag.Reachable Flag.merge eqvFlag leFlag ∧
  (∀ w, LWWRegister.World.Reachable w → JoinLaws w.has LWWRegister.merge eqvLWW leLWW) ∧
  -- LWW, also outside reachable systems: any family of registers in which a stamp determines the value
  (∀ S : LWWRegister → Prop, (∀ x y, S x → S y → StampsAgree x y) →
      JoinLaws S LWWRegister.merge eqvLWW leLWW) ∧
  (∀ w, MVRegister.World.Reachable w → JoinLaws w.has MVRegister.merge eqvMV leMV) ∧
  JoinLaws ORSet.Reachable ORSet.merge eqvOS leOS ∧
  -- ORMap: everything but associativity on values …
  (∀ x y, OMReach x → OMReach y → eqvOM eqvGC (x.merge y) (y.merge x)) ∧
  (∀ x, OMReach x → eqvOM eqvGC (x.merge x) x) ∧
  (∀ x y, OMReach x → OMReach y → leOM leGC x (x.merge y) = true ∧ leOM leGC y (x.merge y) = true) ∧
  (∀ x y z, OMReach x → OMReach y → OMReach z →
      eqvOS ((x.merge y).merge z).keys (x.merge (y.merge z)).keys) ∧
  -- … and associativity on values under the decidable guard
  (∀ x y z, OMReach x → OMReach y → OMReach z → ORMap.noResurrect x y z = true →
      eqvOM eqvGC ((x.merge y).merge z) (x.merge (y.merge z))) ∧
  ClonePure

theorem C38_partial : C38_partial_stmt :=
  have om := ORMap_comm_idem_infl GCounter.valueLaws_reach
  ⟨GCounter_join, PNCounter_join, Flag_join, LWW_join, LWW_join_unique_stamps, MV_join, ORSet_join,
    om.1, om.2.1, om.2.2, ORMap_assoc_keys GCounter.valueLaws_reach.closed, ORMap_assoc_guarded GCounter.valueLaws_reach,
    ⟨fun _ => rfl, fun _ => rfl, fun _ => rfl, fun _ => rfl, fun _ => rfl, fun _ => rfl, fun _ => rfl⟩⟩

/-- a reachable ORSet with concurrent adds, a remove and a compaction -/
example : ORSet.Reachable
    (((ORSet.new.add 1 0).add 1 1).merge (((ORSet.new.add 2 0).remove 0).add 2 1)).compact :=
  .compact (.merge (.add _ _ (.add _ _ .new)) (.add _ _ (.remove _ (.add _ _ .new))))

/-- a reachable MVRegister world: replicas 1 and 2 write concurrently; their values merge to both writes -/
example : ∃ w : MVRegister.World, MVRegister.World.Reachable w ∧
    ∃ x y, w.has x ∧ w.has y ∧ (x.merge y).values = [5, 6] := by
  let w0 : MVRegister.World := ⟨fun _ => MVRegister.new, []⟩
  have r1 : MVRegister.World.Reachable (w0.setReplica 1 ((w0.replica 1).set 1 5)) := .set 1 5 .init
  have r2 := MVRegister.World.Reachable.set 2 6 r1
  refine ⟨_, r2, MVRegister.new.set 1 5, MVRegister.new.set 2 6, Or.inr ⟨1, by decide⟩, Or.inr ⟨2, by decide⟩, by decide⟩

/-- a reachable LWW world: replica 1 writes twice within one clock reading (the second write is ordered
    after the first), replica 2 writes concurrently under the same timestamp -/
example : ∃ w : LWWRegister.World, LWWRegister.World.Reachable w ∧
    (w.replica 1).timestamp = 10 ∧ (w.replica 1).value = some 3 ∧ (w.replica 2).timestamp = 9 := by
  let w0 : LWWRegister.World := ⟨fun _ => LWWRegister.new, []⟩
  have r1 := LWWRegister.World.Reachable.set 1 2 9 .init (by decide)
  have r2 := LWWRegister.World.Reachable.set 1 3 9 r1 (by decide)
  have r3 := LWWRegister.World.Reachable.set 2 4 9 r2 (by decide)
  exact ⟨_, r3, by decide, by decide, by decide⟩

/-- a family of LWW registers in which a stamp determines the value: two writes with different stamps -/
example : ∀ x y, (x = lwwA ∨ x = LWWRegister.new.set 3 10 1) → (y = lwwA ∨ y = LWWRegister.new.set 3 10 1) →
    StampsAgree x y := by
  intro x y hx hy
  rcases hx with rfl | rfl <;> rcases hy with rfl | rfl <;> intro h <;> first | rfl | (revert h; decide)

/-- the ORMap guard holds on a non-trivial triple: z removed a key that x and y hold, nobody re-added it -/
example : ORMap.noResurrect omX (omX.set 1 8 (GCounter.new.increment 1 1)) ((omX.set 1 8 (GCounter.new.increment 1 1)).remove 7) = true := by
  decide

/-- and fails on the witness of C38-F2 -/
example : ORMap.noResurrect omX omY omZ = false := by decide

/-- GCounter values satisfy the hypotheses asked of an ORMap value type -/
example : ValueLaws GCounter.WF eqvGC leGC := GCounter.valueLaws

end GoaktVerif.C38
