/-
C21 — Routers distribute messages according to their strategy.

"A round-robin router sends its k-th routed message to routee (k-1) mod n for any number of
 messages, including after its counter wraps, without dropping any; a fan-out router delivers each
 message to every routee exactly once; a consistent-hash router sends messages with equal keys to
 the same routee while membership is unchanged, and removing a routee only moves keys that it owned."

Model: Model/C21.lean (actor/router.go as it is; Go map iteration order is an input of each step).
Tie: differential (E1/E2) on the real ring and on the real router driven in-package; the body of
`case RoundRobinRouting` (index and new cursor) is regenerated by go2lean and tied by `rrStep_refines`.

Outcome: the full statement holds (C21_holds).  The model follows goakt's round-robin fix (findings/C21.json):
the cursor is kept reduced modulo the pool size, the slice is sorted, stopped routees are not appended.
-/
import GoaktVerif.Gen.C21
import GoaktVerif.Lemmas.FixedWidth
import GoaktVerif.Model.C21
import GoaktVerif.Spec.C21
import GoaktVerif.Lemmas.C21
import GoaktVerif.Lemmas.Cursor
import GoaktVerif.Lemmas.ListFacts

namespace GoaktVerif.C21
open GoaktVerif.Model.C21 GoaktVerif.Spec.C21 GoaktVerif.C21L

theorem lookup_eq_of_succ (V : List VNode) (hnd : (V.map (·.1)).Nodup) (h k m : Nat)
    (hs : IsSucc (V.map (·.1)) h k) (hm : (k, m) ∈ V) : (Ring.set V).lookup h = some m := by
  obtain ⟨k', hs', hl⟩ := lookup_spec V h (List.ne_nil_of_mem hm)
  rw [hl, ← isSucc_unique hs hs']
  exact mapGet_of_mem V hnd k m hm

/-- what `lookup` computes: the owner of the successor vnode (least hash ≥ h, wrapping to the least
    hash). With pairwise distinct vnode hashes "the owner" is the member that vnode belongs to. -/
theorem ring_lookup_succ (V : List VNode) (hnd : (V.map (·.1)).Nodup) (h : Nat) (hne : V ≠ []) :
    ∃ k m, IsSucc (V.map (·.1)) h k ∧ (k, m) ∈ V ∧ (Ring.set V).lookup h = some m := by
  obtain ⟨k, hs, _⟩ := lookup_spec V h hne
  obtain ⟨⟨_, m⟩, hv, rfl⟩ := List.mem_map.mp hs.1
  exact ⟨_, m, hs, hv, lookup_eq_of_succ V hnd h _ m hs hv⟩

/-- the members come out of a Go map in arbitrary order: the ring does not depend on it -/
theorem ring_order_irrelevant (V V' : List VNode) (hp : V.Perm V') (hnd : (V.map (·.1)).Nodup) (h : Nat) :
    (Ring.set V).lookup h = (Ring.set V').lookup h := by
  by_cases hne : V = []
  · subst hne; rw [← hp.nil_eq]
  · obtain ⟨k, m, hs, hm, hl⟩ := ring_lookup_succ V hnd h hne
    rw [hl]
    exact (lookup_eq_of_succ V' ((hp.map _).nodup_iff.mp hnd) h k m
      ((isSucc_congr fun y => (hp.map _).mem_iff).mp hs) (hp.mem_iff.mp hm)).symm

/-- removing member `r` (rebuilding the ring without its vnodes) only moves keys that `r` owned -/
theorem ring_minimal_disruption (V : List VNode) (hnd : (V.map (·.1)).Nodup) (r h m m' : Nat)
    (hbefore : (Ring.set V).lookup h = some m)
    (hafter : (Ring.set (V.filter (fun v => v.2 != r))).lookup h = some m')
    (hmoved : m ≠ m') : m = r := by
  refine Decidable.byContradiction fun hmr => hmoved ?_
  have hne : V ≠ [] := fun e => by subst e; cases hbefore
  obtain ⟨k, m0, hs, hm, hl⟩ := ring_lookup_succ V hnd h hne
  obtain rfl : m0 = m := Option.some.inj (hl.symm.trans hbefore)
  -- the successor vnode survives the removal
  have hsub := List.filter_sublist (l := V) (p := fun v => v.2 != r)
  have hin : (k, m0) ∈ V.filter (fun v => v.2 != r) := List.mem_filter.mpr ⟨hm, bne_iff_ne.mpr hmr⟩
  have hs' := isSucc_subset (fun y hy => (hsub.map _).subset hy) hs (List.mem_map.mpr ⟨_, hin, rfl⟩)
  exact Option.some.inj ((lookup_eq_of_succ _ ((hsub.map _).nodup hnd) h k m0 hs' hin).symm.trans hafter)

/-- the ring is the set of vnodes of the members: removing a routee = filtering its vnodes -/
theorem vnodesOf_remove (hv : Nat → Nat → Nat) (vn : Nat) (members : List Nat) (r : Nat) :
    vnodesOf hv vn (members.filter (· != r)) = (vnodesOf hv vn members).filter (fun v => v.2 != r) :=
  flatMap_filter_of_const (fun m => (List.range vn).map fun i => (hv m i, m)) (· != r) (fun v : VNode => v.2 != r)
    (fun a b hb => by obtain ⟨i, _, rfl⟩ := List.mem_map.mp hb; rfl) members

theorem running_filter (r : Router) (hall : ∀ e ∈ r.members, e.2 = true) :
    ({ r with members := r.members.filter (·.2) } : Router) = r := by
  have hf : r.members.filter (·.2) = r.members := List.filter_eq_self.mpr (fun e he => hall e he)
  rw [hf]

theorem running_of_mem (r : Router) (hall : ∀ e ∈ r.members, e.2 = true) (id : Nat) (h : id ∈ r.ids) :
    r.running id = true := by
  obtain ⟨e, he, rfl⟩ := List.mem_map.mp h
  simp only [Router.running, List.any_eq_true]
  exact ⟨e, he, by simp [hall e he]⟩

/-- the slice does not depend on the map iteration order: it is the sorted list of the routees -/
theorem available_sorted (r : Router) (order : List Nat) (hperm : order.Perm r.ids)
    (hall : ∀ e ∈ r.members, e.2 = true) :
    (available r order).1 = sortKeys r.ids := by
  have hf : order.filter r.running = order :=
    List.filter_eq_self.mpr (fun id hid => running_of_mem r hall id (hperm.mem_iff.mp hid))
  simp only [available, hf]
  apply List.Perm.eq_of_pairwise (le := (· ≤ ·)) (fun a b _ _ h1 h2 => Nat.le_antisymm h1 h2)
    (sortKeys_sorted _) (sortKeys_sorted _)
  exact (sortKeys_perm order).trans (hperm.trans (sortKeys_perm r.ids).symm)

theorem running_purge (r : Router) (id : Nat) :
    ({ r with members := r.members.filter (·.2) } : Router).running id = r.running id := by
  show (r.members.filter (·.2)).any _ = r.members.any _
  rw [List.any_filter]; exact congrArg _ (funext fun e => by cases e.2 <;> simp)

/-- a key whose owner is running goes to the owner, for EVERY router, map iteration order and random draw; the router
    afterwards is the router without its stopped routees -/
theorem chRoute_owner (r : Router) (ring : Ring) (o : List Nat) (h rnd id : Nat) (hne : (available r o).1 ≠ [])
    (hown : ring.lookup h = some id) (hrun : r.running id = true) :
    chRoute r ring o (some h) rnd = (.delivered id, { r with members := r.members.filter (·.2) }) := by
  have hne' : sortKeys (o.filter r.running) ≠ [] := hne
  simp [chRoute, available, hne', hown, running_purge, hrun]

/-- equal keys (equal hashes) are routed to the same routee while ring and routee map are unchanged
    and the owner is running — whatever the map iteration order and the random draws are -/
theorem ch_stable (r : Router) (ring : Ring) (o₁ o₂ : List Nat) (h rnd₁ rnd₂ id : Nat)
    (hne₁ : (available r o₁).1 ≠ []) (hne₂ : (available r o₂).1 ≠ [])
    (hall : ∀ e ∈ r.members, e.2 = true) (hown : ring.lookup h = some id) (hrun : r.running id = true) :
    (chRoute r ring o₁ (some h) rnd₁).1 = .delivered id
    ∧ (chRoute r ring o₂ (some h) rnd₂).1 = .delivered id
    ∧ (chRoute r ring o₁ (some h) rnd₁).2 = r := by
  have h₁ := chRoute_owner r ring o₁ h rnd₁ id hne₁ hown hrun
  exact ⟨congrArg Prod.fst h₁, congrArg Prod.fst (chRoute_owner r ring o₂ h rnd₂ id hne₂ hown hrun),
    (congrArg Prod.snd h₁).trans (running_filter r hall)⟩

/-- a fan-out message is told to the running routees of the iteration order, in sorted order: for EVERY router -/
theorem fanoutRoute_eq (r : Router) (order : List Nat) :
    (fanoutRoute r order).1 = (sortKeys (order.filter r.running)).map Outcome.delivered :=
  List.map_congr_left fun _ hid => if_pos (List.mem_filter.mp ((sortKeys_perm _).mem_iff.mp hid)).2

/-- a fan-out message is told to every running routee exactly once, for every map iteration order -/
theorem fanout_exactly_once (r : Router) (order : List Nat) (hperm : order.Perm r.ids) (hnd : r.ids.Nodup)
    (id : Nat) (hmem : id ∈ r.ids) (hrun : r.running id = true) :
    (fanoutRoute r order).1.count (.delivered id) = 1 := by
  have hc : ∀ l : List Nat, (l.map Outcome.delivered).count (.delivered id) = l.count id := fun l => by
    rw [List.count, List.countP_map]
    exact List.countP_congr fun x _ => by simp
  rw [fanoutRoute_eq, hc, (sortKeys_perm _).count_eq, List.count_filter hrun, hperm.count_eq, hnd.count, if_pos hmem]

/-- and to nobody else: every Tell goes to a running routee of the map -/
theorem fanout_only_routees (r : Router) (order : List Nat) (hperm : order.Perm r.ids) (o : Outcome)
    (ho : o ∈ (fanoutRoute r order).1) : ∃ id ∈ r.ids, o = .delivered id := by
  rw [fanoutRoute_eq] at ho
  obtain ⟨id, hid, rfl⟩ := List.mem_map.mp ho
  exact ⟨id, hperm.mem_iff.mp (List.mem_filter.mp ((sortKeys_perm _).mem_iff.mp hid)).1, rfl⟩

theorem rrStep_spec (len : Int64) (next : UInt32) (h0 : 0 < len.toInt) (h1 : len.toInt < 2 ^ 32) :
    (Gen.C21.rrStep len next).1.toInt = ((next.toNat % len.toInt.toNat : Nat) : Int)
    ∧ (Gen.C21.rrStep len next).2.toNat = (next.toNat % len.toInt.toNat + 1) % len.toInt.toNat := by
  unfold Gen.C21.rrStep
  have hs := GoaktVerif.FixedWidth.int64_toInt32_toUInt32_toNat len (Int.le_of_lt h0) h1
  obtain ⟨L, hL⟩ : ∃ L : Nat, len.toInt = L := ⟨len.toInt.toNat, (Int.toNat_of_nonneg (Int.le_of_lt h0)).symm⟩
  rw [hL] at h0 h1
  rw [hL, Int.toNat_natCast] at hs ⊢
  have hidx : ((next % len.toInt32.toUInt32).toUInt64.toInt64).toInt = ((next.toNat % L : Nat) : Int) := by
    rw [GoaktVerif.FixedWidth.uint32_toUInt64_toInt64_toInt, UInt32.toNat_mod, hs]
  refine ⟨hidx, ?_⟩
  have hI : next.toNat % L < L := Nat.mod_lt _ (Int.ofNat_lt.mp h0)
  generalize (next % len.toInt32.toUInt32).toUInt64.toInt64 = idx at hidx ⊢
  generalize next.toNat % L = I at hidx hI ⊢
  -- no overflow; Go's `%` on a non-negative dividend is the mathematical one
  have hsum : idx.toInt + (1 : Int64).toInt = ((I + 1 : Nat) : Int) := by rw [hidx]; rfl
  have hadd : (idx + 1).toInt = ((I + 1 : Nat) : Int) :=
    (GoaktVerif.FixedWidth.toInt_add_of_fits idx 1 (hsum ▸ Int.le_trans (by decide) (Int.natCast_nonneg _))
      (hsum ▸ Int.lt_trans (Int.lt_of_le_of_lt (Int.ofNat_le.mpr hI) h1) (by decide))).trans hsum
  have hmod : ((idx + 1) % len).toInt = (((I + 1) % L : Nat) : Int) := by
    rw [Int64.toInt_mod, hadd, hL, Int.tmod_eq_emod_of_nonneg (Int.natCast_nonneg _), Int.natCast_emod]
  rw [GoaktVerif.FixedWidth.int64_toInt32_toUInt32_toNat _ (hmod ▸ Int.natCast_nonneg _)
    (hmod ▸ Int.lt_trans (Int.ofNat_lt.mpr (Nat.mod_lt _ (Int.ofNat_lt.mp h0))) h1), hmod,
    Int.toNat_natCast]

/-- tie: the `case RoundRobinRouting` body regenerated from actor/router.go computes exactly the model's
    index `cursor % len` and new cursor `(index + 1) % len` (see `rrRoute`), for every uint32 cursor value -/
theorem rrStep_refines (len : Int64) (next : UInt32) (h0 : 0 < len.toInt) (h1 : len.toInt < 2 ^ 31) :
    (Gen.C21.rrStep len next).1.toInt = ((next.toNat % len.toInt.toNat : Nat) : Int)
    ∧ (Gen.C21.rrStep len next).2.toNat = (next.toNat % len.toInt.toNat + 1) % len.toInt.toNat :=
  rrStep_spec len next h0 (Int.lt_trans h1 (by decide))

/-- a well-formed router state: at least one routee (and fewer than 2^32), distinct routees, all
    running, uint32 cursor -/
def Healthy (r : Router) : Prop :=
  r.members ≠ [] ∧ r.ids.Nodup ∧ (∀ e ∈ r.members, e.2 = true) ∧ r.next < 2 ^ 32 ∧ r.members.length < 2 ^ 32

theorem rrRoute_healthy (r : Router) (o : List Nat) (hh : Healthy r) (hperm : o.Perm r.ids) :
    rrRoute r o = (.delivered ((sortKeys r.ids).getD (r.next % (sortKeys r.ids).length) 0),
        { r with next := (r.next % (sortKeys r.ids).length + 1) % (sortKeys r.ids).length })
    ∧ Healthy { r with next := (r.next % (sortKeys r.ids).length + 1) % (sortKeys r.ids).length } := by
  obtain ⟨hne, hnd, hall, hlt, hsz⟩ := hh
  have hav : available r o = (sortKeys r.ids, r) := Prod.ext (available_sorted r o hperm hall) (running_filter r hall)
  have hlen : (sortKeys r.ids).length = r.members.length := by
    rw [(sortKeys_perm r.ids).length_eq, Router.ids, List.length_map]
  have hpos : 0 < (sortKeys r.ids).length := hlen ▸ List.length_pos_iff.mpr hne
  have hi : r.next % (sortKeys r.ids).length < (sortKeys r.ids).length := Nat.mod_lt _ hpos
  have hmem : (sortKeys r.ids)[r.next % (sortKeys r.ids).length] ∈ r.ids :=
    (sortKeys_perm r.ids).mem_iff.mp (List.getElem_mem _)
  refine ⟨?_, hne, hnd, hall, Nat.lt_trans (Nat.mod_lt _ hpos) (hlen ▸ hsz), hsz⟩
  simp only [rrRoute, hav, List.isEmpty_iff, List.ne_nil_of_length_pos hpos, if_false, Nat.mod_eq_of_lt hlt,
    List.getElem?_eq_getElem hi, tellTo, running_of_mem r hall _ hmem, if_true, List.getD_eq_getElem?_getD,
    Option.getD_some]

/-- the round-robin law, for ANY cursor value (so after any number of earlier messages, any pool
    change) and ANY map iteration orders: message j goes to σ[(next + j) mod n] where σ is the sorted
    routee list: cyclic, nothing dropped. -/
theorem rr_holds (r : Router) (orders : List (List Nat)) (hh : Healthy r)
    (hperm : ∀ o ∈ orders, o.Perm r.ids) :
    rrRun r orders = (List.range orders.length).map
      (fun j => Outcome.delivered ((sortKeys r.ids).getD ((r.next + j) % (sortKeys r.ids).length) 0)) := by
  induction orders generalizing r with
  | nil => rfl
  | cons o os ih =>
    obtain ⟨hstep, hh'⟩ := rrRoute_healthy r o hh (hperm o List.mem_cons_self)
    rw [List.length_cons, Cursor.unroll (fun i => Outcome.delivered ((sortKeys r.ids).getD i 0)), rrRun, hstep]
    exact congrArg _ (ih _ hh' fun o' ho' => hperm o' (List.mem_cons_of_mem _ ho'))

/-- the receivers follow one fixed cyclic order σ of the routees, none lost -/
def CyclicIn (σ : List Nat) (outs : List Outcome) : Prop :=
  ∃ off, ∀ j (hj : j < outs.length), outs[j] = .delivered (σ.getD ((off + j) % σ.length) 0)

def C21_full : Prop :=
  -- round-robin: for every healthy router (any cursor value, so any number of earlier messages)
  -- and every sequence of map iteration orders, the outcomes are cyclic in one fixed order
  (∀ (r : Router) (orders : List (List Nat)), Healthy r → (∀ o ∈ orders, o.Perm r.ids) →
      ∃ σ, σ.Perm r.ids ∧ CyclicIn σ (rrRun r orders))
  -- fan-out: every running routee exactly once
  ∧ (∀ (r : Router) (order : List Nat) (id : Nat), order.Perm r.ids → r.ids.Nodup → id ∈ r.ids →
      r.running id = true → (fanoutRoute r order).1.count (.delivered id) = 1)
  -- consistent hash: equal keys, same routee, while nothing changes
  ∧ (∀ (r : Router) (ring : Ring) (o₁ o₂ : List Nat) (h rnd₁ rnd₂ id : Nat),
      (available r o₁).1 ≠ [] → (available r o₂).1 ≠ [] →
      (∀ e ∈ r.members, e.2 = true) → ring.lookup h = some id → r.running id = true →
      (chRoute r ring o₁ (some h) rnd₁).1 = .delivered id ∧ (chRoute r ring o₂ (some h) rnd₂).1 = .delivered id)
  -- consistent hash: removing a routee only moves its keys (distinct vnode hashes)
  ∧ (∀ (V : List VNode) (r h m m' : Nat), (V.map (·.1)).Nodup → (Ring.set V).lookup h = some m →
      (Ring.set (V.filter (fun v => v.2 != r))).lookup h = some m' → m ≠ m' → m = r)

theorem C21_holds : C21_full := by
  refine ⟨?_, fun r order id a b c d => fanout_exactly_once r order a b id c d,
    fun r ring o₁ o₂ h rnd₁ rnd₂ id a b c d e =>
      have hs := ch_stable r ring o₁ o₂ h rnd₁ rnd₂ id a b c d e
      ⟨hs.1, hs.2.1⟩,
    fun V r h m m' a b c d => ring_minimal_disruption V a r h m m' b c d⟩
  intro r orders hh hperm
  refine ⟨sortKeys r.ids, sortKeys_perm r.ids, r.next, ?_⟩
  intro j hj
  have := rr_holds r orders hh hperm
  simp only [this, List.getElem_map, List.getElem_range]

/-- as in findings/C21.json: iteration orders that vary from message to message, and a cursor at the uint32 wrap point -/
example : rrRun ⟨[(0, true), (1, true)], 0⟩ [[0, 1], [1, 0]] = [.delivered 0, .delivered 1] := by decide
example : rrRun ⟨[(0, true), (1, true)], 4294967295⟩ [[0, 1], [1, 0], [0, 1]]
    = [.delivered 1, .delivered 0, .delivered 1] := by decide

def exV : List VNode := [(10, 0), (50, 1), (90, 2), (30, 1), (70, 0)]
example : (exV.map (·.1)).Nodup := by decide
example : (Ring.set exV).lookup 40 = some 1 := by decide          -- successor 50
example : (Ring.set exV).lookup 95 = some 0 := by decide          -- wrap to 10
example : (Ring.set (exV.filter (fun v => v.2 != 1))).lookup 40 = some 0 := by decide   -- moved: was owned by 1
example : (Ring.set (exV.filter (fun v => v.2 != 1))).lookup 80 = some 2 := by decide   -- not moved
example : rrRun ⟨[(0, true), (1, true), (2, true)], 7⟩ (List.replicate 4 [2, 0, 1])
    = [.delivered 1, .delivered 2, .delivered 0, .delivered 1] := by decide
example : Healthy ⟨[(0, true), (1, true)], 4294967295⟩ := ⟨by decide, by decide, by decide, by decide, by decide⟩
example : (fanoutRoute ⟨[(0, true), (1, false), (2, true)], 0⟩ [2, 1, 0]).1
    = [.delivered 0, .delivered 2] := by decide

end GoaktVerif.C21
