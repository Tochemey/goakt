/-
C23 — Wire frames round-trip and malformed frames are rejected safely.

"For every protocol message and every header map within the wire limits (fewer than 65536
 headers, keys and values shorter than 65536 bytes) and deadline, decoding an encoded frame yields
 an equal message with the same type name, equal headers and a deadline within clock tolerance,
 whether or not metadata is attached. Concatenated frames are read back one by one in order.
 Truncated, malformed or oversized input yields an error and never a panic, an out-of-range read
 or an allocation beyond the frame limit."

Model: `Model/C23.lean` (byte lists; every Go slice expression is a checked operation that yields
`Err.panic` when Go's bounds check would fire).  protobuf and the type registry are parameters
(`Codec`); a message is its type name plus its payload bytes.  Tie: differential run of the real
ProtoSerializer / Metadata / readProtoFrame / Client.unmarshalProtoResponse / ProtoServer.handleConn
/ FramePool against the model (tools/props/c23.py), and the constants `defaultMaxFrameSize`,
`minBucketShift`, `maxBucketShift`, `numBuckets` regenerated from the source (`Gen.C23`).  Every length /
bound condition of the decoders is regenerated as well (go2lean `if_cond`) and proved equal to the named
condition the model branches on (`Lemmas/C23Gen.lean`, theorems `gen_*`): editing a bound in the Go source
breaks a proof obligation, not only the differential.

Result: the full statement holds (`C23_holds`).  Finding C23-F1: the client's format heuristic required
`nameLen < 256` and handed metadata-format frames with longer type names to the legacy parser ("unknown message
type"); goakt fb98906 removed the conjunct, the model follows the fixed code, `client_long_name_ok` is the
regression statement.
-/
import GoaktVerif.Lemmas.C23Round
import GoaktVerif.Lemmas.C23Stream
import GoaktVerif.Lemmas.C23Pool
import GoaktVerif.Lemmas.C23Gen
import GoaktVerif.Gen.C23

namespace GoaktVerif.C23
open GoaktVerif.Model.C23

/-- how a message is sent: `none` = `MarshalBinary` (legacy frame); `some md` =
    `MarshalBinaryWithMetadata` with `md = none` for a nil `*Metadata`, else headers (in the map's
    iteration order) and the remaining-time field computed by the sender -/
abbrev Enc := Option (Option (Headers × Int))

def mdBytes : Option (Headers × Int) → Bytes
  | none => []
  | some (hs, r) => mdMarshal hs r

/-- the encoder of the code -/
def encode (e : Enc) (name payload : Bytes) : R Bytes :=
  match e with
  | none => marshal name payload
  | some md => marshalWithMeta name payload (mdBytes md)

/-- the bytes it must produce -/
def encFrame (e : Enc) (name payload : Bytes) : Bytes :=
  match e with
  | none => legacyFrame name payload
  | some md => metaFrame name payload (mdBytes md)

/-- the metadata block of the frame -/
def metaOf : Enc → Bytes
  | none => []
  | some md => mdBytes md

/-- what the receiver must see -/
def expected (e : Enc) (name payload : Bytes) : Decoded :=
  ⟨name, payload, match e with | some (some (hs, r)) => some ⟨hs, r⟩ | _ => none⟩

/-- the wire limits of the property -/
structure MdOK (md : Option (Headers × Int)) : Prop where
  limits : ∀ hs r, md = some (hs, r) → Spec.C23.inLimits hs = true ∧ Spec.C23.distinctKeys hs = true
  int64 : ∀ hs r, md = some (hs, r) → -2 ^ 63 ≤ r ∧ r < 2 ^ 63

/-- the exact guard of the format detection: the frame limit must stay below `'A' · 2^24` -/
def detectLimit : Nat := 65 * 2 ^ 24

structure WithinLimits (max : Nat) (e : Enc) (name payload : Bytes) : Prop where
  nameOK : Spec.C23.validName name = true
  sizeOK : (encFrame e name payload).length ≤ max
  maxOK : max < detectLimit
  mdOK : ∀ m, e = some m → MdOK m

/-- the parameters accept the message: its type is registered and protobuf accepts the payload -/
def Knows (c : Codec) (name payload : Bytes) : Prop := c.reg name = true ∧ c.pdec name payload = true

/-- non-vacuity: a message `A.B` with payload `01 02 03`, one header `k → v` and 5 ns remaining,
    under the default 16 MiB limit, known to the all-accepting codec -/
example : WithinLimits (2 ^ 24) (some (some ([([107], [118])], 5))) [65, 46, 66] [1, 2, 3] ∧
    Knows Codec.top [65, 46, 66] [1, 2, 3] := by
  refine ⟨⟨by decide, by decide, by decide, ?_⟩, rfl, rfl⟩
  intro m hm; cases hm
  exact ⟨fun _ _ h => by cases h; decide, fun _ _ h => by cases h; decide⟩

-- the wire limits of `MdOK.limits` can be met, also with an empty key and value
example : Spec.C23.inLimits [([107], [118, 119]), ([], [])] = true ∧ Spec.C23.distinctKeys [([107], [118, 119]), ([], [])] = true := by decide

/-- the model's layout is the documented layout -/
theorem mdMarshal_eq_spec (hs : Headers) (r : Int) : mdMarshal hs r = Spec.C23.metadata hs r := by
  have hh : ∀ kv, encHeader kv = Spec.C23.header kv := by
    intro kv; simp only [encHeader, Spec.C23.header, spec_be2]
  simp only [mdMarshal, Spec.C23.metadata, spec_be2, spec_be8, ofInt64]
  have hfun : encHeader = Spec.C23.header := funext hh
  rw [hfun]

theorem legacyFrame_eq_spec (name payload : Bytes) : legacyFrame name payload = Spec.C23.frame name payload := by
  simp only [legacyFrame, Spec.C23.frame, spec_be4]

theorem metaFrame_eq_spec (name payload mb : Bytes) : metaFrame name payload mb = Spec.C23.frameM name mb payload := by
  simp only [metaFrame, Spec.C23.frameM, spec_be4]
  congr 2; omega

/-- what `MarshalBinary` writes is always an int64 -/
theorem remainingOf_range (d now : Int) : -2 ^ 63 ≤ remainingOf d now ∧ remainingOf d now < 2 ^ 63 := by
  unfold remainingOf
  have := wrap64_range (d - now)
  split
  · simp only []; split <;> omega
  · omega

theorem remainingOf_eq_zero (d now : Int) : remainingOf d now = 0 ↔ d = 0 := by
  unfold remainingOf
  split
  · simp only []; split <;> omega
  · omega

/-- "a deadline within clock tolerance": the receiver's deadline is the sender's, shifted by the
    difference of the two clock readings (minus one nanosecond when the sender's deadline was
    exactly "now"), as long as nothing overflows int64 -/
theorem deadline_transfer (d ts tr : Int) (hd : d ≠ 0)
    (h1 : -2 ^ 63 ≤ d - ts ∧ d - ts < 2 ^ 63) (h2 : -2 ^ 63 ≤ d + (tr - ts) - 1 ∧ d + (tr - ts) < 2 ^ 63) :
    deadlineOf tr (remainingOf d ts) = if d = ts then tr - 1 else d + (tr - ts) := by
  have hne : remainingOf d ts ≠ 0 := fun h => hd ((remainingOf_eq_zero d ts).mp h)
  unfold deadlineOf
  rw [if_pos hne]
  unfold remainingOf
  rw [if_pos hd, wrap64_id h1.1 h1.2]
  simp only []
  split
  · rename_i h0
    have : d = ts := by omega
    rw [if_pos this, wrap64_id (by omega) (by omega)]; omega
  · rename_i h0
    have : d ≠ ts := by omega
    rw [if_neg this, wrap64_id (by omega) (by omega)]; omega

-- `hd` and `h1` of `deadline_transfer` can be met (deadline 1000, sender clock 400)
example : (1000 : Int) ≠ 0 ∧ (-2 ^ 63 ≤ (1000 : Int) - 400 ∧ (1000 : Int) - 400 < 2 ^ 63) := by decide

theorem deadline_none (ts tr : Int) : deadlineOf tr (remainingOf 0 ts) = 0 := by
  simp [deadlineOf, remainingOf]

/-! ### tie: the remaining-time computation of the SOURCE (regenerated) = the model, for all inputs

`Gen.C23.marshalRemaining` is `Metadata.MarshalBinary` with every statement that does not touch
`remaining` skipped, `m.deadlineNano` and `time.Now().UnixNano()` bound as arguments.  The 0 → −1
rule cannot be exercised by any test (it needs `deadline == now` to the nanosecond). -/

theorem gen_remaining (d now x : Int64) :
    (Gen.C23.marshalRemaining d now x).toInt = remainingOf d.toInt now.toInt := by
  unfold Gen.C23.marshalRemaining remainingOf
  simp only [bne_iff_ne, ne_eq, beq_iff_eq]
  by_cases hd : d = 0
  · subst hd; simp
  · have hd' : d.toInt ≠ 0 := fun h => hd (Int64.toInt_inj.mp (by simpa using h))
    rw [if_pos hd, if_pos hd']
    simp only [wrap64_bmod, ← Int64.toInt_sub]
    by_cases hr : d - now = 0
    · rw [if_pos hr]
      have : (d - now).toInt = 0 := by rw [hr]; rfl
      rw [if_pos this]; rfl
    · have : (d - now).toInt ≠ 0 := fun h => hr (Int64.toInt_inj.mp (by simpa using h))
      rw [if_neg hr, if_neg this]

theorem validName_cons {name : Bytes} (h : Spec.C23.validName name = true) :
    ∃ a name', name = a :: name' ∧ 65 ≤ a.toNat := by
  match name, h with
  | a :: name', h =>
    refine ⟨a, name', rfl, ?_⟩
    simp only [Spec.C23.validName, Spec.C23.asciiLetter, Bool.or_eq_true, Bool.and_eq_true, decide_eq_true_eq] at h
    omega

theorem validName_pos {name : Bytes} (h : Spec.C23.validName name = true) : 0 < name.length :=
  match name, h with
  | _ :: _, _ => Nat.succ_pos _

theorem encode_eq {e : Enc} {name payload : Bytes} (h : Spec.C23.validName name = true) :
    encode e name payload = .ok (encFrame e name payload) := by
  cases e with
  | none => exact marshal_eq payload (validName_pos h)
  | some md => exact marshalWithMeta_eq payload _ (validName_pos h)

theorem finish_expected {c : Codec} {e : Enc} {name payload : Bytes} (hk : Knows c name payload)
    (hmd : ∀ m, e = some m → MdOK m) :
    finish c ⟨name, (metaOf e), payload⟩ = .ok (expected e name payload) := by
  obtain ⟨hr, hp⟩ := hk
  unfold finish
  simp only [hr, hp, Bool.not_true, Bool.false_eq_true, if_false]
  match e, hmd with
  | none, _ => simp [expected, metaOf]
  | some none, _ => simp [expected, metaOf, mdBytes]
  | some (some (hs, r)), hmd =>
    have ok := hmd _ rfl
    obtain ⟨hl, hd⟩ := ok.limits hs r rfl
    obtain ⟨h1, h2⟩ := ok.int64 hs r rfl
    simp only [metaOf, mdBytes, mdMarshal_length_pos, if_true, metadata_roundtrip hs r hl hd h1 h2, expected]

theorem WithinLimits.size_lt {max : Nat} {e : Enc} {name payload : Bytes} (h : WithinLimits max e name payload) :
    (encFrame e name payload).length < 65 * 2 ^ 24 :=
  Nat.lt_of_le_of_lt h.sizeOK h.maxOK

theorem framing_legacy {max : Nat} {name payload : Bytes} (h : WithinLimits max none name payload) :
    frameLegacy (legacyFrame name payload) = .ok ⟨name, [], payload⟩ ∧
    frameMeta (legacyFrame name payload) = .error .invalidLength ∧ clientTriesMeta (legacyFrame name payload) = false := by
  obtain ⟨a, n', hn, ha⟩ := validName_cons h.nameOK
  have hsz : (legacyFrame name payload).length < 65 * 2 ^ 24 := h.size_lt
  rw [legacyFrame_length] at hsz
  exact ⟨frameLegacy_legacyFrame name payload (by omega), legacyFrame_not_meta hn (by omega) (by omega)⟩

theorem framing_meta {max : Nat} {md : Option (Headers × Int)} {name payload : Bytes}
    (h : WithinLimits max (some md) name payload) :
    frameMeta (metaFrame name payload (mdBytes md)) = .ok ⟨name, mdBytes md, payload⟩ ∧
    clientTriesMeta (metaFrame name payload (mdBytes md)) = true := by
  have hsz : (metaFrame name payload (mdBytes md)).length < 65 * 2 ^ 24 := h.size_lt
  rw [metaFrame_length] at hsz
  refine ⟨frameMeta_metaFrame name payload _ (by omega), ?_⟩
  rw [clientTriesMeta_metaFrame name payload _ (by omega)]
  exact decide_eq_true (validName_pos h.nameOK)

/-- framing at the server: a legacy frame falls through to the legacy parser (never mis-parsed as
    metadata), a metadata frame is parsed as metadata (never handed to the legacy parser) -/
theorem serverFrame_encFrame {max : Nat} {e : Enc} {name payload : Bytes} (h : WithinLimits max e name payload) :
    serverFrame (encFrame e name payload) = .ok ⟨name, (metaOf e), payload⟩ := by
  unfold serverFrame
  cases e with
  | none => rw [encFrame, (framing_legacy h).2.1, (framing_legacy h).1]; split <;> rfl
  | some md => rw [encFrame, if_pos (by rw [metaFrame_length]; omega), (framing_meta h).1]; rfl

/-- C23 round trip, server side (`handleConn`'s decode block), with and without metadata -/
theorem roundtrip_server (c : Codec) (max : Nat) (e : Enc) (name payload : Bytes)
    (h : WithinLimits max e name payload) (hk : Knows c name payload) :
    encode e name payload = .ok (encFrame e name payload) ∧
    serverDecode c (encFrame e name payload) = .ok (expected e name payload) := by
  refine ⟨encode_eq h.nameOK, ?_⟩
  rw [serverDecode_eq_finish, serverFrame_encFrame h]
  exact finish_expected hk h.mdOK

/-- the two plain decoders on their own format -/
theorem roundtrip_plain (c : Codec) (max : Nat) (e : Enc) (name payload : Bytes)
    (h : WithinLimits max e name payload) (hk : Knows c name payload) :
    (match e with
     | none => unmarshal c (encFrame e name payload)
     | some _ => unmarshalWithMeta c (encFrame e name payload)) = .ok (expected e name payload) := by
  cases e with
  | none =>
    rw [encFrame, unmarshal_eq_finish, (framing_legacy h).1]
    exact finish_expected (e := none) hk h.mdOK
  | some md =>
    rw [encFrame, unmarshalWithMeta_eq_finish, (framing_meta h).1]
    exact finish_expected (e := some md) hk h.mdOK

/-- for EVERY codec the metadata-format parser rejects a legacy frame with
    `ErrInvalidMessageLength` (so the server falls back), and the client's heuristic does not even try it -/
theorem detect_legacy (c : Codec) (max : Nat) (name payload : Bytes) (h : WithinLimits max none name payload) :
    unmarshalWithMeta c (legacyFrame name payload) = .error .invalidLength ∧
    clientTriesMeta (legacyFrame name payload) = false := by
  refine ⟨?_, (framing_legacy h).2.2⟩
  rw [unmarshalWithMeta_eq_finish, (framing_legacy h).2.1]
  rfl

/-- C23 round trip, client side (`unmarshalProtoResponse`): every legacy frame and every
    metadata-format frame, whatever the length of the type name -/
theorem roundtrip_client (c : Codec) (max : Nat) (e : Enc) (name payload : Bytes)
    (h : WithinLimits max e name payload) (hk : Knows c name payload) :
    clientDecode c (encFrame e name payload) = .ok (expected e name payload) := by
  have hp := roundtrip_plain c max e name payload h hk
  rw [clientDecode_eq]
  cases e with
  | none => rw [encFrame, (framing_legacy h).2.2]; exact hp
  | some md =>
    have hp : unmarshalWithMeta c (metaFrame name payload (mdBytes md)) = _ := hp
    rw [encFrame, (framing_meta h).2, if_pos rfl, hp]

/-- regression for finding C23-F1: a metadata-format frame whose type name has 256 bytes or more is decoded by
    the client like any other (the instance `e = some md` of `roundtrip_client`; `_hlong` only marks the case) -/
theorem client_long_name_ok (c : Codec) (max : Nat) (md : Option (Headers × Int)) (name payload : Bytes)
    (_hlong : 256 ≤ name.length) (h : WithinLimits max (some md) name payload) (hk : Knows c name payload) :
    clientDecode c (metaFrame name payload (mdBytes md)) = .ok (expected (some md) name payload) :=
  roundtrip_client c max (some md) name payload h hk

def frames (msgs : List (Enc × Bytes × Bytes)) : List Bytes := msgs.map fun m => encFrame m.1 m.2.1 m.2.2

theorem wellFramed_encFrame {max : Nat} {e : Enc} {name payload : Bytes} (h : WithinLimits max e name payload) :
    Spec.C23.wellFramed max (encFrame e name payload) = true := by
  have hsz := h.size_lt
  have key : 8 ≤ (encFrame e name payload).length ∧
      (encFrame e name payload).take 4 = be32 (encFrame e name payload).length := by
    cases e with
    | none => rw [encFrame, legacyFrame_length]; exact ⟨by omega, congrArg be32 (by omega)⟩
    | some md => rw [encFrame, metaFrame_length]; exact ⟨by omega, congrArg be32 (by omega)⟩
  exact wellFramed_iff.mpr ⟨key.1, h.sizeOK, by omega, key.2⟩

/-- any concatenation of complete frames within the limit is read back one by
    one, in order, followed by EOF (`readProtoFrame` / the read half of `handleConn`) -/
theorem concat_read (max : Nat) (fs : List Bytes) (h : ∀ f ∈ fs, Spec.C23.wellFramed max f = true) :
    readAll max fs.flatten = (fs, .eof) := by
  induction fs with
  | nil => rw [readAll, List.flatten_nil, readFrame_short (by decide)]; rfl
  | cons f rest ih =>
    have hf := h f (by simp)
    rw [readAll, List.flatten_cons, readFrame_append f rest.flatten hf]
    simp only [rest_lt hf, dite_true, ih fun g hg => h g (by simp [hg])]

example : Spec.C23.wellFramed 64 [0, 0, 0, 9, 0, 0, 0, 1, 65] = true := by decide

/-- a pipelined batch of requests (each with or without metadata) is decoded
    one by one, in order -/
theorem concat_server (c : Codec) (max : Nat) (msgs : List (Enc × Bytes × Bytes))
    (h : ∀ m ∈ msgs, WithinLimits max m.1 m.2.1 m.2.2 ∧ Knows c m.2.1 m.2.2) :
    serverLoop c max (frames msgs).flatten = msgs.map fun m => expected m.1 m.2.1 m.2.2 :=
  serverLoop_map c max _ _ msgs fun m hm =>
    ⟨wellFramed_encFrame (h m hm).1, (roundtrip_server c max _ _ _ (h m hm).1 (h m hm).2).2⟩

/-- the `n` responses of a batch (legacy frames, which is what the server
    writes, or metadata frames) are decoded one by one, in order -/
theorem concat_client (c : Codec) (max : Nat) (msgs : List (Enc × Bytes × Bytes)) (rest : Bytes)
    (h : ∀ m ∈ msgs, WithinLimits max m.1 m.2.1 m.2.2 ∧ Knows c m.2.1 m.2.2) :
    clientReadN c max msgs.length ((frames msgs).flatten ++ rest) = .ok (msgs.map fun m => expected m.1 m.2.1 m.2.2) :=
  clientReadN_map c max _ _ msgs rest fun m hm =>
    ⟨wellFramed_encFrame (h m hm).1, roundtrip_client c max _ _ _ (h m hm).1 (h m hm).2⟩

theorem clientReadN_legacy {α} (c : Codec) (max : Nat) (nm pl : α → Bytes) (xs : List α) (rest : Bytes)
    (h : ∀ x ∈ xs, WithinLimits max none (nm x) (pl x) ∧ Knows c (nm x) (pl x)) :
    clientReadN c max xs.length ((xs.map fun x => legacyFrame (nm x) (pl x)).flatten ++ rest) =
      .ok (xs.map fun x => ⟨nm x, pl x, none⟩) :=
  clientReadN_map c max _ _ xs rest fun x hx =>
    ⟨wellFramed_encFrame (h x hx).1, roundtrip_client c max none _ _ (h x hx).1 (h x hx).2⟩

/-- `marshalProtoWithContext` picks the format from the context: no metadata or a nil one → legacy -/
theorem clientMarshal_eq (ctx : Option (Option (Headers × Int))) (name payload : Bytes) :
    clientMarshal (ctx.map fun m => m.map fun hr => mdMarshal hr.1 hr.2) name payload =
      encode (match ctx with | some (some hr) => some (some hr) | _ => none) name payload := by
  match ctx with
  | none => rfl
  | some none => rfl
  | some (some (hs, r)) => rfl

/-- the whole request/response pipeline of `SendBatchProto` against a server whose handler echoes:
    every request (with or without metadata) reaches the handler in order with the same name,
    payload, headers and remaining time; the server writes one legacy frame per request; the client
    reads the responses back one by one, in order -/
theorem echo_pipeline (c : Codec) (max : Nat) (msgs : List (Enc × Bytes × Bytes))
    (h : ∀ m ∈ msgs, WithinLimits max m.1 m.2.1 m.2.2 ∧ WithinLimits max none m.2.1 m.2.2 ∧ Knows c m.2.1 m.2.2) :
    serverEcho c max (frames msgs).flatten =
      (msgs.map (fun m => expected m.1 m.2.1 m.2.2), (msgs.map fun m => legacyFrame m.2.1 m.2.2).flatten) ∧
    clientReadN c max msgs.length (msgs.map fun m => legacyFrame m.2.1 m.2.2).flatten =
      .ok (msgs.map fun m => ⟨m.2.1, m.2.2, none⟩) := by
  constructor
  · exact serverEcho_map c max _ _ _ msgs fun m hm =>
      have ⟨hw, _, hk⟩ := h m hm
      ⟨wellFramed_encFrame hw, (roundtrip_server c max m.1 m.2.1 m.2.2 hw hk).2, encode_eq (e := none) hw.nameOK⟩
  · have := clientReadN_legacy c max (·.2.1) (·.2.2) msgs [] fun m hm => (h m hm).2
    rwa [List.append_nil] at this

/-- on ANY byte string every decoder returns a value or one of the documented errors;
    no slice expression or fixed-width read is ever out of range (`Err.panic` is unreachable) -/
theorem decoders_total (c : Codec) (max : Nat) (data : Bytes) :
    mdUnmarshal data ≠ .error .panic ∧
    unmarshal c data ≠ .error .panic ∧
    unmarshalWithMeta c data ≠ .error .panic ∧
    serverDecode c data ≠ .error .panic ∧
    clientDecode c data ≠ .error .panic ∧
    readFrame max data ≠ .error .panic ∧
    (readAll max data).2 ≠ .panic :=
  ⟨mdUnmarshal_nopanic data, unmarshal_nopanic c data, unmarshalWithMeta_nopanic c data,
   serverDecode_nopanic c data, clientDecode_nopanic c data, readFrame_nopanic max data, (readAll_spec max data).1⟩

/-- the metadata decoder has exactly one error -/
theorem metadata_error (data : Bytes) (e : Err) (h : mdUnmarshal data = .error e) : e = .invalidMetadata :=
  mdUnmarshal_err h

/-- allocation limit: the buffer size requested for an incoming frame is within [8, maxFrameSize];
    every frame returned has exactly the requested size; the frames of a stream are its prefix -/
theorem alloc_limit (max : Nat) (s : Bytes) :
    (∀ n, allocRequest max s = some n → 8 ≤ n ∧ n ≤ max) ∧
    (∀ f, readFrame max s = .ok f → allocRequest max s = some f.alloc ∧ f.frame.length = f.alloc ∧ s = f.frame ++ f.rest) ∧
    (∀ f ∈ (readAll max s).1, f.length ≤ max) ∧ (∃ rest, s = (readAll max s).1.flatten ++ rest) := by
  refine ⟨fun n h => allocRequest_le h, fun f h => ?_, (readAll_spec max s).2.1, (readAll_spec max s).2.2⟩
  obtain ⟨hs, hl, _⟩ := readFrame_ok h
  exact ⟨readFrame_alloc h, hl, hs⟩

/-- the pool configuration of the code, from the regenerated constants -/
def poolCfg : PoolCfg := ⟨Gen.C23.minBucketShift.toNat, Gen.C23.numBuckets.toNat⟩

/-- facts about the regenerated constants the theorems and the driver rely on -/
theorem gen_facts :
    poolCfg = ⟨8, 15⟩ ∧
    Gen.C23.numBuckets = Gen.C23.maxBucketShift - Gen.C23.minBucketShift + 1 ∧
    Gen.C23.defaultMaxFrameSize.toNat < detectLimit ∧ Gen.C23.defaultMaxFrameSize = 16 * 2 ^ 20 :=
  ⟨rfl, by decide, by decide, by decide⟩

/-- the default frame limit satisfies the detection guard: with the default configuration every
    frame the reader lets through is classified correctly -/
theorem default_limit_ok (e : Enc) (name payload : Bytes) (hn : Spec.C23.validName name = true)
    (hsz : (encFrame e name payload).length ≤ Gen.C23.defaultMaxFrameSize.toNat) (hmd : ∀ m, e = some m → MdOK m) :
    WithinLimits Gen.C23.defaultMaxFrameSize.toNat e name payload :=
  ⟨hn, hsz, gen_facts.2.2.1, hmd⟩

/-- frame pool: `Get(n)` never slices beyond its buffer, uses the smallest bucket, wastes less than
    half above 256 bytes, pooled buffers are at most 4 MiB, and `Put` finds the same bucket -/
theorem pool_sizing (n : Nat) :
    (∃ cap, poolGet poolCfg n = .ok (n, cap) ∧ n ≤ cap ∧ cap = poolCap poolCfg n) ∧
    bucketIndex poolCfg n ≤ poolCfg.numBuckets ∧
    (0 < bucketIndex poolCfg n → 2 ^ (poolCfg.minBucketShift + bucketIndex poolCfg n - 1) < n) ∧
    (2 ^ poolCfg.minBucketShift < n → poolCap poolCfg n < 2 * n) ∧
    (bucketIndex poolCfg n < poolCfg.numBuckets →
      poolCap poolCfg n ≤ 2 ^ Gen.C23.maxBucketShift.toNat ∧
      bucketIndexExact poolCfg (poolCap poolCfg n) = bucketIndex poolCfg n) := by
  refine ⟨⟨_, (poolGet_ok poolCfg n).1, (poolGet_ok poolCfg n).2, rfl⟩, bucketIndex_le poolCfg n, bucketIndex_smallest poolCfg n,
    poolCap_lt_double poolCfg n, fun h => ?_⟩
  have hc : poolCap poolCfg n = 2 ^ (poolCfg.minBucketShift + bucketIndex poolCfg n) := by
    unfold poolCap; simp only []; rw [if_neg (by omega)]
  rw [hc]
  refine ⟨?_, bucketIndexExact_bucket poolCfg _ h⟩
  have e : poolCfg = ⟨8, 15⟩ := gen_facts.1
  rw [e] at h ⊢
  simp only [] at h ⊢
  apply Nat.pow_le_pow_right (by decide)
  have : Gen.C23.maxBucketShift.toNat = 22 := by decide
  omega

def RoundTripServer : Prop :=
  ∀ (c : Codec) (max : Nat) (e : Enc) (name payload : Bytes),
    WithinLimits max e name payload → Knows c name payload →
    encode e name payload = .ok (encFrame e name payload) ∧
    serverDecode c (encFrame e name payload) = .ok (expected e name payload) ∧
    serverLoop c max (encFrame e name payload) = [expected e name payload]

def RoundTripClient : Prop :=
  ∀ (c : Codec) (max : Nat) (e : Enc) (name payload : Bytes),
    WithinLimits max e name payload → Knows c name payload →
    clientDecode c (encFrame e name payload) = .ok (expected e name payload)

def Concat : Prop :=
  (∀ (max : Nat) (fs : List Bytes), (∀ f ∈ fs, Spec.C23.wellFramed max f = true) → readAll max fs.flatten = (fs, .eof)) ∧
  (∀ (c : Codec) (max : Nat) (msgs : List (Enc × Bytes × Bytes)),
    (∀ m ∈ msgs, WithinLimits max m.1 m.2.1 m.2.2 ∧ Knows c m.2.1 m.2.2) →
    serverLoop c max (frames msgs).flatten = msgs.map fun m => expected m.1 m.2.1 m.2.2) ∧
  (∀ (c : Codec) (max : Nat) (msgs : List (Bytes × Bytes)) (rest : Bytes),
    (∀ m ∈ msgs, WithinLimits max none m.1 m.2 ∧ Knows c m.1 m.2) →
    clientReadN c max msgs.length ((msgs.map fun m => legacyFrame m.1 m.2).flatten ++ rest) =
      .ok (msgs.map fun m => ⟨m.1, m.2, none⟩))

def Safe : Prop :=
  ∀ (c : Codec) (max : Nat) (data : Bytes),
    mdUnmarshal data ≠ .error .panic ∧ unmarshal c data ≠ .error .panic ∧
    unmarshalWithMeta c data ≠ .error .panic ∧ serverDecode c data ≠ .error .panic ∧
    clientDecode c data ≠ .error .panic ∧ readFrame max data ≠ .error .panic ∧
    (readAll max data).2 ≠ .panic ∧
    (∀ n, allocRequest max data = some n → n ≤ max) ∧
    (∀ f ∈ (readAll max data).1, f.length ≤ max)

def DeadlineTolerance : Prop :=
  (∀ d now : Int, -2 ^ 63 ≤ remainingOf d now ∧ remainingOf d now < 2 ^ 63 ∧ (remainingOf d now = 0 ↔ d = 0)) ∧
  (∀ d ts tr : Int, d ≠ 0 → (-2 ^ 63 ≤ d - ts ∧ d - ts < 2 ^ 63) →
    (-2 ^ 63 ≤ d + (tr - ts) - 1 ∧ d + (tr - ts) < 2 ^ 63) →
    deadlineOf tr (remainingOf d ts) = if d = ts then tr - 1 else d + (tr - ts)) ∧
  (∀ ts tr : Int, deadlineOf tr (remainingOf 0 ts) = 0)

/-- the full property: both receivers decode every encoded frame, whatever the format; streams are
    read frame by frame in order; every decoder is total and memory safe within the frame limit;
    the deadline survives the transfer up to the clock difference -/
def C23_full : Prop :=
  RoundTripServer ∧ RoundTripClient ∧ Concat ∧ Safe ∧ DeadlineTolerance

theorem C23_holds : C23_full := by
  refine ⟨fun c max e name payload hw hk => ?_, roundtrip_client,
    ⟨concat_read, concat_server, fun c max msgs rest h => ?_⟩, fun c max data => ?_, ?_, deadline_transfer, deadline_none⟩
  · have := concat_server c max [(e, name, payload)] (by simpa using ⟨hw, hk⟩)
    exact ⟨(roundtrip_server c max e name payload hw hk).1, (roundtrip_server c max e name payload hw hk).2,
      by simpa [frames] using this⟩
  · exact clientReadN_legacy (α := Bytes × Bytes) c max (·.1) (·.2) msgs rest h
  · obtain ⟨a, b, c', d, e, f, g⟩ := decoders_total c max data
    exact ⟨a, b, c', d, e, f, g, fun n h => (allocRequest_le h).2, (readAll_spec max data).2.1⟩
  · exact fun d now => ⟨(remainingOf_range d now).1, (remainingOf_range d now).2, remainingOf_eq_zero d now⟩

end GoaktVerif.C23
