/-
C18 — Undeliverable messages surface as dead letters exactly once.

"Every message that the runtime accepts for delivery but then drops (full non-blocking mailbox, unhandled
 message, actor gone when a remote tell arrives, failed coalesced remote batch) is published once as a dead
 letter carrying the original message, sender and receiver, and the dead-letter count reported by the system
 matches the number published."

Model: Model/C18.lean — drop events (local: `handleReceivedErrorWithMessage`; remote: the failure branches of
`deliverRemoteTellMessage`; batch: `enqueueCoalescedFailure` + `drainCoalescedFailures`), the dead-letter actor's
two mailboxes and its `Receive`, count requests.  A history is any list of events, so every interleaving of
concurrent droppers, of the drain goroutine and of the dead-letter actor's turns is covered.

`C18_holds : C18_full`: for EVERY history of drop events, drain steps, dead-letter-actor turns and count requests
(fan-out queue of any capacity, hand-offs to a full queue included — they are dead-lettered inline, goakt f8d2f6b,
finding C18-F1), after quiescence the published dead letters are a permutation of exactly
the dead letters owed (one per dropped user message, original message / sender / receiver / reason), the total
counter equals the number published, and every per-receiver counter equals the number published for that receiver.  `count_reply_*`: every count the system reports is the
number published when the request is served.
-/
import GoaktVerif.Model.C18
import GoaktVerif.Spec.C18
import GoaktVerif.Lemmas.C18

namespace GoaktVerif.C18
open GoaktVerif.Model.C18 GoaktVerif.Spec.C18

/-- a freshly started system whose fan-out queue holds `cap` batches (256 in goakt) -/
def init (cap : Nat) : Sys := { fqCap := cap }

theorem inv_init (cap : Nat) : Inv (init cap) [] :=
  ⟨rfl, rfl, rfl, by intro d; simp [init, pendBox, pendFq], rfl, by intro r; simp [init, lookupN, tally],
   by intro c hc; simp [init] at hc, by intro c hc; simp [init] at hc⟩

theorem inv_drain (s : Sys) (exp : List DL) (hi : Inv s exp) :
    Inv (drain s) exp ∧ (drain s).fq.length = s.fq.length - 1 := by
  have h : Inv (drain s) (exp ++ []) := inv_step s exp .drain hi rfl
  rw [List.append_nil] at h
  refine ⟨h, ?_⟩
  cases hfq : s.fq with
  | nil => rw [drain_nil hfq, hfq]; rfl
  | cons b rest => rw [drain_cons hi.up1 hi.up2 hfq]; rfl

theorem inv_drainAll (n : Nat) (s : Sys) (exp : List DL) (hi : Inv s exp) (hn : s.fq.length ≤ n) :
    Inv (drainAll n s) exp ∧ (drainAll n s).fq = [] := by
  induction n generalizing s with
  | zero => exact ⟨hi, List.eq_nil_of_length_eq_zero (Nat.le_zero.mp hn)⟩
  | succ n ih =>
    obtain ⟨h1, h2⟩ := inv_drain s exp hi
    exact ih (drain s) h1 (h2 ▸ Nat.sub_le_of_le_add hn)

theorem handle_boxes (s : Sys) (c : Cmd) :
    (handle s c).sysBox = s.sysBox ∧ (handle s c).userBox = s.userBox ∧ (handle s c).fq = s.fq := by
  cases c with
  | count a => cases a <;> exact ⟨rfl, rfl, rfl⟩
  | _ => exact ⟨rfl, rfl, rfl⟩

theorem dlStep_boxes (s : Sys) :
    (dlStep s).sysBox.length + (dlStep s).userBox.length = s.sysBox.length + s.userBox.length - 1
    ∧ (dlStep s).fq = s.fq := by
  cases hsb : s.sysBox with
  | cons c rest =>
    obtain ⟨h1, h2, h3⟩ := handle_boxes { s with sysBox := rest } c
    rw [dlStep_of_sys hsb, h1, h2, h3]
    exact ⟨by rw [List.length_cons, Nat.add_right_comm]; rfl, rfl⟩
  | nil =>
    cases hub : s.userBox with
    | cons c rest =>
      obtain ⟨h1, h2, h3⟩ := handle_boxes { s with userBox := rest } c
      rw [dlStep_of_user hsb hub, h1, h2, h3]
      exact ⟨by rw [show ({ s with userBox := rest } : Sys).sysBox = [] from hsb]; rfl, rfl⟩
    | nil =>
      rw [dlStep_idle hsb hub, hsb, hub]
      exact ⟨rfl, rfl⟩

theorem inv_stepAll (n : Nat) (s : Sys) (exp : List DL) (hi : Inv s exp)
    (hn : s.sysBox.length + s.userBox.length ≤ n) :
    Inv (stepAll n s) exp ∧ (stepAll n s).sysBox = [] ∧ (stepAll n s).userBox = [] ∧ (stepAll n s).fq = s.fq := by
  induction n generalizing s with
  | zero =>
    obtain ⟨h1, h2⟩ := Nat.add_eq_zero_iff.mp (Nat.le_zero.mp hn)
    exact ⟨hi, List.eq_nil_of_length_eq_zero h1, List.eq_nil_of_length_eq_zero h2, rfl⟩
  | succ n ih =>
    have h1 : Inv (dlStep s) (exp ++ []) := inv_step s exp .dlStep hi rfl
    obtain ⟨hb, hf⟩ := dlStep_boxes s
    rw [List.append_nil] at h1
    exact hf ▸ ih (dlStep s) h1 (hb ▸ Nat.sub_le_of_le_add hn)

theorem inv_quiesce (s : Sys) (exp : List DL) (hi : Inv s exp) :
    Inv (quiesce s) exp ∧ (quiesce s).sysBox = [] ∧ (quiesce s).userBox = [] ∧ (quiesce s).fq = [] := by
  obtain ⟨h1, h2⟩ := inv_drainAll s.fq.length s exp hi (Nat.le_refl _)
  obtain ⟨h3, h4, h5, h6⟩ := inv_stepAll _ (drainAll s.fq.length s) exp h1 (Nat.le_refl _)
  exact ⟨h3, h4, h5, h6.trans h2⟩

/-- the events of the property's universe (see `okEv`): everything but the two dead-letter-actor commands that are
    no traffic -/
def traffic : Ev → Bool
  | .publishAll => false
  | .restartDL => false
  | _ => true

theorem guarded_eq_all (evs : List Ev) (s : Sys) : guarded s evs = evs.all traffic := by
  induction evs generalizing s with
  | nil => rfl
  | cons e es ih => rw [guarded, ih, List.all_cons, show okEv s e = traffic e by cases e <;> rfl]

theorem guarded_of_traffic (evs : List Ev) (s : Sys) (h : evs.all traffic = true) : guarded s evs = true :=
  (guarded_eq_all evs s).trans h

/-- The full statement: for EVERY history of drop events (all four causes, including hand-offs that find the
    fan-out queue full), drain-goroutine steps, dead-letter-actor turns and count requests on a running system with a
    fan-out queue of ANY capacity: once the system is quiescent the published dead letters are exactly (as a multiset)
    the dead letters owed, the total counter equals the number published and every per-receiver counter its tally. -/
def C18_full : Prop :=
  ∀ (cap : Nat) (evs : List Ev), evs.all traffic = true →
    let s := quiesce (run (init cap) evs)
    s.published.Perm (expected evs) ∧ s.counter = s.published.length ∧ (∀ r, lookupN s.per r = tally s.published r)

/-- the detailed form: also the mailbox and the fan-out queue are empty; `guarded` is the same guard as `evs.all traffic`
    spelt step by step (`guarded_eq_all`) -/
theorem C18_quiescent (cap : Nat) (evs : List Ev) (hg : guarded (init cap) evs = true) :
    let s := quiesce (run (init cap) evs)
    s.published.Perm (expected evs)
    ∧ s.counter = s.published.length
    ∧ (∀ r, lookupN s.per r = tally s.published r)
    ∧ s.sysBox = [] ∧ s.fq = [] := by
  have h1 := inv_run evs (init cap) [] (inv_init cap) hg
  simp only [List.nil_append] at h1
  obtain ⟨hi, hs, _, hf⟩ := inv_quiesce _ _ h1
  refine ⟨?_, hi.cnt, hi.per, hs, hf⟩
  rw [List.perm_iff_count]
  intro d
  have := hi.owed d
  simpa [hs, hf, pendBox, pendFq] using this

/-- of the code as of goakt f8d2f6b; a batch handed to a full fan-out queue getting no dead letter was finding C18-F1 -/
theorem C18_holds : C18_full := by
  intro cap evs ht
  have h := C18_quiescent cap evs (guarded_of_traffic evs _ ht)
  exact ⟨h.1, h.2.1, h.2.2.1⟩

/-- regression for C18-F1 (queue of capacity 1, two failed batches handed over before the drain goroutine runs):
    the second batch, which finds the queue full, is dead-lettered inline — both dead letters are published -/
def overflowWitness : List Ev :=
  [.batchFail [⟨some 7, some 1, some 3⟩], .batchFail [⟨some 7, some 2, some 3⟩]]

theorem overflow_regression :
    (quiesce (run (init 1) overflowWitness)).published = [⟨2, 3, 7, .batch⟩, ⟨1, 3, 7, .batch⟩]
    ∧ expected overflowWitness = [⟨1, 3, 7, .batch⟩, ⟨2, 3, 7, .batch⟩]
    ∧ (quiesce (run (init 1) overflowWitness)).counter = 2 := by decide

/-- non-trivial instance of the guard: all four causes, interleaved with dead-letter turns and a count request -/
def sampleHistory : List Ev :=
  [.localDrop true .user (some 5) 9 100 .mailboxFull, .localDrop true .user none 9 101 .unhandled, .dlStep,
   .remoteDrop (some 4) (some 8) (some 102) .notFound, .askCount none,
   .batchFail [⟨some 8, some 103, none⟩, ⟨none, some 104, none⟩, ⟨some 8, none, some 4⟩], .dlStep, .drain]

example : guarded (init 256) sampleHistory = true := by decide
example : (quiesce (run (init 256) sampleHistory)).published
    = [⟨100, 5, 9, .mailboxFull⟩, ⟨101, 0, 9, .unhandled⟩, ⟨102, 4, 8, .notFound⟩, ⟨103, 0, 8, .batch⟩] := by decide
example : (quiesce (run (init 256) sampleHistory)).replies = [4] := by decide

/-- exactly once, spelled out: in a guarded history every owed dead letter is published as many times as it
    is owed — in particular a dead letter owed once appears once, and one not owed never appears -/
theorem C18_once (cap : Nat) (evs : List Ev) (hg : guarded (init cap) evs = true) (d : DL) :
    (quiesce (run (init cap) evs)).published.count d = (expected evs).count d :=
  List.perm_iff_count.mp (C18_quiescent cap evs hg).1 d

/-- in ANY state satisfying the invariant, so at any point of a guarded history and not only at quiescence: the count
    served is the number published then -/
theorem count_reply {s : Sys} {exp : List DL} (hi : Inv s exp) (a : Option Addr) (rest : List Cmd)
    (h1 : s.sysBox = []) (h2 : s.userBox = .count a :: rest) :
    (dlStep s).replies = s.replies ++ [match a with | none => s.published.length | some r => tally s.published r] := by
  rw [dlStep_of_user h1 h2]
  cases a with
  | none => exact congrArg (s.replies ++ [·]) hi.cnt
  | some r => exact congrArg (s.replies ++ [·]) (hi.per r)

theorem count_reply_total (cap : Nat) (evs : List Ev) (hg : guarded (init cap) evs = true) (rest : List Cmd)
    (h1 : (run (init cap) evs).sysBox = []) (h2 : (run (init cap) evs).userBox = .count none :: rest) :
    (dlStep (run (init cap) evs)).replies = (run (init cap) evs).replies ++ [(run (init cap) evs).published.length] :=
  count_reply (inv_run evs (init cap) [] (inv_init cap) hg) none rest h1 h2

theorem count_reply_receiver (cap : Nat) (evs : List Ev) (hg : guarded (init cap) evs = true) (rest : List Cmd) (a : Addr)
    (h1 : (run (init cap) evs).sysBox = []) (h2 : (run (init cap) evs).userBox = .count (some a) :: rest) :
    (dlStep (run (init cap) evs)).replies
      = (run (init cap) evs).replies ++ [tally (run (init cap) evs).published a] :=
  count_reply (inv_run evs (init cap) [] (inv_init cap) hg) (some a) rest h1 h2

/-- the invariant behind the above, for every prefix of a guarded history: counter = number published,
    and nothing is ever published that is not owed -/
theorem C18_invariant (cap : Nat) (evs : List Ev) (hg : guarded (init cap) evs = true) :
    (run (init cap) evs).counter = (run (init cap) evs).published.length
    ∧ ∀ d, (run (init cap) evs).published.count d ≤ (expected evs).count d := by
  have hi := inv_run evs (init cap) [] (inv_init cap) hg
  refine ⟨hi.cnt, ?_⟩
  intro d
  have := hi.owed d
  simp only [List.nil_append, List.count_append] at this
  omega

/-- `PublishDeadletters` re-publishes the latest dead letter of every receiver without counting it -/
theorem publishAll_republishes :
    let s := quiesce (run (init 256) [.localDrop true .user none 9 100 .unhandled, .dlStep, .publishAll])
    s.published = [⟨100, 0, 9, .unhandled⟩, ⟨100, 0, 9, .unhandled⟩] ∧ s.counter = 1 := by decide

/-- a restart of the dead-letter actor zeroes the counters but not the stream -/
theorem restart_resets_count :
    let s := quiesce (run (init 256) [.localDrop true .user none 9 100 .unhandled, .dlStep, .restartDL])
    s.published.length = 1 ∧ s.counter = 0 := by decide

/-- best effort while the dead-letter actor is not running: a drop produces nothing -/
theorem drop_when_down (s : Sys) (h : s.dlRunning = false) (hs : Bool) (k : Kind) (sd : Option Addr) (r : Addr) (m : Nat)
    (c : Cause) : localDrop s hs k sd r m c = s := by
  cases hs <;> cases k <;> simp [localDrop, tellDL, h]

/-- control traffic (PostStart, Terminated, SendDeadletter) never becomes a dead letter -/
theorem control_not_deadlettered (s : Sys) (k : Kind) (hk : k ≠ .user) (sd : Option Addr) (r : Addr) (m : Nat) (c : Cause) :
    localDrop s true k sd r m c = s := by
  cases k <;> simp [localDrop] at hk ⊢

end GoaktVerif.C18
