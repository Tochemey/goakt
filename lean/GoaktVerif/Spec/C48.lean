/-
C48 spec side: "a map with per-key expiry".  The abstract state is a plain function
key → Option (value × expireAt); nothing is ever evicted or compacted, `Get` simply looks at the
deadline.  Used by the theorems (Props/C48) and by the driver's judge mode, which replays the case
on this spec and compares the implementation's answers.
-/
namespace GoaktVerif.Spec.C48

abbrev SMap := Nat → Option (Int × Int)

def SMap.empty : SMap := fun _ => none

def SMap.set (m : SMap) (k : Nat) (v exp : Int) : SMap := fun k' => if k' = k then some (v, exp) else m k'

def SMap.del (m : SMap) (k : Nat) : SMap := fun k' => if k' = k then none else m k'

/-- the value a `Get(k)` must return when the clock reads `now` -/
def SMap.get (m : SMap) (now : Int) (k : Nat) : Option Int :=
  match m k with
  | some (v, e) => if now < e then some v else none
  | none => none

/-- number of live keys among `keys` (a duplicate-free list covering every key ever set) -/
def SMap.active (m : SMap) (now : Int) (keys : List Nat) : Nat :=
  (keys.filter fun k => (m.get now k).isSome).length

structure SCfg where
  ttl : Int
  now : Int
  m : SMap

/-- spec-level operations (same alphabet as the model's `Op`, kept separate so that the spec
    does not depend on the model) -/
inductive SOp where
  | set (k : Nat) (v : Int)
  | get (k : Nat)
  | del (k : Nat)
  | reset
  | len
  | activeLen
  | tick (d : Nat)
  deriving Repr, DecidableEq

/-- what the spec says an operation returns; `len` is only bounded below (see `anyLen`) -/
inductive SOut where
  | unit
  | val (o : Option Int)
  | active            -- "the number of live keys": evaluated with `SMap.active` over a key list
  | anyLen
  deriving Repr, DecidableEq

def sstep (c : SCfg) : SOp → SCfg × SOut
  | .set k v => ({ c with m := c.m.set k v (c.now + c.ttl) }, .unit)
  | .get k => (c, .val (c.m.get c.now k))
  | .del k => ({ c with m := c.m.del k }, .unit)
  | .reset => ({ c with m := SMap.empty }, .unit)
  | .len => (c, .anyLen)
  | .activeLen => (c, .active)
  | .tick d => ({ c with now := c.now + d }, .unit)

/-- run a history on the spec, collecting for each op the configuration BEFORE it and its spec output -/
def srun (c : SCfg) : List SOp → List (SCfg × SOut)
  | [] => []
  | op :: ops => let r := sstep c op; (c, r.2) :: srun r.1 ops

end GoaktVerif.Spec.C48
