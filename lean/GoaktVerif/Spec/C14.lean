/-
C14 spec — the DOCUMENTED behaviour stack (actor/receive_context.go doc comments):

  Become(b)          "replaces the current behavior … does not maintain a stack"      ⇒ [b]
  BecomeStacked(b)   "pushes a new behavior on top of the current one"                 ⇒ b :: s
  UnBecomeStacked    "pops the most recently stacked behavior … resumes the previous
                      behavior … No effect if there is no stack."                      ⇒ tail, unless nothing is stacked
  UnBecome           "resets the actor behavior to its default (initial) behavior,
                      clearing any stacked or currently swapped behavior"              ⇒ [default]
  "The current message continues to be processed by the existing behavior;
   subsequent messages are handled by the new one."

The spec works on a plain `List` of behaviour ids (top first).  `plainOp` is the naive stack in
which UnBecomeStacked pops whatever is there (also the base): it is what the code did before 56f60bf.
Core Lean only; everything is executable so the driver's judge can run it.
-/
import GoaktVerif.Model.C14

namespace GoaktVerif.Spec.C14
open GoaktVerif.Model.C14

/-- documented semantics; `d` is the default behaviour -/
def docOp (d : Beh) (s : List Beh) : Op → List Beh
  | .become b => [b]
  | .becomeStacked b => b :: s
  | .unbecomeStacked => if s.length ≤ 1 then s else s.tail
  | .unbecome => [d]

/-- naive stack: UnBecomeStacked pops unconditionally -/
def plainOp (d : Beh) (s : List Beh) : Op → List Beh
  | .become b => [b]
  | .becomeStacked b => b :: s
  | .unbecomeStacked => s.tail
  | .unbecome => [d]

/-- handler per message under a given op semantics: the top at the START of the message;
    the script is applied afterwards (it only affects later messages) -/
def handlers (opf : List Beh → Op → List Beh) : List Beh → List (List Op) → List (Option Beh)
  | _, [] => []
  | s, m :: ms => s.head? :: handlers opf (m.foldl opf s) ms

/-- handlers under the naive stack; a message that finds the stack empty has no handler, so its
    script does not run (nothing can execute it) -/
def plainHandlersFrom (d : Beh) : List Beh → List (List Op) → List (Option Beh)
  | _, [] => []
  | s, m :: ms => s.head? :: plainHandlersFrom d (if s = [] then [] else m.foldl (plainOp d) s) ms

/-- stack left behind by a stream, naive semantics (scripts of unhandled messages do not run) -/
def plainFinalFrom (d : Beh) : List Beh → List (List Op) → List Beh
  | s, [] => s
  | s, m :: ms => plainFinalFrom d (if s = [] then [] else m.foldl (plainOp d) s) ms

/-- stack left behind by a stream, documented semantics -/
def docFinalFrom (d : Beh) : List Beh → List (List Op) → List Beh
  | s, [] => s
  | s, m :: ms => docFinalFrom d (m.foldl (docOp d) s) ms

def docFinal (d : Beh) (msgs : List (List Op)) : List Beh := docFinalFrom d [d] msgs
def plainFinal (d : Beh) (msgs : List (List Op)) : List Beh := plainFinalFrom d [d] msgs

def docHandlers (d : Beh) (msgs : List (List Op)) : List (Option Beh) := handlers (docOp d) [d] msgs
def plainHandlers (d : Beh) (msgs : List (List Op)) : List (Option Beh) := plainHandlersFrom d [d] msgs

/-- events the documentation predicts: every call made while handling message i is made by the
    behaviour that was on top when message i started -/
def docEvents (d : Beh) : List Beh → List (List Op) → List (List (Beh × Op))
  | _, [] => []
  | s, m :: ms => (m.map fun op => (s.headD d, op)) :: docEvents d (m.foldl (docOp d) s) ms

/-- well-formedness guard: no UnBecomeStacked is executed while nothing is stacked above the
    base (documented stack depth ≤ 1).  Decidable by simulation of the documented stack. -/
def wfScript (d : Beh) : List Beh → List Op → Bool
  | _, [] => true
  | s, op :: ops => (match op with | .unbecomeStacked => decide (2 ≤ s.length) | _ => true) && wfScript d (docOp d s op) ops

def wfFrom (d : Beh) : List Beh → List (List Op) → Bool
  | _, [] => true
  | s, m :: ms => wfScript d s m && wfFrom d (m.foldl (docOp d) s) ms

def wellFormed (d : Beh) (msgs : List (List Op)) : Bool := wfFrom d [d] msgs

/-- judge: does an observed handler sequence (one `Option Beh` per message) agree with the documentation? -/
def agreesDoc (d : Beh) (msgs : List (List Op)) (obs : List (Option Beh)) : Bool := obs == docHandlers d msgs
def agreesPlain (d : Beh) (msgs : List (List Op)) (obs : List (Option Beh)) : Bool := obs == plainHandlers d msgs

end GoaktVerif.Spec.C14
