/-
C35 spec side.
(1) predicates on a model `Run` used by the theorems: every wait ends by a deadline, the total
    waiting is bounded, the return time is bounded;
(2) what the property demands of an OBSERVED send (the judge): only quantities that do not depend
    on timer jitter are checked — which error comes back, that no resolution is attempted after one
    that already returned past the caller's deadline, that the final delivery is bounded by the
    caller's deadline, that the asynchronous path resolves exactly once.
-/
import GoaktVerif.Model.C35

namespace GoaktVerif.Spec.C35
open GoaktVerif.Model.C35

/-- every wait ends by `dl` -/
def sleepsEndBy (dl : Nat) (l : List Sleep) : Bool := l.all fun s => decide (s.start + s.dur ≤ dl)

/-- time at which the call returns (for `delivered`: the time `deliver` is invoked) -/
def returnTime : Outcome → Option Nat
  | .delivered t _ => some t
  | .gaveUpRelocating t => some t
  | .gaveUpErr t => some t
  | .failed t => some t
  | .outOfFuel => none

/-- the run ended with some outcome (the loop did not run out of iterations) -/
def retryableOrFinal : Outcome → Bool
  | .outOfFuel => false
  | _ => true

/-! ### observed sends -/

structure Obs where
  lookups : Nat
  out : String
  recd : Nat
  tin : Nat
  thi : Nat
  lk : List Nat
  dl : Option Nat
  ret : Nat
  deriving Repr

/-- the outcome a send must have when its last resolution was `c` (a script letter) and masking
    was (`clustered`) or was not available -/
def expectedOut (clustered : Bool) (c : Char) : String :=
  if c = 'P' then (if clustered then "relocating" else "delivered")
  else if c = 'L' ∨ c = 'l' then "delivered"
  else if c = 'N' ∨ c = 'n' then "err:addrnotfound"
  else if c = 'A' then "err:actornotfound"
  else "failed:terminal"

def letterAt (script : List Char) (i : Nat) : Char :=
  match script[i]? with
  | some c => c
  | none => script.getLast?.getD 'T'

/-- no resolution is attempted after a resolution that returned at or after `limit` -/
def noLookupAfter (limit : Nat) : List Nat → Bool
  | a :: b :: rest => (decide (a < limit)) && noLookupAfter limit (b :: rest)
  | _ => true

/-- synchronous, clustered send with caller timeout `maxWait` ns (0 = none) -/
def syncVerdict (maxWait : Nat) (script : List Char) (o : Obs) : Option String :=
  if o.lookups = 0 ∨ o.lk.length ≠ o.lookups then some "no-resolution-observed"
  else if o.out ≠ expectedOut true (letterAt script (o.lookups - 1)) then
    some s!"wrong-result {o.out}"
  else if decide (maxWait > 0) && !noLookupAfter (o.thi + maxWait) o.lk then
    some "resolution-attempted-after-the-caller-deadline"
  else if decide (maxWait > 0) && o.out == "delivered" && (match o.dl with | some x => decide (o.thi + maxWait < x) | none => true) then
    some "delivery-not-bounded-by-the-caller-deadline"
  else none

/-- one resolution, the result decided by it alone (async path, and the non-clustered sync path) -/
def singleVerdict (clustered : Bool) (script : List Char) (o : Obs) : Option String :=
  if o.lookups ≠ 1 then some s!"resolved-{o.lookups}-times"
  else if o.out ≠ expectedOut clustered (letterAt script 0) then some s!"wrong-result {o.out}"
  else none

end GoaktVerif.Spec.C35
